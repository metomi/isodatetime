/-
  C18 (fractional Unix times) — the Unix-epoch conversions over exact rationals.

  Model: `Model/UnixQ.lean` (`get_timepoint_from_seconds_since_unix_epoch`,
  `TimePoint.seconds_since_unix_epoch`), on the rational-slot models of `__add__`, `to_time_zone`,
  `__sub__`, `Duration.get_days_and_seconds` (`Props/C01q`, `C02q`, `C11q`).  As there: what the
  ALGORITHM does on exact numbers, nothing about binary64 rounding.

  * `C18_from_unix_rat`       the point built from `x : Rat` seconds since the epoch denotes exactly
                              epoch + x, is legal (whole hour and minute, `0 ≤ second < 60`), in the
                              requested zone, a calendar date in decimal-second form;
  * `C18_seconds_since_rat`   `seconds_since_unix_epoch` of a legal point in ANY precision form is
                              `truncQ (instant − epoch)`: the Python takes `int()` of a float, i.e. it
                              TRUNCATES TOWARD ZERO;
  * `C18_seconds_since_rat_bounds`  what that means: from the epoch on it is the floor (the number of
                              whole seconds elapsed), before the epoch it is the ceiling (minus the
                              number of whole seconds still to go);
  * `C18_seconds_since_not_floor_counterexample`  so it is NOT "the whole number of seconds from the
                              epoch to the instant" in the POSIX sense (`time_t` = floor): the two
                              points 1969-12-31T23:59:59.5Z and 1970-01-01T00:00:00.5Z, one second
                              apart, both answer 0 — the only count that covers two seconds;
  * `C18_unix_round_trip_rat`, `C18_unix_round_trip_back_rat`  the two compositions.
-/
import IsoDT.Model.UnixQ
import IsoDT.Lemmas.CmpQ
import IsoDT.Lemmas.DurationQ
import IsoDT.Props.C18

namespace IsoDT.Props.C18
open IsoDT IsoDT.Model IsoDT.Lemmas
open IsoDT.Spec (Date TZ TP)

/-- The instant of 1970-01-01T00:00:00Z as a rational. -/
def epochQ (m : Mode) : Rat := ((unixEpoch.inst m : Int) : Rat)

theorem unixEpochQ_valid (m : Mode) : unixEpochQ.Valid m :=
  (ofTP_valid m unixEpoch).2 (unixEpoch_valid m)

theorem unixEpochQ_inst (m : Mode) : unixEpochQ.inst m = epochQ m := ofTP_inst m unixEpoch

/-- **C18 (from Unix time, rational)**: for EVERY rational number `x` of seconds — either sign, any
    size, any fraction — `get_timepoint_from_seconds_since_unix_epoch(x, utc)` denotes exactly
    1970-01-01T00:00:00Z plus `x` seconds; it is a legal point: a real calendar date, whole hour in
    0..23 and whole minute in 0..59, second in `[0, 60)` carrying the fraction; in UTC, or in the
    local zone `z` when `utc=False`. -/
theorem C18_from_unix_rat (m : Mode) (x : Rat) (z : Option TZ) (hz : ∀ zz, z = some zz → zz.Valid) :
    ∃ q, fromUnixQ m x z = some q ∧ q.inst m = epochQ m + x ∧ q.Valid m ∧ q.hh < 24 ∧
      q.tz = z.getD ⟨0, 0⟩ ∧ q.date.rep = 0 ∧
      ∃ mi ss, q.mi = some mi ∧ q.ss = some ss ∧ IsInt q.hh ∧ IsInt mi ∧ 0 ≤ q.hh ∧ 0 ≤ mi ∧ mi < 60 ∧
        0 ≤ ss ∧ ss < 60 := by
  have hsec : (⟨0, 0, 0, x⟩ : DurQ).seconds = x := by simp only [DurQ.seconds]; grind
  -- the reference point, re-zoned when `utc=False`
  obtain ⟨r, er, ir, vr, tr, rr, mr, sr⟩ : ∃ r, fromUnixQ m x z = addExactQ m r ⟨0, 0, 0, x⟩ ∧
      r.inst m = epochQ m ∧ r.Valid m ∧ r.tz = z.getD ⟨0, 0⟩ ∧ r.date.rep = unixEpochQ.date.rep ∧
      r.mi.isSome = true ∧ r.ss.isSome = true := by
    cases z with
    | none => exact ⟨unixEpochQ, rfl, unixEpochQ_inst m, unixEpochQ_valid m, rfl, rfl, rfl, rfl⟩
    | some zz =>
      obtain ⟨r, e1, i1, t1, v1, r1, m1, s1, _⟩ :=
        toTimeZoneQ_spec m unixEpochQ zz (unixEpochQ_valid m) (hz zz rfl)
      exact ⟨r, by simp only [fromUnixQ, e1, Option.bind_some], i1.trans (unixEpochQ_inst m), v1, t1, r1, m1, s1⟩
  obtain ⟨q, e, g⟩ := addExactQ_spec m r ⟨0, 0, 0, x⟩ vr
  refine ⟨q, er.trans e, by rw [g.inst, hsec, ir], g.valid, g.lt24, by rw [g.tz, tr], ?_, ?_⟩
  · rw [g.rep, rr]; simp only [unixEpochQ, TPQ.ofTP, unixEpoch_eq]; rfl
  -- the slots of a legal decimal-second point
  have h1 : q.mi.isSome = true := by rw [g.mi, mr]
  have h2 : q.ss.isSome = true := by rw [g.ss, sr]
  obtain ⟨_, _, hok⟩ := g.valid
  obtain ⟨date, hh, mi, ss, tz⟩ := q
  cases mi with
  | none => cases h1
  | some mi =>
    cases ss with
    | none => cases h2
    | some ss =>
      exact ⟨mi, ss, rfl, rfl, hok.1, hok.2.1, hok.2.2.1, hok.2.2.2.2.1, hok.2.2.2.2.2.1,
        hok.2.2.2.2.2.2.1, hok.2.2.2.2.2.2.2.1⟩

example : fromUnixQ .greg (-1/2) none = some ⟨.cal 1969 12 31, 23, some 59, some (119/2), ⟨0, 0⟩⟩ ∧
    fromUnixQ .greg (-3/2) (some ⟨-3, -30⟩) = some ⟨.cal 1969 12 31, 20, some 29, some (117/2), ⟨-3, -30⟩⟩ ∧
    fromUnixQ .greg (946684800 + 1/1024) (some ⟨5, 45⟩) =
      some ⟨.cal 2000 1 1, 5, some 45, some (1/1024), ⟨5, 45⟩⟩ := by decide +kernel

/-- **C18 (to Unix time, rational)**: `seconds_since_unix_epoch` never raises on a legal point —
    decimal seconds, decimal minutes or decimal hours, any representation and offset, 24:00
    included — and returns `int(d)` for the exact signed distance `d` (in seconds) from the epoch to
    the point's instant: the integer part of `d`, i.e. `d` ROUNDED TOWARD ZERO. -/
theorem C18_seconds_since_rat (m : Mode) (p : TPQ) (hv : p.Valid m) :
    secondsSinceQ m p = some (truncQ (p.inst m - epochQ m)) := by
  obtain ⟨dd, hI, mI, s, e, hl, _, _⟩ := subTPQ_spec m p unixEpochQ hv (unixEpochQ_valid m)
  obtain ⟨d1, _, _⟩ := DQ.das_spec m (.units 0 0 dd (hI : Rat) (mI : Rat) s)
  rw [unixEpochQ_inst] at hl
  simp only [secondsSinceQ, e, Option.map_some, secondsInDay_eq, Option.some.injEq, Rat.intCast_ofNat]
  congr 1
  simp only [DQ.ym, DQ.len, Int.zero_mul, Int.add_zero, Rat.intCast_ofNat] at d1
  grind

/-- What "the whole number of seconds from the epoch to its instant" is, according to the code:
    at or after the epoch, the number `n` of whole seconds elapsed (`n ≤ d < n + 1`); before the
    epoch, minus the number of whole seconds still to go (`n − 1 < d ≤ n`, NOT the floor). -/
theorem C18_seconds_since_rat_bounds (m : Mode) (p : TPQ) (hv : p.Valid m) :
    ∃ n : Int, secondsSinceQ m p = some n ∧
      (epochQ m ≤ p.inst m → 0 ≤ n ∧ epochQ m + (n : Rat) ≤ p.inst m ∧ p.inst m < epochQ m + (n : Rat) + 1) ∧
      (p.inst m < epochQ m → n ≤ 0 ∧ p.inst m ≤ epochQ m + (n : Rat) ∧ epochQ m + (n : Rat) < p.inst m + 1) := by
  refine ⟨_, C18_seconds_since_rat m p hv, fun h => ?_, fun h => ?_⟩
  · obtain ⟨a, b, c⟩ := (truncQ_bounds (p.inst m - epochQ m)).1 ((Rat.le_iff_sub_nonneg _ _).1 h)
    exact ⟨c, by grind⟩
  · obtain ⟨a, b, c⟩ := (truncQ_bounds (p.inst m - epochQ m)).2 (by grind)
    exact ⟨c, by grind⟩

/-- On whole-second points the rational function is the integer one of `Props/C18.lean`
    (`C18_seconds_since`): there truncation, floor and the exact distance coincide. -/
theorem C18_seconds_since_rat_extends_int (m : Mode) (p : TP) (hv : p.Valid m) :
    secondsSinceQ m (TPQ.ofTP p) = secondsSinceUnixEpoch m p := by
  rw [C18_seconds_since_rat m _ ((ofTP_valid m p).2 hv), C18_seconds_since m p hv,
    ofTP_inst, epochQ, ← Rat.intCast_sub, truncQ_intCast]

/-- **The count is not the POSIX one before 1970.**  POSIX's `%s` / `time_t` of an instant with a
    fraction is the floor (the civil second it lies in).  The code's `int()` gives 0 for
    1969-12-31T23:59:59.5Z (floor: −1) — the same answer as for 1970-01-01T00:00:00.5Z, a full
    second later; and −1 for 23:59:58.5 (floor: −2), whose civil second `%X` prints as 23:59:58. -/
theorem C18_seconds_since_not_floor_counterexample :
    (⟨.cal 1969 12 31, 23, some 59, some (119/2), ⟨0, 0⟩⟩ : TPQ).Valid .greg ∧
    secondsSinceQ .greg ⟨.cal 1969 12 31, 23, some 59, some (119/2), ⟨0, 0⟩⟩ = some 0 ∧
    ((⟨.cal 1969 12 31, 23, some 59, some (119/2), ⟨0, 0⟩⟩ : TPQ).inst .greg - epochQ .greg).floor = -1 ∧
    secondsSinceQ .greg ⟨.cal 1970 1 1, 0, some 0, some (1/2), ⟨0, 0⟩⟩ = some 0 ∧
    secondsSinceQ .greg ⟨.cal 1969 12 31, 23, some 59, some (117/2), ⟨0, 0⟩⟩ = some (-1) ∧
    ((⟨.cal 1969 12 31, 23, some 59, some (117/2), ⟨0, 0⟩⟩ : TPQ).inst .greg - epochQ .greg).floor = -2 := by
  decide +kernel

/-- `seconds_since_unix_epoch` after `get_timepoint_from_seconds_since_unix_epoch`: `int(x)`; the
    identity exactly on whole numbers. -/
theorem C18_unix_round_trip_rat (m : Mode) (x : Rat) (z : Option TZ) (hz : ∀ zz, z = some zz → zz.Valid) :
    ∃ q, fromUnixQ m x z = some q ∧ secondsSinceQ m q = some (truncQ x) := by
  obtain ⟨q, e, hi, hv, _⟩ := C18_from_unix_rat m x z hz
  refine ⟨q, e, ?_⟩
  rw [C18_seconds_since_rat m q hv, hi]
  congr 2
  grind

theorem C18_unix_round_trip_int (m : Mode) (n : Int) (z : Option TZ) (hz : ∀ zz, z = some zz → zz.Valid) :
    ∃ q, fromUnixQ m (n : Rat) z = some q ∧ secondsSinceQ m q = some n := by
  obtain ⟨q, e, h⟩ := C18_unix_round_trip_rat m (n : Rat) z hz
  exact ⟨q, e, by rw [h, truncQ_intCast]⟩

/-- `get_timepoint_from_seconds_since_unix_epoch` after `seconds_since_unix_epoch` (what
    `strptime(p.strftime("%s"), "%s")` computes): a whole-second point less than one second from
    `p` — not after `p` from the epoch on, not BEFORE `p` before the epoch. -/
theorem C18_unix_round_trip_back_rat (m : Mode) (p : TPQ) (hv : p.Valid m) (z : Option TZ)
    (hz : ∀ zz, z = some zz → zz.Valid) :
    ∃ n q, secondsSinceQ m p = some n ∧ fromUnixQ m (n : Rat) z = some q ∧ q.Valid m ∧
      q.inst m = epochQ m + (n : Rat) ∧
      (epochQ m ≤ p.inst m → q.inst m ≤ p.inst m ∧ p.inst m < q.inst m + 1) ∧
      (p.inst m < epochQ m → p.inst m ≤ q.inst m ∧ q.inst m < p.inst m + 1) := by
  obtain ⟨n, e, h1, h2⟩ := C18_seconds_since_rat_bounds m p hv
  obtain ⟨q, eq', hi, hqv, _⟩ := C18_from_unix_rat m (n : Rat) z hz
  refine ⟨n, q, e, eq', hqv, hi, ?_, ?_⟩ <;> rw [hi]
  · exact fun h => (h1 h).2
  · exact fun h => (h2 h).2

-- decimal-hour and decimal-minute points, other offsets and representations, 24:00
example : secondsSinceQ .greg ⟨.week 1970 1 4, 1/8, none, none, ⟨0, 0⟩⟩ = some 450 ∧
    secondsSinceQ .greg ⟨.ord 1969 365, 23, some (119/2), none, ⟨0, 0⟩⟩ = some (-30) ∧
    secondsSinceQ .greg ⟨.cal 1969 12 31, 24, some 0, some 0, ⟨0, 0⟩⟩ = some 0 ∧
    secondsSinceQ .greg ⟨.cal 1969 12 31, 19, some 29, some (239/4), ⟨-4, -30⟩⟩ = some 0 ∧
    secondsSinceQ .d360 ⟨.cal 1969 12 30, 23, some 59, some (1/4), ⟨0, 0⟩⟩ = some (-59) := by
  decide +kernel
example : (⟨.ord 1969 365, 23, some (119/2), none, ⟨0, 0⟩⟩ : TPQ).Valid .greg ∧
    (⟨.cal 1969 12 31, 19, some 29, some (239/4), ⟨-4, -30⟩⟩ : TPQ).Valid .greg := by decide +kernel

end IsoDT.Props.C18
