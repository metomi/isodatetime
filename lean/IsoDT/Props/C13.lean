/-
  C13 — Recurrence queries agree with iteration.

  Proved for recurrences with an exact interval (any notation): `get_next`/`get_prev` move to the
  adjacent member and give `None` past the ends, `r[i]` is the `i`-th iterated point,
  `get_is_valid` is membership of the iterated series by instant (so any representation or offset
  of the probe), and the closed form of `get_first_after` is the earliest member strictly later
  than the probe.  Month/year intervals: `Props/C13c.lean`.
-/
import IsoDT.Props.C12

namespace IsoDT.Props.C13
open IsoDT IsoDT.Model IsoDT.Lemmas IsoDT.Props.C12
open IsoDT.Spec (Date TZ TP)

/-- **get_next / get_prev** on a recurrence with exact interval `d` of length `L`: from any valid
    point `p` (in particular a member, however it is written) the candidate is exactly one
    interval away, in `p`'s representation and offset, and it is returned iff it lies within the
    recurrence's bounds — otherwise `None` (the ends of a bounded series). -/
theorem C13_next_prev (m : Mode) (r : Rec) (d : Dur) (L : Int) (hr : ExactRec m r d L) (p : TP)
    (hp : p.Valid m) :
    (∃ q, Good m p q L ∧ getNext m r p = (if inBounds m r q then some q else none) ∧
      (inBounds m r q = true ↔ (∀ s, r.start = some s → s.inst m ≤ q.inst m) ∧
        (∀ e, r.end_ = some e → q.inst m ≤ e.inst m))) ∧
    (∃ q, Good m p q (-L) ∧ getPrev m r p = (if inBounds m r q then some q else none) ∧
      (inBounds m r q = true ↔ (∀ s, r.start = some s → s.inst m ≤ q.inst m) ∧
        (∀ e, r.end_ = some e → q.inst m ≤ e.inst m))) := by
  obtain ⟨q, e, g⟩ := addDur_exact m p d hp hr.exact
  obtain ⟨q', e', g'⟩ := subDur_exact m p d hp hr.exact
  rw [hr.len] at g g'
  exact ⟨⟨q, g, by rw [getNext_eq m r d hr.dur hr.multi p, e, Option.filter_some],
      inBounds_iff m r hr.startValid hr.endValid q g.strict.1⟩,
    ⟨q', g', by rw [getPrev_eq m r d hr.dur hr.multi p, e', Option.filter_some],
      inBounds_iff m r hr.startValid hr.endValid q' g'.strict.1⟩⟩

/-- One repetition: no neighbours. -/
theorem C13_single_no_neighbours (m : Mode) (r : Rec) (h : r.reps = some 1) (p : TP) :
    getNext m r p = none ∧ getPrev m r p = none := by
  unfold getNext getPrev; simp [h]

/-- The scan of `get_is_valid` over an increasing series (a recurrence that has a start point):
    true exactly when some listed point is at the probe's instant.  The early exit (taken only
    when there is no end point) is sound because the later points are later still. -/
theorem scan_fwd (m : Mode) (r : Rec) (hst : r.start.isNone = false) (p : TP) (hp : p.Valid m)
    (rep : Nat) (tz : TZ) : ∀ (l : List TP) (i0 step : Int), SeriesOK m rep tz l i0 step → 0 < step →
      (scanValid m r p l = true ↔ ∃ q ∈ l, q.inst m = p.inst m) := by
  intro l i0 step hs hpos
  exact scan_monotone m r p hp l (series_mem_valid m rep tz l i0 step hs)
    (fun h => by rw [hst] at h; cases h) (fun _ => (series_pairwise m rep tz l i0 step hs).1 hpos)

/-- The same for the backward iteration of an unbounded duration/end recurrence. -/
theorem scan_rev (m : Mode) (r : Rec) (hst : r.start.isNone = true) (hen : r.end_.isNone = false) (p : TP)
    (hp : p.Valid m) (rep : Nat) (tz : TZ) : ∀ (l : List TP) (i0 step : Int),
      SeriesOK m rep tz l i0 step → step < 0 →
      (scanValid m r p l = true ↔ ∃ q ∈ l, q.inst m = p.inst m) := by
  intro l i0 step hs hneg
  exact scan_monotone m r p hp l (series_mem_valid m rep tz l i0 step hs)
    (fun _ => (series_pairwise m rep tz l i0 step hs).2 hneg) (fun h => by rw [hen] at h; cases h)

/-- **get_is_valid**, start/duration with `n ≥ 2` repetitions and an exact interval: true exactly
    when iteration yields a point at the probe's instant, i.e. iff the probe is at
    `start + k·d` for some `0 ≤ k < n` — whatever representation or offset the probe is written in. -/
theorem C13_is_valid_bounded (m : Mode) (n : Nat) (s : TP) (d : Dur) (hn : 2 ≤ n) (hs : s.Valid m)
    (hex : d.isExact = true) (hpos : 0 < d.exactSeconds m) (fuel : Nat) (hf : n ≤ fuel)
    (p : TP) (hp : p.Valid m) :
    ∃ r, mkRec m (some (n : Int)) (some s) (some d) none = some r ∧
      (getIsValid m r p fuel = true ↔ ∃ q ∈ iter m r fuel, q.inst m = p.inst m) ∧
      ((∃ q ∈ iter m r fuel, q.inst m = p.inst m) ↔
        ∃ k : Nat, k < n ∧ p.inst m = s.inst m + (k : Int) * d.exactSeconds m) := by
  obtain ⟨r, hr, hlen, _, hser⟩ := C12_start_duration_bounded m n s d hn hs hex hpos fuel hf
  obtain ⟨e, hr', hx, _⟩ := mkRec_fmt3_bounded m n s d (Int.ofNat_le.mpr hn) hs hex hpos
  cases hr.symm.trans hr'
  refine ⟨_, hr, getIsValid_iff_iterated m _ d _ hx.stepRec p hp fuel, ?_⟩
  rw [series_mem_iff m _ _ _ _ _ hser, hlen]

/-- **`r[i]`** is the `i`-th iterated point (start/duration, `n ≥ 2`, exact interval): at instant
    `start + i·d` for `i < n`, and an `IndexError` (`none`) from `n` on. -/
theorem C13_getitem (m : Mode) (n : Nat) (s : TP) (d : Dur) (hn : 2 ≤ n) (hs : s.Valid m)
    (hex : d.isExact = true) (hpos : 0 < d.exactSeconds m) (i : Nat) :
    ∃ r, mkRec m (some (n : Int)) (some s) (some d) none = some r ∧
      (i < n → ∃ p, getItem m r i = some p ∧ p.inst m = s.inst m + (i : Int) * d.exactSeconds m ∧
        p.Valid m ∧ p.date.rep = s.date.rep ∧ p.tz = s.tz) ∧
      (n ≤ i → getItem m r i = none) := by
  obtain ⟨r, hr, hlen, _, hser⟩ :=
    C12_start_duration_bounded m n s d hn hs hex hpos (n + (i + 1)) (Nat.le_add_right n _)
  have hget : getItem m r i = (iter m r (n + (i + 1)))[i]? :=
    getItem_eq_getElem? m r i _ (Nat.lt_add_left n (Nat.lt_succ_self i))
  refine ⟨r, hr, fun hi => ?_, fun hi => ?_⟩
  · obtain ⟨p, e1, e2⟩ := series_getElem? m _ _ _ _ _ hser i (hlen.symm ▸ hi)
    exact ⟨p, hget.trans e1, e2⟩
  · rw [hget]
    exact List.getElem?_eq_none (hlen.symm ▸ hi)

theorem sub_seconds_exact (m : Mode) (d : Dur) (x : Int) (hex : d.isExact = true) :
    (Dur.sub m d (.units 0 0 0 0 0 x)).isExact = true ∧
    (Dur.sub m d (.units 0 0 0 0 0 x)).exactSeconds m = d.exactSeconds m - x := by
  cases d with
  | weeks w =>
    refine ⟨rfl, ?_⟩
    simp only [Dur.sub, Dur.add, Dur.mul, Dur.toDays, Dur.exactSeconds, daysInWeek_eq, secondsInDay_eq,
      secondsInHour_eq, secondsInMinute_eq]
    omega
  | units y mo a b c e =>
    simp only [Dur.isExact, Bool.and_eq_true, beq_iff_eq] at hex
    obtain ⟨rfl, rfl⟩ := hex
    refine ⟨rfl, ?_⟩
    simp only [Dur.sub, Dur.add, Dur.mul, Dur.toDays, exactSeconds_units]
    omega

/-- **get_first_after**, closed form for an exact interval: for a probe within the bounds the
    result is the member `start + (⌊(p − start)/L⌋ + 1)·L` — the earliest member strictly later
    than `p` — if that is still within the bounds, and `None` otherwise (repaired defect F3);
    before the start it is the start; after the end `None`. -/
theorem C13_first_after_exact (m : Mode) (r : Rec) (d : Dur) (L : Int) (hr : ExactRec m r d L) (s : TP)
    (hs : r.start = some s) (p : TP) (hp : p.Valid m) (fuel : Nat) :
    (inBounds m r p = true →
      ∃ q, Good m p q (L - (p.inst m - s.inst m) % L) ∧
        q.inst m = s.inst m + ((p.inst m - s.inst m) / L + 1) * L ∧ p.inst m < q.inst m ∧
        q.inst m ≤ p.inst m + L ∧
        getFirstAfter m r p fuel = (if inBounds m r q then some q else none)) ∧
    (inBounds m r p = false → p.inst m < s.inst m → getFirstAfter m r p fuel = some s) ∧
    (inBounds m r p = false → ¬ p.inst m < s.inst m → getFirstAfter m r p fuel = none) := by
  have hsv := hr.startValid s hs
  have hpos := hr.pos
  have hlt := tpLt_iff m p s hp hsv
  refine ⟨fun hb => ?_, fun hb h => ?_, fun hb h => ?_⟩
  · have hge : s.inst m ≤ p.inst m := ((inBounds_iff m r hr.startValid hr.endValid p hp).mp hb).1 s hs
    obtain ⟨dd, hh, mm, ss, hd, hl, _, _⟩ := subTP_spec m p s hp hsv
    -- in the model's terms: `diff.seconds = p − s`, `d.seconds = L`, and `fmod` is `%` as `p ≥ s`
    have hdsec : (Dur.units 0 0 dd hh mm ss).seconds m = p.inst m - s.inst m := by
      rw [seconds_exact m _ rfl, exactSeconds_units, hl]
    have hLsec : d.seconds m = L := by rw [seconds_exact m d hr.exact, hr.len]
    have hfa := getFirstAfter_closed m r d _ s p hs hr.dur hr.exact hb hd
      (by rw [hLsec]; exact Int.ne_of_gt hpos) fuel
    rw [hdsec, hLsec, Int.fmod_eq_emod_of_nonneg _ (Int.le_of_lt hpos)] at hfa
    obtain ⟨k1, k2, k3⟩ := next_multiple L (p.inst m - s.inst m) hpos
    obtain ⟨hsubex, hsubsec⟩ := sub_seconds_exact m d ((p.inst m - s.inst m) % L) hr.exact
    obtain ⟨q, hq, g⟩ := addDur_exact m p _ hp hsubex
    rw [hsubsec, hr.len] at g
    refine ⟨q, g, ?_, ?_, ?_, by rw [hfa, hq, Option.filter_some]⟩
    · rw [g.inst, ← k3, ← Int.add_assoc, Int.add_comm (s.inst m), Int.sub_add_cancel]
    · rw [g.inst]; exact Int.lt_add_of_pos_right _ k1
    · rw [g.inst]; exact Int.add_le_add_left k2 _
  · rw [getFirstAfter_of_not_inBounds m r s p hs hb fuel, if_pos (hlt.mpr h)]
  · rw [getFirstAfter_of_not_inBounds m r s p hs hb fuel, if_neg fun c => h (hlt.mp c)]

/-! ## Non-vacuity: the witness of the repaired defect F3 -/

example : getFirstAfter .greg ⟨some 3, some ⟨.cal 2002 5 4, 23, 0, 0, ⟨0, 0⟩⟩, some (.units 0 0 0 1 0 0),
    some ⟨.cal 2002 5 5, 1, 0, 0, ⟨0, 0⟩⟩, none, 3⟩ ⟨.cal 2002 5 5, 1, 0, 0, ⟨0, 0⟩⟩ 10 = none := by
  decide +kernel
example : getFirstAfter .greg ⟨some 3, some ⟨.cal 2002 5 4, 23, 0, 0, ⟨0, 0⟩⟩, some (.units 0 0 0 1 0 0),
    some ⟨.cal 2002 5 5, 1, 0, 0, ⟨0, 0⟩⟩, none, 3⟩ ⟨.ord 2002 124, 23, 30, 0, ⟨0, 0⟩⟩ 10 =
    some ⟨.ord 2002 125, 0, 0, 0, ⟨0, 0⟩⟩ := by
  decide +kernel

end IsoDT.Props.C13
