/-
  C08 (custom formats) — "dumping with any custom format that contains a complete date, the time down
  to p's precision and a zone likewise parses back to an equal instant".

  The class of formats (`Custom.CFmt`, `Lemmas/TextCustomDefs`): a complete date expression
  (`CCYY-MM-DD`, `CCYY-DDD`, `CCYY-Www-D`, or basic `CCYYMMDD`, `CCYYDDD`, `CCYYWwwD`; optionally with the
  expanded-year token `+X`), `T`, the time down to the second (`hh:mm:ss` / `hhmmss`; optionally a
  decimal part `,tt` / `.tt`), and a zone expression — `Z`, a placeholder (`+hh:mm` extended, `+hhmm`
  basic, `+hh`) or a LITERAL offset in the same three spellings — basic or extended consistently.
  That is 2·3·2·3 = 36 date/time shapes times the zone expressions (every legal literal offset), for
  each of the regenerated dumper tables (0, 2, 3 expanded year digits).

  `IsoDT.Text.dump` mirrors `TimePointDumper.dump` / `_get_expression_and_properties` /
  `get_time_zone` / `_dump_expression_with_properties`; `IsoDT.Text.parse` mirrors
  `TimePointParser.parse`.  Agreement with the Python: driver op `tdump` (the harness op `dumpzone` runs the Python alone).

  For a valid WHOLE-SECOND point `p` (three representations, any offset, 24:00:00, four modes) the specified
  point `f.target m p` is `p` converted to the format's zone (`to_time_zone`, C06) and then to the format's
  representation (C03); `dump p f` is the specified text `customText` of that point whenever its year is
  within the digits the format prints (the dumper's bounds error otherwise), and that text is read back as
  exactly that point — hence as an equal instant, the property's own words (`C08_custom_equal_instant`).
  Definitions and proofs: `Lemmas/TextCustomDefs`, `TextCustomZone`, `TextCustomExpr`, `TextCustomDump`,
  `TextCustomParse`; a format with a decimal part is read back as a decimal-second point of fraction 0
  (`Props/C08b`), which is the whole-second point.
-/
import IsoDT.Lemmas.TextCustomDump
import IsoDT.Lemmas.TextCustomParse
import IsoDT.Props.C08b

namespace IsoDT.Props.C08
open IsoDT IsoDT.Model IsoDT.Text IsoDT.Text.Custom
open IsoDT.Spec (Date TZ TP)
open _root_.IsoDT.Gen.Templates (dumpTables parserTables dumper_0 dumper_2 dumper_3)

/-- `_get_expression_and_properties` on a complete custom format: the printf expression, the property
    list, and the literal zone as `custom_time_zone` — for every format of the class and every
    regenerated dumper table. -/
theorem C08_custom_compiles (dt : DumpTables) (hdt : dt ∈ dumpTables) (f : CFmt) (hf : f.WF dt.ned) :
    getExpr dt f.text = some (f.expr dt.ned) := getExpr_custom dt hdt f hf

/-- **C08 (custom formats, the point printed)**: for every valid point and well-formed format the
    specified point exists; it is valid, in the format's date representation, carries the format's
    zone (UTC for `Z`, `p`'s own offset for a placeholder, the literal offset otherwise) and is the
    same instant as `p`. -/
theorem C08_custom_target (m : Mode) (f : CFmt) (ned : Nat) (hf : f.WF ned) (p : TP) (hv : p.Valid m) :
    ∃ q, f.target m p = some q ∧ q.Valid m ∧ q.date.rep = f.kind.k ∧ q.tz = f.zone.target p ∧
      q.inst m = p.inst m := by
  have hz := target_zone_valid f ned hf p (valid_tz hv)
  obtain ⟨q1, hq1, hinst, htz, _, hvq, _⟩ := Lemmas.toTimeZone_spec m p (f.zone.target p) hv hz
  obtain ⟨r, hr, hvr, hrep, hnum⟩ := Lemmas.convert_spec m f.kind.k (kind_lt _) q1.date hvq.1
  refine ⟨{ q1 with date := r }, ?_, ?_, hrep, htz, ?_⟩
  · unfold CFmt.target; rw [hq1]; simp [hr]
  · obtain ⟨_, b⟩ := hvq; exact ⟨hvr, b⟩
  · rw [← hinst]; simp only [TP.inst, TP.secOfDay, hnum]

/-- **C08 (custom formats, writing)**: for every valid whole-second point `p` — calendar, ordinal or
    week representation, any calendar mode, any legal offset, 24:00:00 included, carrying any number `n`
    of expanded digits of its own — every dumper table (`num_expanded_year_digits` 0, 2 or 3) and every
    complete custom format, `dump(p, format)` is exactly the specified text of the specified point `q`
    (`p` in the format's zone and representation): year digits (signed and expanded iff the format has
    `+X`), the date fields of the format's representation, `T`, `hh:mm:ss` / `hhmmss` (`,0` / `.0` for a
    decimal part), and `Z` or the sign and digits of `q`'s offset in the format's spelling — provided
    `q`'s year is within the digits the format prints. -/
theorem C08_custom_dump (m : Mode) (dt : DumpTables) (hdt : dt ∈ dumpTables) (n : Nat) (f : CFmt)
    (hf : f.WF dt.ned) (p q : TP) (hv : p.Valid m) (hq : f.target m p = some q)
    (hy : YearInRange (f.yd dt.ned) (dateYear q.date)) :
    dump m dt (XTP.ofTP n p) f.text = .ok (customText dt.ned f q) := by
  rw [dump_custom m dt hdt n f hf p q hv hq, if_pos hy]

/-- **C08 (custom formats, year bounds)**: the year check is made on the year of the CONVERTED point
    (after re-zoning, in the format's week-year or calendar-year): outside the format's digits the dump
    is the documented `TimePointDumperBoundsError`. -/
theorem C08_custom_dump_bounds (m : Mode) (dt : DumpTables) (hdt : dt ∈ dumpTables) (n : Nat) (f : CFmt)
    (hf : f.WF dt.ned) (p q : TP) (hv : p.Valid m) (hq : f.target m p = some q)
    (hy : ¬ YearInRange (f.yd dt.ned) (dateYear q.date)) :
    dump m dt (XTP.ofTP n p) f.text = .error .err := by
  rw [dump_custom m dt hdt n f hf p q hv hq, if_neg hy]

/-- What is read back for a whole-second format is the text-layer value of `q` itself; with a decimal
    part it is `q` with the fraction `0` on its second — a decimal-second point that collapses to `q`. -/
theorem C08_readBack_cases (n : Nat) (fr : Frac) (q : TP) :
    (fr = .none ∧ readBack n fr q = XTP.ofTP n q ∧ (readBack n fr q).toTP? = some q) ∨
    (fr ≠ .none ∧ readBack n fr q = DTP.toXTP n ⟨q.date, .second q.hh q.mi q.ss ['0'], q.tz⟩ ∧
      (DTP.mk q.date (.second q.hh q.mi q.ss ['0']) q.tz).whole = some q ∧ fracValue ['0'] = 0) := by
  cases fr with
  | none => exact Or.inl ⟨rfl, rfl, ofTP_toTP n q⟩
  | comma =>
    refine Or.inr ⟨by decide, rfl, rfl, ?_⟩
    exact fracValue_of_fracZero _ (by decide)
  | point =>
    refine Or.inr ⟨by decide, rfl, rfl, ?_⟩
    exact fracValue_of_fracZero _ (by decide)

/-- **C08 (custom formats, reading)**: the specified text of a valid whole-second point `q` that is in
    the format's representation, whose zone the format spells faithfully (`Z` only for UTC, the
    hours-only style only for whole hours) and whose year is within the format's digits, is decoded by
    every parser configuration that knows the notation — extended notation allowed if the format is
    extended, expanded digits configured if the format has `+X`; any `allow_truncated`, any default
    zone, any calendar mode — to exactly `q`: same representation, same field values, same offset. -/
theorem C08_custom_parse (cfg : Cfg) (hpt : cfg.pt ∈ parserTables) (f : CFmt)
    (hb : f.ext = true → cfg.pt.basicOnly = false) (hx : f.expanded = true → cfg.pt.ned ≠ 0)
    (q : TP) (hv : q.Valid cfg.mode) (hr : q.date.rep = f.kind.k)
    (hy : YearInRange (f.yd cfg.pt.ned) (dateYear q.date)) (hzf : ZoneFaithful f q) :
    parse cfg (customText cfg.pt.ned f q) false = some (readBack (f.yd cfg.pt.ned) f.frac q) := by
  rw [customText_render cfg.pt.ned f hx q hr,
    parse_rendered cfg hpt f.expanded f.ext f.kind f.zone.style hb hx _
      (time_entry_all cfg.pt hpt f.ext (by cases f.ext <;> simp) f.frac (by cases f.frac <;> simp) hb)
      q _ hv hr hy ⟨List.cons_ne_nil _ _, rfl⟩ (fun _ => rfl) hzf,
    pointOf_custom cfg f.expanded f.ext f.kind f.frac q hr hy (fieldsFit_of_valid cfg.mode q hv)]
  rfl

/-- The text depends on the number of expanded digits only through the `+X` token. -/
theorem customText_yd (n n' : Nat) (f : CFmt) (q : TP) (h : f.yd n = f.yd n') :
    customText n f q = customText n' f q := by
  unfold customText; rw [h]

/-- **C08 (custom formats, round trip)**: for every valid whole-second point `p`, every regenerated
    dumper table `dt` and every complete custom format `f` (well-formed for `dt`; the placeholder `+hh`
    only for a point whose offset has no minutes — "when it loses nothing"), and every parser
    configuration that knows the notation (extended allowed if `f` is extended; the SAME number of
    expanded digits as the dumper if `f` has `+X`, otherwise any), in the same calendar mode:
    `dump(p, f)` succeeds with the specified text of the specified point `q` whenever `q`'s year is
    within the format's digits; parsing that text yields exactly `q` (with a `0` fraction if the format
    has a decimal part); and `q` is the same instant as `p`, carries exactly the format's zone, is in
    the format's representation and is valid. -/
theorem C08_custom_roundtrip (m : Mode) (dt : DumpTables) (hdt : dt ∈ dumpTables) (n : Nat) (f : CFmt)
    (hf : f.WF dt.ned) (cfg : Cfg) (hpt : cfg.pt ∈ parserTables) (hm : cfg.mode = m)
    (hb : f.ext = true → cfg.pt.basicOnly = false) (hx : f.expanded = true → cfg.pt.ned = dt.ned)
    (p : TP) (hv : p.Valid m) (hown : f.zone = .own .h → p.tz.mi = 0)
    (q : TP) (hq : f.target m p = some q) (hy : YearInRange (f.yd dt.ned) (dateYear q.date)) :
    ∃ text, dump m dt (XTP.ofTP n p) f.text = .ok text ∧ text = customText dt.ned f q ∧
      parse cfg text false = some (readBack (f.yd dt.ned) f.frac q) ∧
      q.inst m = p.inst m ∧ q.tz = f.zone.target p ∧ q.date.rep = f.kind.k ∧ q.Valid m := by
  subst hm
  obtain ⟨q', hq', hvq, hrq, htz, hinst⟩ := C08_custom_target cfg.mode f dt.ned hf p hv
  rw [hq] at hq'
  obtain rfl := Option.some.inj hq'
  refine ⟨customText dt.ned f q, C08_custom_dump cfg.mode dt hdt n f hf p q hv hq hy, rfl, ?_, hinst, htz,
    hrq, hvq⟩
  have hyd : f.yd dt.ned = f.yd cfg.pt.ned := yd_congr f.expanded _ _ hx
  have hxn : f.expanded = true → cfg.pt.ned ≠ 0 := fun hxe => by rw [hx hxe]; exact hf.1 hxe
  have hzf : ZoneFaithful f q := by
    refine faithful_of_same f.zone q.tz hf.2 ?_ (fun h => htz ▸ h ▸ hown h)
    rw [htz]
    cases f.zone with
    | utc => rfl
    | own s => trivial
    | lit s z => rfl
  rw [customText_yd dt.ned cfg.pt.ned f q hyd, hyd]
  exact C08_custom_parse cfg hpt f hb hxn q hvq hrq (hyd ▸ hy) hzf

/-- The property's own words for a whole-second format: the dumped text parses back to a point that
    denotes an EQUAL INSTANT and carries the zone the format spells. -/
theorem C08_custom_equal_instant (m : Mode) (dt : DumpTables) (hdt : dt ∈ dumpTables) (n : Nat) (f : CFmt)
    (hf : f.WF dt.ned) (hfr : f.frac = .none) (cfg : Cfg) (hpt : cfg.pt ∈ parserTables) (hm : cfg.mode = m)
    (hb : f.ext = true → cfg.pt.basicOnly = false) (hx : f.expanded = true → cfg.pt.ned = dt.ned)
    (p : TP) (hv : p.Valid m) (hown : f.zone = .own .h → p.tz.mi = 0)
    (q : TP) (hq : f.target m p = some q) (hy : YearInRange (f.yd dt.ned) (dateYear q.date)) :
    ∃ text x r, dump m dt (XTP.ofTP n p) f.text = .ok text ∧ parse cfg text false = some x ∧
      x.toTP? = some r ∧ r.inst m = p.inst m ∧ r.tz = f.zone.target p ∧ r.date.rep = f.kind.k ∧
      r.Valid m := by
  obtain ⟨text, h1, _, h3, h4, h5, h6, h7⟩ :=
    C08_custom_roundtrip m dt hdt n f hf cfg hpt hm hb hx p hv hown q hq hy
  rw [hfr] at h3
  exact ⟨text, _, q, h1, h3, ofTP_toTP _ q, h4, h5, h6, h7⟩

/-- A week date at 24:00:00 with offset −00:30, dumped as a BASIC ORDINAL date with the literal zone
    `+0545` by a dumper with two expanded digits (format without `+X`), read by a basic-only parser. -/
example : ∃ text,
    dump .greg dumper_2 (XTP.ofTP 2 ⟨.week 2020 53 7, 24, 0, 0, ⟨0, -30⟩⟩)
      "CCYYDDDThhmmss+0545".toList = .ok text ∧
    text = "2021004T061500+0545".toList ∧
    parse ⟨Gen.Templates.parser_2_basic, true, .assumed 1 0, .greg⟩ text false =
      some (XTP.ofTP 0 ⟨.ord 2021 4, 6, 15, 0, ⟨5, 45⟩⟩) ∧
    (⟨.ord 2021 4, 6, 15, 0, ⟨5, 45⟩⟩ : TP).inst .greg =
      (⟨.week 2020 53 7, 24, 0, 0, ⟨0, -30⟩⟩ : TP).inst .greg := by
  obtain ⟨text, h1, h2, h3, h4, _⟩ :=
    C08_custom_roundtrip .greg dumper_2 (by simp [dumpTables]) 2 ⟨false, .ord, false, .none, .lit .hm ⟨5, 45⟩⟩
      (by decide) ⟨Gen.Templates.parser_2_basic, true, .assumed 1 0, .greg⟩
      (.tail _ (.tail _ (.tail _ (.head _)))) rfl (by decide) (by decide)
      ⟨.week 2020 53 7, 24, 0, 0, ⟨0, -30⟩⟩ (by decide +kernel) (by decide)
      ⟨.ord 2021 4, 6, 15, 0, ⟨5, 45⟩⟩ (by decide +kernel) (by decide +kernel)
  exact ⟨text, h1.trans (by rfl), h2.trans (by decide +kernel), h3, h4⟩

/-- Year −396, the `+X` token with three expanded digits, extended week format, decimal part, the
    placeholder `+hh` on an offset of whole hours. -/
example : dump .greg dumper_3 (XTP.ofTP 3 ⟨.cal (-396) 12 31, 23, 59, 59, ⟨-5, 0⟩⟩)
      "+XCCYY-Www-DThh:mm:ss,tt+hh".toList = .ok "-0000396-W53-5T23:59:59,0-05".toList :=
  (C08_custom_dump .greg dumper_3 (by simp [dumpTables]) 3 ⟨true, .week, true, .comma, .own .h⟩ (by decide)
    ⟨.cal (-396) 12 31, 23, 59, 59, ⟨-5, 0⟩⟩ ⟨.week (-396) 53 5, 23, 59, 59, ⟨-5, 0⟩⟩ (by decide +kernel)
    (by decide +kernel) (by decide +kernel)).trans (by decide +kernel)

/-- The bounds theorem instantiated: 9999-12-31T23:00:00Z as a basic calendar date with the literal
    zone `+05` is year 10000 after re-zoning. -/
example : dump .greg dumper_0 (XTP.ofTP 0 ⟨.cal 9999 12 31, 23, 0, 0, ⟨0, 0⟩⟩)
      "CCYYMMDDThhmmss+05".toList = .error .err :=
  C08_custom_dump_bounds .greg dumper_0 (by simp [dumpTables]) 0 ⟨false, .cal, false, .none, .lit .h ⟨5, 0⟩⟩ (by decide)
    ⟨.cal 9999 12 31, 23, 0, 0, ⟨0, 0⟩⟩ ⟨.cal 10000 1 1, 4, 0, 0, ⟨5, 0⟩⟩ (by decide +kernel)
    (by decide +kernel) (by decide +kernel)

/-- A week-format dump moves the YEAR too (week-year 2020 for 2021-01-03), and the check is on that. -/
example : (CFmt.mk false .week true .none .utc).target .greg ⟨.cal 2021 1 3, 12, 0, 0, ⟨0, 0⟩⟩ =
    some ⟨.week 2020 53 7, 12, 0, 0, ⟨0, 0⟩⟩ := by decide +kernel

/-! ## Outside the class -/

/-- The placeholder `+hh` on an offset WITH minutes prints the hours alone, and the text then denotes
    a different instant: the hypothesis `f.zone = .own .h → p.tz.mi = 0` of the round trip is needed
    (the property's "a zone" is read as: a zone expression that spells `p`'s offset completely). -/
theorem C08_custom_hours_only_loses_minutes_example :
    dump .greg dumper_0 (XTP.ofTP 0 ⟨.cal 2000 1 1, 12, 0, 0, ⟨5, 30⟩⟩) "CCYY-MM-DDThh:mm:ss+hh".toList =
      .ok "2000-01-01T12:00:00+05".toList ∧
    parse ⟨Gen.Templates.parser_0_all, false, .unknown, .greg⟩ "2000-01-01T12:00:00+05".toList false =
      some (XTP.ofTP 0 ⟨.cal 2000 1 1, 12, 0, 0, ⟨5, 0⟩⟩) ∧
    (⟨.cal 2000 1 1, 12, 0, 0, ⟨5, 0⟩⟩ : TP).inst .greg ≠ (⟨.cal 2000 1 1, 12, 0, 0, ⟨5, 30⟩⟩ : TP).inst .greg := by
  decide +kernel

/-- A date format and a zone of different notations (extended date and time, basic zone `+hhmm`) is
    not in the class: the dumper prints it, no parser reads it back. -/
theorem C08_custom_mixed_notation_example :
    dump .greg dumper_0 (XTP.ofTP 0 ⟨.cal 2000 1 1, 12, 0, 0, ⟨5, 30⟩⟩) "CCYY-MM-DDThh:mm:ss+hhmm".toList =
      .ok "2000-01-01T12:00:00+0530".toList ∧
    parse ⟨Gen.Templates.parser_0_all, false, .unknown, .greg⟩ "2000-01-01T12:00:00+0530".toList false = none := by
  decide +kernel

end IsoDT.Props.C08
