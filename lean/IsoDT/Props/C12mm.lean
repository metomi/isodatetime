/-
  C12 (continued) — iteration of a recurrence that has a `min_point` / `max_point`.

  `Model.RecMM` (`Model/RecurrenceMM.lean`) is a `Model.Rec` plus the two optional points.  With both
  `None` every `…MM` function IS the function of `Model/Recurrence.lean` (`RecMM_none_is_Rec`), so the
  theorems of C12/C13/C14 are statements about `RecMM` with no window.  With a window, `__iter__`
  yields the LONGEST PREFIX of what it would yield without min/max whose points are all within
  [min, max] — nothing at all when the first point is outside: the code stops, it does not skip
  forward.  For exact intervals this is restated by instants, notation by notation of the constructor.
  `Props/C13mm.lean` and `Props/C14mm.lean` build on this file.
-/
import IsoDT.Props.C12
import IsoDT.Lemmas.RecMM

namespace IsoDT.Props.C12
open IsoDT IsoDT.Model IsoDT.Lemmas
open IsoDT.Spec (Date TZ TP)

theorem firstAfterLoopMM_none (m : Mode) (b : Rec) (p : TP) : ∀ (fuel : Nat) (c : Option TP),
    firstAfterLoopMM m ⟨b, none, none⟩ p fuel c = firstAfterLoop m b p fuel c := by
  intro fuel
  induction fuel with
  | zero => intro c; rfl
  | succ fuel ih =>
    intro c
    cases c with
    | none => rfl
    | some c =>
      simp only [firstAfterLoopMM, firstAfterLoop]
      rw [ih, getNextMM_eq]
      have : (getNext m b c).filter (withinMM m ⟨b, none, none⟩) = getNext m b c := by
        cases getNext m b c <;> simp [Option.filter, withinMM_none]
      simp only [this]

/-- **Without `min_point`/`max_point` the model with them is the existing model**: every `…MM`
    function on `⟨b, none, none⟩` equals the corresponding function on `b`.  Hence every theorem
    of C12, C13, C14 about `Rec` is a theorem about `RecMM` with `minP = maxP = none`. -/
theorem RecMM_none_is_Rec (m : Mode) (b : Rec) :
    (∀ reps start dur end_, mkRecMM m reps start dur end_ none none =
        (mkRec m reps start dur end_).map fun r => ⟨r, none, none⟩) ∧
    (∀ p, inBoundsMM m ⟨b, none, none⟩ p = inBounds m b p) ∧
    (∀ p, getNextMM m ⟨b, none, none⟩ p = getNext m b p) ∧
    (∀ p, getPrevMM m ⟨b, none, none⟩ p = getPrev m b p) ∧
    (∀ rev fuel p, iterFromMM m ⟨b, none, none⟩ rev fuel p = iterFrom m b rev fuel p) ∧
    (∀ fuel, iterMM m ⟨b, none, none⟩ fuel = iter m b fuel) ∧
    (∀ i, getItemMM m ⟨b, none, none⟩ i = getItem m b i) ∧
    (∀ p fuel, getIsValidMM m ⟨b, none, none⟩ p fuel = getIsValid m b p fuel) ∧
    (∀ p fuel, getFirstAfterMM m ⟨b, none, none⟩ p fuel = getFirstAfter m b p fuel) ∧
    (∀ d, shiftMM m ⟨b, none, none⟩ d = (b.shift m d).map fun b' => ⟨b', none, none⟩) ∧
    (∀ b2, eqMM m ⟨b, none, none⟩ ⟨b2, none, none⟩ = Rec.eq m b b2) ∧
    (∀ b2, hashKeyMM m ⟨b, none, none⟩ = hashKeyMM m ⟨b2, none, none⟩ ↔ b.hashKey m = b2.hashKey m) := by
  have hw : ∀ p, withinMM m ⟨b, none, none⟩ p = true := fun p => withinMM_none m b p
  have hib : ∀ p, inBoundsMM m ⟨b, none, none⟩ p = inBounds m b p := by
    intro p; rw [inBoundsMM_eq, hw, Bool.and_true]
  have hfilter : ∀ o : Option TP, o.filter (withinMM m ⟨b, none, none⟩) = o := by
    intro o; cases o <;> simp [Option.filter, hw]
  have hit : ∀ fuel, iterMM m ⟨b, none, none⟩ fuel = iter m b fuel := by
    intro fuel; rw [iterMM_eq_takeWhile, takeWhile_all _ _ fun x _ => hw x]
  refine ⟨fun _ _ _ _ => rfl, hib, ?_, ?_, ?_, hit, ?_, ?_, ?_, fun _ => rfl, ?_, ?_⟩
  · intro p; rw [getNextMM_eq, hfilter]
  · intro p; rw [getPrevMM_eq, hfilter]
  · intro rev fuel p; rw [iterFromMM_eq_takeWhile, takeWhile_all _ _ fun x _ => hw x]
  · intro i; unfold getItemMM getItem; rw [hit]
  · intro p fuel; unfold getIsValidMM getIsValid; rw [hib, hit]
  · intro p fuel
    unfold getFirstAfterMM getFirstAfter
    simp only [hib, firstAfterLoopMM_none]
    rfl
  · intro b2; unfold eqMM; simp only [optTpEq, Bool.and_true]
  · intro b2; unfold hashKeyMM
    simp only [Option.map_none, Prod.mk.injEq, and_true]

/-- **`__iter__` with `min_point`/`max_point` yields the longest prefix of the unrestricted
    iteration whose points all lie within [min, max]** — every recurrence (any notation, any
    interval, exact or not, any points), any amount `fuel` of iteration.

    `withinMM m r q` is the pair of tests `not (q < min_point)` and `not (q > max_point)`.
    1. it is `takeWhile`: the same points in the same order, cut at the first one outside;
    2. pointwise: the `k`-th point exists iff the `k`-th unrestricted point exists and the
       unrestricted points number `0..k` are all within the window;
    3. it is a prefix of the unrestricted iteration;
    4. every yielded point is within the window (and within the start/end bounds);
    5. (longest) if it is shorter than the unrestricted iteration, the next unrestricted point is
       outside the window;
    6. if the first unrestricted point is outside the window nothing is yielded. -/
theorem C12_mm_iter_longest_prefix (m : Mode) (r : RecMM) (fuel : Nat) :
    iterMM m r fuel = (iter m r.base fuel).takeWhile (withinMM m r) ∧
    (∀ (k : Nat) (p : TP), (iterMM m r fuel)[k]? = some p ↔
      (iter m r.base fuel)[k]? = some p ∧
        ∀ j, j ≤ k → ∀ q, (iter m r.base fuel)[j]? = some q → withinMM m r q = true) ∧
    iterMM m r fuel <+: iter m r.base fuel ∧
    (∀ q ∈ iterMM m r fuel, withinMM m r q = true ∧ inBounds m r.base q = true ∧ inBoundsMM m r q = true) ∧
    (∀ q, (iter m r.base fuel)[(iterMM m r fuel).length]? = some q → withinMM m r q = false) ∧
    (∀ q, (iter m r.base fuel).head? = some q → withinMM m r q = false → iterMM m r fuel = []) := by
  have h := iterMM_eq_takeWhile m r fuel
  refine ⟨h, ?_, ?_, ?_, ?_, ?_⟩
  · intro k p; rw [h]; exact takeWhile_getElem?_iff _ _ k p
  · rw [h]; exact List.takeWhile_prefix _
  · intro q hq
    rw [h] at hq
    have hw : withinMM m r q = true := mem_takeWhile_true _ _ q hq
    have hb : inBounds m r.base q = true :=
      iter_mem_inBounds m r.base fuel q ((List.takeWhile_prefix _).subset hq)
    exact ⟨hw, hb, by rw [inBoundsMM_eq, hw, hb]; rfl⟩
  · intro q hq
    rw [h] at hq
    obtain ⟨hl, rfl⟩ := List.getElem?_eq_some_iff.mp hq
    exact takeWhile_stop _ _ hl
  · intro q hq hw
    rw [h]; exact takeWhile_head_false _ _ q hq hw

/-- The same relative to the loop of `__iter__` started at any point (`iterFrom`). -/
theorem C12_mm_iterFrom_longest_prefix (m : Mode) (r : RecMM) (rev : Bool) (fuel : Nat) (p : TP) :
    iterFromMM m r rev fuel p = (iterFrom m r.base rev fuel p).takeWhile (withinMM m r) ∧
    (∀ (k : Nat) (x : TP), (iterFromMM m r rev fuel p)[k]? = some x ↔
      (iterFrom m r.base rev fuel p)[k]? = some x ∧
        ∀ j, j ≤ k → ∀ q, (iterFrom m r.base rev fuel p)[j]? = some q → withinMM m r q = true) ∧
    iterFromMM m r rev fuel p <+: iterFrom m r.base rev fuel p ∧
    (withinMM m r p = false → iterFromMM m r rev fuel p = []) := by
  have h := iterFromMM_eq_takeWhile m r rev fuel p
  refine ⟨h, ?_, ?_, ?_⟩
  · intro k x; rw [h]; exact takeWhile_getElem?_iff _ _ k x
  · rw [h]; exact List.takeWhile_prefix _
  · intro hw
    rw [h]
    cases fuel with
    | zero => rfl
    | succ f =>
      simp only [iterFrom]
      split
      · rw [List.takeWhile_cons, hw]; rfl
      · rfl

/-- **The window as instants**: for valid points, a yielded point `q` has
    `min.inst ≤ q.inst ≤ max.inst` (for whichever of the two exist). -/
theorem C12_mm_yielded_within (m : Mode) (r : RecMM) (fuel : Nat)
    (hmin : ∀ a, r.minP = some a → a.Valid m) (hmax : ∀ b, r.maxP = some b → b.Valid m)
    (q : TP) (hq : q ∈ iterMM m r fuel) (hqv : q.Valid m) :
    (∀ a, r.minP = some a → a.inst m ≤ q.inst m) ∧ (∀ b, r.maxP = some b → q.inst m ≤ b.inst m) :=
  (withinMM_iff m r q hqv hmin hmax).mp ((C12_mm_iter_longest_prefix m r fuel).2.2.2.1 q hq).1

/-! ### exact intervals: the window against an arithmetic series -/

/-- A window is an interval of instants, so an arithmetic series (of either direction) cut by it
    keeps index `k` iff its first and its `k`-th point are within the window: the points between
    them lie between these two. -/
theorem series_window (m : Mode) (r : RecMM) (rep : Nat) (tz : TZ) (l : List TP) (i0 step : Int)
    (hs : SeriesOK m rep tz l i0 step)
    (hmin : ∀ a, r.minP = some a → a.Valid m) (hmax : ∀ b, r.maxP = some b → b.Valid m)
    (k : Nat) (p : TP) :
    (l.takeWhile (withinMM m r))[k]? = some p ↔
      l[k]? = some p ∧
        (∀ a, r.minP = some a → a.inst m ≤ i0 ∧ a.inst m ≤ i0 + (k : Int) * step) ∧
        (∀ b, r.maxP = some b → i0 ≤ b.inst m ∧ i0 + (k : Int) * step ≤ b.inst m) := by
  have within : ∀ (j : Nat) (q : TP), l[j]? = some q →
      (withinMM m r q = true ↔ (∀ a, r.minP = some a → a.inst m ≤ i0 + (j : Int) * step) ∧
        (∀ b, r.maxP = some b → i0 + (j : Int) * step ≤ b.inst m)) := by
    intro j q hq
    obtain ⟨hj, rfl⟩ := List.getElem?_eq_some_iff.mp hq
    obtain ⟨e2, e3, _⟩ := series_get m rep tz l i0 step hs j hj
    rw [withinMM_iff m r _ e3 hmin hmax, e2]
  rw [takeWhile_getElem?_iff]
  refine and_congr_right fun h1 => ⟨fun h2 => ?_, fun ⟨h2, h3⟩ j hj q hq => ?_⟩
  · have hk : k < l.length := (List.getElem?_eq_some_iff.mp h1).1
    have w0 := (within 0 _ (List.getElem?_eq_getElem (by omega))).mp (h2 0 (Nat.zero_le k) _ (List.getElem?_eq_getElem (by omega)))
    have wk := (within k p h1).mp (h2 k (Nat.le_refl k) p h1)
    simp only [Int.natCast_zero, Int.zero_mul, Int.add_zero] at w0
    exact ⟨fun a ha => ⟨w0.1 a ha, wk.1 a ha⟩, fun b hb => ⟨w0.2 b hb, wk.2 b hb⟩⟩
  · rw [within j q hq]
    -- `i0 + j·step` lies between `i0` and `i0 + k·step`
    have hjk : (j : Int) ≤ (k : Int) := Int.ofNat_le.mpr hj
    have hj0 : (0 : Int) ≤ (j : Int) := Int.natCast_nonneg j
    rcases Int.le_total 0 step with hp | hn
    · have lo := Int.le_add_of_nonneg_right (a := i0) (Int.mul_nonneg hj0 hp)
      have hi := Int.add_le_add_left (Int.mul_le_mul_of_nonneg_right hjk hp) i0
      exact ⟨fun a ha => Int.le_trans (h2 a ha).1 lo, fun b hb => Int.le_trans hi (h3 b hb).2⟩
    · have lo := Int.add_le_add_left (Int.mul_le_mul_of_nonpos_right hjk hn) i0
      have hi := Int.add_le_add_left (Int.mul_nonpos_of_nonneg_of_nonpos hj0 hn) i0
      rw [Int.add_zero] at hi
      exact ⟨fun a ha => Int.le_trans (h2 a ha).2 lo, fun b hb => Int.le_trans hi (h3 b hb).1⟩

theorem series_window_fwd (m : Mode) (r : RecMM) (rep : Nat) (tz : TZ) (l : List TP) (i0 L : Int)
    (hs : SeriesOK m rep tz l i0 L) (hpos : 0 < L)
    (hmin : ∀ a, r.minP = some a → a.Valid m) (hmax : ∀ b, r.maxP = some b → b.Valid m)
    (k : Nat) (p : TP) :
    (l.takeWhile (withinMM m r))[k]? = some p ↔
      l[k]? = some p ∧ (∀ a, r.minP = some a → a.inst m ≤ i0) ∧
        (∀ b, r.maxP = some b → i0 + (k : Int) * L ≤ b.inst m) := by
  have hk : 0 ≤ (k : Int) * L := Int.mul_nonneg (Int.natCast_nonneg k) (Int.le_of_lt hpos)
  rw [series_window m r rep tz l i0 L hs hmin hmax k p]
  have up := Int.le_add_of_nonneg_right (a := i0) hk
  exact and_congr_right fun _ =>
    ⟨fun ⟨h2, h3⟩ => ⟨fun a ha => (h2 a ha).1, fun b hb => (h3 b hb).2⟩,
     fun ⟨h2, h3⟩ => ⟨fun a ha => ⟨h2 a ha, Int.le_trans (h2 a ha) up⟩,
       fun b hb => ⟨Int.le_trans up (h3 b hb), h3 b hb⟩⟩⟩

theorem series_window_rev (m : Mode) (r : RecMM) (rep : Nat) (tz : TZ) (l : List TP) (i0 L : Int)
    (hs : SeriesOK m rep tz l i0 (-L)) (hpos : 0 < L)
    (hmin : ∀ a, r.minP = some a → a.Valid m) (hmax : ∀ b, r.maxP = some b → b.Valid m)
    (k : Nat) (p : TP) :
    (l.takeWhile (withinMM m r))[k]? = some p ↔
      l[k]? = some p ∧ (∀ b, r.maxP = some b → i0 ≤ b.inst m) ∧
        (∀ a, r.minP = some a → a.inst m ≤ i0 - (k : Int) * L) := by
  have hk : 0 ≤ (k : Int) * L := Int.mul_nonneg (Int.natCast_nonneg k) (Int.le_of_lt hpos)
  rw [series_window m r rep tz l i0 (-L) hs hmin hmax k p, Int.mul_neg, ← Int.sub_eq_add_neg]
  have down := Int.sub_le_self i0 hk
  exact and_congr_right fun _ =>
    ⟨fun ⟨h2, h3⟩ => ⟨fun b hb => (h3 b hb).1, fun a ha => (h2 a ha).2⟩,
     fun ⟨h3, h2⟩ => ⟨fun a ha => ⟨Int.le_trans (h2 a ha) down, h2 a ha⟩,
       fun b hb => ⟨h3 b hb, Int.le_trans down (h3 b hb)⟩⟩⟩

/-- **Exact interval, forward iteration (the recurrence has a start point `s`), with a window**:
    the yielded points are an arithmetic series from the start's instant with step `L` in the
    start's representation and offset, and the `k`-th point exists iff the `k`-th point of the
    unrestricted iteration exists, `min ≤ s`, and `s + k·L ≤ max` (as instants).  So a start before
    `min_point` yields nothing, and otherwise the points are those up to `max_point`. -/
theorem C12_mm_exact_forward (m : Mode) (r : RecMM) (d : Dur) (L : Int) (hr : ExactRec m r.base d L)
    (s : TP) (hs : r.base.start = some s)
    (hmin : ∀ a, r.minP = some a → a.Valid m) (hmax : ∀ b, r.maxP = some b → b.Valid m) (fuel : Nat) :
    SeriesOK m s.date.rep s.tz (iterMM m r fuel) (s.inst m) L ∧
    (∀ (k : Nat) (p : TP), (iterMM m r fuel)[k]? = some p ↔
      (iter m r.base fuel)[k]? = some p ∧ (∀ a, r.minP = some a → a.inst m ≤ s.inst m) ∧
        (∀ b, r.maxP = some b → s.inst m + (k : Int) * L ≤ b.inst m)) ∧
    ((∃ a, r.minP = some a ∧ s.inst m < a.inst m) → iterMM m r fuel = []) := by
  obtain ⟨a, _, _⟩ := iter_exact_fwd m r.base d L hr s hs fuel
  have hchar := series_window_fwd m r _ _ _ _ _ a hr.pos hmin hmax
  have hser := seriesOK_takeWhile m _ _ (withinMM m r) _ _ _ a
  rw [← iterMM_eq_takeWhile] at hchar hser
  refine ⟨hser, hchar, ?_⟩
  · rintro ⟨mn, hmn, hlt⟩
    cases hl : iterMM m r fuel with
    | nil => rfl
    | cons x rest =>
      have h0 : (iterMM m r fuel)[0]? = some x := by rw [hl]; rfl
      have := ((hchar 0 x).mp h0).2.1 mn hmn
      omega

/-- **Exact interval, backward iteration (`R/d/end`: no start point, end point `e`), with a
    window**: the yielded points are `e, e−L, e−2L, …`, and the `k`-th exists iff the `k`-th
    unrestricted one exists, `e ≤ max`, and `min ≤ e − k·L`.  So an end after `max_point` yields
    nothing. -/
theorem C12_mm_exact_backward (m : Mode) (r : RecMM) (d : Dur) (L : Int) (hr : ExactRec m r.base d L)
    (e : TP) (hs : r.base.start = none) (he : r.base.end_ = some e)
    (hmin : ∀ a, r.minP = some a → a.Valid m) (hmax : ∀ b, r.maxP = some b → b.Valid m) (fuel : Nat) :
    SeriesOK m e.date.rep e.tz (iterMM m r fuel) (e.inst m) (-L) ∧
    (∀ (k : Nat) (p : TP), (iterMM m r fuel)[k]? = some p ↔
      (iter m r.base fuel)[k]? = some p ∧ (∀ b, r.maxP = some b → e.inst m ≤ b.inst m) ∧
        (∀ a, r.minP = some a → a.inst m ≤ e.inst m - (k : Int) * L)) ∧
    ((∃ b, r.maxP = some b ∧ b.inst m < e.inst m) → iterMM m r fuel = []) := by
  obtain ⟨a, _⟩ := iter_exact_rev m r.base d L hr e hs he fuel
  have hchar := series_window_rev m r _ _ _ _ _ a hr.pos hmin hmax
  have hser := seriesOK_takeWhile m _ _ (withinMM m r) _ _ _ a
  rw [← iterMM_eq_takeWhile] at hchar hser
  refine ⟨hser, hchar, ?_⟩
  · rintro ⟨mx, hmx, hlt⟩
    cases hl : iterMM m r fuel with
    | nil => rfl
    | cons x rest =>
      have h0 : (iterMM m r fuel)[0]? = some x := by rw [hl]; rfl
      have := ((hchar 0 x).mp h0).2.1 mx hmx
      omega

/-! ### the constructor's notations with a window (exact interval) -/

theorem mkRecMM_of (m : Mode) (reps : Option Int) (start : Option TP) (dur : Option Dur) (end_ : Option TP)
    (mn mx : Option TP) (r0 : Rec) (h : mkRec m reps start dur end_ = some r0) :
    mkRecMM m reps start dur end_ mn mx = some ⟨r0, mn, mx⟩ := by
  unfold mkRecMM; rw [h]; rfl

theorem window_exists_fwd (m : Mode) (r : RecMM) (rep : Nat) (tz : TZ) (fuel : Nat) (i0 L : Int) (n : Nat)
    (hs : SeriesOK m rep tz (iter m r.base fuel) i0 L) (hlen : (iter m r.base fuel).length = n) (hpos : 0 < L)
    (hmin : ∀ a, r.minP = some a → a.Valid m) (hmax : ∀ b, r.maxP = some b → b.Valid m) :
    SeriesOK m rep tz (iterMM m r fuel) i0 L ∧
    ∀ k : Nat, (∃ p, (iterMM m r fuel)[k]? = some p) ↔
      k < n ∧ (∀ a, r.minP = some a → a.inst m ≤ i0) ∧ (∀ b, r.maxP = some b → i0 + (k : Int) * L ≤ b.inst m) := by
  rw [iterMM_eq_takeWhile]
  refine ⟨seriesOK_takeWhile m _ _ _ _ _ _ hs, fun k => ⟨?_, ?_⟩⟩
  · rintro ⟨p, hp⟩
    obtain ⟨h1, h2, h3⟩ := (series_window_fwd m r rep tz _ i0 L hs hpos hmin hmax k p).mp hp
    exact ⟨by rw [← hlen]; exact (List.getElem?_eq_some_iff.mp h1).1, h2, h3⟩
  · rintro ⟨h1, h2, h3⟩
    have hk : k < (iter m r.base fuel).length := by omega
    exact ⟨_, (series_window_fwd m r rep tz _ i0 L hs hpos hmin hmax k _).mpr
      ⟨List.getElem?_eq_getElem hk, h2, h3⟩⟩

theorem window_exists_rev (m : Mode) (r : RecMM) (rep : Nat) (tz : TZ) (fuel : Nat) (i0 L : Int) (n : Nat)
    (hs : SeriesOK m rep tz (iter m r.base fuel) i0 (-L)) (hlen : (iter m r.base fuel).length = n) (hpos : 0 < L)
    (hmin : ∀ a, r.minP = some a → a.Valid m) (hmax : ∀ b, r.maxP = some b → b.Valid m) :
    SeriesOK m rep tz (iterMM m r fuel) i0 (-L) ∧
    ∀ k : Nat, (∃ p, (iterMM m r fuel)[k]? = some p) ↔
      k < n ∧ (∀ b, r.maxP = some b → i0 ≤ b.inst m) ∧ (∀ a, r.minP = some a → a.inst m ≤ i0 - (k : Int) * L) := by
  rw [iterMM_eq_takeWhile]
  refine ⟨seriesOK_takeWhile m _ _ _ _ _ _ hs, fun k => ⟨?_, ?_⟩⟩
  · rintro ⟨p, hp⟩
    obtain ⟨h1, h2, h3⟩ := (series_window_rev m r rep tz _ i0 L hs hpos hmin hmax k p).mp hp
    exact ⟨by rw [← hlen]; exact (List.getElem?_eq_some_iff.mp h1).1, h2, h3⟩
  · rintro ⟨h1, h2, h3⟩
    have hk : k < (iter m r.base fuel).length := by omega
    exact ⟨_, (series_window_rev m r rep tz _ i0 L hs hpos hmin hmax k _).mpr
      ⟨List.getElem?_eq_getElem hk, h2, h3⟩⟩

/-- **`Rn/start/d` with `min_point`/`max_point`** (`n ≥ 2`, exact interval `d` of `L` seconds):
    the yielded points form the arithmetic series `start, start+L, …` (valid points in the start's
    representation and offset), and the `k`-th point exists exactly when `k < n`, `min ≤ start`
    and `start + k·L ≤ max`.  (`min > start`: nothing is yielded — the code does not skip.) -/
theorem C12_mm_start_duration_bounded (m : Mode) (n : Nat) (s : TP) (d : Dur) (mn mx : Option TP) (hn : 2 ≤ n)
    (hs : s.Valid m) (hex : d.isExact = true) (hpos : 0 < d.exactSeconds m)
    (hmin : ∀ a, mn = some a → a.Valid m) (hmax : ∀ b, mx = some b → b.Valid m)
    (fuel : Nat) (hf : n ≤ fuel) :
    ∃ r, mkRecMM m (some (n : Int)) (some s) (some d) none mn mx = some r ∧ r.minP = mn ∧ r.maxP = mx ∧
      SeriesOK m s.date.rep s.tz (iterMM m r fuel) (s.inst m) (d.exactSeconds m) ∧
      ∀ k : Nat, (∃ p, (iterMM m r fuel)[k]? = some p) ↔
        k < n ∧ (∀ a, mn = some a → a.inst m ≤ s.inst m) ∧
          (∀ b, mx = some b → s.inst m + (k : Int) * d.exactSeconds m ≤ b.inst m) := by
  obtain ⟨r0, hr, hlen, _, hser⟩ := C12_start_duration_bounded m n s d hn hs hex hpos fuel hf
  exact ⟨⟨r0, mn, mx⟩, mkRecMM_of m _ _ _ _ mn mx r0 hr, rfl, rfl,

    window_exists_fwd m ⟨r0, mn, mx⟩ _ _ fuel _ _ n hser hlen hpos hmin hmax⟩

/-- **`R/start/d` (unbounded) with a window**: the first `fuel` points, cut at `max_point`. -/
theorem C12_mm_start_duration_unbounded (m : Mode) (s : TP) (d : Dur) (mn mx : Option TP)
    (hs : s.Valid m) (hex : d.isExact = true) (hpos : 0 < d.exactSeconds m)
    (hmin : ∀ a, mn = some a → a.Valid m) (hmax : ∀ b, mx = some b → b.Valid m) (fuel : Nat) :
    ∃ r, mkRecMM m none (some s) (some d) none mn mx = some r ∧ r.minP = mn ∧ r.maxP = mx ∧
      SeriesOK m s.date.rep s.tz (iterMM m r fuel) (s.inst m) (d.exactSeconds m) ∧
      ∀ k : Nat, (∃ p, (iterMM m r fuel)[k]? = some p) ↔
        k < fuel ∧ (∀ a, mn = some a → a.inst m ≤ s.inst m) ∧
          (∀ b, mx = some b → s.inst m + (k : Int) * d.exactSeconds m ≤ b.inst m) := by
  obtain ⟨r0, hr, hlen, hser⟩ := C12_start_duration_unbounded m s d hs hex hpos fuel
  exact ⟨⟨r0, mn, mx⟩, mkRecMM_of m _ _ _ _ mn mx r0 hr, rfl, rfl,

    window_exists_fwd m ⟨r0, mn, mx⟩ _ _ fuel _ _ fuel hser hlen hpos hmin hmax⟩

/-- **The fuel that suffices** for `R/start/d` with a `max_point` `b`: once `start + fuel·L` is past
    `b`, the bound `k < fuel` is no restriction — the iteration has ended by itself: the `k`-th
    point exists exactly when `min ≤ start` and `start + k·L ≤ b`. -/
theorem C12_mm_start_duration_unbounded_fuel (m : Mode) (s : TP) (d : Dur) (mn : Option TP) (b : TP)
    (hs : s.Valid m) (hex : d.isExact = true) (hpos : 0 < d.exactSeconds m)
    (hmin : ∀ a, mn = some a → a.Valid m) (hb : b.Valid m) (fuel : Nat)
    (hfuel : b.inst m < s.inst m + (fuel : Int) * d.exactSeconds m) :
    ∃ r, mkRecMM m none (some s) (some d) none mn (some b) = some r ∧
      ∀ k : Nat, (∃ p, (iterMM m r fuel)[k]? = some p) ↔
        (∀ a, mn = some a → a.inst m ≤ s.inst m) ∧ s.inst m + (k : Int) * d.exactSeconds m ≤ b.inst m := by
  obtain ⟨r, hr, _, _, _, hk⟩ := C12_mm_start_duration_unbounded m s d mn (some b) hs hex hpos hmin
    (fun x h => by cases h; exact hb) fuel
  refine ⟨r, hr, fun k => ?_⟩
  rw [hk k]
  constructor
  · rintro ⟨_, h2, h3⟩; exact ⟨h2, h3 b rfl⟩
  · rintro ⟨h2, h3⟩
    refine ⟨?_, h2, fun x hx => by cases hx; exact h3⟩
    by_cases hlt : k < fuel
    · exact hlt
    · exfalso
      have : (fuel : Int) * d.exactSeconds m ≤ (k : Int) * d.exactSeconds m :=
        Int.mul_le_mul_of_nonneg_right (by omega) (Int.le_of_lt hpos)
      omega

/-- **`Rn/d/end` with a window** (`n ≥ 2`): iteration runs forward from the derived start
    `end − (n−1)·L`; the `k`-th point exists exactly when `k < n`, `min ≤ end − (n−1)·L` and
    `end − (n−1)·L + k·L ≤ max`. -/
theorem C12_mm_duration_end_bounded (m : Mode) (n : Nat) (e : TP) (d : Dur) (mn mx : Option TP) (hn : 2 ≤ n)
    (he : e.Valid m) (hex : d.isExact = true) (hpos : 0 < d.exactSeconds m)
    (hmin : ∀ a, mn = some a → a.Valid m) (hmax : ∀ b, mx = some b → b.Valid m)
    (fuel : Nat) (hf : n ≤ fuel) :
    ∃ r, mkRecMM m (some (n : Int)) none (some d) (some e) mn mx = some r ∧ r.minP = mn ∧ r.maxP = mx ∧
      SeriesOK m e.date.rep e.tz (iterMM m r fuel)
        (e.inst m - d.exactSeconds m * ((n : Int) - 1)) (d.exactSeconds m) ∧
      ∀ k : Nat, (∃ p, (iterMM m r fuel)[k]? = some p) ↔
        k < n ∧ (∀ a, mn = some a → a.inst m ≤ e.inst m - d.exactSeconds m * ((n : Int) - 1)) ∧
          (∀ b, mx = some b →
            e.inst m - d.exactSeconds m * ((n : Int) - 1) + (k : Int) * d.exactSeconds m ≤ b.inst m) := by
  obtain ⟨r0, hr, hlen, hser⟩ := C12_duration_end_bounded m n e d hn he hex hpos fuel hf
  exact ⟨⟨r0, mn, mx⟩, mkRecMM_of m _ _ _ _ mn mx r0 hr, rfl, rfl,

    window_exists_fwd m ⟨r0, mn, mx⟩ _ _ fuel _ _ n hser hlen hpos hmin hmax⟩

/-- **`R/d/end` (unbounded) with a window**: iteration runs backwards from the end; the `k`-th
    point exists exactly when `k < fuel`, `end ≤ max` and `min ≤ end − k·L`.  (`end > max`:
    nothing is yielded.) -/
theorem C12_mm_duration_end_unbounded (m : Mode) (e : TP) (d : Dur) (mn mx : Option TP)
    (he : e.Valid m) (hex : d.isExact = true) (hpos : 0 < d.exactSeconds m)
    (hmin : ∀ a, mn = some a → a.Valid m) (hmax : ∀ b, mx = some b → b.Valid m) (fuel : Nat) :
    ∃ r, mkRecMM m none none (some d) (some e) mn mx = some r ∧ r.minP = mn ∧ r.maxP = mx ∧
      SeriesOK m e.date.rep e.tz (iterMM m r fuel) (e.inst m) (-(d.exactSeconds m)) ∧
      ∀ k : Nat, (∃ p, (iterMM m r fuel)[k]? = some p) ↔
        k < fuel ∧ (∀ b, mx = some b → e.inst m ≤ b.inst m) ∧
          (∀ a, mn = some a → a.inst m ≤ e.inst m - (k : Int) * d.exactSeconds m) := by
  obtain ⟨r0, hr, hlen, hser⟩ := C12_duration_end_unbounded m e d he hex hpos fuel
  exact ⟨⟨r0, mn, mx⟩, mkRecMM_of m _ _ _ _ mn mx r0 hr, rfl, rfl,

    window_exists_rev m ⟨r0, mn, mx⟩ _ _ fuel _ _ fuel hser hlen hpos hmin hmax⟩

/-- **start/second-point notation with a window** (`Rn/start/second`, `n ≥ 2`, and `R/start/second`):
    as start/duration with the interval `second − start`. -/
theorem C12_mm_start_second (m : Mode) (s e2 : TP) (mn mx : Option TP) (hs : s.Valid m) (he : e2.Valid m)
    (hlt : s.inst m < e2.inst m)
    (hmin : ∀ a, mn = some a → a.Valid m) (hmax : ∀ b, mx = some b → b.Valid m) (fuel : Nat) :
    (∃ r, mkRecMM m none (some s) none (some e2) mn mx = some r ∧ r.minP = mn ∧ r.maxP = mx ∧
      SeriesOK m s.date.rep s.tz (iterMM m r fuel) (s.inst m) (e2.inst m - s.inst m) ∧
      ∀ k : Nat, (∃ p, (iterMM m r fuel)[k]? = some p) ↔
        k < fuel ∧ (∀ a, mn = some a → a.inst m ≤ s.inst m) ∧
          (∀ b, mx = some b → s.inst m + (k : Int) * (e2.inst m - s.inst m) ≤ b.inst m)) ∧
    (∀ n : Nat, 2 ≤ n → n ≤ fuel →
      ∃ r, mkRecMM m (some (n : Int)) (some s) none (some e2) mn mx = some r ∧ r.minP = mn ∧ r.maxP = mx ∧
        SeriesOK m s.date.rep s.tz (iterMM m r fuel) (s.inst m) (e2.inst m - s.inst m) ∧
        ∀ k : Nat, (∃ p, (iterMM m r fuel)[k]? = some p) ↔
          k < n ∧ (∀ a, mn = some a → a.inst m ≤ s.inst m) ∧
            (∀ b, mx = some b → s.inst m + (k : Int) * (e2.inst m - s.inst m) ≤ b.inst m)) := by
  have hpos : 0 < e2.inst m - s.inst m := by omega
  constructor
  · obtain ⟨r0, hr, hlen, hser⟩ := (C12_start_second m s e2 hs he hlt fuel).1
    exact ⟨⟨r0, mn, mx⟩, mkRecMM_of m _ _ _ _ mn mx r0 hr, rfl, rfl,

      window_exists_fwd m ⟨r0, mn, mx⟩ _ _ fuel _ _ fuel hser hlen hpos hmin hmax⟩
  · intro n hn hf
    obtain ⟨r0, hr, hlen, hser⟩ := (C12_start_second m s e2 hs he hlt fuel).2 n hn hf
    exact ⟨⟨r0, mn, mx⟩, mkRecMM_of m _ _ _ _ mn mx r0 hr, rfl, rfl,

      window_exists_fwd m ⟨r0, mn, mx⟩ _ _ fuel _ _ n hser hlen hpos hmin hmax⟩

/-- **One repetition or a zero interval with a window**: the anchor, if it is within [min, max]
    (by the code's own comparison), else nothing. -/
theorem C12_mm_single (m : Mode) (reps : Option Int) (s : TP) (d : Dur) (mn mx : Option TP)
    (hex : d.isExact = true) (hnn : 0 ≤ d.exactSeconds m) (hreps : ∀ n, reps = some n → 1 ≤ n)
    (hone : reps = some 1 ∨ d.exactSeconds m = 0) (fuel : Nat) (hf : 1 ≤ fuel) :
    mkRecMM m reps (some s) (some d) none mn mx = some ⟨⟨some 1, some s, none, some s, none, 3⟩, mn, mx⟩ ∧
    iterMM m ⟨⟨some 1, some s, none, some s, none, 3⟩, mn, mx⟩ fuel =
      if withinMM m ⟨⟨some 1, some s, none, some s, none, 3⟩, mn, mx⟩ s then [s] else [] := by
  obtain ⟨h1, h2⟩ := C12_single m reps s d hex hnn hreps hone fuel hf
  refine ⟨mkRecMM_of m _ _ _ _ mn mx _ h1, ?_⟩
  rw [iterMM_eq_takeWhile]
  simp only [h2, List.takeWhile_cons, List.takeWhile_nil]

/-- `R5/2002-05-04T23:00Z/PT1H`, `max_point = 2002-05-05T03:00+02:00` (= 01:00Z, another zone):
    three points, the last one AT the maximum. -/
example : (mkRecMM .greg (some 5) (some ⟨.cal 2002 5 4, 23, 0, 0, ⟨0, 0⟩⟩) (some (.units 0 0 0 1 0 0)) none
      none (some ⟨.cal 2002 5 5, 3, 0, 0, ⟨2, 0⟩⟩)).map (fun r => iterMM .greg r 10) =
    some [⟨.cal 2002 5 4, 23, 0, 0, ⟨0, 0⟩⟩, ⟨.cal 2002 5 5, 0, 0, 0, ⟨0, 0⟩⟩, ⟨.cal 2002 5 5, 1, 0, 0, ⟨0, 0⟩⟩] := by
  decide +kernel

/-- The same recurrence with `min_point = 2002-05-04T24:00Z` (one hour after the start): NOTHING is
    yielded although four members are at or after the minimum — `__iter__` stops at the first
    point out of bounds, and that is the start. -/
example : (mkRecMM .greg (some 5) (some ⟨.cal 2002 5 4, 23, 0, 0, ⟨0, 0⟩⟩) (some (.units 0 0 0 1 0 0)) none
      (some ⟨.cal 2002 5 4, 24, 0, 0, ⟨0, 0⟩⟩) none).map (fun r => iterMM .greg r 10) = some [] := by
  decide +kernel

/-- … while `get_next` from the start does return the member at the minimum. -/
example : (mkRecMM .greg (some 5) (some ⟨.cal 2002 5 4, 23, 0, 0, ⟨0, 0⟩⟩) (some (.units 0 0 0 1 0 0)) none
      (some ⟨.cal 2002 5 4, 24, 0, 0, ⟨0, 0⟩⟩) none).bind
      (fun r => getNextMM .greg r ⟨.cal 2002 5 4, 23, 0, 0, ⟨0, 0⟩⟩) =
    some ⟨.cal 2002 5 5, 0, 0, 0, ⟨0, 0⟩⟩ := by decide +kernel

/-- hypotheses of `C12_mm_start_duration_bounded` at that value -/
example : (2 : Nat) ≤ 5 ∧ (⟨.cal 2002 5 4, 23, 0, 0, ⟨0, 0⟩⟩ : TP).Valid .greg ∧
    (Dur.units 0 0 0 1 0 0).isExact = true ∧ 0 < (Dur.units 0 0 0 1 0 0).exactSeconds .greg ∧
    (⟨.cal 2002 5 5, 3, 0, 0, ⟨2, 0⟩⟩ : TP).Valid .greg ∧ (⟨.cal 2002 5 4, 24, 0, 0, ⟨0, 0⟩⟩ : TP).Valid .greg := by
  decide

/-- `R/PT90M/2000-366T24:00-03:00` backwards with `min_point` two steps back and `max_point` at
    the end's instant written as `2001-01-01T03:00Z`: three points. -/
example : (mkRecMM .greg none none (some (.units 0 0 0 0 90 0)) (some ⟨.ord 2000 366, 24, 0, 0, ⟨-3, 0⟩⟩)
      (some ⟨.cal 2001 1 1, 0, 0, 0, ⟨0, 0⟩⟩) (some ⟨.cal 2001 1 1, 3, 0, 0, ⟨0, 0⟩⟩)).map
      (fun r => iterMM .greg r 10) =
    some [⟨.ord 2000 366, 24, 0, 0, ⟨-3, 0⟩⟩, ⟨.ord 2000 366, 22, 30, 0, ⟨-3, 0⟩⟩,
      ⟨.ord 2000 366, 21, 0, 0, ⟨-3, 0⟩⟩] := by
  decide +kernel

/-- A month interval (not exact): `C12_mm_iter_longest_prefix` still applies. -/
example : (mkRecMM .greg none (some ⟨.cal 2001 1 31, 0, 0, 0, ⟨0, 0⟩⟩) (some (.units 0 1 0 0 0 0)) none
      none (some ⟨.cal 2001 3 28, 0, 0, 0, ⟨0, 0⟩⟩)).map (fun r => (iterMM .greg r 5, iter .greg r.base 4)) =
    some ([⟨.cal 2001 1 31, 0, 0, 0, ⟨0, 0⟩⟩, ⟨.cal 2001 2 28, 0, 0, 0, ⟨0, 0⟩⟩, ⟨.cal 2001 3 28, 0, 0, 0, ⟨0, 0⟩⟩],
      [⟨.cal 2001 1 31, 0, 0, 0, ⟨0, 0⟩⟩, ⟨.cal 2001 2 28, 0, 0, 0, ⟨0, 0⟩⟩, ⟨.cal 2001 3 28, 0, 0, 0, ⟨0, 0⟩⟩,
       ⟨.cal 2001 4 28, 0, 0, 0, ⟨0, 0⟩⟩]) := by
  decide +kernel

/-- `RecMM_none_is_Rec` at `R3/2002-05-04T23:00Z/PT1H`. -/
example := RecMM_none_is_Rec .greg ⟨some 3, some ⟨.cal 2002 5 4, 23, 0, 0, ⟨0, 0⟩⟩, some (.units 0 0 0 1 0 0),
    some ⟨.cal 2002 5 5, 1, 0, 0, ⟨0, 0⟩⟩, none, 3⟩
example : iterMM .greg ⟨⟨some 3, some ⟨.cal 2002 5 4, 23, 0, 0, ⟨0, 0⟩⟩, some (.units 0 0 0 1 0 0),
    some ⟨.cal 2002 5 5, 1, 0, 0, ⟨0, 0⟩⟩, none, 3⟩, none, none⟩ 10 =
    [⟨.cal 2002 5 4, 23, 0, 0, ⟨0, 0⟩⟩, ⟨.cal 2002 5 5, 0, 0, 0, ⟨0, 0⟩⟩, ⟨.cal 2002 5 5, 1, 0, 0, ⟨0, 0⟩⟩] := by
  decide +kernel

/-- `C12_mm_exact_forward` at `R5/2002-05-04T23:00Z/PT1H` with window
    [2002-05-04T23:00Z, 2002-05-05T03:00+02:00]. -/
example := C12_mm_exact_forward .greg
    ⟨⟨some 5, some ⟨.cal 2002 5 4, 23, 0, 0, ⟨0, 0⟩⟩, some (.units 0 0 0 1 0 0),
      some ⟨.cal 2002 5 5, 3, 0, 0, ⟨0, 0⟩⟩, none, 3⟩, some ⟨.cal 2002 5 4, 23, 0, 0, ⟨0, 0⟩⟩,
      some ⟨.cal 2002 5 5, 3, 0, 0, ⟨2, 0⟩⟩⟩
    (.units 0 0 0 1 0 0) 3600
    ⟨rfl, rfl, by decide, by decide, by decide, fun s h => by cases h; decide, fun e h => by cases h; decide⟩
    ⟨.cal 2002 5 4, 23, 0, 0, ⟨0, 0⟩⟩ rfl (fun a h => by cases h; decide) (fun b h => by cases h; decide) 10

/-- `C12_mm_exact_backward` at `R/PT90M/2000-366T24:00-03:00` with window
    [2001-01-01T00:00Z, 2001-01-01T03:00Z]. -/
example := C12_mm_exact_backward .greg
    ⟨⟨none, none, some (.units 0 0 0 0 90 0), some ⟨.ord 2000 366, 24, 0, 0, ⟨-3, 0⟩⟩, none, 4⟩,
      some ⟨.cal 2001 1 1, 0, 0, 0, ⟨0, 0⟩⟩, some ⟨.cal 2001 1 1, 3, 0, 0, ⟨0, 0⟩⟩⟩
    (.units 0 0 0 0 90 0) 5400
    ⟨rfl, rfl, by decide, by decide, by decide, fun s h => (by cases h), fun e h => (by cases h; decide)⟩
    ⟨.ord 2000 366, 24, 0, 0, ⟨-3, 0⟩⟩ rfl rfl (fun a h => by cases h; decide) (fun b h => by cases h; decide) 10

/-- hypotheses of `C12_mm_duration_end_*` / `C12_mm_start_second` at concrete values -/
example : (⟨.ord 2000 366, 24, 0, 0, ⟨-3, 0⟩⟩ : TP).Valid .greg ∧ (Dur.units 0 0 0 0 90 0).isExact = true ∧
    0 < (Dur.units 0 0 0 0 90 0).exactSeconds .greg ∧ (⟨.cal 2001 1 1, 0, 0, 0, ⟨0, 0⟩⟩ : TP).Valid .greg ∧
    (⟨.cal 2001 2 28, 12, 0, 0, ⟨1, 0⟩⟩ : TP).Valid .greg ∧ (⟨.ord 2001 60, 6, 30, 0, ⟨-2, 0⟩⟩ : TP).Valid .greg ∧
    (⟨.cal 2001 2 28, 12, 0, 0, ⟨1, 0⟩⟩ : TP).inst .greg < (⟨.ord 2001 60, 6, 30, 0, ⟨-2, 0⟩⟩ : TP).inst .greg := by
  decide +kernel

end IsoDT.Props.C12
