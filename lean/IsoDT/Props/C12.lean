/-
  C12 — A recurrence iterates exactly the series it denotes.

  `Model.mkRec` mirrors `TimeRecurrence.__init__`, `Model.iter m r fuel` the first `fuel` points of
  `__iter__` (with `get_next`/`get_prev` and the bounds check).  `SeriesOK m rep tz l i0 step` says
  that `l` is the arithmetic series of instants `i0, i0+step, …` made of valid points in one
  representation and offset.  Proved for exact intervals of any size (every notation, bounded or
  not, any anchor, any mode); for month/year intervals the count is false of the code (known
  finding F5, DESIGN §1.1: the counterexample at the end) and `Props/C12b.lean` says what holds.
-/
import IsoDT.Lemmas.RecQuery

namespace IsoDT.Props.C12
open IsoDT IsoDT.Model IsoDT.Lemmas
open IsoDT.Spec (Date TZ TP)

theorem series_strict_mono (m : Mode) (rep : Nat) (tz : TZ) (l : List TP) (i0 step : Int)
    (hs : SeriesOK m rep tz l i0 step) (i j : Nat) (hij : i < j) (hj : j < l.length) :
    (0 < step → (l[i]'(by omega)).inst m < (l[j]).inst m) ∧
    (step < 0 → (l[i]'(by omega)).inst m > (l[j]).inst m) :=
  ⟨fun hp => List.pairwise_iff_getElem.mp ((series_pairwise m rep tz l i0 step hs).1 hp) i j _ hj hij,
   fun hn => List.pairwise_iff_getElem.mp ((series_pairwise m rep tz l i0 step hs).2 hn) i j _ hj hij⟩

/-- **Forward iteration of any recurrence with an exact positive interval `L` and a start `s`**
    (every notation): the arithmetic series `s, s+L, s+2L, …` of valid points in the start's
    representation and offset — as many as the fuel allows if there is no end bound, and exactly
    `n` if the end bound is at `s + (n−1)·L`. -/
theorem iter_exact_fwd (m : Mode) (r : Rec) (d : Dur) (L : Int) (hr : ExactRec m r d L) (s : TP)
    (hs : r.start = some s) (fuel : Nat) :
    SeriesOK m s.date.rep s.tz (iter m r fuel) (s.inst m) L ∧
    (r.end_ = none → (iter m r fuel).length = fuel) ∧
    (∀ (e : TP) (n : Nat), r.end_ = some e → e.inst m = s.inst m + L * ((n : Int) - 1) → 1 ≤ n →
      n ≤ fuel → (iter m r fuel).length = n) := by
  obtain ⟨hi, hb, _⟩ := iter_fwd_spec m r d L hr.stepRec s hs fuel
  obtain ⟨hlen, hser⟩ := repeatAdd_series m d hr.exact fuel s (hr.startValid s hs)
  rw [hr.len] at hser
  rw [hi]
  refine ⟨seriesOK_takeWhile m _ _ _ _ _ _ hser, fun hen => ?_, fun e n he hei hn hf => ?_⟩
  · rw [takeWhile_all _ _ fun q hq => (hb q hq).mpr fun e h => by rw [hen] at h; cases h]
    exact hlen
  · have hpos := hr.pos
    apply series_takeWhile_length m _ _ _ (e.inst m) L hpos _ _ n hser
      (fun q hq => (hb q hq).trans ⟨fun h => h e he, fun h e' he' => by rw [he] at he'; cases he'; exact h⟩)
    · rw [hei, Int.mul_comm]; exact Int.le_refl _
    · rw [hei, Int.mul_sub, Int.mul_one, Int.mul_comm]; omega
    · rw [hlen]; exact hf

/-- **Backward iteration** (`R/d/end`, exact positive interval `L`): `e, e−L, e−2L, …`. -/
theorem iter_exact_rev (m : Mode) (r : Rec) (d : Dur) (L : Int) (hr : ExactRec m r d L) (e : TP)
    (hs : r.start = none) (he : r.end_ = some e) (fuel : Nat) :
    SeriesOK m e.date.rep e.tz (iter m r fuel) (e.inst m) (-L) ∧ (iter m r fuel).length = fuel := by
  obtain ⟨hi, hlen, _⟩ := iter_rev_spec m r d L hr.stepRec e hs he fuel
  have hser := (repeatAdd_series m (d.mul (-1)) (mul_exact d _ hr.exact) fuel e (hr.endValid e he)).2
  rw [neg_exactSeconds, hr.len, ← repeatSub_eq, ← hi] at hser
  exact ⟨hser, hlen⟩

/-- **start/duration, `n ≥ 2` repetitions, exact interval**: iteration yields exactly `n` points,
    `start, start+d, …, start+(n−1)d` (as instants), each a valid point in the start's
    representation and offset, the first being the start itself. -/
theorem C12_start_duration_bounded (m : Mode) (n : Nat) (s : TP) (d : Dur) (hn : 2 ≤ n) (hs : s.Valid m)
    (hex : d.isExact = true) (hpos : 0 < d.exactSeconds m) (fuel : Nat) (hf : n ≤ fuel) :
    ∃ r, mkRec m (some (n : Int)) (some s) (some d) none = some r ∧
      (iter m r fuel).length = n ∧ (iter m r fuel).head? = some s ∧
      SeriesOK m s.date.rep s.tz (iter m r fuel) (s.inst m) (d.exactSeconds m) := by
  obtain ⟨e, hr, hx, _, ei, _, _⟩ := mkRec_fmt3_bounded m n s d (Int.ofNat_le.mpr hn) hs hex hpos
  refine ⟨_, hr, ?_⟩
  obtain ⟨a, _, c⟩ := iter_exact_fwd m _ d _ hx s rfl fuel
  have hlen := c e n rfl ei (Nat.le_of_succ_le hn) hf
  refine ⟨hlen, ?_, a⟩
  rw [iter_fwd m _ d rfl hx.multi hx.nonzero s rfl fuel] at hlen ⊢
  rw [takeWhile_head? _ _ (fun h => by rw [h] at hlen; simp at hlen; omega),
    repeatAdd_head m d fuel s (Nat.le_trans (Nat.le_of_succ_le hn) hf)]

/-- **start/duration, unbounded, exact interval**: the first `fuel` points are
    `start, start+d, start+2d, …`. -/
theorem C12_start_duration_unbounded (m : Mode) (s : TP) (d : Dur) (hs : s.Valid m)
    (hex : d.isExact = true) (hpos : 0 < d.exactSeconds m) (fuel : Nat) :
    ∃ r, mkRec m none (some s) (some d) none = some r ∧ (iter m r fuel).length = fuel ∧
      SeriesOK m s.date.rep s.tz (iter m r fuel) (s.inst m) (d.exactSeconds m) := by
  refine ⟨_, mkRec_fmt3_unbounded m s d hex hpos, ?_⟩
  obtain ⟨a, b, _⟩ := iter_exact_fwd m _ d _ (exactRec_fmt3_unbounded m s d hs hex hpos) s rfl fuel
  exact ⟨b rfl, a⟩

/-- **duration/end, `n ≥ 2` repetitions, exact interval**: exactly `n` strictly increasing points
    `end−(n−1)d, …, end−d, end` (as instants): the last one is at the given end. -/
theorem C12_duration_end_bounded (m : Mode) (n : Nat) (e : TP) (d : Dur) (hn : 2 ≤ n) (he : e.Valid m)
    (hex : d.isExact = true) (hpos : 0 < d.exactSeconds m) (fuel : Nat) (hf : n ≤ fuel) :
    ∃ r, mkRec m (some (n : Int)) none (some d) (some e) = some r ∧ (iter m r fuel).length = n ∧
      SeriesOK m e.date.rep e.tz (iter m r fuel) (e.inst m - d.exactSeconds m * ((n : Int) - 1)) (d.exactSeconds m) := by
  obtain ⟨s, hr, hx, _, si, srep, stz⟩ := mkRec_fmt4_bounded m n e d (Int.ofNat_le.mpr hn) he hex hpos
  refine ⟨_, hr, ?_⟩
  obtain ⟨a, _, c⟩ := iter_exact_fwd m _ d _ hx s rfl fuel
  rw [srep, stz, si] at a
  exact ⟨c e n rfl (by rw [si, Int.sub_add_cancel]) (Nat.le_of_succ_le hn) hf, a⟩

/-- **duration/end, unbounded, exact interval**: iteration runs backwards `end, end−d, end−2d, …`. -/
theorem C12_duration_end_unbounded (m : Mode) (e : TP) (d : Dur) (he : e.Valid m)
    (hex : d.isExact = true) (hpos : 0 < d.exactSeconds m) (fuel : Nat) :
    ∃ r, mkRec m none none (some d) (some e) = some r ∧ (iter m r fuel).length = fuel ∧
      SeriesOK m e.date.rep e.tz (iter m r fuel) (e.inst m) (-(d.exactSeconds m)) := by
  refine ⟨_, mkRec_fmt4_unbounded m e d hex hpos, ?_⟩
  obtain ⟨a, b⟩ := iter_exact_rev m _ d _ (exactRec_fmt4_unbounded m e d he hex hpos) e rfl rfl fuel
  exact ⟨b, a⟩

/-- **start/second-point notation**: the interval is the exact difference of the two points, and
    the recurrence iterates like the start/duration recurrence with that interval: `n` points
    `start, start+(second−start), …` (bounded) or the first `fuel` of them (unbounded). -/
theorem C12_start_second (m : Mode) (s e2 : TP) (hs : s.Valid m) (he : e2.Valid m)
    (hlt : s.inst m < e2.inst m) (fuel : Nat) :
    (∃ r, mkRec m none (some s) none (some e2) = some r ∧ (iter m r fuel).length = fuel ∧
      SeriesOK m s.date.rep s.tz (iter m r fuel) (s.inst m) (e2.inst m - s.inst m)) ∧
    (∀ n : Nat, 2 ≤ n → n ≤ fuel → ∃ r, mkRec m (some (n : Int)) (some s) none (some e2) = some r ∧
      (iter m r fuel).length = n ∧
      SeriesOK m s.date.rep s.tz (iter m r fuel) (s.inst m) (e2.inst m - s.inst m)) := by
  constructor
  · obtain ⟨d, en, _, _, _, hr, hx, hnone, _⟩ := mkRec_fmt1 m none s e2 hs he hlt (fun n h => nomatch h)
    cases hnone rfl
    obtain ⟨a, b, _⟩ := iter_exact_fwd m _ d _ hx s rfl fuel
    exact ⟨_, hr, b rfl, a⟩
  · intro n hn hf
    obtain ⟨d, en, _, _, _, hr, hx, _, hsome⟩ := mkRec_fmt1 m (some (n : Int)) s e2 hs he hlt
      (fun k h => by cases h; exact Int.ofNat_le.mpr hn)
    obtain ⟨e, rfl, _, ei, _, _⟩ := hsome n rfl
    refine ⟨_, hr, ?_⟩
    obtain ⟨a, _, c⟩ := iter_exact_fwd m _ d _ hx s rfl fuel
    exact ⟨c e n rfl ei (Nat.le_of_succ_le hn) hf, a⟩

/-- **One repetition or a zero interval yields exactly the anchor** (start/duration shown; the
    other notations collapse to the same stored form). -/
theorem C12_single (m : Mode) (reps : Option Int) (s : TP) (d : Dur) (hex : d.isExact = true)
    (hnn : 0 ≤ d.exactSeconds m) (hreps : ∀ n, reps = some n → 1 ≤ n)
    (hone : reps = some 1 ∨ d.exactSeconds m = 0) (fuel : Nat) (hf : 1 ≤ fuel) :
    mkRec m reps (some s) (some d) none = some ⟨some 1, some s, none, some s, none, 3⟩ ∧
    iter m ⟨some 1, some s, none, some s, none, 3⟩ fuel = [s] := by
  constructor
  · have hz : reps = some 1 ∨ isZeroDur m d = true := by
      rcases hone with h | h
      · exact Or.inl h
      · exact Or.inr ((isZeroDur_iff m d hex).mpr h)
    cases reps with
    | none =>
      unfold mkRec
      simp only [Bool.false_eq_true, ↓reduceIte, lt_zero_false m d hex hnn, hz]
    | some n =>
      have h1 := hreps n rfl
      have c1 : ¬ n ≤ 0 := by omega
      unfold mkRec
      simp only [c1, decide_false, Bool.false_eq_true, ↓reduceIte, lt_zero_false m d hex hnn, hz]
  · exact iter_single m _ s rfl rfl (inBounds_self m s none 3) fuel hf

/-! ## Non-vacuity, and the month/year case (known finding F5) -/

example : (iter .greg ⟨some 3, some ⟨.cal 2002 5 4, 23, 0, 0, ⟨0, 0⟩⟩, some (.units 0 0 0 1 0 0),
    some ⟨.cal 2002 5 5, 1, 0, 0, ⟨0, 0⟩⟩, none, 3⟩ 10).length = 3 := by decide +kernel

/-- The full statement (exactly `n` points) is false of the code for month/year intervals: the far
    bound is one multiplied addition.  `R12/2004-W31-2T23:59:00Z/P1Y13M` yields 11 points. -/
theorem C12_count_counterexample_nominal :
    ∃ r, mkRec .greg (some 12) (some ⟨.week 2004 31 2, 23, 59, 0, ⟨0, 0⟩⟩) (some (.units 1 13 0 0 0 0)) none
      = some r ∧ (iter .greg r 30).length = 11 := by
  refine ⟨⟨some 12, some ⟨.week 2004 31 2, 23, 59, 0, ⟨0, 0⟩⟩, some (.units 1 13 0 0 0 0),
    some ⟨.week 2027 26 1, 23, 59, 0, ⟨0, 0⟩⟩, none, 3⟩, by decide +kernel, by decide +kernel⟩

end IsoDT.Props.C12
