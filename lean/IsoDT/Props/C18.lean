/-
  C18 — Unix time and the system's local UTC offset are converted exactly.

  The operating system's zone data (`time.timezone`, `time.altzone`, `time.daylight`,
  `time.localtime().tm_isdst`) enter as parameters; `Model.splitOffset` mirrors the arithmetic of
  `timezone.get_local_time_zone` with Python's floor division and divisor-signed modulus.
-/
import IsoDT.Model.LocalTZ
import IsoDT.Lemmas.Cmp
import IsoDT.Lemmas.Dur

namespace IsoDT.Props.C18
open IsoDT IsoDT.Model IsoDT.Lemmas
open IsoDT.Spec (Date TZ TP)

/-- Python's floor division by a negative divisor. -/
theorem fdiv_neg (q b : Int) (hb : 0 ≤ b) : Int.fdiv q (-b) = (-q) / b := by
  have h := Int.neg_fdiv_neg (-q) b
  rw [Int.neg_neg] at h
  rw [h, Int.fdiv_eq_ediv_of_nonneg _ hb]

/-- **C18 (local offset)**: for *every* whole-minute UTC offset in seconds (not only ±24 h), either
    sign, hour part zero or not, the reported pair is exact — `60·h + m` is the offset in minutes —
    with `|m| < 60` and both parts carrying the offset's sign. -/
theorem C18_split (off : Int) (hdiv : off % 60 = 0) :
    60 * (splitOffset off).1 + (splitOffset off).2 = off / 60 ∧
    -60 < (splitOffset off).2 ∧ (splitOffset off).2 < 60 ∧
    (0 ≤ off → 0 ≤ (splitOffset off).1 ∧ 0 ≤ (splitOffset off).2) ∧
    (off < 0 → (splitOffset off).1 ≤ 0 ∧ (splitOffset off).2 ≤ 0) := by
  unfold splitOffset
  dsimp only
  split
  · rw [(by omega : (-1 : Int) * 60 = -60), (by omega : (-1 : Int) * off = -off),
      Int.fdiv_eq_ediv_of_nonneg _ (by omega : (0 : Int) ≤ 3600),
      Int.fdiv_eq_ediv_of_nonneg _ (by omega : (0 : Int) ≤ 60), Int.fmod_def, fdiv_neg _ 60 (by omega)]
    omega
  · rw [Int.one_mul, Int.one_mul, Int.one_mul, Int.fdiv_eq_ediv_of_nonneg _ (by omega : (0 : Int) ≤ 3600),
      Int.fdiv_eq_ediv_of_nonneg _ (by omega : (0 : Int) ≤ 60),
      Int.fmod_eq_emod_of_nonneg _ (by omega : (0 : Int) ≤ 60)]
    omega

/-- The reported pair is always a legal `TimeZone` when the offset is within ±99:59
    (359940 = 99 * 3600 + 59 * 60). -/
theorem C18_split_valid (off : Int) (hdiv : off % 60 = 0) (hr : -359940 ≤ off ∧ off ≤ 359940) :
    (⟨(splitOffset off).1, (splitOffset off).2⟩ : TZ).Valid := by
  obtain ⟨h1, h2, h3, h4, h5⟩ := C18_split off hdiv
  unfold TZ.Valid
  dsimp only
  omega

/-- Daylight saving: the alternative offset is used exactly when DST is in effect *and* the zone
    has DST rules; `time.timezone`/`altzone` are seconds west of UTC. -/
theorem C18_dst_choice (timezone altzone : Int) (daylight : Bool) (isdst : Int) :
    localOffsetSeconds timezone altzone daylight isdst =
      if isdst = 1 ∧ daylight = true then -altzone else -timezone := rfl

theorem C18_local (timezone altzone : Int) (daylight : Bool) (isdst : Int) :
    localTZ timezone altzone daylight isdst =
      splitOffset (localOffsetSeconds timezone altzone daylight isdst) := rfl

/-- The text forms: `Z` exactly for the zero offset; otherwise sign, two-digit hours and (normal,
    extended) two-digit minutes; the reduced form falls back to the normal one when minutes ≠ 0. -/
theorem C18_format (h mi : Int) :
    (h = 0 ∧ mi = 0 → formatLocalTZ 0 (h, mi) = "Z" ∧ formatLocalTZ 1 (h, mi) = "Z" ∧
      formatLocalTZ 2 (h, mi) = "Z") ∧
    (¬ (h = 0 ∧ mi = 0) →
      formatLocalTZ 0 (h, mi) = (if h < 0 ∨ mi < 0 then "-" else "+") ++ pad2 h ++ pad2 mi ∧
      formatLocalTZ 2 (h, mi) = (if h < 0 ∨ mi < 0 then "-" else "+") ++ pad2 h ++ ":" ++ pad2 mi ∧
      formatLocalTZ 1 (h, mi) =
        (if mi ≠ 0 then formatLocalTZ 0 (h, mi) else (if h < 0 ∨ mi < 0 then "-" else "+") ++ pad2 h)) := by
  constructor
  · intro hz
    simp [formatLocalTZ, hz]
  · intro hnz
    unfold formatLocalTZ
    simp only [hnz, ↓reduceIte]
    refine ⟨by simp, by simp, ?_⟩
    by_cases c : mi ≠ 0
    · simp [c]
    · simp [c]

/-- **C18 (from Unix time)**: the point built from `n` seconds since the epoch denotes
    1970-01-01T00:00:00Z plus `n` seconds, in UTC or in the requested local zone. -/
theorem C18_from_unix (m : Mode) (n : Int) (z : Option TZ) (hz : ∀ zz, z = some zz → zz.Valid) :
    ∃ q, fromUnix m n z = some q ∧ q.inst m = unixEpoch.inst m + n ∧ q.Strict m ∧
      q.tz = z.getD ⟨0, 0⟩ ∧ q.date.rep = 0 := fromUnix_spec m n z hz

/-- **C18 (to Unix time)**: `seconds_since_unix_epoch` of any valid point, in any offset or
    representation, is the whole number of seconds from the epoch to its instant. -/
theorem C18_seconds_since (m : Mode) (p : TP) (hp : p.Valid m) :
    secondsSinceUnixEpoch m p = some (p.inst m - unixEpoch.inst m) := secondsSinceUnixEpoch_spec m p hp

example : splitOffset (-1800) = (0, -30) ∧ splitOffset (-9000) = (-2, -30) ∧ splitOffset 20700 = (5, 45) ∧
    splitOffset 0 = (0, 0) ∧ splitOffset (-86400) = (-24, 0) := by decide
example : localTZ 12600 9000 true 1 = (-2, -30) ∧ localTZ 12600 9000 false 1 = (-3, -30) := by decide
example : fromUnix .greg (-1) none = some ⟨.cal 1969 12 31, 23, 59, 59, ⟨0, 0⟩⟩ := by decide +kernel

end IsoDT.Props.C18
