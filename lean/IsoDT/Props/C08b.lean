/-
  C08 (decimal forms) — writing a time point with a decimal hour, minute or second out and reading it
  back is lossless.

  `Props/C08` proves the round trip for whole-second points.  Here the point carries a decimal
  fraction on its last given unit (`DTP`: `hh,ds` / `hh:mm,ds` / `hh:mm:ss,ds`, the lower units
  absent), of at most the dumper's six digits.  `_get_dump_format` chooses `Thh,ii` / `Thh:mm,nn` /
  `Thh:mm:ss,tt`, and `_decimal_string` prints the fraction without its trailing zeros (at least one
  digit); a decimal SECOND whose fraction is zero prints no fraction at all (`Thh:mm:ss`).  So the
  text read back is the point with its fraction as printed — the same field values, the fraction the
  same NUMBER — and, in the zero-fraction decimal-second case, the whole-second point.
  Definitions and proofs: `Lemmas/TextRoundDec`.
-/
import IsoDT.Props.C08
import IsoDT.Lemmas.TextRoundDec

namespace IsoDT.Props.C08
open IsoDT IsoDT.Text
open IsoDT.Spec (Date TZ TP)

/-- The time part of `decText`: two-digit units, `,`, the fraction without trailing zeros; nothing
    after the seconds when a decimal second's fraction is zero. -/
def dtimeText : DTime → List Char
  | .hour hh ds => renderNat 2 hh.toNat ++ ',' :: stripZeros ds
  | .minute hh mi ds => renderNat 2 hh.toNat ++ ':' :: (renderNat 2 mi.toNat ++ ',' :: stripZeros ds)
  | .second hh mi ss ds =>
    renderNat 2 hh.toNat ++ ':' :: (renderNat 2 mi.toNat ++ ':' :: (renderNat 2 ss.toNat ++
      (if fracZero ds then [] else ',' :: stripZeros ds)))

/-- `decText` is the date of `stdText`, `T`, `dtimeText`, the zone of `stdText`. -/
theorem C08_decText_shape (ned : Nat) (d : DTP) :
    decText ned d = trender (dateTmpl ned d.date) (dateEnv ned d.date) ++
      'T' :: (dtimeText d.time ++ trender (zoneTmpl d.tz) (zoneEnv d.tz)) := by
  obtain ⟨date, time, tz⟩ := d
  cases time with
  | hour hh ds => simp [decText, dtimeText, dtimeTmpl, dtimeEnv, trender]
  | minute hh mi ds => simp [decText, dtimeText, dtimeTmpl, dtimeEnv, trender]
  | second hh mi ss ds =>
    cases hf : fracZero ds <;> simp [decText, dtimeText, dtimeTmpl, dtimeEnv, timeTmpl, trender, hf]

example : dtimeText (.minute 7 5 "0250".toList) = "07:05,025".toList := by decide +kernel
example : dtimeText (.second 7 5 9 "00".toList) = "07:05:09".toList := by decide +kernel

/-- **C08 (writing, decimal forms)**: for every valid point `d` with a decimal hour, minute or second
    — calendar, ordinal or week representation, any calendar mode, any legal UTC offset, hour 24 with
    a zero fraction included — whose fraction is a non-empty string of at most six digits and whose
    year the agreed expanded digits can spell, `str(d)` is exactly the specified text `decText ned d`:
    the date and zone as for whole-second points, the time `hh,F` / `hh:mm,F` / `hh:mm:ss,F` with `F`
    the fraction without trailing zeros — and plain `hh:mm:ss` for a decimal second whose fraction is
    zero. -/
theorem C08_str_decimal (m : Mode) (ned : Nat) (hned : ned = 0 ∨ ned = 2 ∨ ned = 3) (d : DTP)
    (hv : d.Valid m) (hy : YearInRange ned (dateYear d.date)) :
    str m (d.toXTP ned) = .ok (decText ned d) := str_eq_decText m ned hned d hv hy

example : str .greg (DTP.toXTP 2 ⟨.week (-396) 53 7, .hour 24 "000".toList, ⟨0, -30⟩⟩) =
    .ok "-000396-W53-7T24,0-00:30".toList := by
  rw [C08_str_decimal .greg 2 (by decide) _ (by decide +kernel) (by decide +kernel)]
  decide +kernel

/-- **C08 (reading, decimal forms)**: a parser with the matching number of expanded year digits and
    extended notation allowed — whatever its `allow_truncated` setting and default-zone configuration —
    decodes that text to `d.reparsed`: `d` itself with its fraction as printed (`C08_reparsed_fields`:
    every field equal, the fraction equal as a number), the whole-second point when `d` is a decimal
    second with a zero fraction. -/
theorem C08_parse_decimal (cfg : Cfg) (hpt : cfg.pt ∈ Gen.Templates.parserTables)
    (hb : cfg.pt.basicOnly = false) (d : DTP) (hv : d.Valid cfg.mode)
    (hy : YearInRange cfg.pt.ned (dateYear d.date)) :
    parse cfg (decText cfg.pt.ned d) false = some (d.reparsed cfg.pt.ned) := by
  cases hw : d.whole with
  | some p =>
    obtain ⟨e1, e2, hvp, hpd⟩ := reparsed_of_whole cfg.pt.ned d p hw
    rw [e1, e2]
    exact parse_stdText cfg hpt hb p (hvp cfg.mode hv) (by rw [hpd]; exact hy)
  | none =>
    rw [reparsed_of_not_whole cfg.pt.ned d hw]
    obtain ⟨date, time, tz⟩ := d
    obtain ⟨hdate, htime, hz⟩ := hv
    simp only at hdate htime hz hy
    have hdig : time.ds.all isDigit = true := by
      cases time <;> exact htime.1.2.1
    have key := parse_around cfg hpt _ (.inl rfl) date (std_date cfg.pt hpt hb date)
      (dateFit_of_valid cfg.mode date hdate) hy _ (dec_entry cfg.pt hpt hb time) (dtimeEnv time)
      (fits_dtime time hdig) _ (std_zone_entry cfg.pt hpt hb tz) (zoneEnv tz) (fits_zone _) _
      (processZone_zoneEnv cfg.zone tz hz)
    -- per form: the groups decode to the fields (the lookups in `dtimeEnv` are evaluated by `rfl`), then
    -- the constructor
    cases time with
    | hour hh ds =>
      obtain ⟨_, h0, h1, h24⟩ := htime
      exact (key (some hh) none none
        (congrArg (Option.map some) (intOf_render_int 2 hh (by decide) h0 (by omega))) rfl rfl rfl).trans
        (ctor_withTime cfg.mode _ date tz hdate hz hh none none (some (stripZeros ds)) none none rfl rfl rfl rfl
          rfl (timeBounds_H _ hh _ h0 h1 (fun e24 => by rw [fracZero_stripZeros]; exact h24 e24)))
    | minute hh mi ds =>
      obtain ⟨_, h0, h1, h2, h3, h24⟩ := htime
      exact (key (some hh) (some mi) none
        (congrArg (Option.map some) (intOf_render_int 2 hh (by decide) h0 (by omega)))
        (congrArg (Option.map some) (intOf_render_int 2 mi (by decide) h2 (by omega))) rfl rfl).trans
        (ctor_withTime cfg.mode _ date tz hdate hz hh (some mi) none none (some (stripZeros ds)) none rfl rfl rfl
          rfl rfl
          (timeBounds_M _ hh mi _ h0 h1 h2 h3
            (fun e24 => ⟨(h24 e24).1, by rw [fracZero_stripZeros]; exact (h24 e24).2⟩)))
    | second hh mi ss ds =>
      obtain ⟨_, h0, h1, h2, h3, h4, h5, h24⟩ := htime
      have hf : fracZero ds = false := by
        cases h : fracZero ds
        · rfl
        · simp [DTP.whole, h] at hw
      unfold decText
      simp only [dtimeTmpl, dtimeEnv, hf, Bool.false_eq_true, if_false] at key ⊢
      exact (key (some hh) (some mi) (some ss)
        (congrArg (Option.map some) (intOf_render_int 2 hh (by decide) h0 (by omega)))
        (congrArg (Option.map some) (intOf_render_int 2 mi (by decide) h2 (by omega)))
        (congrArg (Option.map some) (intOf_render_int 2 ss (by decide) h4 (by omega))) rfl).trans
        (ctor_withTime cfg.mode _ date tz hdate hz hh (some mi) (some ss) none none (some (stripZeros ds)) rfl rfl
          rfl rfl rfl
          (timeBounds_S _ hh mi ss _ h0 h1 h2 h3 h4 h5
            (fun e24 => ⟨(h24 e24).1, (h24 e24).2.1, (fracZero_stripZeros ds).trans (h24 e24).2.2⟩)))

example : parse ⟨Gen.Templates.parser_0_all, true, .unknown, .greg⟩
      (decText 0 ⟨.cal 2000 2 29, .minute 23 59 "9990".toList, ⟨5, 30⟩⟩) false =
    some (DTP.toXTP 0 ⟨.cal 2000 2 29, .minute 23 59 "999".toList, ⟨5, 30⟩⟩) :=
  C08_parse_decimal ⟨Gen.Templates.parser_0_all, true, .unknown, .greg⟩ (.head _) rfl
    ⟨.cal 2000 2 29, .minute 23 59 "9990".toList, ⟨5, 30⟩⟩ (by decide +kernel) (by decide +kernel)

theorem fracValue_of_fracZero (s : List Char) (h : fracZero s = true) : fracValue s = 0 := by
  unfold fracValue
  rw [Rat.mkRat_eq_zero (Nat.ne_of_gt (Nat.pow_pos (by decide)))]
  simp [digitsVal_of_fracZero s h]

/-- The fraction read back against the fraction written: printed without trailing zeros; a decimal
    second's zero fraction is dropped. -/
def fracBack (dropZero : Bool) : Option (List Char) → Option (List Char)
  | none => none
  | some ds => if dropZero && fracZero ds then none else some (stripZeros ds)

theorem fracBack_value (b : Bool) (f : Option (List Char)) :
    ((fracBack b f).map fracValue).getD 0 = (f.map fracValue).getD 0 := by
  cases f with
  | none => rfl
  | some ds =>
    cases b
    · simp [fracBack, fracValue_stripZeros]
    · cases hf : fracZero ds
      · simp [fracBack, hf, fracValue_stripZeros]
      · simp [fracBack, hf, fracValue_of_fracZero ds hf]

/-- **C08 (decimal forms, the point read back)**: `d.reparsed` has exactly the fields of `d` — number
    of expanded digits, year, month, day, ordinal day, week, weekday (so the same date representation),
    hour, minute, second (present or absent alike), offset, not truncated, zone known, no dump format —
    and each fraction is the written fraction as printed, i.e. the same number (`fracBack_value`). -/
theorem C08_reparsed_fields (ned : Nat) (d : DTP) :
    (d.reparsed ned).ned = (d.toXTP ned).ned ∧ (d.reparsed ned).year = (d.toXTP ned).year ∧
    (d.reparsed ned).month = (d.toXTP ned).month ∧ (d.reparsed ned).day = (d.toXTP ned).day ∧
    (d.reparsed ned).doy = (d.toXTP ned).doy ∧ (d.reparsed ned).week = (d.toXTP ned).week ∧
    (d.reparsed ned).dow = (d.toXTP ned).dow ∧ (d.reparsed ned).hour = (d.toXTP ned).hour ∧
    (d.reparsed ned).minute = (d.toXTP ned).minute ∧ (d.reparsed ned).second = (d.toXTP ned).second ∧
    (d.reparsed ned).tz = (d.toXTP ned).tz ∧ (d.reparsed ned).tzUnknown = (d.toXTP ned).tzUnknown ∧
    (d.reparsed ned).truncated = (d.toXTP ned).truncated ∧
    (d.reparsed ned).truncProp = (d.toXTP ned).truncProp ∧
    (d.reparsed ned).dumpFmt = (d.toXTP ned).dumpFmt ∧
    (d.reparsed ned).hourDec = fracBack false (d.toXTP ned).hourDec ∧
    (d.reparsed ned).minuteDec = fracBack false (d.toXTP ned).minuteDec ∧
    (d.reparsed ned).secondDec = fracBack true (d.toXTP ned).secondDec := by
  obtain ⟨date, time, tz⟩ := d
  cases time with
  | hour hh ds => cases date <;> simp [DTP.reparsed, DTP.norm, DTime.norm, DTP.toXTP, XTP.withTime, fracBack]
  | minute hh mi ds =>
    cases date <;> simp [DTP.reparsed, DTP.norm, DTime.norm, DTP.toXTP, XTP.withTime, fracBack]
  | second hh mi ss ds =>
    cases hf : fracZero ds
    · cases date <;> simp [DTP.reparsed, DTP.norm, DTime.norm, DTP.toXTP, XTP.withTime, fracBack, hf]
    · cases date <;>
        simp [DTP.reparsed, DTP.toXTP, XTP.withTime, dateBase, XTP.ofTP, fracBack, hf]

/-- `d.reparsed` is the text-layer value of a point of the same kind whenever a fraction is printed,
    and the whole-second point of `Props/C08` otherwise. -/
theorem C08_reparsed_cases (ned : Nat) (d : DTP) :
    (d.whole = none ∧ d.reparsed ned = d.norm.toXTP ned) ∨
    (∃ p, d.whole = some p ∧ d.reparsed ned = XTP.ofTP ned p ∧ decText ned d = stdText ned p) := by
  cases hw : d.whole with
  | none => exact Or.inl ⟨rfl, reparsed_of_not_whole ned d hw⟩
  | some p =>
    obtain ⟨h1, h2, _⟩ := reparsed_of_whole ned d p hw
    exact Or.inr ⟨p, rfl, h1, h2⟩

example : (DTP.reparsed 0 ⟨.cal 2000 2 29, .second 24 0 0 "000".toList, ⟨1, 0⟩⟩) =
    XTP.ofTP 0 ⟨.cal 2000 2 29, 24, 0, 0, ⟨1, 0⟩⟩ := by decide +kernel
example : (DTP.reparsed 0 ⟨.cal 2000 2 29, .second 23 0 0 "0100".toList, ⟨1, 0⟩⟩) =
    DTP.toXTP 0 ⟨.cal 2000 2 29, .second 23 0 0 "01".toList, ⟨1, 0⟩⟩ := by decide +kernel
example : fracValue "0100".toList = fracValue "01".toList := fracValue_stripZeros "0100".toList

/-- **C08 (round trip, decimal forms)**: writing a valid point with a decimal hour, minute or second of
    at most six digits out and reading it back is lossless, and `str` is a fixpoint: `str(d)` succeeds
    with the specified text, `parse(text)` is the point `d.reparsed` — the same representation, offset
    and field values, the fraction the same number (`C08_reparsed_fields`, `fracBack_value`) — and `str`
    of that point is the same text again; for all three date representations, expanded and negative
    years, hour 24 with a zero fraction, every UTC offset, every calendar mode, every parser
    default-zone / truncation setting. -/
theorem C08_roundtrip_decimal (cfg : Cfg) (hpt : cfg.pt ∈ Gen.Templates.parserTables)
    (hb : cfg.pt.basicOnly = false) (d : DTP) (hv : d.Valid cfg.mode)
    (hy : YearInRange cfg.pt.ned (dateYear d.date)) :
    ∃ text q, str cfg.mode (d.toXTP cfg.pt.ned) = .ok text ∧ text = decText cfg.pt.ned d ∧
      parse cfg text false = some q ∧ q = d.reparsed cfg.pt.ned ∧ str cfg.mode q = .ok text := by
  have hned := tables_ned cfg.pt hpt
  exact ⟨decText cfg.pt.ned d, d.reparsed cfg.pt.ned, C08_str_decimal cfg.mode cfg.pt.ned hned d hv hy, rfl,
    C08_parse_decimal cfg hpt hb d hv hy, rfl, str_reparsed cfg.mode cfg.pt.ned hned d hv hy⟩

/-- Non-vacuity: the round trip at a week date in year -396, decimal second 23:59:59,0250, offset
    -00:30, two expanded digits, a parser that allows truncated forms and assumes +05:30. -/
example : ∃ text q,
    str .greg (DTP.toXTP 2 ⟨.week (-396) 53 7, .second 23 59 59 "0250".toList, ⟨0, -30⟩⟩) = .ok text ∧
    text = "-000396-W53-7T23:59:59,025-00:30".toList ∧
    parse ⟨Gen.Templates.parser_2_all, true, .assumed 5 30, .greg⟩ text false = some q ∧
    q = DTP.toXTP 2 ⟨.week (-396) 53 7, .second 23 59 59 "025".toList, ⟨0, -30⟩⟩ ∧
    str .greg q = .ok text := by
  obtain ⟨text, q, h1, h2, h3, h4, h5⟩ :=
    C08_roundtrip_decimal ⟨Gen.Templates.parser_2_all, true, .assumed 5 30, .greg⟩
      (.tail _ (.tail _ (.head _))) rfl
      ⟨.week (-396) 53 7, .second 23 59 59 "0250".toList, ⟨0, -30⟩⟩ (by decide +kernel) (by decide +kernel)
  exact ⟨text, q, h1, h2.trans (by decide +kernel), h3, h4.trans (by decide +kernel), h5⟩

/-- … and at the zero-fraction decimal second 24:00:00,000: printed `24:00:00`, read back as the
    whole-second point. -/
example : ∃ text q,
    str .d360 (DTP.toXTP 0 ⟨.cal 2000 2 30, .second 24 0 0 "000".toList, ⟨0, 0⟩⟩) = .ok text ∧
    text = "2000-02-30T24:00:00Z".toList ∧
    parse ⟨Gen.Templates.parser_0_all, false, .unknown, .d360⟩ text false = some q ∧
    q = XTP.ofTP 0 ⟨.cal 2000 2 30, 24, 0, 0, ⟨0, 0⟩⟩ ∧ str .d360 q = .ok text := by
  obtain ⟨text, q, h1, h2, h3, h4, h5⟩ :=
    C08_roundtrip_decimal ⟨Gen.Templates.parser_0_all, false, .unknown, .d360⟩ (.head _) rfl
      ⟨.cal 2000 2 30, .second 24 0 0 "000".toList, ⟨0, 0⟩⟩ (by decide +kernel) (by decide +kernel)
  exact ⟨text, q, h1, h2.trans (by decide +kernel), h3, h4.trans (by decide +kernel), h5⟩

/-- … and at the corners of the other two forms: decimal hour 24 with a zero fraction (`T24,0`), and a
    decimal minute whose fraction is zero (`T12:30,0`: here the fraction is kept, as one `0`). -/
example : ∃ text q,
    str .d366 (DTP.toXTP 3 ⟨.ord 1234567 366, .hour 24 "00".toList, ⟨-12, -45⟩⟩) = .ok text ∧
    text = "+1234567-366T24,0-12:45".toList ∧
    parse ⟨Gen.Templates.parser_3_all, true, .localOffset 1 0, .d366⟩ text false = some q ∧
    q = DTP.toXTP 3 ⟨.ord 1234567 366, .hour 24 "0".toList, ⟨-12, -45⟩⟩ ∧ str .d366 q = .ok text := by
  obtain ⟨text, q, h1, h2, h3, h4, h5⟩ :=
    C08_roundtrip_decimal ⟨Gen.Templates.parser_3_all, true, .localOffset 1 0, .d366⟩
      (.tail _ (.tail _ (.tail _ (.tail _ (.head _))))) rfl
      ⟨.ord 1234567 366, .hour 24 "00".toList, ⟨-12, -45⟩⟩ (by decide +kernel) (by decide +kernel)
  exact ⟨text, q, h1, h2.trans (by decide +kernel), h3, h4.trans (by decide +kernel), h5⟩

example : ∃ text q,
    str .greg (DTP.toXTP 0 ⟨.cal 1999 12 31, .minute 12 30 "000".toList, ⟨0, 0⟩⟩) = .ok text ∧
    text = "1999-12-31T12:30,0Z".toList ∧
    parse ⟨Gen.Templates.parser_0_all, false, .unknown, .greg⟩ text false = some q ∧
    q = DTP.toXTP 0 ⟨.cal 1999 12 31, .minute 12 30 "0".toList, ⟨0, 0⟩⟩ ∧ str .greg q = .ok text := by
  obtain ⟨text, q, h1, h2, h3, h4, h5⟩ :=
    C08_roundtrip_decimal ⟨Gen.Templates.parser_0_all, false, .unknown, .greg⟩ (.head _) rfl
      ⟨.cal 1999 12 31, .minute 12 30 "000".toList, ⟨0, 0⟩⟩ (by decide +kernel) (by decide +kernel)
  exact ⟨text, q, h1, h2.trans (by decide +kernel), h3, h4.trans (by decide +kernel), h5⟩

/-- Hour 24 with a non-zero fraction is not a time point (`_check_bounds`), in any of the three forms:
    the hypothesis `hh = 24 → fracZero ds` of `DTime.Valid` is needed.  Likewise a fraction of more
    than six digits is rounded by `_decimal_string`, so the text no longer spells the point. -/
theorem C08_decimal_out_of_domain_examples :
    checkBounds .greg (DTP.toXTP 0 ⟨.cal 2000 1 1, .hour 24 "5".toList, ⟨0, 0⟩⟩) = false ∧
    checkBounds .greg (DTP.toXTP 0 ⟨.cal 2000 1 1, .minute 24 0 "5".toList, ⟨0, 0⟩⟩) = false ∧
    checkBounds .greg (DTP.toXTP 0 ⟨.cal 2000 1 1, .second 24 0 0 "5".toList, ⟨0, 0⟩⟩) = false ∧
    str .greg (DTP.toXTP 0 ⟨.cal 2000 1 1, .hour 12 "1234567".toList, ⟨0, 0⟩⟩) =
      .ok "2000-01-01T12,123457Z".toList := by decide +kernel

end IsoDT.Props.C08
