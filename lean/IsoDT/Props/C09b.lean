/-
  C09 (text part) — Whatever the parser accepts, through ANY text notation, is a real date-time.

  `Props/C09.lean` proves acceptance soundness and completeness for the constructor called with integral
  arguments.  Here the same is proved through the text layer (`IsoDT.Text.parse` = `get_info` →
  `_create_timepoint_from_info` → `TimePoint.__init__` with `_check_bounds`): for ANY parser tables, ANY
  configuration and ANY list of characters.  No assumption on the tables is needed, because every accepted
  text ends in `Text.ctor`, which runs `checkBounds` (`Lemmas/TextAccept.lean`).
  Completeness through text is C08 (`parse_stdText`: the specified text of every valid point is accepted
  and decodes to that point).
  The refusal side is a kernel-decided table over every regenerated parser table.
-/
import IsoDT.Props.C09
import IsoDT.Lemmas.TextAccept

namespace IsoDT.Props.C09
open IsoDT IsoDT.Model IsoDT.Text
open IsoDT.Spec (Date TZ TP)
open _root_.IsoDT.Gen.Templates (parserTables)

/-- **No impossible date-time comes in through text**: for every parser table, every configuration
    (`allow_truncated`, default zone, calendar mode, `dump_as_parsed`) and EVERY list of characters, if the
    parser accepts the text as a non-truncated whole-second point (`XTP.toTP?` reads it as `p`), then `p`
    is a real date-time of the active mode — month 1..12, day within the month's length for that year,
    day-of-year within the year's length, ISO week within the year's number of weeks, weekday 1..7, hour
    0..24 with 24 only as 24:00:00, minute and second below 60, offset within range and of one sign. -/
theorem C09_text_accept_sound (cfg : Cfg) (s : List Char) (asParsed : Bool) (x : XTP) (p : TP)
    (h : parse cfg s asParsed = some x) (hp : x.toTP? = some p) : p.Valid cfg.mode := by
  obtain ⟨a, ha⟩ := parse_ctor cfg s asParsed x h
  obtain ⟨hc, hz⟩ := ctor_sound cfg.mode a x ha
  exact checkBounds_valid cfg.mode x p hp hc hz

/-- The hypothesis `x.toTP? = some p` of `C09_text_accept_sound` is not a restriction among non-truncated
    results without a decimal part: every such result IS a whole-second point, and it is valid. -/
theorem C09_text_accept_whole (cfg : Cfg) (s : List Char) (asParsed : Bool) (x : XTP)
    (h : parse cfg s asParsed = some x) (ht : x.truncated = false)
    (h1 : x.hourDec = none) (h2 : x.minuteDec = none) (h3 : x.secondDec = none) :
    ∃ p, x.toTP? = some p ∧ p.Valid cfg.mode := by
  obtain ⟨a, ha⟩ := parse_ctor cfg s asParsed x h
  obtain ⟨p, hp⟩ := ctor_toTP cfg.mode a x ha ht h1 h2 h3
  exact ⟨p, hp, C09_text_accept_sound cfg s asParsed x p h hp⟩

/-- **The same with a decimal part** (`hh,f`, `hh:mm,f`, `hh:mm:ss,f`): every non-truncated point the
    parser accepts, from any text under any tables and configuration, satisfies `XTP.ValidX` — it shows a
    date that is real in the mode, a legal offset, `0 ≤ hour ≤ 24`, minute and second below 60 where
    present, hour 24 only with every lower field zero and every fraction zero, and fields are absent only
    as the decimal forms dictate (a decimal hour has no minute/second, a decimal minute no second). -/
theorem C09_text_accept_sound_decimal (cfg : Cfg) (s : List Char) (asParsed : Bool) (x : XTP)
    (h : parse cfg s asParsed = some x) (ht : x.truncated = false) : x.ValidX cfg.mode := by
  obtain ⟨a, ha⟩ := parse_ctor cfg s asParsed x h
  exact ctor_validX cfg.mode a x ha ht

/-- On whole-second points the two notions agree: `ValidX` of a point `toTP?` reads as `p` gives
    `p.Valid`. -/
theorem C09_validX_whole (m : Mode) (x : XTP) (p : TP) (hx : x.ValidX m) (hp : x.toTP? = some p) :
    p.Valid m := by
  obtain ⟨e1, e2, e3, e4, e5⟩ := toTP?_some hp
  obtain ⟨dt, e1', hv⟩ := hx.date
  obtain ⟨h, e2', b1, b2⟩ := hx.hour
  obtain rfl : p.date = dt := Option.some.inj (e1.symm.trans e1')
  obtain rfl : p.hh = h := Option.some.inj (e2.symm.trans e2')
  have hm := hx.minute _ e3
  have hs := hx.second _ e4
  refine ⟨hv, b1, b2, hm.1, hm.2, hs.1, hs.2, fun h24 => ?_, e5 ▸ hx.zone⟩
  rw [h24] at e2
  exact ⟨(hx.hour24 e2).1 _ e3, (hx.hour24 e2).2.1 _ e4⟩

/-- **Truncated points too are bounds-checked**: every accepted point, truncated or not, has every field
    it shows within the bounds `_check_bounds` applies (`Text.BoundFacts`): with the year, the exact month /
    year / week-count of that year; without it, the leap-year month length, the longest month, the longest
    year and the largest week count of the mode. -/
theorem C09_text_accept_bounds (cfg : Cfg) (s : List Char) (asParsed : Bool) (x : XTP)
    (h : parse cfg s asParsed = some x) : BoundFacts cfg.mode x ∧ x.tz.Valid := by
  obtain ⟨a, ha⟩ := parse_ctor cfg s asParsed x h
  obtain ⟨hc, hz⟩ := ctor_sound cfg.mode a x ha
  exact ⟨checkBounds_facts cfg.mode x hc, hz⟩

/-- `2000-02-29T24:00:00-00:30` under the plain tables, Gregorian. -/
def exCfg : Cfg := ⟨Gen.Templates.parser_0_all, false, .unknown, .greg⟩
def exPoint : TP := ⟨.cal 2000 2 29, 24, 0, 0, ⟨0, -30⟩⟩

theorem exPoint_parse : parse exCfg "2000-02-29T24:00:00-00:30".toList false = some (XTP.ofTP 0 exPoint) := by
  decide +kernel

example : parse exCfg "2000-02-29T24:00:00-00:30".toList false = some (XTP.ofTP 0 exPoint) := exPoint_parse
example : (XTP.ofTP 0 exPoint).toTP? = some exPoint := by decide +kernel
example : exPoint.Valid .greg :=
  C09_text_accept_sound exCfg "2000-02-29T24:00:00-00:30".toList false (XTP.ofTP 0 exPoint) exPoint
    exPoint_parse rfl

example : exPoint.Valid .greg :=
  C09_validX_whole .greg (XTP.ofTP 0 exPoint) exPoint
    (C09_text_accept_sound_decimal exCfg "2000-02-29T24:00:00-00:30".toList false (XTP.ofTP 0 exPoint)
      exPoint_parse rfl)
    rfl

/-- A week date in basic notation with expanded year digits, 360-day calendar, `dump_as_parsed`. -/
def exCfg2 : Cfg := ⟨Gen.Templates.parser_2_basic, true, .assumed 5 30, .d360⟩

example : ((parse exCfg2 "-000400W517T0005".toList true).bind XTP.toTP?) =
    some ⟨.week (-400) 51 7, 0, 5, 0, ⟨5, 30⟩⟩ := by decide +kernel
example : ∃ x, parse exCfg2 "-000400W517T0005".toList true = some x ∧ x.truncated = false ∧
    x.hourDec = none ∧ x.minuteDec = none ∧ x.secondDec = none := by
  refine ⟨(parse exCfg2 "-000400W517T0005".toList true).getD default, ?_⟩
  decide +kernel

structure TimeView where
  truncated : Bool
  hour : Option Int
  hourDec : Option (List Char)
  minute : Option Int
  minuteDec : Option (List Char)
  second : Option Int
  secondDec : Option (List Char)
  tz : TZ
  deriving DecidableEq, Repr

def timeView (x : XTP) : TimeView :=
  ⟨x.truncated, x.hour, x.hourDec, x.minute, x.minuteDec, x.second, x.secondDec, x.tz⟩

/-- Decimal forms: `12:30,5` (decimal minute, no second) and `24,000` (decimal hour 24 with a zero
    fraction). -/
example : ((parse exCfg "2000-02-29T12:30,5+01:00".toList false).map timeView) =
    some ⟨false, some 12, none, some 30, some ['5'], none, none, ⟨1, 0⟩⟩ := by decide +kernel
example : ∀ x, parse exCfg "2000-02-29T12:30,5+01:00".toList false = some x → x.ValidX .greg :=
  fun x h => C09_text_accept_sound_decimal exCfg _ false x h
    (by
      have : ((parse exCfg "2000-02-29T12:30,5+01:00".toList false).map (·.truncated)) = some false := by
        decide +kernel
      rw [h] at this
      exact Option.some.inj this)
example : ((parse exCfg "2000-02-29T24,000Z".toList false).map timeView) =
    some ⟨false, some 24, some ['0', '0', '0'], none, none, none, none, ⟨0, 0⟩⟩ := by decide +kernel

/-- A truncated point (`--02-29`, no year): accepted, bounds-checked against the leap-year February. -/
example : ((parse ⟨Gen.Templates.parser_0_all, true, .unknown, .greg⟩ "--02-29".toList false).map
      fun x => (x.truncated, x.year, x.month, x.day)) = some (true, none, some 2, some 29) := by
  decide +kernel
example : parse ⟨Gen.Templates.parser_0_all, true, .unknown, .greg⟩ "--02-30".toList false = none := by
  decide +kernel
example : ∀ x, parse ⟨Gen.Templates.parser_0_all, true, .unknown, .greg⟩ "--02-29".toList false = some x →
    BoundFacts .greg x ∧ x.tz.Valid :=
  fun x h => C09_text_accept_bounds ⟨Gen.Templates.parser_0_all, true, .unknown, .greg⟩ _ false x h

/-- **The parser is total**: on every text it either refuses (`none` — every `ValueError`-derived
    exception of the Python, cf. `C09_exceptions`) or returns a point; there is no third outcome in the
    model (by construction: `parse` is a total function into `Option`). -/
theorem C09_text_total (cfg : Cfg) (s : List Char) (b : Bool) :
    parse cfg s b = none ∨ ∃ x, parse cfg s b = some x := by
  cases h : parse cfg s b with
  | none => exact Or.inl rfl
  | some x => exact Or.inr ⟨x, rfl⟩

/-- Where a well-formed twin text is accepted. -/
inductive Scope where
  /-- extended notation: every table that allows it -/
  | ext
  /-- basic notation: every table -/
  | basic
  /-- signed year with `n` expanded digits, extended notation: exactly the tables built for `n` -/
  | exp (n : Nat)
  deriving DecidableEq, Repr

def Scope.covers : Scope → ParserTables → Bool
  | .ext, pt => !pt.basicOnly
  | .basic, _ => true
  | .exp n, pt => !pt.basicOnly && pt.ned == n

/-- The default-zone configurations the tables below range over. -/
def exZones : List ZoneDefault := [.unknown, .assumed (-3) (-30)]

/-- `s` is refused in mode `m` under every regenerated table, with and without `allow_truncated`, for
    each of `exZones`. -/
def refusedEverywhere (m : Mode) (s : String) : Bool :=
  parserTables.all fun pt => [true, false].all fun tr => exZones.all fun z =>
    (parse ⟨pt, tr, z, m⟩ s.toList false).isNone

/-- `s` is accepted in mode `m` exactly under the tables `sc` covers (same range of configurations). -/
def acceptedIn (m : Mode) (sc : Scope) (s : String) : Bool :=
  parserTables.all fun pt => [true, false].all fun tr => exZones.all fun z =>
    (parse ⟨pt, tr, z, m⟩ s.toList false).isSome == sc.covers pt

/-- `refusedEverywhere` and `acceptedIn` with the default zone left unknown: by `parse_isSome_default` the
    other default of `exZones` gives the same answers. -/
def refusedUnknown (m : Mode) (s : String) : Bool :=
  parserTables.all fun pt => [true, false].all fun tr => (parse ⟨pt, tr, .unknown, m⟩ s.toList false).isNone

def acceptedUnknown (m : Mode) (sc : Scope) (s : String) : Bool :=
  parserTables.all fun pt => [true, false].all fun tr =>
    (parse ⟨pt, tr, .unknown, m⟩ s.toList false).isSome == sc.covers pt

theorem assumed_legal (m : Mode) : (ZoneDefault.assumed (-3) (-30)).Legal m := by cases m <;> rfl

theorem refusedEverywhere_eq (m : Mode) (s : String) : refusedEverywhere m s = refusedUnknown m s := by
  simp only [refusedEverywhere, refusedUnknown, exZones, List.all_cons, List.all_nil, Bool.and_true,
    ← Option.not_isSome, parse_isSome_default _ _ m _ (assumed_legal m), Bool.and_self]

theorem acceptedIn_eq (m : Mode) (sc : Scope) (s : String) : acceptedIn m sc s = acceptedUnknown m sc s := by
  simp only [acceptedIn, acceptedUnknown, exZones, List.all_cons, List.all_nil, Bool.and_true,
    parse_isSome_default _ _ m _ (assumed_legal m), Bool.and_self]

/-- Impossible or malformed text, and next to it the nearest well-formed text with where it is accepted. -/
def rejectTable : List (String × String × Scope) := [
  -- day beyond the month
  ("2000-02-30", "2000-02-29", .ext), ("2001-02-29", "2001-02-28", .ext), ("1900-02-29", "1900-02-28", .ext),
  ("2000-04-31", "2000-04-30", .ext), ("2000-01-00", "2000-01-01", .ext), ("20000230", "20000229", .basic),
  -- month
  ("2000-13-01", "2000-12-01", .ext), ("2000-00-01", "2000-01-01", .ext),
  -- week and weekday
  ("2000-W53-1", "2000-W52-1", .ext), ("2004-W54-1", "2004-W53-1", .ext), ("2000-W54-1", "2000-W52-1", .ext),
  ("2000-W00-1", "2000-W01-1", .ext), ("2000-W01-8", "2000-W01-7", .ext), ("2000-W01-0", "2000-W01-1", .ext),
  ("2000W531", "2000W521", .basic),
  -- day of year
  ("2001-366", "2000-366", .ext), ("2000-367", "2000-366", .ext), ("2000-000", "2000-001", .ext),
  ("2001366", "2000366", .basic),
  -- hour 24 only as 24:00:00
  ("2000-01-01T24:00:01Z", "2000-01-01T24:00:00Z", .ext), ("2000-01-01T24:30Z", "2000-01-01T24:00Z", .ext),
  ("2000-01-01T25Z", "2000-01-01T24Z", .ext), ("20000101T2430Z", "20000101T2400Z", .basic),
  ("20000101T240001Z", "20000101T240000Z", .basic),
  ("2000-01-01T24,5Z", "2000-01-01T24,0Z", .ext), ("2000-01-01T24:00,01Z", "2000-01-01T24:00,00Z", .ext),
  ("2000-01-01T24:00:00,1Z", "2000-01-01T24:00:00,0Z", .ext),
  -- minute, second
  ("2000-01-01T12:60Z", "2000-01-01T12:59Z", .ext), ("2000-01-01T12:00:60Z", "2000-01-01T12:00:59Z", .ext),
  -- offset
  ("2000-01-01T00:00+100:00", "2000-01-01T00:00+99:00", .ext),
  ("2000-01-01T00:00+01:60", "2000-01-01T00:00+01:59", .ext),
  ("2000-01-01T00:00-01:60", "2000-01-01T00:00-01:59", .ext),
  -- expanded years
  ("+002000-02-30", "+002000-02-29", .exp 2), ("-000001-02-29", "-000004-02-29", .exp 2),
  ("+0002001-366", "+0002000-366", .exp 3),
  -- malformed
  ("2000-02-29T", "2000-02-29", .ext), ("2000-02-29T12:00:00ZZ", "2000-02-29T12:00:00Z", .ext),
  ("2000-02-29T12:00:00+01:00+01:00", "2000-02-29T12:00:00+01:00", .ext),
  ("2000-02-29T12:00T12:00", "2000-02-29T12:00", .ext), ("2000-2-29", "2000-02-29", .ext),
  ("2000-02-29 12:00", "2000-02-29T12:00", .ext), ("", "2000", .basic), ("garbage", "2000", .basic),
  ("2000-02-29T12:00:00\n\n", "2000-02-29T12:00:00\n", .ext), ("2000-0229", "2000-02-29", .ext),
  ("20000229T12:00", "20000229T1200", .basic), ("２０００-02-29", "2000-02-29", .ext)]

/-- **Impossible dates and malformed text are refused** (Gregorian mode): each first text of `rejectTable`
    — 30 February, 29 February of a common year, month 13, week 53 of a 52-week year, day 366 of a common
    year, 24:00:01, 24:30, minute 60, second 60, offset +100:00, mixed signs, doubled zones, a lone `T`,
    wrong widths, mixed basic/extended, non-ASCII digits, … — is refused under EVERY regenerated parser
    table, with and without `allow_truncated`, for each default-zone setting of `exZones`; while the
    well-formed text next to it is accepted under exactly the tables its notation belongs to. -/
theorem C09_text_reject_examples :
    rejectTable.all (fun r => refusedEverywhere .greg r.1 && acceptedIn .greg r.2.2 r.2.1) = true := by
  have h : rejectTable.all (fun r => refusedUnknown .greg r.1 && acceptedUnknown .greg r.2.2 r.2.1) = true := by
    decide +kernel
  simpa only [refusedEverywhere_eq, acceptedIn_eq] using h

/-- Texts whose acceptance depends on the calendar mode, with the expected answer for
    Gregorian, 360-day, 365-day, 366-day. -/
def modeTable : List (String × Scope × List Bool) := [
  ("2001-02-29", .ext, [false, true, false, true]),
  ("1900-02-29", .ext, [false, true, false, true]),
  ("2000-02-29", .ext, [true, true, false, true]),
  ("2000-02-30", .ext, [false, true, false, false]),
  ("2000-02-31", .ext, [false, false, false, false]),
  ("2000-01-31", .ext, [true, false, true, true]),
  ("2001-366", .ext, [false, false, false, true]),
  ("2000-366", .ext, [true, false, false, true]),
  ("2001-365", .ext, [true, false, true, true]),
  ("2000-361", .ext, [true, false, true, true]),
  ("2000-360", .ext, [true, true, true, true]),
  ("2004-W53-1", .ext, [true, false, false, false]),
  ("2000-W52-1", .ext, [true, false, true, true]),
  ("2001-W52-7", .ext, [true, true, true, true]),
  ("20010229T2400", .basic, [false, true, false, true]),
  ("2000-01-01T24:00:00Z", .ext, [true, true, true, true])]

def acceptedOrRefused (m : Mode) (sc : Scope) (s : String) (want : Bool) : Bool :=
  if want then acceptedIn m sc s else refusedEverywhere m s

/-- **Refusal follows the active calendar**: 29 February 2001 is refused by the Gregorian and 365-day
    calendars and accepted by the 360-day and 366-day ones; 30 February is accepted only in the 360-day
    calendar and 31 January refused only there; day 366 of 2001 only exists in the 366-day calendar; week 53
    of 2004 only in the Gregorian one — under every regenerated table covering the notation. -/
theorem C09_text_mode_examples :
    modeTable.all (fun r =>
      ([Mode.greg, .d360, .d365, .d366].zip r.2.2).all fun (m, want) =>
        acceptedOrRefused m r.2.1 r.1 want) = true := by
  have h : modeTable.all (fun r =>
      ([Mode.greg, .d360, .d365, .d366].zip r.2.2).all fun (m, want) =>
        if want then acceptedUnknown m r.2.1 r.1 else refusedUnknown m r.1) = true := by
    decide +kernel
  simpa only [acceptedOrRefused, refusedEverywhere_eq, acceptedIn_eq] using h

example : rejectTable.length = 47 ∧ modeTable.length = 16 ∧ parserTables.length = 6 := by decide
example : refusedEverywhere .greg "2000-02-30" = true ∧ acceptedIn .d360 .ext "2000-02-30" = true := by
  decide +kernel
example : parse exCfg "2000-02-30".toList false = none ∧
    (parse { exCfg with mode := .d360 } "2000-02-30".toList false).isSome = true := by decide +kernel

end IsoDT.Props.C09
