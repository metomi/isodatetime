/-
  C06 (continued) — re-zoning is canonical and composes.

  A point with `0 ≤ h < 24` is determined by its instant, its UTC offset and its date representation
  (`C06_canonical`); hence re-zoning through an intermediate offset gives field for field what the
  direct re-zoning gives, re-zoning to the offset a point already has is the identity, and going
  there and back returns the very same point.
-/
import IsoDT.Props.C06

namespace IsoDT.Props.C06
open IsoDT IsoDT.Model IsoDT.Lemmas
open IsoDT.Spec (Date TZ TP)

/-- Two points with `0 ≤ h < 24` in the same representation and offset that denote the same instant
    are the same point, field for field. -/
theorem C06_canonical (m : Mode) (a b : TP) (ha : a.Strict m) (hb : b.Strict m)
    (hr : a.date.rep = b.date.rep) (ht : a.tz = b.tz) (hi : a.inst m = b.inst m) : a = b :=
  strict_unique m a b ha hb hr ht hi

/-- Re-zoning through an intermediate offset is the direct re-zoning, field for field. -/
theorem C06_compose (m : Mode) (p : TP) (z1 z2 : TZ) (hv : p.Valid m) (h24 : p.hh < 24)
    (hz1 : z1.Valid) (hz2 : z2.Valid) :
    ∃ q1 q2, toTimeZone m p z1 = some q1 ∧ toTimeZone m q1 z2 = some q2 ∧ toTimeZone m p z2 = some q2 := by
  obtain ⟨q1, e1, i1, t1, r1, v1, l1⟩ := toTimeZone_spec m p z1 hv hz1
  obtain ⟨q2, e2, i2, t2, r2, v2, l2⟩ := toTimeZone_spec m q1 z2 v1 hz2
  obtain ⟨q, e, i, t, r, v, l⟩ := toTimeZone_spec m p z2 hv hz2
  refine ⟨q1, q2, e1, e2, ?_⟩
  rw [e]
  congr 1
  exact C06_canonical m q q2 ⟨v, l h24⟩ ⟨v2, l2 (l1 h24)⟩ (by rw [r, r2, r1]) (by rw [t, t2])
    (by rw [i, i2, i1])

/-- Re-zoning to the offset the point already carries changes nothing; there and back is the
    identity. -/
theorem C06_identity_and_round_trip (m : Mode) (p : TP) (z : TZ) (hv : p.Valid m) (h24 : p.hh < 24)
    (hz : z.Valid) :
    toTimeZone m p p.tz = some p ∧
    ∃ q, toTimeZone m p z = some q ∧ toTimeZone m q p.tz = some p := by
  have hpz : p.tz.Valid := hv.tz
  obtain ⟨q0, e0, i0, t0, r0, v0, l0⟩ := toTimeZone_spec m p p.tz hv hpz
  have id0 : q0 = p := C06_canonical m q0 p ⟨v0, l0 h24⟩ ⟨hv, h24⟩ r0 t0 i0
  refine ⟨by rw [e0, id0], ?_⟩
  obtain ⟨q1, q2, e1, e2, e3⟩ := C06_compose m p z p.tz hv h24 hz hpz
  refine ⟨q1, e1, ?_⟩
  rw [e2, ← e3, e0, id0]

example : (toTimeZone .greg ⟨.week 2020 53 7, 23, 30, 0, ⟨5, 30⟩⟩ ⟨-11, -45⟩).bind
      (fun q => toTimeZone .greg q ⟨14, 0⟩) =
    toTimeZone .greg ⟨.week 2020 53 7, 23, 30, 0, ⟨5, 30⟩⟩ ⟨14, 0⟩ := by decide +kernel

end IsoDT.Props.C06
