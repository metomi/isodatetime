/-
  C14 — Recurrences are values: shifting by an exact duration, equality, hashing, in every notation
  (intervals exact).  The iterated points come from C12; the shift lemmas are in
  Lemmas/RecShift.lean.  Continued in C14c (month/year intervals, any shift), C14mm
  (`min_point`/`max_point`) and C14b (text round trip).

  `Model.Rec.shift` mirrors `TimeRecurrence.__add__(Duration)` (and `__sub__`, `Duration + rec`
  which dispatch to it); `Model.Rec.eq` / `Rec.hashKey` mirror `__eq__` / `__hash__`.
-/
import IsoDT.Props.C12
import IsoDT.Lemmas.RecShift
import IsoDT.Lemmas.RecNominalQuery

namespace IsoDT.Props.C14
open IsoDT IsoDT.Model IsoDT.Lemmas IsoDT.Props.C12
open IsoDT.Spec (Date TZ TP)

/-- **Shifting a start/duration recurrence (`n ≥ 2`, exact interval) by an exact `x`**: the result
    is the recurrence with the same repetitions and interval whose start is moved by `x`; hence
    (C12) its `n` points are the original points each moved by exactly `x`. -/
theorem C14_shift_start_duration (m : Mode) (n : Nat) (s : TP) (d x : Dur) (hn : 2 ≤ n) (hs : s.Valid m)
    (hex : d.isExact = true) (hpos : 0 < d.exactSeconds m) (hx : x.isExact = true)
    (fuel : Nat) (hf : n ≤ fuel) :
    ∃ r r' s', mkRec m (some (n : Int)) (some s) (some d) none = some r ∧
      addDur m s x = some s' ∧ s'.inst m = s.inst m + x.exactSeconds m ∧
      r.shift m x = some r' ∧ r'.reps = some (n : Int) ∧ r'.dur = some d ∧ r'.start = some s' ∧
      (iter m r fuel).length = n ∧ (iter m r' fuel).length = n ∧
      SeriesOK m s.date.rep s.tz (iter m r fuel) (s.inst m) (d.exactSeconds m) ∧
      SeriesOK m s.date.rep s.tz (iter m r' fuel) (s.inst m + x.exactSeconds m) (d.exactSeconds m) := by
  obtain ⟨r, hr, hlen, _, hser⟩ := C12_start_duration_bounded m n s d hn hs hex hpos fuel hf
  obtain ⟨e, hr0, _⟩ := mkRec_fmt3_bounded m n s d (Int.ofNat_le.mpr hn) hs hex hpos
  cases hr.symm.trans hr0
  obtain ⟨s', hs', g⟩ := addDur_exact m s x hs hx
  obtain ⟨r', hr', hlen', _, hser'⟩ := C12_start_duration_bounded m n s' d hn g.strict.1 hex hpos fuel hf
  obtain ⟨e', hr1, _⟩ := mkRec_fmt3_bounded m n s' d (Int.ofNat_le.mpr hn) g.strict.1 hex hpos
  cases hr'.symm.trans hr1
  rw [g.rep, g.tz, g.inst] at hser'
  exact ⟨_, _, s', hr, hs', g.inst, (shift_fmt3_eq m _ s s' d x _ _ hs').trans hr', rfl, rfl, rfl, hlen, hlen',
    hser, hser'⟩

/-- **Single-point recurrences keep their anchor when shifted** (repaired defect F4): one
    repetition (or a zero interval) in start/duration or duration/end notation. -/
theorem C14_shift_single (m : Mode) (s : TP) (x : Dur) (hs : s.Valid m) (hx : x.isExact = true) :
    ∃ s', addDur m s x = some s' ∧ s'.inst m = s.inst m + x.exactSeconds m ∧
      (⟨some 1, some s, none, some s, none, 3⟩ : Rec).shift m x =
        some ⟨some 1, some s', none, some s', none, 3⟩ ∧
      (⟨some 1, some s, none, some s, none, 4⟩ : Rec).shift m x =
        some ⟨some 1, some s', none, some s', none, 4⟩ := by
  obtain ⟨s', hs', g⟩ := addDur_exact m s x hs hx
  exact ⟨s', hs', g.inst, shift_single m s s' x hs'⟩

theorem optTpEq_iff (m : Mode) (a b : Option TP) (ha : ∀ x, a = some x → x.Valid m)
    (hb : ∀ x, b = some x → x.Valid m) :
    optTpEq m a b = true ↔ (a = none ∧ b = none) ∨ ∃ x y, a = some x ∧ b = some y ∧ x.inst m = y.inst m := by
  cases a <;> cases b <;> simp only [optTpEq]
  · simp
  · simp
  · simp
  · rename_i x y
    rw [tpEq_iff m x y (ha x rfl) (hb y rfl)]
    simp

/-- **Equality of recurrences**: repetitions equal, start points at the same instant (or both
    absent), end points likewise, intervals equal as durations.  So recurrences that differ in
    repetitions, start, end or interval are unequal. -/
theorem C14_eq_iff (m : Mode) (a b : Rec)
    (hva : (∀ x, a.start = some x → x.Valid m) ∧ (∀ x, a.end_ = some x → x.Valid m))
    (hvb : (∀ x, b.start = some x → x.Valid m) ∧ (∀ x, b.end_ = some x → x.Valid m)) :
    Rec.eq m a b = true ↔
      a.reps = b.reps ∧
      ((a.start = none ∧ b.start = none) ∨ ∃ x y, a.start = some x ∧ b.start = some y ∧ x.inst m = y.inst m) ∧
      ((a.end_ = none ∧ b.end_ = none) ∨ ∃ x y, a.end_ = some x ∧ b.end_ = some y ∧ x.inst m = y.inst m) ∧
      optDurEq m a.dur b.dur = true := by
  unfold Rec.eq
  simp only [Bool.and_eq_true, beq_iff_eq]
  rw [optTpEq_iff m _ _ hva.1 hvb.1, optTpEq_iff m _ _ hva.2 hvb.2]
  constructor
  · rintro ⟨⟨⟨h1, h2⟩, h3⟩, h4⟩; exact ⟨h1, h2, h3, h4⟩
  · rintro ⟨h1, h2, h3, h4⟩; exact ⟨⟨⟨h1, h2⟩, h3⟩, h4⟩

theorem rec_eq_intro (m : Mode) (a b : Rec) (h1 : a.reps = b.reps) (h2 : optTpEq m a.start b.start = true)
    (h3 : optTpEq m a.end_ b.end_ = true) (h4 : optDurEq m a.dur b.dur = true) : Rec.eq m a b = true := by
  unfold Rec.eq
  rw [h1, h2, h3, h4, beq_self_eq_true]; rfl

theorem durHashKey_eq (m : Mode) (a : Dur) : Dur.hashKey m a = ((durYm a).1, (durYm a).2, a.exactSeconds m) := by
  cases a <;> rfl

theorem optHash_eq (m : Mode) (a b : Option TP) (ha : ∀ x, a = some x → x.Valid m)
    (hb : ∀ x, b = some x → x.Valid m)
    (h : (a = none ∧ b = none) ∨ ∃ x y, a = some x ∧ b = some y ∧ x.inst m = y.inst m) :
    a.map (Model.hashKey m) = b.map (Model.hashKey m) := by
  rcases h with ⟨x, y⟩ | ⟨x, y, hx, hy, hi⟩
  · rw [x, y]
  · rw [hx, hy]
    simp only [Option.map_some]
    rw [(hashKey_eq_of_inst_eq m x y (ha x hx) (hb y hy) hi).1]

/-- **Equal recurrences have equal hashes** (hash keys of their components agree). -/
theorem C14_hash (m : Mode) (a b : Rec)
    (hva : (∀ x, a.start = some x → x.Valid m) ∧ (∀ x, a.end_ = some x → x.Valid m))
    (hvb : (∀ x, b.start = some x → x.Valid m) ∧ (∀ x, b.end_ = some x → x.Valid m))
    (h : Rec.eq m a b = true) : Rec.hashKey m a = Rec.hashKey m b := by
  obtain ⟨h1, h2, h3, h4⟩ := (C14_eq_iff m a b hva hvb).mp h
  unfold Rec.hashKey
  have k2 := optHash_eq m _ _ hva.1 hvb.1 h2
  have k3 := optHash_eq m _ _ hva.2 hvb.2 h3
  have k4 : a.dur.map (Dur.hashKey m) = b.dur.map (Dur.hashKey m) := by
    cases ha : a.dur with
    | none =>
      cases hb : b.dur with
      | none => rfl
      | some y => rw [ha, hb] at h4; simp [optDurEq] at h4
    | some x =>
      cases hb : b.dur with
      | none => rw [ha, hb] at h4; simp [optDurEq] at h4
      | some y =>
        rw [ha, hb] at h4
        have := (dur_eq_iff m x y).mp h4
        simp only [Option.map_some]
        rw [durHashKey_eq, durHashKey_eq, this.1, this.2]
  rw [h1, k2, k3, k4]

theorem optDurEq_refl (m : Mode) (d : Dur) : optDurEq m (some d) (some d) = true :=
  (dur_eq_iff m d d).mpr ⟨rfl, rfl⟩

theorem optTpEq_refl (m : Mode) (a : Option TP) : optTpEq m a a = true := by
  cases a with
  | none => rfl
  | some x => simp [optTpEq, tpEq, cmp]

theorem Rec_eq_refl (m : Mode) (b : Rec) : Rec.eq m b b = true := by
  unfold Rec.eq
  simp only [beq_self_eq_true, optTpEq_refl, Bool.and_self, Bool.true_and]
  cases b.dur with
  | none => rfl
  | some d => exact optDurEq_refl m d

/-- **(r + x) − x == r for an exact `x`, start/duration notation** — bounded or not, for every
    interval the constructor accepts as neither negative nor zero (exact or month/year).  The
    anchor returns to the same instant, representation and offset, so the far bound re-derived
    from it is the identical point (`addDur_congr`); the notation is kept; and if the start was
    written with `h < 24` the whole stored recurrence comes back identical. -/
theorem shift_inverse_fmt3 (m : Mode) (reps : Option Int) (s : TP) (d x : Dur) (hs : s.Valid m)
    (hx : x.isExact = true) (hd : Accepted m d)
    (hreps : ∀ n, reps = some n → 2 ≤ n) :
    ∃ r r1 r2, mkRec m reps (some s) (some d) none = some r ∧ r.shift m x = some r1 ∧
      r1.shift m (x.mul (-1)) = some r2 ∧ Rec.eq m r2 r = true ∧ r2.fmt = r.fmt ∧
      r2.end_ = r.end_ ∧ (s.hh < 24 → r2 = r) := by
  obtain ⟨s1, s2, hs1, g1, hs2, g2, hi2⟩ := addDur_neg_inst m s x hs hx
  obtain ⟨hr, _⟩ := mkRec_fmt3_total m reps s d hs hd hreps
  obtain ⟨hr1, _⟩ := mkRec_fmt3_total m reps s1 d g1.strict.1 hd hreps
  obtain ⟨hr2, _⟩ := mkRec_fmt3_total m reps s2 d g2.strict.1 hd hreps
  have hen : (reps.bind fun n => addDur m s2 (d.mul (n - 1))) =
      reps.bind fun n => addDur m s (d.mul (n - 1)) :=
    congrArg reps.bind (funext fun n =>
      addDur_congr m s2 s _ g2.strict.1 hs (g2.rep.trans g1.rep) (g2.tz.trans g1.tz) hi2)
  rw [hen] at hr2
  refine ⟨_, _, _, hr, (shift_fmt3_eq m _ s s1 d x _ _ hs1).trans hr1,
    (shift_fmt3_eq m _ s1 s2 d _ _ _ hs2).trans hr2, ?_, rfl, rfl, fun h24 => ?_⟩
  · exact rec_eq_intro m _ _ rfl ((tpEq_iff m s2 s g2.strict.1 hs).mpr hi2) (optTpEq_refl m _)
      (optDurEq_refl m d)
  · rw [addDur_neg_same m s s1 s2 _ _ hs g1 g2 hi2 h24]

/-- The same in duration/end notation: the start re-derived from the returned end is the
    identical point. -/
theorem shift_inverse_fmt4 (m : Mode) (reps : Option Int) (e : TP) (d x : Dur) (he : e.Valid m)
    (hx : x.isExact = true) (hd : Accepted m d)
    (hreps : ∀ n, reps = some n → 2 ≤ n) :
    ∃ r r1 r2, mkRec m reps none (some d) (some e) = some r ∧ r.shift m x = some r1 ∧
      r1.shift m (x.mul (-1)) = some r2 ∧ Rec.eq m r2 r = true ∧ r2.fmt = r.fmt ∧
      r2.start = r.start ∧ (e.hh < 24 → r2 = r) := by
  obtain ⟨e1, e2, he1, g1, he2, g2, hi2⟩ := addDur_neg_inst m e x he hx
  obtain ⟨hr, _⟩ := mkRec_fmt4_total m reps e d he hd hreps
  obtain ⟨hr1, _⟩ := mkRec_fmt4_total m reps e1 d g1.strict.1 hd hreps
  obtain ⟨hr2, _⟩ := mkRec_fmt4_total m reps e2 d g2.strict.1 hd hreps
  have hst : (reps.bind fun n => subDur m e2 (d.mul (n - 1))) =
      reps.bind fun n => subDur m e (d.mul (n - 1)) :=
    congrArg reps.bind (funext fun n =>
      addDur_congr m e2 e _ g2.strict.1 he (g2.rep.trans g1.rep) (g2.tz.trans g1.tz) hi2)
  rw [hst] at hr2
  refine ⟨_, _, _, hr, (shift_fmt4_eq m _ _ _ e e1 d x he1).trans hr1,
    (shift_fmt4_eq m _ _ _ e1 e2 d _ he2).trans hr2, ?_, rfl, rfl, fun h24 => ?_⟩
  · exact rec_eq_intro m _ _ rfl (optTpEq_refl m _) ((tpEq_iff m e2 e g2.strict.1 he).mpr hi2)
      (optDurEq_refl m d)
  · rw [addDur_neg_same m e e1 e2 _ _ he g1 g2 hi2 h24]

/-- **(r + x) − x == r** for an exact `x` (start/duration, `n ≥ 2`, exact interval). -/
theorem C14_shift_inverse (m : Mode) (n : Nat) (s : TP) (d x : Dur) (hn : 2 ≤ n) (hs : s.Valid m)
    (hex : d.isExact = true) (hpos : 0 < d.exactSeconds m) (hx : x.isExact = true) :
    ∃ r r1 r2, mkRec m (some (n : Int)) (some s) (some d) none = some r ∧ r.shift m x = some r1 ∧
      r1.shift m (x.mul (-1)) = some r2 ∧ Rec.eq m r2 r = true := by
  obtain ⟨r, r1, r2, h1, h2, h3, h4, _⟩ := shift_inverse_fmt3 m (some (n : Int)) s d x hs hx
    (accepted_exact m d hex hpos)
    (fun k h => by cases h; exact Int.ofNat_le.mpr hn)
  exact ⟨r, r1, r2, h1, h2, h3, h4⟩

/-! ## Non-vacuity: the witness of the repaired defect F4 -/

example : (⟨some 1, some ⟨.cal 2002 5 4, 23, 0, 0, ⟨0, 0⟩⟩, none, some ⟨.cal 2002 5 4, 23, 0, 0, ⟨0, 0⟩⟩,
    none, 4⟩ : Rec).shift .greg (.units 0 0 0 1 0 0) =
    some ⟨some 1, some ⟨.cal 2002 5 5, 0, 0, 0, ⟨0, 0⟩⟩, none, some ⟨.cal 2002 5 5, 0, 0, 0, ⟨0, 0⟩⟩,
    none, 4⟩ := by decide +kernel

/-! ## Shifting in the remaining notations (exact interval, exact shift of either sign)

  In each theorem `r` is what the constructor builds, `r'` what `r + x` builds.  Besides the
  stored fields, the iterated points are related in two ways: both iterations are arithmetic
  series (`SeriesOK`) whose first instants differ by `x`'s length, and pointwise — whenever the
  `k`-th iterated point of `r` is `p`, the `k`-th iterated point of `r'` exists and is a valid
  point exactly `x.exactSeconds m` seconds from `p`, in `p`'s representation and offset. -/

/-- **Shifting an unbounded start/duration recurrence (`R/start/d`, exact interval) by an exact
    `x`**: same (absent) repetitions, same interval, same notation, start moved by `x`; the first
    `fuel` points are the original first `fuel` points each moved by exactly `x`. -/
theorem C14_shift_start_duration_unbounded (m : Mode) (s : TP) (d x : Dur) (hs : s.Valid m)
    (hex : d.isExact = true) (hpos : 0 < d.exactSeconds m) (hx : x.isExact = true) (fuel : Nat) :
    ∃ r r' s', mkRec m none (some s) (some d) none = some r ∧
      addDur m s x = some s' ∧ s'.inst m = s.inst m + x.exactSeconds m ∧
      r.shift m x = some r' ∧ r.fmt = 3 ∧ r'.fmt = 3 ∧ r.reps = none ∧ r'.reps = none ∧
      r.dur = some d ∧ r'.dur = some d ∧ r.start = some s ∧ r'.start = some s' ∧
      (iter m r fuel).length = fuel ∧ (iter m r' fuel).length = fuel ∧
      SeriesOK m s.date.rep s.tz (iter m r fuel) (s.inst m) (d.exactSeconds m) ∧
      SeriesOK m s.date.rep s.tz (iter m r' fuel) (s.inst m + x.exactSeconds m) (d.exactSeconds m) ∧
      (∀ (k : Nat) (p : TP), (iter m r fuel)[k]? = some p →
        ∃ p', (iter m r' fuel)[k]? = some p' ∧ p'.inst m = p.inst m + x.exactSeconds m ∧
          p.Valid m ∧ p'.Valid m ∧ p'.date.rep = p.date.rep ∧ p'.tz = p.tz) := by
  obtain ⟨r, hr, hlen, hser⟩ := C12_start_duration_unbounded m s d hs hex hpos fuel
  cases hr.symm.trans (mkRec_fmt3_unbounded m s d hex hpos)
  obtain ⟨s', hs', g⟩ := addDur_exact m s x hs hx
  obtain ⟨r', hr', hlen', hser'⟩ := C12_start_duration_unbounded m s' d g.strict.1 hex hpos fuel
  cases hr'.symm.trans (mkRec_fmt3_unbounded m s' d hex hpos)
  rw [g.rep, g.tz, g.inst] at hser'
  have hpw := series_shift_get? m _ _ _ _ _ _ _ hser hser' (Nat.le_of_eq (hlen.trans hlen'.symm))
  refine ⟨_, _, s', hr, hs', g.inst, ?_, rfl, rfl, rfl, rfl, rfl, rfl, rfl, rfl, hlen, hlen', hser, hser', hpw⟩
  rw [shift_fmt3_eq m _ s s' d x _ _ hs', hr']

example : (⟨.cal 2002 5 4, 23, 0, 0, ⟨0, 0⟩⟩ : TP).Valid .greg ∧ (Dur.units 0 0 0 1 0 0).isExact = true ∧
    0 < (Dur.units 0 0 0 1 0 0).exactSeconds .greg ∧ (Dur.units 0 0 0 (-3) 0 0).isExact = true := by
  decide
example : (mkRec .greg none (some ⟨.cal 2002 5 4, 23, 0, 0, ⟨0, 0⟩⟩) (some (.units 0 0 0 1 0 0)) none).bind
    (fun r => (r.shift .greg (.units 0 0 0 (-3) 0 0)).map fun r' => (iter .greg r 3, iter .greg r' 3)) =
    some ([⟨.cal 2002 5 4, 23, 0, 0, ⟨0, 0⟩⟩, ⟨.cal 2002 5 5, 0, 0, 0, ⟨0, 0⟩⟩, ⟨.cal 2002 5 5, 1, 0, 0, ⟨0, 0⟩⟩],
      [⟨.cal 2002 5 4, 20, 0, 0, ⟨0, 0⟩⟩, ⟨.cal 2002 5 4, 21, 0, 0, ⟨0, 0⟩⟩, ⟨.cal 2002 5 4, 22, 0, 0, ⟨0, 0⟩⟩]) := by
  decide +kernel

/-- **Shifting a duration/end recurrence (`Rn/d/end`, `n ≥ 2`, exact interval) by an exact `x`**:
    same repetitions, same interval, same notation, end moved by `x`; the `n` points are the
    original `n` points each moved by exactly `x`. -/
theorem C14_shift_duration_end (m : Mode) (n : Nat) (e : TP) (d x : Dur) (hn : 2 ≤ n) (he : e.Valid m)
    (hex : d.isExact = true) (hpos : 0 < d.exactSeconds m) (hx : x.isExact = true)
    (fuel : Nat) (hf : n ≤ fuel) :
    ∃ r r' e', mkRec m (some (n : Int)) none (some d) (some e) = some r ∧
      addDur m e x = some e' ∧ e'.inst m = e.inst m + x.exactSeconds m ∧
      r.shift m x = some r' ∧ r.fmt = 4 ∧ r'.fmt = 4 ∧ r.reps = some (n : Int) ∧ r'.reps = some (n : Int) ∧
      r.dur = some d ∧ r'.dur = some d ∧ r.end_ = some e ∧ r'.end_ = some e' ∧
      (iter m r fuel).length = n ∧ (iter m r' fuel).length = n ∧
      SeriesOK m e.date.rep e.tz (iter m r fuel)
        (e.inst m - d.exactSeconds m * ((n : Int) - 1)) (d.exactSeconds m) ∧
      SeriesOK m e.date.rep e.tz (iter m r' fuel)
        (e.inst m - d.exactSeconds m * ((n : Int) - 1) + x.exactSeconds m) (d.exactSeconds m) ∧
      (∀ (k : Nat) (p : TP), (iter m r fuel)[k]? = some p →
        ∃ p', (iter m r' fuel)[k]? = some p' ∧ p'.inst m = p.inst m + x.exactSeconds m ∧
          p.Valid m ∧ p'.Valid m ∧ p'.date.rep = p.date.rep ∧ p'.tz = p.tz) := by
  obtain ⟨r, hr, hlen, hser⟩ := C12_duration_end_bounded m n e d hn he hex hpos fuel hf
  obtain ⟨s0, hr0, _⟩ := mkRec_fmt4_bounded m n e d (Int.ofNat_le.mpr hn) he hex hpos
  cases hr.symm.trans hr0
  obtain ⟨e', he', g⟩ := addDur_exact m e x he hx
  obtain ⟨r', hr', hlen', hser'⟩ := C12_duration_end_bounded m n e' d hn g.strict.1 hex hpos fuel hf
  obtain ⟨s1, hr1, _⟩ := mkRec_fmt4_bounded m n e' d (Int.ofNat_le.mpr hn) g.strict.1 hex hpos
  cases hr'.symm.trans hr1
  rw [g.rep, g.tz, g.inst] at hser'
  have e1 : e.inst m + x.exactSeconds m - d.exactSeconds m * ((n : Int) - 1) =
      e.inst m - d.exactSeconds m * ((n : Int) - 1) + x.exactSeconds m := by
    rw [Int.sub_eq_add_neg, Int.add_right_comm, ← Int.sub_eq_add_neg]
  rw [e1] at hser'
  have hpw := series_shift_get? m _ _ _ _ _ _ _ hser hser' (Nat.le_of_eq (hlen.trans hlen'.symm))
  refine ⟨_, _, e', hr, he', g.inst, ?_, rfl, rfl, rfl, rfl, rfl, rfl, rfl, rfl, hlen, hlen', hser, hser', hpw⟩
  rw [shift_fmt4_eq m _ _ _ e e' d x he', hr']

example : (2 : Nat) ≤ 3 ∧ (⟨.week 2004 31 2, 23, 59, 0, ⟨5, 30⟩⟩ : TP).Valid .greg ∧
    (Dur.weeks 2).isExact = true ∧ 0 < (Dur.weeks 2).exactSeconds .greg ∧
    (Dur.units 0 0 1 0 0 30).isExact = true := by decide
example : (mkRec .greg (some 3) none (some (.weeks 2)) (some ⟨.week 2004 31 2, 23, 59, 0, ⟨5, 30⟩⟩)).bind
    (fun r => (r.shift .greg (.units 0 0 1 0 0 30)).map fun r' => (iter .greg r 5, iter .greg r' 5)) =
    some ([⟨.week 2004 27 2, 23, 59, 0, ⟨5, 30⟩⟩, ⟨.week 2004 29 2, 23, 59, 0, ⟨5, 30⟩⟩,
        ⟨.week 2004 31 2, 23, 59, 0, ⟨5, 30⟩⟩],
      [⟨.week 2004 27 3, 23, 59, 30, ⟨5, 30⟩⟩, ⟨.week 2004 29 3, 23, 59, 30, ⟨5, 30⟩⟩,
        ⟨.week 2004 31 3, 23, 59, 30, ⟨5, 30⟩⟩]) := by
  decide +kernel

/-- **Shifting an unbounded duration/end recurrence (`R/d/end`, exact interval) by an exact `x`**:
    same (absent) repetitions, same interval, same notation, end moved by `x`; the first `fuel`
    points (iterated backwards from the end) are the original ones each moved by exactly `x`. -/
theorem C14_shift_duration_end_unbounded (m : Mode) (e : TP) (d x : Dur) (he : e.Valid m)
    (hex : d.isExact = true) (hpos : 0 < d.exactSeconds m) (hx : x.isExact = true) (fuel : Nat) :
    ∃ r r' e', mkRec m none none (some d) (some e) = some r ∧
      addDur m e x = some e' ∧ e'.inst m = e.inst m + x.exactSeconds m ∧
      r.shift m x = some r' ∧ r.fmt = 4 ∧ r'.fmt = 4 ∧ r.reps = none ∧ r'.reps = none ∧
      r.dur = some d ∧ r'.dur = some d ∧ r.end_ = some e ∧ r'.end_ = some e' ∧
      (iter m r fuel).length = fuel ∧ (iter m r' fuel).length = fuel ∧
      SeriesOK m e.date.rep e.tz (iter m r fuel) (e.inst m) (-(d.exactSeconds m)) ∧
      SeriesOK m e.date.rep e.tz (iter m r' fuel) (e.inst m + x.exactSeconds m) (-(d.exactSeconds m)) ∧
      (∀ (k : Nat) (p : TP), (iter m r fuel)[k]? = some p →
        ∃ p', (iter m r' fuel)[k]? = some p' ∧ p'.inst m = p.inst m + x.exactSeconds m ∧
          p.Valid m ∧ p'.Valid m ∧ p'.date.rep = p.date.rep ∧ p'.tz = p.tz) := by
  obtain ⟨r, hr, hlen, hser⟩ := C12_duration_end_unbounded m e d he hex hpos fuel
  cases hr.symm.trans (mkRec_fmt4_unbounded m e d hex hpos)
  obtain ⟨e', he', g⟩ := addDur_exact m e x he hx
  obtain ⟨r', hr', hlen', hser'⟩ := C12_duration_end_unbounded m e' d g.strict.1 hex hpos fuel
  cases hr'.symm.trans (mkRec_fmt4_unbounded m e' d hex hpos)
  rw [g.rep, g.tz, g.inst] at hser'
  have hpw := series_shift_get? m _ _ _ _ _ _ _ hser hser' (Nat.le_of_eq (hlen.trans hlen'.symm))
  refine ⟨_, _, e', hr, he', g.inst, ?_, rfl, rfl, rfl, rfl, rfl, rfl, rfl, rfl, hlen, hlen', hser, hser', hpw⟩
  rw [shift_fmt4_eq m _ _ _ e e' d x he', hr']

example : (⟨.ord 2000 366, 24, 0, 0, ⟨-3, 0⟩⟩ : TP).Valid .greg ∧
    (Dur.units 0 0 0 0 90 0).isExact = true ∧ 0 < (Dur.units 0 0 0 0 90 0).exactSeconds .greg ∧
    (Dur.weeks (-1)).isExact = true := by decide
example : (mkRec .greg none none (some (.units 0 0 0 0 90 0)) (some ⟨.ord 2000 366, 24, 0, 0, ⟨-3, 0⟩⟩)).bind
    (fun r => (r.shift .greg (.weeks (-1))).map fun r' => (iter .greg r 3, iter .greg r' 3)) =
    some ([⟨.ord 2000 366, 24, 0, 0, ⟨-3, 0⟩⟩, ⟨.ord 2000 366, 22, 30, 0, ⟨-3, 0⟩⟩,
        ⟨.ord 2000 366, 21, 0, 0, ⟨-3, 0⟩⟩],
      [⟨.ord 2000 360, 0, 0, 0, ⟨-3, 0⟩⟩, ⟨.ord 2000 359, 22, 30, 0, ⟨-3, 0⟩⟩,
        ⟨.ord 2000 359, 21, 0, 0, ⟨-3, 0⟩⟩]) := by
  decide +kernel

/-- **Shifting a start/second-point recurrence (`Rn/start/second`, `n ≥ 2`) by an exact `x`**:
    `__add__` re-runs the constructor on the moved start and the moved second point.  The result
    has the same repetitions and notation, an interval `d'` that is exact, of the same length as
    the original interval `d` (so `d' == d` as durations), and its `n` points are the original `n`
    points each moved by exactly `x`. -/
theorem C14_shift_start_second (m : Mode) (n : Nat) (s e2 : TP) (x : Dur) (hn : 2 ≤ n)
    (hs : s.Valid m) (he : e2.Valid m) (hlt : s.inst m < e2.inst m) (hx : x.isExact = true)
    (fuel : Nat) (hf : n ≤ fuel) :
    ∃ r r' s' e2' d d', mkRec m (some (n : Int)) (some s) none (some e2) = some r ∧
      addDur m s x = some s' ∧ s'.inst m = s.inst m + x.exactSeconds m ∧
      addDur m e2 x = some e2' ∧ e2'.inst m = e2.inst m + x.exactSeconds m ∧
      r.shift m x = some r' ∧ r.fmt = 1 ∧ r'.fmt = 1 ∧ r.reps = some (n : Int) ∧ r'.reps = some (n : Int) ∧
      r.dur = some d ∧ r'.dur = some d' ∧ d.isExact = true ∧ d'.isExact = true ∧
      d.exactSeconds m = e2.inst m - s.inst m ∧ d'.exactSeconds m = d.exactSeconds m ∧
      Dur.eq m d' d = true ∧
      r.start = some s ∧ r.second = some e2 ∧ r'.start = some s' ∧ r'.second = some e2' ∧
      (iter m r fuel).length = n ∧ (iter m r' fuel).length = n ∧
      SeriesOK m s.date.rep s.tz (iter m r fuel) (s.inst m) (e2.inst m - s.inst m) ∧
      SeriesOK m s.date.rep s.tz (iter m r' fuel) (s.inst m + x.exactSeconds m) (e2.inst m - s.inst m) ∧
      (∀ (k : Nat) (p : TP), (iter m r fuel)[k]? = some p →
        ∃ p', (iter m r' fuel)[k]? = some p' ∧ p'.inst m = p.inst m + x.exactSeconds m ∧
          p.Valid m ∧ p'.Valid m ∧ p'.date.rep = p.date.rep ∧ p'.tz = p.tz) := by
  obtain ⟨r, hr, hlen, hser⟩ := (C12_start_second m s e2 hs he hlt fuel).2 n hn hf
  obtain ⟨d, en, _, dex, dsec, hr0, _⟩ := mkRec_fmt1 m (some (n : Int)) s e2 hs he hlt
    (fun k h => by cases h; exact Int.ofNat_le.mpr hn)
  cases hr.symm.trans hr0
  obtain ⟨s', hs', g1⟩ := addDur_exact m s x hs hx
  obtain ⟨e2', he2', g2⟩ := addDur_exact m e2 x he hx
  have hlt' : s'.inst m < e2'.inst m := by rw [g1.inst, g2.inst]; exact Int.add_lt_add_right hlt _
  obtain ⟨r', hr', hlen', hser'⟩ := (C12_start_second m s' e2' g1.strict.1 g2.strict.1 hlt' fuel).2 n hn hf
  obtain ⟨d', en', _, dex', dsec', hr1, _⟩ := mkRec_fmt1 m (some (n : Int)) s' e2' g1.strict.1 g2.strict.1 hlt'
    (fun k h => by cases h; exact Int.ofNat_le.mpr hn)
  cases hr'.symm.trans hr1
  have estep : e2'.inst m - s'.inst m = e2.inst m - s.inst m := by
    rw [g1.inst, g2.inst]; exact Int.add_sub_add_right _ _ _
  rw [g1.rep, g1.tz, estep, g1.inst] at hser'
  have hpw := series_shift_get? m _ _ _ _ _ _ _ hser hser' (Nat.le_of_eq (hlen.trans hlen'.symm))
  have hdd : d'.exactSeconds m = d.exactSeconds m := dsec'.trans (estep.trans dsec.symm)
  refine ⟨_, _, s', e2', d, d', hr, hs', g1.inst, he2', g2.inst, ?_, rfl, rfl, rfl, rfl, rfl, rfl, dex, dex',
    dsec, hdd, dur_eq_of_exact m d' d dex' dex hdd, rfl, rfl, rfl, rfl, hlen, hlen', hser, hser', hpw⟩
  rw [shift_fmt1_eq m _ s s' e2 e2' _ _ x hs' he2', hr']

example : (2 : Nat) ≤ 4 ∧ (⟨.cal 2001 2 28, 12, 0, 0, ⟨1, 0⟩⟩ : TP).Valid .greg ∧
    (⟨.ord 2001 60, 6, 30, 0, ⟨-2, 0⟩⟩ : TP).Valid .greg ∧
    (⟨.cal 2001 2 28, 12, 0, 0, ⟨1, 0⟩⟩ : TP).inst .greg < (⟨.ord 2001 60, 6, 30, 0, ⟨-2, 0⟩⟩ : TP).inst .greg ∧
    (Dur.units 0 0 (-1) 0 0 0).isExact = true := by decide +kernel
example : (mkRec .greg (some 4) (some ⟨.cal 2001 2 28, 12, 0, 0, ⟨1, 0⟩⟩) none
      (some ⟨.ord 2001 60, 6, 30, 0, ⟨-2, 0⟩⟩)).bind
    (fun r => (r.shift .greg (.units 0 0 (-1) 0 0 0)).map fun r' =>
      ((r.dur, r'.dur, r'.reps, r'.fmt), iter .greg r 9, iter .greg r' 9)) =
    some ((some (.units 0 0 0 21 30 0), some (.units 0 0 0 21 30 0), some 4, 1),
      [⟨.cal 2001 2 28, 12, 0, 0, ⟨1, 0⟩⟩, ⟨.cal 2001 3 1, 9, 30, 0, ⟨1, 0⟩⟩,
        ⟨.cal 2001 3 2, 7, 0, 0, ⟨1, 0⟩⟩, ⟨.cal 2001 3 3, 4, 30, 0, ⟨1, 0⟩⟩],
      [⟨.cal 2001 2 27, 12, 0, 0, ⟨1, 0⟩⟩, ⟨.cal 2001 2 28, 9, 30, 0, ⟨1, 0⟩⟩,
        ⟨.cal 2001 3 1, 7, 0, 0, ⟨1, 0⟩⟩, ⟨.cal 2001 3 2, 4, 30, 0, ⟨1, 0⟩⟩]) := by
  decide +kernel

/-- **Shifting an unbounded start/second-point recurrence (`R/start/second`) by an exact `x`**:
    same (absent) repetitions and notation, an exact interval of the same length (`d' == d`), and
    the first `fuel` points are the original ones each moved by exactly `x`. -/
theorem C14_shift_start_second_unbounded (m : Mode) (s e2 : TP) (x : Dur)
    (hs : s.Valid m) (he : e2.Valid m) (hlt : s.inst m < e2.inst m) (hx : x.isExact = true)
    (fuel : Nat) :
    ∃ r r' s' e2' d d', mkRec m none (some s) none (some e2) = some r ∧
      addDur m s x = some s' ∧ s'.inst m = s.inst m + x.exactSeconds m ∧
      addDur m e2 x = some e2' ∧ e2'.inst m = e2.inst m + x.exactSeconds m ∧
      r.shift m x = some r' ∧ r.fmt = 1 ∧ r'.fmt = 1 ∧ r.reps = none ∧ r'.reps = none ∧
      r.dur = some d ∧ r'.dur = some d' ∧ d.isExact = true ∧ d'.isExact = true ∧
      d.exactSeconds m = e2.inst m - s.inst m ∧ d'.exactSeconds m = d.exactSeconds m ∧
      Dur.eq m d' d = true ∧
      r.start = some s ∧ r.second = some e2 ∧ r'.start = some s' ∧ r'.second = some e2' ∧
      (iter m r fuel).length = fuel ∧ (iter m r' fuel).length = fuel ∧
      SeriesOK m s.date.rep s.tz (iter m r fuel) (s.inst m) (e2.inst m - s.inst m) ∧
      SeriesOK m s.date.rep s.tz (iter m r' fuel) (s.inst m + x.exactSeconds m) (e2.inst m - s.inst m) ∧
      (∀ (k : Nat) (p : TP), (iter m r fuel)[k]? = some p →
        ∃ p', (iter m r' fuel)[k]? = some p' ∧ p'.inst m = p.inst m + x.exactSeconds m ∧
          p.Valid m ∧ p'.Valid m ∧ p'.date.rep = p.date.rep ∧ p'.tz = p.tz) := by
  obtain ⟨r, hr, hlen, hser⟩ := (C12_start_second m s e2 hs he hlt fuel).1
  obtain ⟨d, en, _, dex, dsec, hr0, _⟩ := mkRec_fmt1 m none s e2 hs he hlt (fun _ h => nomatch h)
  cases hr.symm.trans hr0
  obtain ⟨s', hs', g1⟩ := addDur_exact m s x hs hx
  obtain ⟨e2', he2', g2⟩ := addDur_exact m e2 x he hx
  have hlt' : s'.inst m < e2'.inst m := by rw [g1.inst, g2.inst]; exact Int.add_lt_add_right hlt _
  obtain ⟨r', hr', hlen', hser'⟩ := (C12_start_second m s' e2' g1.strict.1 g2.strict.1 hlt' fuel).1
  obtain ⟨d', en', _, dex', dsec', hr1, _⟩ := mkRec_fmt1 m none s' e2' g1.strict.1 g2.strict.1 hlt'
    (fun _ h => nomatch h)
  cases hr'.symm.trans hr1
  have estep : e2'.inst m - s'.inst m = e2.inst m - s.inst m := by
    rw [g1.inst, g2.inst]; exact Int.add_sub_add_right _ _ _
  rw [g1.rep, g1.tz, estep, g1.inst] at hser'
  have hpw := series_shift_get? m _ _ _ _ _ _ _ hser hser' (Nat.le_of_eq (hlen.trans hlen'.symm))
  have hdd : d'.exactSeconds m = d.exactSeconds m := dsec'.trans (estep.trans dsec.symm)
  refine ⟨_, _, s', e2', d, d', hr, hs', g1.inst, he2', g2.inst, ?_, rfl, rfl, rfl, rfl, rfl, rfl, dex, dex',
    dsec, hdd, dur_eq_of_exact m d' d dex' dex hdd, rfl, rfl, rfl, rfl, hlen, hlen', hser, hser', hpw⟩
  rw [shift_fmt1_eq m _ s s' e2 e2' _ _ x hs' he2', hr']

example : (⟨.cal 1999 12 30, 23, 0, 0, ⟨0, 0⟩⟩ : TP).Valid .d360 ∧
    (⟨.cal 2000 1 1, 1, 0, 0, ⟨0, 0⟩⟩ : TP).Valid .d360 ∧
    (⟨.cal 1999 12 30, 23, 0, 0, ⟨0, 0⟩⟩ : TP).inst .d360 < (⟨.cal 2000 1 1, 1, 0, 0, ⟨0, 0⟩⟩ : TP).inst .d360 ∧
    (Dur.units 0 0 0 0 0 3600).isExact = true := by decide +kernel
example : (mkRec .d360 none (some ⟨.cal 1999 12 30, 23, 0, 0, ⟨0, 0⟩⟩) none
      (some ⟨.cal 2000 1 1, 1, 0, 0, ⟨0, 0⟩⟩)).bind
    (fun r => (r.shift .d360 (.units 0 0 0 0 0 3600)).map fun r' =>
      ((r.dur, r'.dur, r'.reps, r'.fmt), iter .d360 r 2, iter .d360 r' 2)) =
    some ((some (.units 0 0 0 2 0 0), some (.units 0 0 0 2 0 0), none, 1),
      [⟨.cal 1999 12 30, 23, 0, 0, ⟨0, 0⟩⟩, ⟨.cal 2000 1 1, 1, 0, 0, ⟨0, 0⟩⟩],
      [⟨.cal 2000 1 1, 0, 0, 0, ⟨0, 0⟩⟩, ⟨.cal 2000 1 1, 2, 0, 0, ⟨0, 0⟩⟩]) := by
  decide +kernel

/-! ## `(r + x) − x == r` in the remaining notations

  As in `C14_shift_inverse`, `r − x` is `r + (-1)·x` (`TimeRecurrence.__sub__`), and `==` is
  `TimeRecurrence.__eq__` (`Rec.eq`).  The notation is kept as well. -/

/-- **(r + x) − x == r** for an exact `x` (unbounded start/duration, exact interval). -/
theorem C14_shift_inverse_start_duration_unbounded (m : Mode) (s : TP) (d x : Dur) (hs : s.Valid m)
    (hex : d.isExact = true) (hpos : 0 < d.exactSeconds m) (hx : x.isExact = true) :
    ∃ r r1 r2, mkRec m none (some s) (some d) none = some r ∧ r.shift m x = some r1 ∧
      r1.shift m (x.mul (-1)) = some r2 ∧ Rec.eq m r2 r = true ∧ r2.fmt = r.fmt := by
  obtain ⟨r, r1, r2, h1, h2, h3, h4, h5, _⟩ := shift_inverse_fmt3 m none s d x hs hx
    (accepted_exact m d hex hpos) (fun _ h => nomatch h)
  exact ⟨r, r1, r2, h1, h2, h3, h4, h5⟩

example : (mkRec .greg none (some ⟨.cal 2002 5 4, 23, 0, 0, ⟨0, 0⟩⟩) (some (.units 0 0 0 1 0 0)) none).bind
    (fun r => (r.shift .greg (.units 0 0 0 (-3) 0 0)).bind fun r1 =>
      (r1.shift .greg ((Dur.units 0 0 0 (-3) 0 0).mul (-1))).map fun r2 => (Rec.eq .greg r2 r, decide (r2 = r))) =
    some (true, true) := by decide +kernel

/-- **(r + x) − x == r** for an exact `x` (duration/end, `n ≥ 2`, exact interval). -/
theorem C14_shift_inverse_duration_end (m : Mode) (n : Nat) (e : TP) (d x : Dur) (hn : 2 ≤ n)
    (he : e.Valid m) (hex : d.isExact = true) (hpos : 0 < d.exactSeconds m) (hx : x.isExact = true) :
    ∃ r r1 r2, mkRec m (some (n : Int)) none (some d) (some e) = some r ∧ r.shift m x = some r1 ∧
      r1.shift m (x.mul (-1)) = some r2 ∧ Rec.eq m r2 r = true ∧ r2.fmt = r.fmt := by
  obtain ⟨r, r1, r2, h1, h2, h3, h4, h5, _⟩ := shift_inverse_fmt4 m (some (n : Int)) e d x he hx
    (accepted_exact m d hex hpos)
    (fun k h => by cases h; exact Int.ofNat_le.mpr hn)
  exact ⟨r, r1, r2, h1, h2, h3, h4, h5⟩

example : (mkRec .greg (some 3) none (some (.weeks 2)) (some ⟨.week 2004 31 2, 23, 59, 0, ⟨5, 30⟩⟩)).bind
    (fun r => (r.shift .greg (.units 0 0 1 0 0 30)).bind fun r1 =>
      (r1.shift .greg ((Dur.units 0 0 1 0 0 30).mul (-1))).map fun r2 => (Rec.eq .greg r2 r, decide (r2 = r))) =
    some (true, true) := by decide +kernel

/-- **(r + x) − x == r** for an exact `x` (unbounded duration/end, exact interval). -/
theorem C14_shift_inverse_duration_end_unbounded (m : Mode) (e : TP) (d x : Dur)
    (he : e.Valid m) (hex : d.isExact = true) (hpos : 0 < d.exactSeconds m) (hx : x.isExact = true) :
    ∃ r r1 r2, mkRec m none none (some d) (some e) = some r ∧ r.shift m x = some r1 ∧
      r1.shift m (x.mul (-1)) = some r2 ∧ Rec.eq m r2 r = true ∧ r2.fmt = r.fmt := by
  obtain ⟨r, r1, r2, h1, h2, h3, h4, h5, _⟩ := shift_inverse_fmt4 m none e d x he hx
    (accepted_exact m d hex hpos) (fun _ h => nomatch h)
  exact ⟨r, r1, r2, h1, h2, h3, h4, h5⟩

/-- The round trip need not give back the identical object: an end given as `24:00:00` comes back
    as `00:00:00` of the next day — the same instant, so `==` holds. -/
example : (mkRec .greg none none (some (.units 0 0 0 0 90 0)) (some ⟨.ord 2000 366, 24, 0, 0, ⟨-3, 0⟩⟩)).bind
    (fun r => (r.shift .greg (.weeks (-1))).bind fun r1 =>
      (r1.shift .greg ((Dur.weeks (-1)).mul (-1))).map fun r2 => (Rec.eq .greg r2 r, decide (r2 = r))) =
    some (true, false) := by decide +kernel

/-- **(r + x) − x == r for an exact `x`, start/second-point notation**, bounded or not: start and
    second point return to their instants, so the re-derived interval has the same length and the
    re-derived end bound the same instant. -/
theorem shift_inverse_fmt1 (m : Mode) (reps : Option Int) (s e2 : TP) (x : Dur) (hs : s.Valid m)
    (he : e2.Valid m) (hlt : s.inst m < e2.inst m) (hx : x.isExact = true)
    (hreps : ∀ n, reps = some n → 2 ≤ n) :
    ∃ r r1 r2, mkRec m reps (some s) none (some e2) = some r ∧ r.shift m x = some r1 ∧
      r1.shift m (x.mul (-1)) = some r2 ∧ Rec.eq m r2 r = true ∧ r2.fmt = r.fmt := by
  obtain ⟨s1, s2, hs1, gs1, hs2, gs2, his⟩ := addDur_neg_inst m s x hs hx
  obtain ⟨f1, f2, hf1, gf1, hf2, gf2, hif⟩ := addDur_neg_inst m e2 x he hx
  have hlt1 : s1.inst m < f1.inst m := by rw [gs1.inst, gf1.inst]; exact Int.add_lt_add_right hlt _
  have hlt2 : s2.inst m < f2.inst m := by rw [his, hif]; exact hlt
  obtain ⟨d0, en0, _, dex0, dsec0, hr0, _, hn0, hb0⟩ := mkRec_fmt1 m reps s e2 hs he hlt hreps
  obtain ⟨d1, en1, _, _, _, hr1, _⟩ := mkRec_fmt1 m reps s1 f1 gs1.strict.1 gf1.strict.1 hlt1 hreps
  obtain ⟨d2, en2, _, dex2, dsec2, hr2, _, hn2, hb2⟩ := mkRec_fmt1 m reps s2 f2 gs2.strict.1 gf2.strict.1 hlt2 hreps
  have hen : optTpEq m en2 en0 = true := by
    cases reps with
    | none => rw [hn0 rfl, hn2 rfl]; rfl
    | some n =>
      obtain ⟨a0, rfl, sa0, ia0, _⟩ := hb0 n rfl
      obtain ⟨a2, rfl, sa2, ia2, _⟩ := hb2 n rfl
      exact (tpEq_iff m a2 a0 sa2.1 sa0.1).mpr (by rw [ia2, ia0, his, hif])
  exact ⟨_, _, _, hr0, (shift_fmt1_eq m _ s s1 e2 f1 _ _ x hs1 hf1).trans hr1,
    (shift_fmt1_eq m _ s1 s2 f1 f2 _ _ _ hs2 hf2).trans hr2,
    rec_eq_intro m _ _ rfl ((tpEq_iff m s2 s gs2.strict.1 hs).mpr his) hen
      (dur_eq_of_exact m d2 d0 dex2 dex0 (by rw [dsec2, dsec0, his, hif])), rfl⟩

/-- **(r + x) − x == r** for an exact `x` (start/second-point, `n ≥ 2`). -/
theorem C14_shift_inverse_start_second (m : Mode) (n : Nat) (s e2 : TP) (x : Dur) (hn : 2 ≤ n)
    (hs : s.Valid m) (he : e2.Valid m) (hlt : s.inst m < e2.inst m) (hx : x.isExact = true) :
    ∃ r r1 r2, mkRec m (some (n : Int)) (some s) none (some e2) = some r ∧ r.shift m x = some r1 ∧
      r1.shift m (x.mul (-1)) = some r2 ∧ Rec.eq m r2 r = true ∧ r2.fmt = r.fmt := by
  exact shift_inverse_fmt1 m (some (n : Int)) s e2 x hs he hlt hx
    (fun k h => by cases h; exact Int.ofNat_le.mpr hn)

example : (mkRec .greg (some 4) (some ⟨.cal 2001 2 28, 12, 0, 0, ⟨1, 0⟩⟩) none
      (some ⟨.ord 2001 60, 6, 30, 0, ⟨-2, 0⟩⟩)).bind
    (fun r => (r.shift .greg (.units 0 0 (-1) 0 0 0)).bind fun r1 =>
      (r1.shift .greg ((Dur.units 0 0 (-1) 0 0 0).mul (-1))).map fun r2 => (Rec.eq .greg r2 r, decide (r2 = r))) =
    some (true, true) := by decide +kernel

/-- **(r + x) − x == r** for an exact `x` (unbounded start/second-point). -/
theorem C14_shift_inverse_start_second_unbounded (m : Mode) (s e2 : TP) (x : Dur)
    (hs : s.Valid m) (he : e2.Valid m) (hlt : s.inst m < e2.inst m) (hx : x.isExact = true) :
    ∃ r r1 r2, mkRec m none (some s) none (some e2) = some r ∧ r.shift m x = some r1 ∧
      r1.shift m (x.mul (-1)) = some r2 ∧ Rec.eq m r2 r = true ∧ r2.fmt = r.fmt := by
  exact shift_inverse_fmt1 m none s e2 x hs he hlt hx (fun _ h => nomatch h)

example : (mkRec .d360 none (some ⟨.cal 1999 12 30, 23, 0, 0, ⟨0, 0⟩⟩) none
      (some ⟨.cal 2000 1 1, 1, 0, 0, ⟨0, 0⟩⟩)).bind
    (fun r => (r.shift .d360 (.units 0 0 0 0 0 3600)).bind fun r1 =>
      (r1.shift .d360 ((Dur.units 0 0 0 0 0 3600).mul (-1))).map fun r2 => (Rec.eq .d360 r2 r, decide (r2 = r))) =
    some (true, true) := by decide +kernel

/-- **A single-point start/second-point recurrence keeps its anchor when shifted.**  The
    constructor stores `R1/start/second` as the single point `start`, and `Rn/start/second`
    (or `R/start/second`) with `second == start` as the single point `start` too (keeping the
    given second point).  Shifting either by an exact `x` gives the single-point recurrence at
    `start + x`, which iterates exactly that point. -/
theorem C14_shift_single_start_second (m : Mode) (s e2 : TP) (x : Dur) (hs : s.Valid m) (he : e2.Valid m)
    (hx : x.isExact = true) (fuel : Nat) (hf : 1 ≤ fuel) :
    ∃ s', addDur m s x = some s' ∧ s'.inst m = s.inst m + x.exactSeconds m ∧ s'.Valid m ∧
      s'.date.rep = s.date.rep ∧ s'.tz = s.tz ∧
      mkRec m (some 1) (some s) none (some e2) = some ⟨some 1, some s, none, some s, some s, 1⟩ ∧
      (s.inst m = e2.inst m → ∀ reps : Option Int, (∀ n, reps = some n → 2 ≤ n) →
        mkRec m reps (some s) none (some e2) = some ⟨some 1, some s, none, some e2, some e2, 1⟩) ∧
      (⟨some 1, some s, none, some s, some s, 1⟩ : Rec).shift m x =
        some ⟨some 1, some s', none, some s', some s', 1⟩ ∧
      (⟨some 1, some s, none, some e2, some e2, 1⟩ : Rec).shift m x =
        some ⟨some 1, some s', none, some s', some s', 1⟩ ∧
      iter m ⟨some 1, some s, none, some s, some s, 1⟩ fuel = [s] ∧
      (s.inst m = e2.inst m → iter m ⟨some 1, some s, none, some e2, some e2, 1⟩ fuel = [s]) ∧
      iter m ⟨some 1, some s', none, some s', some s', 1⟩ fuel = [s'] := by
  obtain ⟨s', hs', g⟩ := addDur_exact m s x hs hx
  obtain ⟨e2', he2', _⟩ := addDur_exact m e2 x he hx
  have hmk := mkRec_one1 m
  have hit : ∀ a : TP, iter m ⟨some 1, some a, none, some a, some a, 1⟩ fuel = [a] := fun a =>
    iter_single m _ a rfl rfl (inBounds_self m a _ 1) fuel hf
  refine ⟨s', hs', g.inst, g.strict.1, g.rep, g.tz, hmk s e2, ?_, ?_, ?_, hit s, ?_, hit s'⟩
  · intro heq reps hreps
    have c1 : tpEq m s e2 = true := (tpEq_iff m s e2 hs he).mpr heq
    cases reps with
    | none =>
      unfold mkRec
      simp only [Bool.false_eq_true, ↓reduceIte, reduceCtorEq, c1]
    | some n =>
      have h2 := hreps n rfl
      have k1 : ¬ n ≤ 0 := by omega
      have k2 : ¬ (n = 1) := by omega
      unfold mkRec
      simp only [k1, decide_false, Bool.false_eq_true, ↓reduceIte, Option.some.injEq, k2, c1]
  · rw [shift_fmt1_eq m _ s s' s s' _ _ x hs' hs']; exact hmk s' s'
  · rw [shift_fmt1_eq m _ s s' e2 e2' _ _ x hs' he2']; exact hmk s' e2'
  · intro heq
    refine iter_single m _ s rfl rfl ?_ fuel hf
    rw [inBounds_iff m _ (fun s' h => by cases h; exact hs) (fun e' h => by cases h; exact he) s hs]
    exact ⟨fun s' h => by cases h; exact Int.le_refl _, fun e' h => by cases h; exact Int.le_of_eq heq⟩

example : (⟨.cal 2002 5 4, 23, 0, 0, ⟨0, 0⟩⟩ : TP).Valid .greg ∧ (⟨.cal 2002 5 5, 1, 0, 0, ⟨2, 0⟩⟩ : TP).Valid .greg ∧
    (⟨.cal 2002 5 4, 23, 0, 0, ⟨0, 0⟩⟩ : TP).inst .greg = (⟨.cal 2002 5 5, 1, 0, 0, ⟨2, 0⟩⟩ : TP).inst .greg ∧
    (Dur.units 0 0 0 1 0 0).isExact = true := by decide +kernel
example : (mkRec .greg (some 5) (some ⟨.cal 2002 5 4, 23, 0, 0, ⟨0, 0⟩⟩) none
      (some ⟨.cal 2002 5 5, 1, 0, 0, ⟨2, 0⟩⟩)).bind (fun r => r.shift .greg (.units 0 0 0 1 0 0)) =
    some ⟨some 1, some ⟨.cal 2002 5 5, 0, 0, 0, ⟨0, 0⟩⟩, none, some ⟨.cal 2002 5 5, 0, 0, 0, ⟨0, 0⟩⟩,
      some ⟨.cal 2002 5 5, 0, 0, 0, ⟨0, 0⟩⟩, 1⟩ := by decide +kernel

end IsoDT.Props.C14
