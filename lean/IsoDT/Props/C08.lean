/-
  C08 — Writing a time point out and reading it back is lossless.

  `IsoDT.Text.str` mirrors `TimePoint.__str__` / `_get_dump_format` / `TimePointDumper.dump`; the
  dumper's substitution rules are `Gen.Templates.dumpTables`, regenerated from the live
  `TimePointDumper._rec_formats`.  Agreement with the Python: driver ops `tround`, `tdump`.
-/
import IsoDT.Lemmas.TextRoundParse

namespace IsoDT.Props.C08
open IsoDT IsoDT.Text
open IsoDT.Spec (Date TZ TP)

/-- The year as `_get_dump_format` spells it: sign (only with expanded digits) and `4 + ned` digits. -/
def yearText (ned : Nat) (y : Int) : List Char :=
  if ned ≠ 0 then (if y < 0 then '-' else '+') :: padNat (4 + ned) y.natAbs else padNat 4 y.natAbs

def dateSuffix : Date → List Char
  | .cal .. => ['-', 'M', 'M', '-', 'D', 'D']
  | .ord .. => ['-', 'D', 'D', 'D']
  | .week .. => ['-', 'W', 'w', 'w', '-', 'D']

def zoneSuffix (z : TZ) : List Char :=
  if z.h = 0 ∧ z.mi = 0 then ['Z'] else ['+', 'h', 'h', ':', 'm', 'm']

/-- **C08 (default format)**: for a whole-second point in any of the three representations,
    `_get_dump_format` is the year digits (signed iff expanded digits are agreed) followed by the
    extended complete date, `Thh:mm:ss` and `Z` or `+hh:mm`; a negative year without expanded digits is
    the documented `OverflowError`. -/
theorem C08_default_format (ned : Nat) (p : TP) :
    getDumpFormat (XTP.ofTP ned p) =
      if ned = 0 ∧ dateYear p.date < 0 then .error .overflow
      else .ok (yearText ned (dateYear p.date) ++ dateSuffix p.date ++
        ['T', 'h', 'h', ':', 'm', 'm', ':', 's', 's'] ++ zoneSuffix p.tz) := by
  rw [getDumpFormat_eq _ (dateYear p.date) (dateSuffix p.date) (ofTP_year ned p)
    (by obtain ⟨dt, hh, mi, ss, tz⟩ := p; cases dt <;> rfl), ofTP_ned, ofTP_minute, ofTP_second, ofTP_tz,
    show (XTP.ofTP ned p).secondDec = none by obtain ⟨dt, hh, mi, ss, tz⟩ := p; cases dt <;> rfl]
  have ht : 'T' :: (timeFmt (some p.mi) (some p.ss) none ++ Text.zoneSuffix p.tz) =
      ['T', 'h', 'h', ':', 'm', 'm', ':', 's', 's'] ++ zoneSuffix p.tz := rfl
  rw [ht]
  unfold yearText
  by_cases hn : ned = 0
  · subst hn
    by_cases hy : dateYear p.date < 0
    · simp only [ne_eq, not_true_eq_false, if_false, hy, if_true, and_self]
    · simp only [ne_eq, not_true_eq_false, if_false, hy, and_false, List.append_assoc]
  · simp only [ne_eq, hn, not_false_eq_true, if_true, false_and, if_false, List.append_assoc]

example : getDumpFormat (XTP.ofTP 2 ⟨.week (-396) 53 7, 24, 0, 0, ⟨0, -30⟩⟩) =
    .ok "-000396-Www-DThh:mm:ss+hh:mm".toList := by rfl

/-- **C08 (writing)**: for every valid whole-second point `p` — calendar, ordinal or week
    representation, any of the four calendar modes, any legal UTC offset (also zero hours with
    negative minutes), 24:00:00 included — whose year is within the range the agreed number of
    expanded year digits can spell (0000–9999 without, `|y| < 10^(4+ned)` with), `str(p)` is exactly
    the specified ISO 8601 text `stdText ned p`: signed-iff-expanded year digits, the complete
    extended date in `p`'s own representation, `Thh:mm:ss`, and `Z` or `±hh:mm`. -/
theorem C08_str (m : Mode) (ned : Nat) (hned : ned = 0 ∨ ned = 2 ∨ ned = 3) (p : TP) (hv : p.Valid m)
    (hy : YearInRange ned (dateYear p.date)) :
    str m (XTP.ofTP ned p) = .ok (stdText ned p) := str_eq_stdText m ned hned p hv hy

/-- **C08 (reading)**: a parser with the matching number of expanded year digits and extended
    notation allowed — whatever its `allow_truncated` setting and default-zone configuration —
    decodes that text to exactly `p`, field for field: same representation, same offset, not
    truncated, zone known, no decimals. -/
theorem C08_parse (cfg : Cfg) (hpt : cfg.pt ∈ Gen.Templates.parserTables) (hb : cfg.pt.basicOnly = false)
    (p : TP) (hv : p.Valid cfg.mode) (hy : YearInRange cfg.pt.ned (dateYear p.date)) :
    parse cfg (stdText cfg.pt.ned p) false = some (XTP.ofTP cfg.pt.ned p) :=
  parse_stdText cfg hpt hb p hv hy

/-- **C08 (round trip)**: writing a valid whole-second point out and reading it back is lossless,
    and `str` is a fixpoint: `str(p)` succeeds with some text, `parse(text)` is a point with exactly
    `p`'s representation, offset and field values, and `str` of that point is the same text again —
    for all three date representations, expanded and negative years, 24:00:00, every UTC offset,
    every calendar mode, every parser default-zone / truncation setting. -/
theorem C08_roundtrip (cfg : Cfg) (hpt : cfg.pt ∈ Gen.Templates.parserTables) (hb : cfg.pt.basicOnly = false)
    (p : TP) (hv : p.Valid cfg.mode) (hy : YearInRange cfg.pt.ned (dateYear p.date)) :
    ∃ text q, str cfg.mode (XTP.ofTP cfg.pt.ned p) = .ok text ∧ parse cfg text false = some q ∧
      q = XTP.ofTP cfg.pt.ned p ∧ q.toTP? = some p ∧ str cfg.mode q = .ok text := by
  have hs := C08_str cfg.mode cfg.pt.ned (tables_ned cfg.pt hpt) p hv hy
  exact ⟨stdText cfg.pt.ned p, XTP.ofTP cfg.pt.ned p, hs, C08_parse cfg hpt hb p hv hy, rfl,
    ofTP_toTP cfg.pt.ned p, hs⟩

/-- Outside the agreed digits the property does not apply: year 10000 without expanded digits
    prints five digits, which the four-digit parser refuses. -/
theorem C08_year_out_of_range_example :
    (match str .greg (XTP.ofTP 0 ⟨.cal 10000 1 1, 0, 0, 0, ⟨0, 0⟩⟩) with
      | .ok t => t == "10000-01-01T00:00:00Z".toList &&
          (parse ⟨Gen.Templates.parser_0_all, false, .unknown, .greg⟩ t false).isNone
      | .error _ => false) = true := by decide +kernel

/-- Non-vacuity: the round trip instantiated at a week date in year -396, 24:00:00, offset -00:30,
    two expanded digits, a parser that allows truncated forms and assumes +05:30. -/
example : ∃ text q, str .greg (XTP.ofTP 2 ⟨.week (-396) 53 7, 24, 0, 0, ⟨0, -30⟩⟩) = .ok text ∧
    parse ⟨Gen.Templates.parser_2_all, true, .assumed 5 30, .greg⟩ text false = some q ∧
    q = XTP.ofTP 2 ⟨.week (-396) 53 7, 24, 0, 0, ⟨0, -30⟩⟩ ∧
    q.toTP? = some ⟨.week (-396) 53 7, 24, 0, 0, ⟨0, -30⟩⟩ ∧ str .greg q = .ok text :=
  C08_roundtrip ⟨Gen.Templates.parser_2_all, true, .assumed 5 30, .greg⟩ (.tail _ (.tail _ (.head _))) rfl
    ⟨.week (-396) 53 7, 24, 0, 0, ⟨0, -30⟩⟩ (by decide +kernel) (by decide +kernel)

end IsoDT.Props.C08
