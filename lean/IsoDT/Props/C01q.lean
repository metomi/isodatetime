/-
  C01 (rational slots) — `_tick_over` and the exact part of `TimePoint.__add__` are exact as
  ALGORITHMS, for every reduced-precision form.

  The Python keeps `_hour_of_day`, `_minute_of_hour`, `_second_of_minute` as floats, the last two
  possibly `None` (decimal seconds / decimal minutes / decimal hours).  `Model.TimePointQ` runs the
  same statements over exact rationals.  Proved here, for all four calendar modes, the three date
  representations, any offset, 24:00 included, every year in `Int`, durations of either sign:

  * `C01_tick_over_rat`: from ANY slot values (fractions in any slot, any size, either sign — the
    state after `slot += x`), `_tick_over` keeps the instant and ends with a legal point,
    `hh < 24`, same representation, offset and `None` pattern;
  * `C01_add_exact_rat`: adding days/hours/minutes/seconds (fractional h/m/s) to a legal point moves
    the instant by exactly the duration's length, result legal, `hh < 24`, same representation,
    offset and `None` pattern;
  * `C01_rat_extends_int`: on whole-second points and whole-number durations the rational model
    coincides with the integer model of `Props/C01.lean`.

  What this does NOT say: anything about binary rounding in the real float computation (e.g.
  `divmod(-1e-17, 60) == (-1.0, 60.0)` in floats, where the rational remainder is just below 60).
-/
import IsoDT.Lemmas.TickQ

namespace IsoDT.Props.C01
open IsoDT IsoDT.Model IsoDT.Lemmas
open IsoDT.Spec (Date TZ TP)

/-- `_tick_over` from any intermediate state of an addition: a calendar month in 1..12, the
    second slot present only if the minute slot is, every slot value anywhere in `Rat`. -/
theorem C01_tick_over_rat (m : Mode) (p : TPQ) (hp : PreValid p.date)
    (hs : p.ss.isSome = true → p.mi.isSome = true) (htz : p.tz.Valid) :
    ∃ q, tickOverQ m p = some q ∧ q.inst m = p.inst m ∧ q.Valid m ∧ q.hh < 24 ∧
      q.date.rep = p.date.rep ∧ q.tz = p.tz ∧ q.mi.isSome = p.mi.isSome ∧
      q.ss.isSome = p.ss.isSome := by
  obtain ⟨q, he, g⟩ := tickOverQ_spec m p hp hs htz
  exact ⟨q, he, g.inst.trans (Rat.add_zero _), g.valid, g.lt24, g.rep, g.tz, g.mi, g.ss⟩

/-- The one shape on which the Python raises (`None += number` in the seconds carry): a second
    slot without a minute slot.  No constructor path produces it. -/
theorem C01_tick_over_rat_bad_pattern (m : Mode) (p : TPQ) (h1 : p.mi = none) (h2 : p.ss.isSome = true) :
    tickOverQ m p = none := by
  obtain ⟨date, hh, mi, ss, tz⟩ := p
  cases ss with
  | none => simp at h2
  | some s => subst h1; simp [tickOverQ, tickTimeQ]

/-- **C01 over rationals**: `p + d` for exact units `d` denotes the instant of `p` shifted by
    exactly the length of `d`; it is a legal point with `hh < 24`, in `p`'s representation, UTC
    offset and precision form. -/
theorem C01_add_exact_rat (m : Mode) (p : TPQ) (d : DurQ) (hv : p.Valid m) :
    ∃ q, addExactQ m p d = some q ∧ q.inst m = p.inst m + d.seconds ∧ q.Valid m ∧ q.hh < 24 ∧
      q.date.rep = p.date.rep ∧ q.tz = p.tz ∧ (q.mi.isSome = p.mi.isSome) ∧
      (q.ss.isSome = p.ss.isSome) := by
  obtain ⟨q, he, g⟩ := addExactQ_spec m p d hv
  exact ⟨q, he, g.inst, g.valid, g.lt24, g.rep, g.tz, g.mi, g.ss⟩

/-- `_tick_over` on a whole-second point: the same answer as the integer model. -/
theorem C01_tick_over_rat_extends_int (m : Mode) (p : TP) :
    tickOverQ m (TPQ.ofTP p) = (tickOver m p).map TPQ.ofTP := tickOverQ_ofTP m p

/-- The exact part of `__add__` on a whole-second point and whole-number units: the same answer as
    the integer model (`addUnits`, hence `addDur` on a duration without years and months). -/
theorem C01_rat_extends_int (m : Mode) (p : TP) (d h mi s : Int) :
    addExactQ m (TPQ.ofTP p) ⟨d, (h : Rat), (mi : Rat), (s : Rat)⟩ =
      (addUnits m p d h mi s).map TPQ.ofTP := addExactQ_ofTP m p d h mi s

theorem C01_rat_extends_addDur (m : Mode) (p : TP) (d h mi s : Int) :
    addExactQ m (TPQ.ofTP p) ⟨d, (h : Rat), (mi : Rat), (s : Rat)⟩ =
      (addDur m p (.units 0 0 d h mi s)).map TPQ.ofTP := by
  rw [addExactQ_ofTP, addUnits_eq_addDur]

/-- The embedding keeps the meaning … -/
theorem C01_ofTP_inst (m : Mode) (p : TP) : (TPQ.ofTP p).inst m = ((p.inst m : Int) : Rat) := ofTP_inst m p

/-- … and legality. -/
theorem C01_ofTP_valid (m : Mode) (p : TP) : (TPQ.ofTP p).Valid m ↔ p.Valid m := ofTP_valid m p

-- 2000-02-28T23:59:59.75 + PT0.5S crosses midnight into the leap day
example : (⟨.cal 2000 2 28, 23, some 59, some (239/4), ⟨0, 0⟩⟩ : TPQ).Valid .greg := by decide +kernel
example : addExactQ .greg ⟨.cal 2000 2 28, 23, some 59, some (239/4), ⟨0, 0⟩⟩ ⟨0, 0, 0, 1/2⟩ =
    some ⟨.cal 2000 2 29, 0, some 0, some (1/4), ⟨0, 0⟩⟩ := by decide +kernel
-- decimal-hour point 12.5h + PT45.25M
example : (⟨.ord 2001 59, 25/2, none, none, ⟨5, 30⟩⟩ : TPQ).Valid .greg := by decide +kernel
example : addExactQ .greg ⟨.ord 2001 59, 25/2, none, none, ⟨5, 30⟩⟩ ⟨0, 0, 181/4, 0⟩ =
    some ⟨.ord 2001 59, 3181/240, none, none, ⟨5, 30⟩⟩ := by decide +kernel
-- decimal-minute week-date point, negative fractional duration crossing the start of a (week-)year
example : (⟨.week 2021 1 1, 0, some (1/2), none, ⟨0, -30⟩⟩ : TPQ).Valid .greg := by decide +kernel
example : addExactQ .greg ⟨.week 2021 1 1, 0, some (1/2), none, ⟨0, -30⟩⟩ ⟨0, 0, 0, -91/2⟩ =
    some ⟨.week 2020 53 7, 23, some (7169/120), none, ⟨0, -30⟩⟩ := by decide +kernel
-- 24:00 in decimal-hour form, nothing added: normalised to next day 00
example : addExactQ .d360 ⟨.cal 2000 12 30, 24, none, none, ⟨0, 0⟩⟩ ⟨0, 0, 0, 0⟩ =
    some ⟨.cal 2001 1 1, 0, none, none, ⟨0, 0⟩⟩ := by decide +kernel
-- fractional hours on a full-precision point are pushed down into minutes and seconds
example : addExactQ .greg ⟨.cal 2001 1 1, 0, some 0, some 0, ⟨0, 0⟩⟩ ⟨-1, -1/7, 0, 0⟩ =
    some ⟨.cal 2000 12 30, 23, some 51, some (180/7), ⟨0, 0⟩⟩ := by decide +kernel
-- truncation toward zero (not floor) in the push-down: hh = -3/2 gives hour -1, minute -30
example : tickOverQ .greg ⟨.cal 2001 1 1, -3/2, some 0, some 0, ⟨0, 0⟩⟩ =
    some ⟨.cal 2000 12 31, 22, some 30, some 0, ⟨0, 0⟩⟩ := by decide +kernel
example : tickOverQ .greg ⟨.cal 2001 1 1, 0, none, some 1, ⟨0, 0⟩⟩ = none := by decide +kernel

end IsoDT.Props.C01
