/-
  C12 (month/year intervals) — a recurrence whose interval has months and/or years iterates by
  repeated nominal addition.

  `NominalNonneg d`: `d` is in unit form, every component is `≥ 0` and years or months are
  non-zero (`P1M`, `P1Y2M3D`, `P1YT12H`, …).  `repeatAdd m d n p` is the list
  `p, p+d, (p+d)+d, …` of `n` points, each one `Model.addDur` (= `TimePoint.__add__`) applied to
  the previous point; `repeatSub` likewise with `Model.subDur`.

  The idea: one nominal step lands strictly later (clamping never moves a point back), so for every
  notation the iteration is the series of repeated additions (subtractions for `R/d/end`) cut at the
  first point beyond the derived bound — for every mode, date representation and offset, 24:00
  starts included.  How many points that is depends on clamping (`C12_count_counterexample_nominal`
  in `Props/C12.lean`, known finding F5), and the end of `Rn/d/end` need not be among the points.
  `Props/C13c.lean` and `Props/C14c.lean` build on this file.
-/
import IsoDT.Props.C12
import IsoDT.Lemmas.RecNominal

namespace IsoDT.Props.C12
open IsoDT IsoDT.Model IsoDT.Lemmas
open IsoDT.Spec (Date TZ TP)

theorem mem_takeWhile_of_increasing (m : Mode) (E : Int) : ∀ (l : List TP),
    l.Pairwise (fun a b => a.inst m < b.inst m) → ∀ x ∈ l, x.inst m ≤ E →
      x ∈ l.takeWhile (fun p => decide (p.inst m ≤ E)) := by
  intro l
  induction l with
  | nil => intro _ x h; cases h
  | cons a t ih =>
    intro hp x hx hle
    rw [List.pairwise_cons] at hp
    have ca : decide (a.inst m ≤ E) = true := by
      rw [decide_eq_true_iff]
      rcases List.mem_cons.mp hx with rfl | hx
      · exact hle
      · have := hp.1 x hx; omega
    rw [List.takeWhile_cons_of_pos (p := fun p : TP => decide (p.inst m ≤ E)) ca]
    rcases List.mem_cons.mp hx with rfl | hx
    · exact List.mem_cons_self
    · exact List.mem_cons_of_mem _ (ih hp.2 x hx hle)

/-- **One nominal step lands strictly later.**  For a valid point `p` (24:00 allowed) and a
    non-negative interval `d` with years or months non-zero, `p + d` is defined, is a valid point
    with `0 ≤ h < 24` in `p`'s representation and offset, and denotes a strictly later instant
    (at least one day more than the exact part of `d`): end-of-month / leap-day / week-53
    clamping never moves a point back to or before where it started. -/
theorem C12_nominal_step_later (m : Mode) (p : TP) (d : Dur) (hp : p.Valid m) (hd : NominalNonneg d) :
    ∃ q, addDur m p d = some q ∧ q.Strict m ∧ q.date.rep = p.date.rep ∧ q.tz = p.tz ∧
      p.inst m < q.inst m ∧ p.inst m + d.exactSeconds m + 86400 ≤ q.inst m :=
  addDur_nominal_lt m p d hp hd

example : NominalNonneg (.units 0 1 0 0 0 0) ∧ (⟨.cal 2001 1 31, 24, 0, 0, ⟨1, 0⟩⟩ : TP).Valid .greg ∧
    addDur .greg ⟨.cal 2001 1 31, 24, 0, 0, ⟨1, 0⟩⟩ (.units 0 1 0 0 0 0) =
      some ⟨.cal 2001 3 1, 0, 0, 0, ⟨1, 0⟩⟩ := by decide +kernel

/-- The symmetric fact: `p − d` is strictly earlier. -/
theorem C12_nominal_step_earlier (m : Mode) (p : TP) (d : Dur) (hp : p.Valid m) (hd : NominalNonneg d) :
    ∃ q, subDur m p d = some q ∧ q.Strict m ∧ q.date.rep = p.date.rep ∧ q.tz = p.tz ∧
      q.inst m < p.inst m ∧ q.inst m + d.exactSeconds m + 86400 ≤ p.inst m :=
  subDur_nominal_lt m p d hp hd

example : NominalNonneg (.units 1 0 0 0 0 0) ∧ (⟨.ord 2004 366, 12, 0, 0, ⟨0, 0⟩⟩ : TP).Valid .greg ∧
    subDur .greg ⟨.ord 2004 366, 12, 0, 0, ⟨0, 0⟩⟩ (.units 1 0 0 0 0 0) =
      some ⟨.ord 2003 365, 12, 0, 0, ⟨0, 0⟩⟩ := by decide +kernel

theorem iter_nominal_unbounded (m : Mode) (r : Rec) (d : Dur) (hr : NomRec m r d) (s : TP)
    (hs : r.start = some s) (hen : r.end_ = none) (fuel : Nat) : iter m r fuel = repeatAdd m d fuel s := by
  obtain ⟨hi, hb, _⟩ := iter_fwd_spec m r d _ hr.stepRec s hs fuel
  rw [hi, takeWhile_all _ _ fun q hq => (hb q hq).mpr fun e h => by rw [hen] at h; cases h]

/-- **start/duration, unbounded, month/year interval**: the constructor accepts it, and the first
    `fuel` iterated points are exactly `start, start+d, (start+d)+d, …` — each point after the
    first is ONE nominal addition of `d` to the previous point (not `start + k·d`) — all `fuel` of
    them, every one a valid point in the start's representation and offset (all but possibly the
    start itself with `0 ≤ h < 24`), with strictly increasing instants, the `i`-th at least `i`
    days after the start. -/
theorem C12_nominal_unbounded (m : Mode) (s : TP) (d : Dur) (hs : s.Valid m) (hd : NominalNonneg d)
    (fuel : Nat) :
    ∃ r, mkRec m none (some s) (some d) none = some r ∧
      iter m r fuel = repeatAdd m d fuel s ∧
      (iter m r fuel).length = fuel ∧
      (1 ≤ fuel → (iter m r fuel).head? = some s) ∧
      (∀ (i : Nat) (h : i + 1 < (iter m r fuel).length),
        addDur m ((iter m r fuel)[i]'(by omega)) d = some ((iter m r fuel)[i + 1])) ∧
      (∀ q ∈ iter m r fuel, q.Valid m ∧ q.date.rep = s.date.rep ∧ q.tz = s.tz) ∧
      (∀ q ∈ (iter m r fuel).tail, q.Strict m) ∧
      (iter m r fuel).Pairwise (fun a b => a.inst m < b.inst m) ∧
      (∀ (i : Nat) (h : i < (iter m r fuel).length),
        s.inst m + 86400 * (i : Int) ≤ ((iter m r fuel)[i]).inst m) := by
  refine ⟨_, mkRec_fmt3_unbounded_nominal m s d hd, ?_⟩
  have hx := (nomRec_fmt3_unbounded m s d hs hd).stepRec
  have hi := iter_nominal_unbounded m _ d (nomRec_fmt3_unbounded m s d hs hd) s rfl rfl fuel
  obtain ⟨a1, c⟩ := repeatAdd_spec m d _ _ hx.fwd fuel s hs
  simp only [hi]
  exact ⟨trivial, a1, repeatAdd_head m d fuel s, repeatAdd_chain m d fuel s,
    fun q hq => ⟨(c.mem q hq).1, (c.mem q hq).2.1, (c.mem q hq).2.2.1⟩, c.tailStrict, c.pairwise,
    fun i h => by have := c.lower i h; omega⟩

/-- 2001-01-31 + P1M repeatedly: 31 Jan, 28 Feb, 28 Mar, 28 Apr (not 31 Mar: each step starts
    from the previous, clamped, point). -/
example : NominalNonneg (.units 0 1 0 0 0 0) ∧ (⟨.cal 2001 1 31, 0, 0, 0, ⟨0, 0⟩⟩ : TP).Valid .greg ∧
    mkRec .greg none (some ⟨.cal 2001 1 31, 0, 0, 0, ⟨0, 0⟩⟩) (some (.units 0 1 0 0 0 0)) none =
      some ⟨none, some ⟨.cal 2001 1 31, 0, 0, 0, ⟨0, 0⟩⟩, some (.units 0 1 0 0 0 0), none, none, 3⟩ ∧
    iter .greg ⟨none, some ⟨.cal 2001 1 31, 0, 0, 0, ⟨0, 0⟩⟩, some (.units 0 1 0 0 0 0), none, none, 3⟩ 4 =
      [⟨.cal 2001 1 31, 0, 0, 0, ⟨0, 0⟩⟩, ⟨.cal 2001 2 28, 0, 0, 0, ⟨0, 0⟩⟩,
       ⟨.cal 2001 3 28, 0, 0, 0, ⟨0, 0⟩⟩, ⟨.cal 2001 4 28, 0, 0, 0, ⟨0, 0⟩⟩] := by decide +kernel

/-- A leap day + P1Y repeatedly stays on 28 February after the first step. -/
example : NominalNonneg (.units 1 0 0 0 0 0) ∧ (⟨.cal 2000 2 29, 6, 0, 0, ⟨-5, 0⟩⟩ : TP).Valid .greg ∧
    repeatAdd .greg (.units 1 0 0 0 0 0) 6 ⟨.cal 2000 2 29, 6, 0, 0, ⟨-5, 0⟩⟩ =
      [⟨.cal 2000 2 29, 6, 0, 0, ⟨-5, 0⟩⟩, ⟨.cal 2001 2 28, 6, 0, 0, ⟨-5, 0⟩⟩,
       ⟨.cal 2002 2 28, 6, 0, 0, ⟨-5, 0⟩⟩, ⟨.cal 2003 2 28, 6, 0, 0, ⟨-5, 0⟩⟩,
       ⟨.cal 2004 2 28, 6, 0, 0, ⟨-5, 0⟩⟩, ⟨.cal 2005 2 28, 6, 0, 0, ⟨-5, 0⟩⟩] := by decide +kernel

/-- **A bounded recurrence with a month/year interval, whatever its bounds are**: with start `s`
    and end bound `e` after it, the iterated points are the series `s, s+d, (s+d)+d, …` of repeated
    additions cut at its first point after `e`: a prefix of the series beginning with `s`, each
    further point the previous plus `d`; valid points in `s`'s representation and offset (with
    `0 ≤ h < 24` if `s` is), strictly increasing, none after `e`; where iteration stopped short of
    the fuel the next point of the series is after `e`, and every point of the series not after
    `e` was yielded; at most one point per day, and once the fuel exceeds that the result no longer
    depends on it. -/
theorem nominal_bounded_prefix (m : Mode) (r : Rec) (d : Dur) (hr : NomRec m r d) (s e : TP)
    (hs : r.start = some s) (he : r.end_ = some e) (hlt : s.inst m < e.inst m) (fuel : Nat) :
    iter m r fuel = (repeatAdd m d fuel s).takeWhile (fun p => decide (p.inst m ≤ e.inst m)) ∧
    iter m r fuel <+: repeatAdd m d fuel s ∧
    (1 ≤ fuel → (iter m r fuel).head? = some s) ∧
    (∀ (i : Nat) (h : i + 1 < (iter m r fuel).length),
      addDur m ((iter m r fuel)[i]'(by omega)) d = some ((iter m r fuel)[i + 1])) ∧
    (∀ q ∈ iter m r fuel, q.Valid m ∧ q.date.rep = s.date.rep ∧ q.tz = s.tz ∧ q.inst m ≤ e.inst m) ∧
    (s.Strict m → ∀ q ∈ iter m r fuel, q.Strict m) ∧
    (iter m r fuel).Pairwise (fun a b => a.inst m < b.inst m) ∧
    (∀ (h : (iter m r fuel).length < (repeatAdd m d fuel s).length),
      e.inst m < ((repeatAdd m d fuel s)[(iter m r fuel).length]).inst m) ∧
    (∀ q ∈ repeatAdd m d fuel s, q.inst m ≤ e.inst m → q ∈ iter m r fuel) ∧
    ((iter m r fuel).length : Int) ≤ (e.inst m - s.inst m) / 86400 + 1 ∧
    (∀ fuel', (e.inst m - s.inst m) / 86400 + 1 < (fuel : Int) → fuel ≤ fuel' →
      iter m r fuel' = iter m r fuel) := by
  have hx := hr.stepRec
  have hlen := iter_fwd_length_le m r d _ hx s e hs he (Int.le_of_lt hlt) fuel
  have hi : ∀ k, iter m r k = (repeatAdd m d k s).takeWhile (fun p => decide (p.inst m ≤ e.inst m)) := by
    intro k
    obtain ⟨h1, h2, _⟩ := iter_fwd_spec m r d _ hx s hs k
    rw [h1]
    refine takeWhile_congr _ _ _ fun q hq => ?_
    rw [Bool.eq_iff_iff, h2 q hq, decide_eq_true_iff]
    exact ⟨fun h => h e he, fun h e' he' => by rw [he] at he'; cases he'; exact h⟩
  have c := (repeatAdd_spec m d _ _ hx.fwd fuel s (hr.startValid s hs)).2
  have hpre := List.takeWhile_prefix (l := repeatAdd m d fuel s) (fun p => decide (p.inst m ≤ e.inst m))
  have c' := c.prefix hpre
  simp only [hi] at hlen ⊢
  refine ⟨trivial, hpre, ?_, ?_, ?_, c'.strict, c'.pairwise, ?_,
    mem_takeWhile_of_increasing m _ _ c.pairwise, hlen, ?_⟩
  · intro hf
    rw [List.head?_takeWhile, repeatAdd_head m d fuel s hf, Option.filter_some,
      if_pos (decide_eq_true (Int.le_of_lt hlt))]
  · intro i h
    have hl := hpre.length_le
    rw [hpre.getElem (Nat.lt_of_succ_lt h), hpre.getElem h]
    exact repeatAdd_chain m d fuel s i (Nat.lt_of_lt_of_le h hl)
  · intro q hq
    obtain ⟨v, rr, tt, _⟩ := c'.mem q hq
    exact ⟨v, rr, tt, of_decide_eq_true (mem_takeWhile_true _ _ q hq)⟩
  · intro h
    have := takeWhile_stop (fun p : TP => decide (p.inst m ≤ e.inst m)) (repeatAdd m d fuel s) h
    rw [decide_eq_false_iff_not] at this
    omega
  · intro fuel' hbig hle
    exact repeatAdd_takeWhile_stable m d _ fuel s (by omega) fuel' hle

/-- **start/duration, `n ≥ 2` repetitions, month/year interval**: the constructor derives the far
    bound by ONE multiplied addition `e' = start + (n−1)·d` (a strict valid point after the start).
    Whatever that bound is, the iterated points are the series `start, start+d, (start+d)+d, …` of
    repeated additions cut at its first point after `e'`:
    * they are `takeWhile (· ≤ e')` of the series, hence a prefix of it; the first is the start;
      each further one is the previous plus `d`; all valid, same representation and offset,
      strictly increasing, none after `e'`;
    * if iteration stopped before the fuel ran out, the next point of the series is after `e'`;
      and, the series being increasing, every point of the series not after `e'` was yielded;
    * there is at most one point per day between the start and `e'`, and once `fuel` exceeds that
      the result no longer depends on `fuel` (iteration has terminated).
    The number of points need not be `n` (`C12_count_counterexample_nominal`). -/
theorem C12_nominal_bounded_prefix (m : Mode) (n : Nat) (s : TP) (d : Dur) (hn : 2 ≤ n)
    (hs : s.Valid m) (hd : NominalNonneg d) (fuel : Nat) :
    ∃ e' r, addDur m s (d.mul ((n : Int) - 1)) = some e' ∧ e'.Strict m ∧ s.inst m < e'.inst m ∧
      mkRec m (some (n : Int)) (some s) (some d) none = some r ∧
      r = ⟨some (n : Int), some s, some d, some e', none, 3⟩ ∧
      iter m r fuel = (repeatAdd m d fuel s).takeWhile (fun p => decide (p.inst m ≤ e'.inst m)) ∧
      iter m r fuel <+: repeatAdd m d fuel s ∧
      (1 ≤ fuel → (iter m r fuel).head? = some s) ∧
      (∀ (i : Nat) (h : i + 1 < (iter m r fuel).length),
        addDur m ((iter m r fuel)[i]'(by omega)) d = some ((iter m r fuel)[i + 1])) ∧
      (∀ q ∈ iter m r fuel, q.Valid m ∧ q.date.rep = s.date.rep ∧ q.tz = s.tz ∧
        q.inst m ≤ e'.inst m) ∧
      (iter m r fuel).Pairwise (fun a b => a.inst m < b.inst m) ∧
      (∀ (h : (iter m r fuel).length < (repeatAdd m d fuel s).length),
        e'.inst m < ((repeatAdd m d fuel s)[(iter m r fuel).length]).inst m) ∧
      (∀ q ∈ repeatAdd m d fuel s, q.inst m ≤ e'.inst m → q ∈ iter m r fuel) ∧
      ((iter m r fuel).length : Int) ≤ (e'.inst m - s.inst m) / 86400 + 1 ∧
      (∀ fuel', (e'.inst m - s.inst m) / 86400 + 1 < (fuel : Int) → fuel ≤ fuel' →
        iter m r fuel' = iter m r fuel) := by
  obtain ⟨e', he, hr, se, lt, _, _⟩ := mkRec_fmt3_bounded_nominal m n s d (by omega) hs hd
  obtain ⟨b1, b2, b3, b4, b5, _, b7, b8, b9, b10, b11⟩ := nominal_bounded_prefix m _ d
    (nomRec_bounded m n s e' d 3 (by omega) hs se.1 hd) s e' rfl rfl lt fuel
  exact ⟨e', _, he, se, lt, hr, rfl, b1, b2, b3, b4, b5, b7, b8, b9, b10, b11⟩

/-- R3/2001-01-31/P1M: the bound is 31 Jan + P2M = 28 Mar (two clamped steps); the points are
    31 Jan, 28 Feb, 28 Mar (the series' next point, 28 Apr, is after the bound). -/
example : NominalNonneg (.units 0 1 0 0 0 0) ∧ (⟨.cal 2001 1 31, 0, 0, 0, ⟨0, 0⟩⟩ : TP).Valid .greg ∧
    mkRec .greg (some 3) (some ⟨.cal 2001 1 31, 0, 0, 0, ⟨0, 0⟩⟩) (some (.units 0 1 0 0 0 0)) none =
      some ⟨some 3, some ⟨.cal 2001 1 31, 0, 0, 0, ⟨0, 0⟩⟩, some (.units 0 1 0 0 0 0),
        some ⟨.cal 2001 3 28, 0, 0, 0, ⟨0, 0⟩⟩, none, 3⟩ ∧
    iter .greg ⟨some 3, some ⟨.cal 2001 1 31, 0, 0, 0, ⟨0, 0⟩⟩, some (.units 0 1 0 0 0 0),
        some ⟨.cal 2001 3 28, 0, 0, 0, ⟨0, 0⟩⟩, none, 3⟩ 10 =
      [⟨.cal 2001 1 31, 0, 0, 0, ⟨0, 0⟩⟩, ⟨.cal 2001 2 28, 0, 0, 0, ⟨0, 0⟩⟩,
       ⟨.cal 2001 3 28, 0, 0, 0, ⟨0, 0⟩⟩] := by decide +kernel

/-- R4/2000-02-29T00Z/P1Y, a leap day with years: bound 2003-02-28, four points. -/
example : NominalNonneg (.units 1 0 0 0 0 0) ∧ (⟨.cal 2000 2 29, 0, 0, 0, ⟨0, 0⟩⟩ : TP).Valid .greg ∧
    mkRec .greg (some 4) (some ⟨.cal 2000 2 29, 0, 0, 0, ⟨0, 0⟩⟩) (some (.units 1 0 0 0 0 0)) none =
      some ⟨some 4, some ⟨.cal 2000 2 29, 0, 0, 0, ⟨0, 0⟩⟩, some (.units 1 0 0 0 0 0),
        some ⟨.cal 2003 2 28, 0, 0, 0, ⟨0, 0⟩⟩, none, 3⟩ ∧
    (iter .greg ⟨some 4, some ⟨.cal 2000 2 29, 0, 0, 0, ⟨0, 0⟩⟩, some (.units 1 0 0 0 0 0),
        some ⟨.cal 2003 2 28, 0, 0, 0, ⟨0, 0⟩⟩, none, 3⟩ 10).length = 4 := by decide +kernel

/-- **duration/end, unbounded, month/year interval**: iteration runs backwards from the end:
    `end, end−d, (end−d)−d, …`, each point after the first being ONE nominal subtraction of `d`
    from the previous point; all `fuel` of them, valid, in the end's representation and offset,
    with strictly decreasing instants. -/
theorem C12_nominal_duration_end_unbounded (m : Mode) (e : TP) (d : Dur) (he : e.Valid m)
    (hd : NominalNonneg d) (fuel : Nat) :
    ∃ r, mkRec m none none (some d) (some e) = some r ∧
      iter m r fuel = repeatSub m d fuel e ∧
      (iter m r fuel).length = fuel ∧
      (1 ≤ fuel → (iter m r fuel).head? = some e) ∧
      (∀ (i : Nat) (h : i + 1 < (iter m r fuel).length),
        subDur m ((iter m r fuel)[i]'(by omega)) d = some ((iter m r fuel)[i + 1])) ∧
      (∀ q ∈ iter m r fuel, q.Valid m ∧ q.date.rep = e.date.rep ∧ q.tz = e.tz) ∧
      (∀ q ∈ (iter m r fuel).tail, q.Strict m) ∧
      (iter m r fuel).Pairwise (fun a b => a.inst m > b.inst m) := by
  refine ⟨_, mkRec_fmt4_unbounded_nominal m e d hd, ?_⟩
  have hx := (nomRec_fmt4_unbounded m e d he hd).stepRec
  obtain ⟨hi, a1, c⟩ := iter_rev_spec m _ d _ hx e rfl rfl fuel
  simp only [hi] at a1 c ⊢
  refine ⟨trivial, a1, fun hf => ?_, repeatSub_chain m d fuel e,
    fun q hq => ⟨(c.mem q hq).1, (c.mem q hq).2.1, (c.mem q hq).2.2.1⟩, c.tailStrict,
    c.pairwise.imp Int.lt_of_neg_lt_neg⟩
  rw [repeatSub_eq]; exact repeatAdd_head m _ fuel e hf

/-- R/P1M/2001-03-31 backwards: 31 Mar, 28 Feb, 28 Jan, 28 Dec. -/
example : NominalNonneg (.units 0 1 0 0 0 0) ∧ (⟨.cal 2001 3 31, 0, 0, 0, ⟨0, 0⟩⟩ : TP).Valid .greg ∧
    mkRec .greg none none (some (.units 0 1 0 0 0 0)) (some ⟨.cal 2001 3 31, 0, 0, 0, ⟨0, 0⟩⟩) =
      some ⟨none, none, some (.units 0 1 0 0 0 0), some ⟨.cal 2001 3 31, 0, 0, 0, ⟨0, 0⟩⟩, none, 4⟩ ∧
    iter .greg ⟨none, none, some (.units 0 1 0 0 0 0), some ⟨.cal 2001 3 31, 0, 0, 0, ⟨0, 0⟩⟩, none, 4⟩ 4 =
      [⟨.cal 2001 3 31, 0, 0, 0, ⟨0, 0⟩⟩, ⟨.cal 2001 2 28, 0, 0, 0, ⟨0, 0⟩⟩,
       ⟨.cal 2001 1 28, 0, 0, 0, ⟨0, 0⟩⟩, ⟨.cal 2000 12 28, 0, 0, 0, ⟨0, 0⟩⟩] := by decide +kernel

/-- **duration/end, `n ≥ 2` repetitions, month/year interval**: the constructor derives the start
    by ONE multiplied subtraction `s' = end − (n−1)·d` (a strict valid point before the end), and
    iteration runs FORWARD from `s'` by repeated addition of `d`, cut at the first point after the
    end: a prefix of `s', s'+d, (s'+d)+d, …`, valid, strictly increasing, none after the end, every
    series point not after the end yielded, at most one point per day.  Neither the count `n` nor
    reaching `end` is guaranteed (`C12_end_not_reached_nominal`). -/
theorem C12_nominal_duration_end_bounded_prefix (m : Mode) (n : Nat) (e : TP) (d : Dur) (hn : 2 ≤ n)
    (he : e.Valid m) (hd : NominalNonneg d) (fuel : Nat) :
    ∃ s' r, subDur m e (d.mul ((n : Int) - 1)) = some s' ∧ s'.Strict m ∧ s'.inst m < e.inst m ∧
      mkRec m (some (n : Int)) none (some d) (some e) = some r ∧
      r = ⟨some (n : Int), some s', some d, some e, none, 4⟩ ∧
      iter m r fuel = (repeatAdd m d fuel s').takeWhile (fun p => decide (p.inst m ≤ e.inst m)) ∧
      iter m r fuel <+: repeatAdd m d fuel s' ∧
      (1 ≤ fuel → (iter m r fuel).head? = some s') ∧
      (∀ (i : Nat) (h : i + 1 < (iter m r fuel).length),
        addDur m ((iter m r fuel)[i]'(by omega)) d = some ((iter m r fuel)[i + 1])) ∧
      (∀ q ∈ iter m r fuel, q.Strict m ∧ q.date.rep = e.date.rep ∧ q.tz = e.tz ∧
        q.inst m ≤ e.inst m) ∧
      (iter m r fuel).Pairwise (fun a b => a.inst m < b.inst m) ∧
      (∀ (h : (iter m r fuel).length < (repeatAdd m d fuel s').length),
        e.inst m < ((repeatAdd m d fuel s')[(iter m r fuel).length]).inst m) ∧
      (∀ q ∈ repeatAdd m d fuel s', q.inst m ≤ e.inst m → q ∈ iter m r fuel) ∧
      ((iter m r fuel).length : Int) ≤ (e.inst m - s'.inst m) / 86400 + 1 ∧
      (∀ fuel', (e.inst m - s'.inst m) / 86400 + 1 < (fuel : Int) → fuel ≤ fuel' →
        iter m r fuel' = iter m r fuel) := by
  obtain ⟨s', hs', hr, ss, lt, rs, ts⟩ := mkRec_fmt4_bounded_nominal m n e d (by omega) he hd
  obtain ⟨b1, b2, b3, b4, b5, b6, b7, b8, b9, b10, b11⟩ := nominal_bounded_prefix m _ d
    (nomRec_bounded m n s' e d 4 (by omega) ss.1 he hd) s' e rfl rfl lt fuel
  exact ⟨s', _, hs', ss, lt, hr, rfl, b1, b2, b3, b4,
    fun q hq => ⟨b6 ss q hq, (b5 q hq).2.1.trans rs, (b5 q hq).2.2.1.trans ts, (b5 q hq).2.2.2⟩,
    b7, b8, b9, b10, b11⟩

/-- R3/P1M/2001-05-31: the derived start is 31 May − P2M = 30 Mar (two clamped steps); forward
    from it: 30 Mar, 30 Apr, 30 May. -/
example : NominalNonneg (.units 0 1 0 0 0 0) ∧ (⟨.cal 2001 5 31, 0, 0, 0, ⟨0, 0⟩⟩ : TP).Valid .greg ∧
    mkRec .greg (some 3) none (some (.units 0 1 0 0 0 0)) (some ⟨.cal 2001 5 31, 0, 0, 0, ⟨0, 0⟩⟩) =
      some ⟨some 3, some ⟨.cal 2001 3 30, 0, 0, 0, ⟨0, 0⟩⟩, some (.units 0 1 0 0 0 0),
        some ⟨.cal 2001 5 31, 0, 0, 0, ⟨0, 0⟩⟩, none, 4⟩ ∧
    iter .greg ⟨some 3, some ⟨.cal 2001 3 30, 0, 0, 0, ⟨0, 0⟩⟩, some (.units 0 1 0 0 0 0),
        some ⟨.cal 2001 5 31, 0, 0, 0, ⟨0, 0⟩⟩, none, 4⟩ 10 =
      [⟨.cal 2001 3 30, 0, 0, 0, ⟨0, 0⟩⟩, ⟨.cal 2001 4 30, 0, 0, 0, ⟨0, 0⟩⟩,
       ⟨.cal 2001 5 30, 0, 0, 0, ⟨0, 0⟩⟩] := by decide +kernel

/-- The given end of a duration/end recurrence with a month interval need not be one of its
    points: `R3/P1M/2001-05-31T00Z` yields 30 Mar, 30 Apr, 30 May — three points, the last one a
    day before the end.  (For exact intervals `C12_duration_end_bounded` proves the last point is
    the end.) -/
theorem C12_end_not_reached_nominal :
    ∃ r, mkRec .greg (some 3) none (some (.units 0 1 0 0 0 0)) (some ⟨.cal 2001 5 31, 0, 0, 0, ⟨0, 0⟩⟩)
      = some r ∧ (iter .greg r 10).length = 3 ∧
      (iter .greg r 10).getLast? = some ⟨.cal 2001 5 30, 0, 0, 0, ⟨0, 0⟩⟩ ∧
      (⟨.cal 2001 5 31, 0, 0, 0, ⟨0, 0⟩⟩ : TP) ∉ iter .greg r 10 := by
  -- the three facts about the iterated list follow from its value, computed once
  have key : ∀ l : List TP, l = [⟨.cal 2001 3 30, 0, 0, 0, ⟨0, 0⟩⟩, ⟨.cal 2001 4 30, 0, 0, 0, ⟨0, 0⟩⟩,
      ⟨.cal 2001 5 30, 0, 0, 0, ⟨0, 0⟩⟩] →
      l.length = 3 ∧ l.getLast? = some ⟨.cal 2001 5 30, 0, 0, 0, ⟨0, 0⟩⟩ ∧
        (⟨.cal 2001 5 31, 0, 0, 0, ⟨0, 0⟩⟩ : TP) ∉ l := by
    intro l h; subst h; decide
  exact ⟨⟨some 3, some ⟨.cal 2001 3 30, 0, 0, 0, ⟨0, 0⟩⟩, some (.units 0 1 0 0 0 0),
    some ⟨.cal 2001 5 31, 0, 0, 0, ⟨0, 0⟩⟩, none, 4⟩, by decide +kernel, key _ (by decide +kernel)⟩

end IsoDT.Props.C12
