/-
  C08 (custom formats, decimal points) — "dumping with any custom format that contains a complete date,
  THE TIME DOWN TO p's PRECISION and a zone likewise parses back to an equal instant", for points whose
  last given unit carries a decimal fraction (`DTP`: `hh,F` / `hh:mm,F` / `hh:mm:ss,F`, at most the
  dumper's six digits).

  The formats (`Custom.DFmt`, `Lemmas/TextCustomDec`): a complete date expression (calendar, ordinal or
  week; basic or extended; optionally `+X`), `T`, the time form OF THE POINT'S OWN PRECISION with its
  decimal token — `hh,ii`; `hh:mm,nn` / `hhmm,nn`; `hh:mm:ss,tt` / `hhmmss,tt`; comma or point — and a
  zone expression that spells the point's own offset: a placeholder (`+hh:mm` / `+hhmm` / `+hh`), `Z`
  for a UTC point, or a literal equal to the point's offset.

  NOT covered: a literal zone (or `Z`) DIFFERENT from the point's offset.  Re-zoning a decimal point is
  binary floating-point arithmetic in the Python (`to_time_zone` adds a `Duration` to float fields);
  the model answers `unsupported` there (`C08_custom_decimal_rezone_outside_model`) and the harness
  judges those cases by the oracle alone (op `tdumpf`).
-/
import IsoDT.Lemmas.TextCustomDec
import IsoDT.Props.C08c

namespace IsoDT.Props.C08
open IsoDT IsoDT.Model IsoDT.Lemmas IsoDT.Text IsoDT.Text.Custom
open IsoDT.Spec (Date TZ TP)
open _root_.IsoDT.Gen.Templates (dumpTables parserTables dumper_0 dumper_2 dumper_3)

/-- **C08 (custom formats, decimal points, writing)**: for every valid point `d` with a decimal hour,
    minute or second (fraction of at most six digits; hour 24 only with a zero fraction; any
    representation, calendar mode and offset), every dumper table and every complete custom format of
    `d`'s precision whose zone expression spells `d`'s own offset, `dump(d, format)` is the specified
    text: the date `dQ` (`d`'s date re-expressed in the format's representation) with the year digits
    the format asks for, `T`, the units with the fraction as `_decimal_string` prints it (trailing zeros
    dropped, at least one digit — also for a zero fraction), and the zone — provided `dQ`'s year is
    within the digits the format prints. -/
theorem C08_custom_dump_decimal (m : Mode) (dt : DumpTables) (hdt : dt ∈ dumpTables) (n : Nat) (f : DFmt)
    (hf : f.WF dt.ned) (d : DTP) (hv : d.Valid m) (hs : f.zone.Same d.tz) (dQ : Date)
    (hc : convert m f.kind.k d.date = some dQ) (hy : YearInRange (f.yd dt.ned) (dateYear dQ)) :
    dump m dt (d.toXTP n) (f.text (DTimeUnit d.time)) = .ok (decCustomText dt.ned f { d with date := dQ }) := by
  rw [dump_dec m dt hdt n f hf d hv hs dQ hc, if_pos hy]

/-- … and the dumper's bounds error when the year of the re-expressed date is outside those digits. -/
theorem C08_custom_dump_decimal_bounds (m : Mode) (dt : DumpTables) (hdt : dt ∈ dumpTables) (n : Nat)
    (f : DFmt) (hf : f.WF dt.ned) (d : DTP) (hv : d.Valid m) (hs : f.zone.Same d.tz) (dQ : Date)
    (hc : convert m f.kind.k d.date = some dQ) (hy : ¬ YearInRange (f.yd dt.ned) (dateYear dQ)) :
    dump m dt (d.toXTP n) (f.text (DTimeUnit d.time)) = .error .err := by
  rw [dump_dec m dt hdt n f hf d hv hs dQ hc, if_neg hy]

/-- **C08 (custom formats, decimal points, reading)**: the specified text of a valid decimal point in
    the format's representation is decoded to that point with its fraction as printed (`d.norm`: the
    same units; the fraction without trailing zeros — the same number, `fracValue_stripZeros`). -/
theorem C08_custom_parse_decimal (cfg : Cfg) (hpt : cfg.pt ∈ parserTables) (f : DFmt)
    (hb : f.ext = true → cfg.pt.basicOnly = false) (hx : f.expanded = true → cfg.pt.ned ≠ 0)
    (d : DTP) (hv : d.Valid cfg.mode) (hr : d.date.rep = f.kind.k)
    (hy : YearInRange (f.yd cfg.pt.ned) (dateYear d.date)) (hzf : DZoneFaithful f d.tz) :
    parse cfg (decCustomText cfg.pt.ned f d) false = some (DTP.toXTP (f.yd cfg.pt.ned) d.norm) := by
  have hvb := dbase_valid cfg.mode d hv
  rw [decCustomText_render cfg.pt.ned f hx d hr, valsOfD,
    parse_rendered cfg hpt f.expanded f.ext f.kind f.zone.style hb hx _
      (dtime_entry_all cfg.pt hpt f.ext (by cases f.ext <;> simp) f.sep (by cases f.sep <;> simp)
        (DTimeUnit d.time) (by cases DTimeUnit d.time <;> simp) hb)
      (dbase d) (stripZeros d.time.ds) hvb (by rw [dbase_date]; exact hr) (by rw [dbase_date]; exact hy)
      ⟨stripZeros_ne _, stripZeros_digits _ (ds_digits d.time hv.2.1)⟩
      (fun h => by
        rw [fracZero_stripZeros]
        exact frac24 d.time hv.2.1 (by obtain ⟨date, time, tz⟩ := d; cases time <;> exact h))
      (by rw [dbase_tz]; exact hzf),
    dbase_tz]
  exact congrArg some (pointOf_dec cfg f.expanded f.ext f.kind f.sep d hr hy (fieldsFit_of_valid cfg.mode _ hvb))

theorem decCustomText_yd (n n' : Nat) (f : DFmt) (d : DTP) (h : f.yd n = f.yd n') :
    decCustomText n f d = decCustomText n' f d := by
  unfold decCustomText; rw [h]

/-- **C08 (custom formats, decimal points, round trip)**: `dump(d, format)` succeeds with the specified
    text; parsing it yields the point `d'` = `d` with its date re-expressed in the format's
    representation and its fraction as printed: the same day (`dayNum`), the same hour / minute /
    second, the same fraction as a number, the same offset — an equal instant carrying the format's
    zone. -/
theorem C08_custom_roundtrip_decimal (m : Mode) (dt : DumpTables) (hdt : dt ∈ dumpTables) (n : Nat)
    (f : DFmt) (hf : f.WF dt.ned) (cfg : Cfg) (hpt : cfg.pt ∈ parserTables) (hm : cfg.mode = m)
    (hb : f.ext = true → cfg.pt.basicOnly = false) (hx : f.expanded = true → cfg.pt.ned = dt.ned)
    (d : DTP) (hv : d.Valid m) (hs : f.zone.Same d.tz) (hown : f.zone = .own .h → d.tz.mi = 0)
    (dQ : Date) (hc : convert m f.kind.k d.date = some dQ) (hy : YearInRange (f.yd dt.ned) (dateYear dQ)) :
    ∃ text, dump m dt (d.toXTP n) (f.text (DTimeUnit d.time)) = .ok text ∧
      text = decCustomText dt.ned f { d with date := dQ } ∧
      parse cfg text false = some (DTP.toXTP (f.yd dt.ned) ({ d with date := dQ } : DTP).norm) ∧
      ({ d with date := dQ } : DTP).Valid m ∧ dQ.rep = f.kind.k ∧ dQ.dayNum m = d.date.dayNum m ∧
      fracValue (({ d with date := dQ } : DTP).norm.time.ds) = fracValue d.time.ds := by
  subst hm
  obtain ⟨_, hvQ, hrQ, hnQ⟩ := convert_back cfg.mode f.kind.k (kind_lt _) d.date dQ hv.1 hc
  have hvd' : ({ d with date := dQ } : DTP).Valid cfg.mode := ⟨hvQ, hv.2.1, hv.2.2⟩
  refine ⟨_, C08_custom_dump_decimal cfg.mode dt hdt n f hf d hv hs dQ hc hy, rfl, ?_, hvd', hrQ, hnQ, ?_⟩
  · have hyd : f.yd dt.ned = f.yd cfg.pt.ned := yd_congr f.expanded _ _ hx
    have hxn : f.expanded = true → cfg.pt.ned ≠ 0 := fun hxe => by rw [hx hxe]; exact hf.1 hxe
    have hzf : DZoneFaithful f d.tz := faithful_of_same f.zone d.tz hf.2 hs hown
    rw [decCustomText_yd dt.ned cfg.pt.ned f _ hyd, hyd]
    exact C08_custom_parse_decimal cfg hpt f hb hxn { d with date := dQ } hvd' hrQ (hyd ▸ hy) hzf
  · obtain ⟨date, time, tz⟩ := d
    cases time <;> simp [DTP.norm, DTime.norm, DTime.ds, fracValue_stripZeros]

/-! ## Outside the model -/

/-- A literal zone different from the offset of a decimal point: the Python re-zones with float
    arithmetic; the model does not follow it there (`unsupported`), so no theorem is claimed. -/
theorem C08_custom_decimal_rezone_outside_model :
    dump .greg dumper_0 (DTP.toXTP 0 ⟨.cal 2000 1 1, .minute 12 30 "5".toList, ⟨0, 0⟩⟩)
      "CCYY-MM-DDThh:mm,nn+05:30".toList = .error .unsupported := by decide +kernel

/-- A decimal minute on a week date in year −396, dumped as a basic calendar date with `+X`, a point as
    the decimal sign and the placeholder zone, by the dumper with two expanded digits. -/
example : ∃ text,
    dump .greg dumper_2 (DTP.toXTP 2 ⟨.week (-396) 53 5, .minute 23 59 "0250".toList, ⟨0, -30⟩⟩)
      "+XCCYYMMDDThhmm.nn+hhmm".toList = .ok text ∧
    text = "-0003961231T2359.025-0030".toList ∧
    parse ⟨Gen.Templates.parser_2_all, true, .assumed 1 0, .greg⟩ text false =
      some (DTP.toXTP 2 ⟨.cal (-396) 12 31, .minute 23 59 "025".toList, ⟨0, -30⟩⟩) := by
  obtain ⟨text, h1, h2, h3, _⟩ :=
    C08_custom_roundtrip_decimal .greg dumper_2 (by simp [dumpTables]) 2 ⟨true, .cal, false, .point, .own .hm⟩
      (by decide) ⟨Gen.Templates.parser_2_all, true, .assumed 1 0, .greg⟩ (.tail _ (.tail _ (.head _))) rfl
      (by decide) (by decide) ⟨.week (-396) 53 5, .minute 23 59 "0250".toList, ⟨0, -30⟩⟩ (by decide +kernel)
      trivial (by decide) (.cal (-396) 12 31) (by decide +kernel) (by decide +kernel)
  exact ⟨text, h1.trans (by rfl), h2.trans (by decide +kernel), h3.trans (by decide +kernel)⟩

/-- Decimal hour 24 with a zero fraction, ordinal format, `Z` on a UTC point. -/
example : dump .greg dumper_0 (DTP.toXTP 0 ⟨.cal 2000 2 29, .hour 24 "000".toList, ⟨0, 0⟩⟩)
      ("CCYY-DDDThh,ii".toList ++ ['Z']) = .ok "2000-060T24,0Z".toList :=
  (C08_custom_dump_decimal .greg dumper_0 (by simp [dumpTables]) 0 ⟨false, .ord, true, .comma, .utc⟩ (by decide)
    ⟨.cal 2000 2 29, .hour 24 "000".toList, ⟨0, 0⟩⟩ (by decide +kernel) rfl (.ord 2000 60) (by decide +kernel)
    (by decide +kernel)).trans (by decide +kernel)

/-- A decimal second with a literal zone equal to the point's own. -/
example : dump .d360 dumper_0 (DTP.toXTP 0 ⟨.ord 2001 360, .second 23 59 59 "999999".toList, ⟨-3, -30⟩⟩)
      "CCYY-Www-DThh:mm:ss,tt-03:30".toList = .ok "2001-W52-4T23:59:59,999999-03:30".toList :=
  (C08_custom_dump_decimal .d360 dumper_0 (by simp [dumpTables]) 0
    ⟨false, .week, true, .comma, .lit .hm ⟨-3, -30⟩⟩ (by decide)
    ⟨.ord 2001 360, .second 23 59 59 "999999".toList, ⟨-3, -30⟩⟩ (by decide +kernel) rfl (.week 2001 52 4)
    (by decide +kernel) (by decide +kernel)).trans (by decide +kernel)

end IsoDT.Props.C08
