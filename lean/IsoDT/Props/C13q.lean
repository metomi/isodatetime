/-
  C13 (fractional points and intervals) — Recurrence queries agree with iteration, as an ALGORITHM
  over exact rationals (`Model.RecurrenceQ`; see `Props/C12q.lean` for the model and its scope).

  The statements of `Props/C13.lean` for `get_next` / `get_prev`, `get_is_valid` and `r[i]`, proved
  for recurrences with an exact interval of any positive rational length, any notation, any
  precision form of the anchor and of the probe: the bounds and the membership test are exact
  comparisons of rational instants, so a probe off the grid by any `ε` is rejected
  (`C13_rat_is_valid_off_grid`).  `get_first_after` is in `Props/C13r.lean`.
-/
import IsoDT.Props.C12q
import IsoDT.Lemmas.RecurrenceQQuery

namespace IsoDT.Props.C13q
open IsoDT IsoDT.Model IsoDT.Lemmas IsoDT.Lemmas.DQ IsoDT.Props.C12q
open IsoDT.Spec (Date TZ TP)

/-- **get_next / get_prev** on a recurrence with exact interval `d` of length `L > 0`: from any
    legal point `p` (in particular a member, however it is written) the candidate is exactly one
    interval away, in `p`'s representation, offset and precision form, and it is returned iff it
    lies within the recurrence's bounds — otherwise `None` (the ends of a bounded series). -/
theorem C13_rat_next_prev (m : Mode) (r : RecQ) (d : DurationQ) (L : Rat) (hr : ExactRecQ m r d L) (p : TPQ)
    (hp : p.Valid m) :
    (∃ q, GoodQ m p q L ∧ getNextQ m r p = (if inBoundsQ m r q then some q else none) ∧
      (inBoundsQ m r q = true ↔ (∀ s, r.start = some s → s.inst m ≤ q.inst m) ∧
        (∀ e, r.end_ = some e → q.inst m ≤ e.inst m))) ∧
    (∃ q, GoodQ m p q (-L) ∧ getPrevQ m r p = (if inBoundsQ m r q then some q else none) ∧
      (inBoundsQ m r q = true ↔ (∀ s, r.start = some s → s.inst m ≤ q.inst m) ∧
        (∀ e, r.end_ = some e → q.inst m ≤ e.inst m))) := by
  obtain ⟨q, g, hn⟩ := stepsBy_exact hr false p hp
  obtain ⟨q', g', hn'⟩ := stepsBy_exact hr true p hp
  exact ⟨⟨q, g, hn, inBoundsQ_iff g.valid hr.startValid hr.endValid⟩,
    ⟨q', g', hn', inBoundsQ_iff g'.valid hr.startValid hr.endValid⟩⟩

/-- One repetition: no neighbours. -/
theorem C13_rat_single_no_neighbours (m : Mode) (r : RecQ) (h : r.reps = some 1) (p : TPQ) :
    getNextQ m r p = none ∧ getPrevQ m r p = none := by
  unfold getNextQ getPrevQ; simp [h]

/-- **get_is_valid ⇔ iterated**: on a recurrence with an exact interval of positive length (any
    notation, bounded or unbounded, forward or backward iteration), `get_is_valid p` holds exactly
    when `__iter__` yields a point at `p`'s instant — `p` in any representation, offset and
    precision form.  (`fuel` bounds how many iterated points are looked at, on both sides.) -/
theorem C13_rat_is_valid_iff_iterated (m : Mode) (r : RecQ) (d : DurationQ) (L : Rat) (hr : ExactRecQ m r d L)
    (hanchor : r.start.isSome = true ∨ r.end_.isSome = true) (p : TPQ) (hp : p.Valid m) (fuel : Nat) :
    getIsValidQ m r p fuel = true ↔ ∃ q ∈ iterQ m r fuel, q.inst m = p.inst m := by
  obtain ⟨sf, sr⟩ := iterQ_series hr fuel
  have hpos := hr.pos
  -- the iterated points are a series in the direction the early exits of the scan expect
  have hser : ∃ p0 i0 step, SeriesOKQ m p0 (iterQ m r fuel) i0 step ∧
      (r.start.isNone = true → step ≤ 0) ∧ (r.end_.isNone = true → 0 ≤ step) := by
    cases hs : r.start with
    | some s => exact ⟨s, _, L, sf s hs, fun h => (nomatch h), fun _ => Rat.le_of_lt hpos⟩
    | none =>
      cases he : r.end_ with
      | none => rw [hs, he] at hanchor; exact hanchor.elim (nomatch ·) (nomatch ·)
      | some e => exact ⟨e, _, -L, sr e hs he, fun _ => neg_nonpos_of_pos hpos, fun h => (nomatch h)⟩
  obtain ⟨p0, i0, step, ser, hdown, hup⟩ := hser
  unfold getIsValidQ
  cases cb : inBoundsQ m r p with
  | true => exact scanValidQ_series hp ser hdown hup
  | false =>
    exact ⟨fun h => (nomatch h), fun ⟨q, hq, hqe⟩ => absurd hqe (iterQ_inst_ne_of_out hr hp cb fuel q hq)⟩

/-- **get_is_valid**, start/duration with `n ≥ 2` repetitions: true exactly when iteration yields a
    point at the probe's instant, i.e. iff the probe is at `inst(start) + k·len(d)` for some
    `0 ≤ k < n` — whatever representation, offset or precision form the probe is written in. -/
theorem C13_rat_is_valid_bounded (m : Mode) (n : Nat) (s : TPQ) (d : DurationQ) (hn : 2 ≤ n) (hs : s.Valid m)
    (hex : d.isExact = true) (hpos : 0 < d.exactSeconds m) (fuel : Nat) (hf : n ≤ fuel)
    (p : TPQ) (hp : p.Valid m) :
    ∃ r, mkRecQ m (some (n : Int)) (some s) (some d) none = some r ∧
      (getIsValidQ m r p fuel = true ↔ ∃ q ∈ iterQ m r fuel, q.inst m = p.inst m) ∧
      ((∃ q ∈ iterQ m r fuel, q.inst m = p.inst m) ↔
        ∃ k : Nat, k < n ∧ p.inst m = s.inst m + (k : Rat) * d.exactSeconds m) := by
  obtain ⟨e, hr, hx, g⟩ := mkRecQ_fmt3_bounded hn hs hex hpos
  refine ⟨_, hr, C13_rat_is_valid_iff_iterated m _ d _ hx (Or.inl rfl) p hp fuel, ?_⟩
  rw [seriesQ_mem_iff ((iterQ_series hx fuel).1 s rfl) (p.inst m),
    iterQ_length_count hx rfl rfl (Nat.le_of_succ_le hn) g.inst fuel hf]

/-- A probe off the grid — `ε` away from a member, `0 < ε < len(d)`, any rational `ε` — is not valid. -/
theorem C13_rat_is_valid_off_grid (m : Mode) (n : Nat) (s : TPQ) (d : DurationQ) (hn : 2 ≤ n) (hs : s.Valid m)
    (hex : d.isExact = true) (hpos : 0 < d.exactSeconds m) (fuel : Nat) (hf : n ≤ fuel)
    (p : TPQ) (hp : p.Valid m) (j : Nat) (ε : Rat) (h0 : 0 < ε) (h1 : ε < d.exactSeconds m)
    (hpi : p.inst m = s.inst m + (j : Rat) * d.exactSeconds m + ε) :
    ∃ r, mkRecQ m (some (n : Int)) (some s) (some d) none = some r ∧ getIsValidQ m r p fuel = false := by
  obtain ⟨r, hr, h2, h3⟩ := C13_rat_is_valid_bounded m n s d hn hs hex hpos fuel hf p hp
  refine ⟨r, hr, Bool.eq_false_iff.2 fun hv => ?_⟩
  obtain ⟨k, _, hk⟩ := h3.mp (h2.mp hv)
  rw [hpi] at hk
  -- `k·L = j·L + ε` with `0 < ε < L` puts `k` strictly between `j` and `j + 1`
  have hjk : j < k := grid_lt hpos j k Rat.le_refl (hk ▸ lt_add_pos _ h0)
  have hkj : k < j + 1 := grid_lt hpos k (j + 1) Rat.le_refl (by
    rw [← hk, natCast_succ_mul, Rat.add_comm (d.exactSeconds m), ← Rat.add_assoc]
    exact Rat.add_lt_add_left.2 h1)
  omega

/-- **get_is_valid**, start/duration unbounded: once the scanned prefix reaches past the probe
    (`inst(p) < inst(start) + fuel·len(d)` — in the Python the scan simply runs until it passes the
    probe), `get_is_valid p` iff `inst(p) = inst(start) + k·len(d)` for some `k ≥ 0`. -/
theorem C13_rat_is_valid_unbounded (m : Mode) (s : TPQ) (d : DurationQ) (hs : s.Valid m)
    (hex : d.isExact = true) (hpos : 0 < d.exactSeconds m) (fuel : Nat) (p : TPQ) (hp : p.Valid m)
    (hfuel : p.inst m < s.inst m + (fuel : Rat) * d.exactSeconds m) :
    ∃ r, mkRecQ m none (some s) (some d) none = some r ∧
      (getIsValidQ m r p fuel = true ↔ ∃ k : Nat, p.inst m = s.inst m + (k : Rat) * d.exactSeconds m) := by
  obtain ⟨hr, hx⟩ := mkRecQ_fmt3_unbounded hs hex hpos
  refine ⟨_, hr, ?_⟩
  rw [C13_rat_is_valid_iff_iterated m _ d _ hx (Or.inl rfl) p hp fuel,
    seriesQ_mem_iff ((iterQ_series hx fuel).1 s rfl) (p.inst m),
    iterQ_length_unbounded hx rfl rfl fuel]
  exact ⟨fun ⟨k, _, hk⟩ => ⟨k, hk⟩,
    fun ⟨k, hk⟩ => ⟨k, grid_lt hpos k fuel (by rw [hk]; exact Rat.le_refl) hfuel, hk⟩⟩

/-- **`r[i]`** is the `i`-th iterated point (start/duration, `n ≥ 2`, exact interval): at instant
    `inst(start) + i·len(d)` for `i < n`, and an `IndexError` (`none`) from `n` on. -/
theorem C13_rat_getitem (m : Mode) (n : Nat) (s : TPQ) (d : DurationQ) (hn : 2 ≤ n) (hs : s.Valid m)
    (hex : d.isExact = true) (hpos : 0 < d.exactSeconds m) (i : Nat) :
    ∃ r, mkRecQ m (some (n : Int)) (some s) (some d) none = some r ∧
      (i < n → ∃ p, getItemQ m r i = some p ∧ p.inst m = s.inst m + (i : Rat) * d.exactSeconds m ∧
        p.Valid m ∧ SameFormQ s p) ∧
      (n ≤ i → getItemQ m r i = none) := by
  obtain ⟨e, hr, hx, g⟩ := mkRecQ_fmt3_bounded hn hs hex hpos
  have hlen := iterQ_length_bounded hx rfl rfl (n - 1) g.inst (i + 1)
  rw [Nat.sub_add_cancel (Nat.le_of_succ_le hn)] at hlen
  exact ⟨_, hr,
    fun hi => seriesQ_getElem? ((iterQ_series hx (i + 1)).1 s rfl) i
      (hlen ▸ Nat.lt_min.2 ⟨Nat.lt_succ_self i, hi⟩),
    fun hi => List.getElem?_eq_none (hlen ▸ Nat.le_trans (Nat.min_le_right _ _) hi)⟩

-- R3/2020-01-01T00:00:00Z/PT0,25S: 00:00:00.25 is valid — also written in +01:00 —, 00:00:00.251 is not
example : getIsValidQ .greg ⟨some 3, some ⟨.cal 2020 1 1, 0, some 0, some 0, ⟨0, 0⟩⟩,
      some (.units 0 0 0 0 0 (1/4)), some ⟨.cal 2020 1 1, 0, some 0, some (1/2), ⟨0, 0⟩⟩, none, 3⟩
      ⟨.cal 2020 1 1, 0, some 0, some (1/4), ⟨0, 0⟩⟩ 10 = true ∧
    getIsValidQ .greg ⟨some 3, some ⟨.cal 2020 1 1, 0, some 0, some 0, ⟨0, 0⟩⟩,
      some (.units 0 0 0 0 0 (1/4)), some ⟨.cal 2020 1 1, 0, some 0, some (1/2), ⟨0, 0⟩⟩, none, 3⟩
      ⟨.ord 2020 1, 1, some 0, some (1/4), ⟨1, 0⟩⟩ 10 = true ∧
    getIsValidQ .greg ⟨some 3, some ⟨.cal 2020 1 1, 0, some 0, some 0, ⟨0, 0⟩⟩,
      some (.units 0 0 0 0 0 (1/4)), some ⟨.cal 2020 1 1, 0, some 0, some (1/2), ⟨0, 0⟩⟩, none, 3⟩
      ⟨.cal 2020 1 1, 0, some 0, some (251/1000), ⟨0, 0⟩⟩ 10 = false := by decide +kernel

example : getItemQ .greg ⟨some 3, some ⟨.cal 2020 1 1, 0, some 0, some 0, ⟨0, 0⟩⟩,
      some (.units 0 0 0 0 0 (1/4)), some ⟨.cal 2020 1 1, 0, some 0, some (1/2), ⟨0, 0⟩⟩, none, 3⟩ 2 =
      some ⟨.cal 2020 1 1, 0, some 0, some (1/2), ⟨0, 0⟩⟩ ∧
    getItemQ .greg ⟨some 3, some ⟨.cal 2020 1 1, 0, some 0, some 0, ⟨0, 0⟩⟩,
      some (.units 0 0 0 0 0 (1/4)), some ⟨.cal 2020 1 1, 0, some 0, some (1/2), ⟨0, 0⟩⟩, none, 3⟩ 3 = none := by
  decide +kernel

-- get_next at the last point is None, get_prev of the second point is the start
example : getNextQ .greg ⟨some 3, some ⟨.cal 2020 1 1, 0, some 0, some 0, ⟨0, 0⟩⟩,
      some (.units 0 0 0 0 0 (1/4)), some ⟨.cal 2020 1 1, 0, some 0, some (1/2), ⟨0, 0⟩⟩, none, 3⟩
      ⟨.cal 2020 1 1, 0, some 0, some (1/2), ⟨0, 0⟩⟩ = none ∧
    getPrevQ .greg ⟨some 3, some ⟨.cal 2020 1 1, 0, some 0, some 0, ⟨0, 0⟩⟩,
      some (.units 0 0 0 0 0 (1/4)), some ⟨.cal 2020 1 1, 0, some 0, some (1/2), ⟨0, 0⟩⟩, none, 3⟩
      ⟨.cal 2020 1 1, 0, some 0, some (1/4), ⟨0, 0⟩⟩ = some ⟨.cal 2020 1 1, 0, some 0, some 0, ⟨0, 0⟩⟩ := by
  decide +kernel

end IsoDT.Props.C13q
