/-
  C14 (last clause) — `TimeRecurrenceParser.parse(str(r)) == r`, with the same points; and the
  recurrence part of C09 (the parser is total).

  `Rec.toString` mirrors `TimeRecurrence.__str__`, `RecText.parseRecFull` / `parseRec` mirror
  `TimeRecurrenceParser.parse` (Model/RecText.lean: the three `RECURRENCE_REGEXES` in order,
  `int(reps)`, the point parser `Text.parse`, the interval parser `DurText.parse`, then the
  constructor `mkRec`).  Agreement with the Python: driver ops `rstr`, `rparse`, `rgroups`.

  The round trip composes C08 (`str(p)` is the specified text and parses back to `p`), C10
  (`str(d)` parses back to `d`, the empty duration as `P0Y`) and the splitting lemmas of
  Lemmas/RecText.lean (a printed point has no `/`, no newline and does not start with `P`; a
  printed non-negative interval is `P` followed by at least one digit/letter, no `/`).
-/
import IsoDT.Lemmas.RecText
import IsoDT.Props.C10
import IsoDT.Props.C14

namespace IsoDT.Props.C14b
open IsoDT IsoDT.Model IsoDT.Text IsoDT.RecText IsoDT.Lemmas IsoDT.Lemmas.RecText
open IsoDT.Spec (Date TZ TP)
open IsoDT.Model.DurText (toText)
open IsoDT.Props.C10 (SingleSigned TimeExact normal normal_units C10_roundtrip)

theorem singleSigned_of_nonNeg (d : Dur) (h : NonNeg d) : SingleSigned d := by
  cases d with
  | weeks w => trivial
  | units y mo dd hh mi ss => exact Or.inl h

/-- The expanded year digits a printed point may carry for the parser `cfg` to read it back: the
    parser's own number, or none at all (a four-digit year). -/
def NedOK (cfg : Cfg) (ned : Nat) : Prop := ned = cfg.pt.ned ∨ ned = 0

/-- The point parser on a printed point (C08, and `parse_stdText0` for four-digit years under a
    parser with expanded digits). -/
theorem parsePoint_std (cfg : Cfg) (hpt : cfg.pt ∈ Gen.Templates.parserTables) (hb : cfg.pt.basicOnly = false)
    (ned : Nat) (hn : NedOK cfg ned) (p : TP) (hv : p.Valid cfg.mode) (hy : YearInRange ned (dateYear p.date)) :
    parsePoint cfg (some (stdText ned p)) = .ok (some (p, ned)) := by
  rcases hn with rfl | rfl
  · simp only [parsePoint, parse_stdText cfg hpt hb p hv hy, ofTP_toTP, ofTP_ned]
  · simp only [parsePoint, parse_stdText0 cfg hpt hb p hv hy, ofTP_toTP, ofTP_ned]

/-- `str(point)` of a valid point within the year range (C08). -/
theorem strPoint_std (cfg : Cfg) (hpt : cfg.pt ∈ Gen.Templates.parserTables) (ned : Nat) (hn : NedOK cfg ned)
    (p : TP) (hv : p.Valid cfg.mode) (hy : YearInRange ned (dateYear p.date)) :
    strPoint cfg.mode ned (some p) = .ok (stdText ned p) := by
  have h3 : ned = 0 ∨ ned = 2 ∨ ned = 3 := by
    rcases hn with rfl | rfl
    · exact tables_ned cfg.pt hpt
    · exact Or.inl rfl
  exact str_eq_stdText cfg.mode ned h3 p hv hy

/-- The interval parser on a printed non-negative interval (C10). -/
theorem parseIntv_std (m : Mode) (d : Dur) (hnn : NonNeg d) (hx : TimeExact d) :
    parseIntv m (some (toText d)) = .ok (some (normal d)) := by
  simp only [parseIntv, (C10_roundtrip m d (singleSigned_of_nonNeg d hnn) hx).1]

theorem parsePoint_none (cfg : Cfg) : parsePoint cfg none = .ok none := rfl
theorem parseIntv_none (m : Mode) : parseIntv m none = .ok none := rfl

theorem lt_zero_zero (m : Mode) : Dur.lt m Dur.zero Dur.zero = false := by cases m <;> decide

/-- The constructor does not tell an empty week-form interval from the empty unit form. -/
theorem mkRec_normal (m : Mode) (reps : Option Int) (st : Option TP) (d : Dur) (en : Option TP) :
    mkRec m reps st (some (normal d)) en = mkRec m reps st (some d) en := by
  cases d with
  | units y mo dd hh mi ss => rw [normal_units]
  | weeks w =>
    by_cases hw : w = 0
    · subst hw
      have l1 : Dur.lt m (.weeks 0) Dur.zero = false := by cases m <;> decide
      have z1 : isZeroDur m (.weeks 0) = true := by cases m <;> decide
      have z2 : isZeroDur m Dur.zero = true := by cases m <;> decide
      rw [show normal (.weeks 0) = Dur.zero from rfl]
      unfold mkRec
      simp only [l1, lt_zero_zero, z1, z2, or_true, if_true]
    · simp [normal, Dur.nonzero, hw]

theorem mem_cons_of (P : Char → Prop) (c : Char) (t : List Char) (h : ∀ x ∈ c :: t, P x) :
    P c ∧ ∀ x ∈ t, P x := ⟨h c (by simp), fun x hx => h x (by simp [hx])⟩

theorem parseRecFull_groups (cfg : Cfg) (reps : Option Int) (hpos : ∀ n, reps = some n → 0 < n)
    (body : List Char) (g : Groups) (hg : firstRegex body = some g) (st en : Option (TP × Nat)) (iv : Option Dur)
    (hs : parsePoint cfg g.start = .ok st) (he : parsePoint cfg g.end_ = .ok en)
    (hi : parseIntv cfg.mode g.intv = .ok iv) :
    parseRecFull cfg (strPrefix reps ++ body) =
      match mkRec cfg.mode reps (st.map (·.1)) iv (en.map (·.1)) with
      | none => .fail
      | some r => .ok ⟨r, (st.map (·.2)).getD 0,
          if iv.isNone && reps == some 1 then (st.map (·.2)).getD 0 else (en.map (·.2)).getD 0⟩ := by
  obtain ⟨gr, hh, hrv⟩ := header_strPrefix reps hpos body
  unfold parseRecFull
  simp only [hh, hg, hs, he, hi, Res.both, hrv]
  rfl

/-- `Rn/start/second`, both points printed: the constructor is called with exactly those
    repetitions and points. -/
theorem parse_text_fmt1 (cfg : Cfg) (hpt : cfg.pt ∈ Gen.Templates.parserTables) (hb : cfg.pt.basicOnly = false)
    (nedS nedE : Nat) (hnS : NedOK cfg nedS) (hnE : NedOK cfg nedE)
    (reps : Option Int) (hpos : ∀ n, reps = some n → 0 < n) (s e : TP)
    (hs : s.Valid cfg.mode) (hys : YearInRange nedS (dateYear s.date))
    (he : e.Valid cfg.mode) (hye : YearInRange nedE (dateYear e.date)) :
    parseRecFull cfg (strPrefix reps ++ (stdText nedS s ++ '/' :: stdText nedE e)) =
      match mkRec cfg.mode reps (some s) none (some e) with
      | none => .fail
      | some r => .ok ⟨r, nedS, if (reps == some 1) = true then nedS else nedE⟩ :=
  parseRecFull_groups cfg reps hpos _ _
    (firstRegex_pt_pt _ _ (stdText_chars _ s) (stdText_chars _ e) (stdText_ne_nil _ s) (stdText_ne_nil _ e))
    _ _ _ (parsePoint_std cfg hpt hb nedS hnS s hs hys) (parsePoint_std cfg hpt hb nedE hnE e he hye) rfl

/-- `Rn/start/interval`. -/
theorem parse_text_fmt3 (cfg : Cfg) (hpt : cfg.pt ∈ Gen.Templates.parserTables) (hb : cfg.pt.basicOnly = false)
    (nedS : Nat) (hnS : NedOK cfg nedS)
    (reps : Option Int) (hpos : ∀ n, reps = some n → 0 < n) (s : TP) (d : Dur)
    (hs : s.Valid cfg.mode) (hys : YearInRange nedS (dateYear s.date))
    (hnn : NonNeg d) (hx : TimeExact d) :
    parseRecFull cfg (strPrefix reps ++ (stdText nedS s ++ '/' :: toText d)) =
      match mkRec cfg.mode reps (some s) (some d) none with
      | none => .fail
      | some r => .ok ⟨r, nedS, 0⟩ := by
  obtain ⟨c, body, hd, hch⟩ := toText_shape d hnn
  have hg := firstRegex_pt_du _ c body (stdText_chars nedS s) hch (stdText_ne_nil _ s)
  rw [← hd] at hg
  rw [parseRecFull_groups cfg reps hpos _ _ hg _ _ _ (parsePoint_std cfg hpt hb nedS hnS s hs hys) rfl
    (parseIntv_std cfg.mode d hnn hx)]
  simp only [Option.map_some, Option.map_none, mkRec_normal]
  rfl

/-- `Rn/interval/end`. -/
theorem parse_text_fmt4 (cfg : Cfg) (hpt : cfg.pt ∈ Gen.Templates.parserTables) (hb : cfg.pt.basicOnly = false)
    (nedE : Nat) (hnE : NedOK cfg nedE)
    (reps : Option Int) (hpos : ∀ n, reps = some n → 0 < n) (e : TP) (d : Dur)
    (he : e.Valid cfg.mode) (hye : YearInRange nedE (dateYear e.date))
    (hnn : NonNeg d) (hx : TimeExact d) :
    parseRecFull cfg (strPrefix reps ++ (toText d ++ '/' :: stdText nedE e)) =
      match mkRec cfg.mode reps none (some d) (some e) with
      | none => .fail
      | some r => .ok ⟨r, 0, nedE⟩ := by
  obtain ⟨c, body, hd, hch⟩ := toText_shape d hnn
  have hg := firstRegex_du_pt c body _ hch (stdText_chars nedE e) (stdText_ne_nil _ e)
  rw [show 'P' :: c :: (body ++ '/' :: stdText nedE e) = toText d ++ '/' :: stdText nedE e by rw [hd]; rfl,
    ← hd] at hg
  rw [parseRecFull_groups cfg reps hpos _ _ hg _ _ _ rfl (parsePoint_std cfg hpt hb nedE hnE e he hye)
    (parseIntv_std cfg.mode d hnn hx)]
  simp only [Option.map_some, Option.map_none, mkRec_normal]
  rfl

/-- `self._repetitions is not None and self._repetitions <= 0`. -/
def repsBad : Option Int → Bool
  | some n => decide (n ≤ 0)
  | none => false

theorem mkRec_bad (m : Mode) (reps : Option Int) (st : Option TP) (du : Option Dur) (en : Option TP)
    (h : repsBad reps = true) : mkRec m reps st du en = none := by
  cases reps with
  | none => cases h
  | some n =>
    simp only [repsBad] at h
    unfold mkRec
    simp only [h, if_true]

theorem mkRec_pos (m : Mode) (reps : Option Int) (st : Option TP) (du : Option Dur) (en : Option TP) (r : Rec)
    (h : mkRec m reps st du en = some r) : ∀ n, reps = some n → 0 < n := by
  by_cases g1 : repsBad reps = true
  · rw [mkRec_bad m reps st du en g1] at h
    cases h
  · intro n hn
    subst hn
    simp only [repsBad, decide_eq_true_eq] at g1
    omega

/-- The constructor with an interval: the interval must not be negative, and exactly one of start
    and end is given. -/
theorem mkRec_dur_eq (m : Mode) (reps : Option Int) (st en : Option TP) (d : Dur) :
    mkRec m reps st (some d) en =
      if repsBad reps = true then none
      else if Dur.lt m d Dur.zero = true then none
      else match st, en with
        | some s, none =>
          if reps = some 1 ∨ isZeroDur m d = true then some ⟨some 1, st, none, st, none, 3⟩
          else match reps with
            | none => some ⟨none, st, some d, none, none, 3⟩
            | some n => (addDur m s (d.mul (n - 1))).map fun e' => ⟨reps, st, some d, some e', none, 3⟩
        | none, some e =>
          if reps = some 1 ∨ isZeroDur m d = true then some ⟨some 1, en, none, en, none, 4⟩
          else match reps with
            | none => some ⟨none, none, some d, en, none, 4⟩
            | some n => (subDur m e (d.mul (n - 1))).map fun s' => ⟨reps, some s', some d, en, none, 4⟩
        | _, _ => none := by
  cases reps <;> (unfold mkRec; rfl)

/-- The constructor without an interval: one repetition of the start point, or both points. -/
theorem mkRec_points_eq (m : Mode) (reps : Option Int) (st en : Option TP) :
    mkRec m reps st none en =
      if repsBad reps = true then none
      else if reps = some 1 then some ⟨reps, st, none, st, st, 1⟩
      else match st, en with
        | some s, some e =>
          if tpEq m s e = true then some ⟨some 1, st, none, en, en, 1⟩
          else if tpLt m e s = true then none
          else match subTP m e s with
            | none => none
            | some d =>
              match reps with
              | none => some ⟨none, st, some d, none, en, 1⟩
              | some n => (addDur m s (d.mul (n - 1))).map fun e' => ⟨reps, st, some d, some e', en, 1⟩
        | _, _ => none := by
  cases reps <;> (unfold mkRec; rfl)

/-- One repetition without an interval keeps the start point only. -/
theorem mkRec_one (m : Mode) (st en : Option TP) :
    mkRec m (some 1) st none en = some ⟨some 1, st, none, st, st, 1⟩ := by
  rw [mkRec_points_eq]; rfl

/-- With an interval, start/interval or interval/end notation: a single point (one repetition or an
    empty interval), or the repetitions, the given point and the interval as given. -/
theorem mkRec_dur_shape (m : Mode) (reps : Option Int) (st en : Option TP) (d : Dur) (r : Rec) :
    mkRec m reps st (some d) en = some r →
    match st, en with
    | some _, none =>
      r = ⟨some 1, st, none, st, none, 3⟩ ∨ (r.reps = reps ∧ r.start = st ∧ r.dur = some d ∧ r.fmt = 3)
    | none, some _ =>
      r = ⟨some 1, en, none, en, none, 4⟩ ∨ (r.reps = reps ∧ r.end_ = en ∧ r.dur = some d ∧ r.fmt = 4)
    | _, _ => False := by
  intro h
  rw [mkRec_dur_eq] at h
  by_cases g1 : repsBad reps = true
  · rw [if_pos g1] at h; cases h
  rw [if_neg g1] at h
  by_cases g2 : Dur.lt m d Dur.zero = true
  · rw [if_pos g2] at h; cases h
  rw [if_neg g2] at h
  match st, en, h with
  | some s, none, h | none, some s, h =>
    simp only at h ⊢
    by_cases g3 : reps = some 1 ∨ isZeroDur m d = true
    · rw [if_pos g3] at h
      left; exact (Option.some.inj h).symm
    rw [if_neg g3] at h
    right
    cases reps with
    | none => simp only [Option.some.injEq] at h; subst h; exact ⟨rfl, rfl, rfl, rfl⟩
    | some n =>
      simp only [Option.map_eq_some_iff] at h
      obtain ⟨e', _, rfl⟩ := h
      exact ⟨rfl, rfl, rfl, rfl⟩
  | some _, some _, h | none, none, h => cases h

/-- Without an interval: one repetition asked for (only the start point is kept, whatever else is
    given), or both points given — at the same instant (stored as one repetition), or the
    repetitions and points as given. -/
theorem mkRec_points_shape (m : Mode) (reps : Option Int) (st en : Option TP) (r : Rec)
    (h : mkRec m reps st none en = some r) :
    (reps = some 1 ∧ r = ⟨some 1, st, none, st, st, 1⟩) ∨
    (reps ≠ some 1 ∧ ∃ s e, st = some s ∧ en = some e ∧
      ((tpEq m s e = true ∧ r = ⟨some 1, st, none, en, en, 1⟩) ∨
        (r.reps = reps ∧ r.start = st ∧ r.second = en ∧ r.fmt = 1))) := by
  rw [mkRec_points_eq] at h
  by_cases g1 : repsBad reps = true
  · rw [if_pos g1] at h; cases h
  rw [if_neg g1] at h
  by_cases g2 : reps = some 1
  · rw [if_pos g2] at h
    left; exact ⟨g2, by rw [g2] at h; exact (Option.some.inj h).symm⟩
  rw [if_neg g2] at h
  right
  refine ⟨g2, ?_⟩
  match st, en, h with
  | some s, some e, h =>
    refine ⟨s, e, rfl, rfl, ?_⟩
    simp only at h
    by_cases g3 : tpEq m s e = true
    · rw [if_pos g3] at h
      left; exact ⟨g3, (Option.some.inj h).symm⟩
    rw [if_neg g3] at h
    by_cases g4 : tpLt m e s = true
    · rw [if_pos g4] at h; cases h
    rw [if_neg g4] at h
    right
    cases hd : subTP m e s with
    | none => rw [hd] at h; cases h
    | some dd =>
      rw [hd] at h
      cases reps with
      | none => simp only [Option.some.injEq] at h; subst h; exact ⟨rfl, rfl, rfl, rfl⟩
      | some n =>
        simp only [Option.map_eq_some_iff] at h
        obtain ⟨e', _, rfl⟩ := h
        exact ⟨rfl, rfl, rfl, rfl⟩
  | none, _, h => cases h
  | some _, none, h => cases h

theorem tpEq_refl (m : Mode) (a : TP) : tpEq m a a = true := by simp [tpEq, cmp]

theorem nonNeg_zero : NonNeg Dur.zero := by decide
theorem timeExact_zero : TimeExact Dur.zero :=
  C10.timeExact_of_lt 0 0 0 0 0 0 (by decide) (by decide) (by decide)

theorem parseRec_of_full (cfg : Cfg) (text : List Char) (p : Parsed) (h : parseRecFull cfg text = .ok p) :
    parseRec cfg text = some p.val := by
  simp [parseRec, h]

/-! ## The round trip, notation by notation

  In each theorem `cfg` is the configuration of the time point parser (any regenerated table that
  allows extended notation — also the default `TimePointParser()` —, any `allow_truncated` /
  default-zone setting, any calendar mode); a printed point carries either the parser's number of
  expanded year digits or none (`NedOK`: e.g. with the default parser, `+002000-…` or `2000-…`) and
  its year is one those digits can spell (`YearInRange`, as in C08); `r` is what the constructor
  built. -/

/-- **Start/interval notation** (`Rn/start/d`, `R/start/d`, and the single point `R1/start/P0Y`
    that one repetition or an empty interval is stored as): `str(r)` succeeds and
    `parse(str(r))` is `r` itself, field for field; in particular `parse(str(r)) == r`. -/
theorem C14_text_roundtrip_start_duration (cfg : Cfg) (hpt : cfg.pt ∈ Gen.Templates.parserTables)
    (hb : cfg.pt.basicOnly = false) (nedS : Nat) (hnS : NedOK cfg nedS) (reps : Option Int) (s : TP) (d : Dur)
    (hs : s.Valid cfg.mode) (hys : YearInRange nedS (dateYear s.date))
    (hnn : NonNeg d) (hx : TimeExact d) (r : Rec)
    (hr : mkRec cfg.mode reps (some s) (some d) none = some r) (nedE : Nat) :
    ∃ text, r.toString cfg.mode nedS nedE = .ok text ∧
      parseRecFull cfg text = .ok ⟨r, nedS, 0⟩ ∧ parseRec cfg text = some r ∧
      Rec.eq cfg.mode r r = true := by
  have hpos := mkRec_pos _ _ _ _ _ _ hr
  have hstr := strPoint_std cfg hpt nedS hnS s hs hys
  rcases mkRec_dur_shape _ _ _ _ _ _ hr with rfl | ⟨h1, h2, h3, h4⟩
  · have hp := parse_text_fmt3 cfg hpt hb nedS hnS (some 1) (fun n h => by cases h; decide) s Dur.zero hs hys
      nonNeg_zero timeExact_zero
    rw [mkRec_one3 _ _ _ (lt_zero_zero _)] at hp
    refine ⟨strPrefix (some 1) ++ (stdText nedS s ++ '/' :: toText Dur.zero), ?_, hp,
      parseRec_of_full _ _ _ hp, C14.Rec_eq_refl _ _⟩
    simp only [Rec.toString, hstr, strDur, List.append_assoc]
    rfl
  · have hp := parse_text_fmt3 cfg hpt hb nedS hnS reps hpos s d hs hys hnn hx
    rw [hr] at hp
    refine ⟨strPrefix reps ++ (stdText nedS s ++ '/' :: toText d), ?_, hp,
      parseRec_of_full _ _ _ hp, C14.Rec_eq_refl _ _⟩
    simp only [Rec.toString, h4, h2, h1, h3, hstr, strDur, List.append_assoc]

/-- **Interval/end notation** (`Rn/d/end`, `R/d/end`, and the single point `R1/P0Y/end`):
    `parse(str(r))` is `r` itself. -/
theorem C14_text_roundtrip_duration_end (cfg : Cfg) (hpt : cfg.pt ∈ Gen.Templates.parserTables)
    (hb : cfg.pt.basicOnly = false) (nedE : Nat) (hnE : NedOK cfg nedE) (reps : Option Int) (e : TP) (d : Dur)
    (he : e.Valid cfg.mode) (hye : YearInRange nedE (dateYear e.date))
    (hnn : NonNeg d) (hx : TimeExact d) (r : Rec)
    (hr : mkRec cfg.mode reps none (some d) (some e) = some r) (nedS : Nat) :
    ∃ text, r.toString cfg.mode nedS nedE = .ok text ∧
      parseRecFull cfg text = .ok ⟨r, 0, nedE⟩ ∧ parseRec cfg text = some r ∧
      Rec.eq cfg.mode r r = true := by
  have hpos := mkRec_pos _ _ _ _ _ _ hr
  have hstr := strPoint_std cfg hpt nedE hnE e he hye
  rcases mkRec_dur_shape _ _ _ _ _ _ hr with rfl | ⟨h1, h2, h3, h4⟩
  · have hp := parse_text_fmt4 cfg hpt hb nedE hnE (some 1) (fun n h => by cases h; decide) e Dur.zero he hye
      nonNeg_zero timeExact_zero
    rw [mkRec_one4 _ _ _ (lt_zero_zero _)] at hp
    refine ⟨strPrefix (some 1) ++ (toText Dur.zero ++ '/' :: stdText nedE e), ?_, hp,
      parseRec_of_full _ _ _ hp, C14.Rec_eq_refl _ _⟩
    simp only [Rec.toString, hstr, strDur, List.append_assoc]
    rfl
  · have hp := parse_text_fmt4 cfg hpt hb nedE hnE reps hpos e d he hye hnn hx
    rw [hr] at hp
    refine ⟨strPrefix reps ++ (toText d ++ '/' :: stdText nedE e), ?_, hp,
      parseRec_of_full _ _ _ hp, C14.Rec_eq_refl _ _⟩
    simp only [Rec.toString, h4, h2, h1, h3, hstr, strDur, List.append_assoc]

theorem iter_one (m : Mode) (s : TP) (en sec : Option TP) (hen : ∀ e, en = some e → tpEq m s e = true)
    (fuel : Nat) :
    iter m ⟨some 1, some s, none, en, sec, 1⟩ fuel = if fuel = 0 then [] else [s] := by
  cases fuel with
  | zero => rfl
  | succ k =>
    refine Lemmas.iter_single m _ s rfl rfl ?_ _ (by omega)
    have h1 : tpLt m s s = false := by simp [tpLt, cmp]
    cases en with
    | none => simp [Model.inBounds, h1]
    | some e =>
      have := hen e rfl
      simp only [tpEq, beq_iff_eq] at this
      simp [Model.inBounds, h1, tpGt, this]

/-- The digits the printed second point carries: with one repetition asked for, the stored second
    point is the start point object itself. -/
def secondNed (reps : Option Int) (nedS nedE : Nat) : Nat := if reps = some 1 then nedS else nedE

/-- **Start/second-point notation** (`Rn/start/second`, `R/start/second`; also `R1/start/start`,
    which one repetition is stored as): `parse(str(r))` is a recurrence `r'` with `r' == r`, the
    same notation and the same points.  It is `r` itself except when the two points given denote
    the same instant in different spellings: `r` keeps the second spelling as its end, `r'`
    (built from `R1/start/second`, where one repetition drops the second point) the first. -/
theorem C14_text_roundtrip_start_second (cfg : Cfg) (hpt : cfg.pt ∈ Gen.Templates.parserTables)
    (hb : cfg.pt.basicOnly = false) (nedS nedE : Nat) (hnS : NedOK cfg nedS) (hnE : NedOK cfg nedE)
    (reps : Option Int) (s e : TP)
    (hs : s.Valid cfg.mode) (hys : YearInRange nedS (dateYear s.date))
    (he : e.Valid cfg.mode) (hye : YearInRange nedE (dateYear e.date)) (r : Rec)
    (hr : mkRec cfg.mode reps (some s) none (some e) = some r) :
    ∃ text r' nE, r.toString cfg.mode nedS (secondNed reps nedS nedE) = .ok text ∧
      parseRecFull cfg text = .ok ⟨r', nedS, nE⟩ ∧ parseRec cfg text = some r' ∧
      Rec.eq cfg.mode r' r = true ∧ r'.fmt = r.fmt ∧ r'.reps = r.reps ∧ r'.start = r.start ∧ r'.dur = r.dur ∧
      (∀ fuel, iter cfg.mode r' fuel = iter cfg.mode r fuel) ∧
      (r' = r ∨ (tpEq cfg.mode s e = true ∧ r'.end_ = some s ∧ r.end_ = some e)) := by
  have hpos := mkRec_pos _ _ _ _ _ _ hr
  have hstrS := strPoint_std cfg hpt nedS hnS s hs hys
  have hstrE := strPoint_std cfg hpt nedE hnE e he hye
  rcases mkRec_points_shape _ _ _ _ _ hr with
    ⟨h1, rfl⟩ | ⟨hne, _, _, ⟨rfl⟩, ⟨rfl⟩, ⟨heq, rfl⟩ | ⟨h1, h2, h3, h4⟩⟩
  · have hp := parse_text_fmt1 cfg hpt hb nedS nedS hnS hnS (some 1) (fun n h => by cases h; decide) s s
      hs hys hs hys
    rw [mkRec_one] at hp
    refine ⟨strPrefix (some 1) ++ (stdText nedS s ++ '/' :: stdText nedS s), _, _, ?_, hp,
      parseRec_of_full _ _ _ hp, C14.Rec_eq_refl _ _, rfl, rfl, rfl, rfl, fun _ => rfl, Or.inl rfl⟩
    simp only [Rec.toString, secondNed, h1, if_true, hstrS, List.append_assoc]
  · have hp := parse_text_fmt1 cfg hpt hb nedS nedE hnS hnE (some 1) (fun n h => by cases h; decide) s e
      hs hys he hye
    rw [mkRec_one] at hp
    refine ⟨strPrefix (some 1) ++ (stdText nedS s ++ '/' :: stdText nedE e), _, _, ?_, hp,
      parseRec_of_full _ _ _ hp, ?_, rfl, rfl, rfl, rfl, ?_, Or.inr ⟨heq, rfl, rfl⟩⟩
    · simp only [Rec.toString, secondNed, if_neg hne, hstrS, hstrE, List.append_assoc]
    · simp [Rec.eq, optTpEq, optDurEq, tpEq_refl, heq]
    · intro fuel
      rw [iter_one _ _ _ _ (fun x h => by cases h; exact tpEq_refl _ _),
        iter_one _ _ _ _ (fun x h => by cases h; exact heq)]
  · have hp := parse_text_fmt1 cfg hpt hb nedS nedE hnS hnE reps hpos s e hs hys he hye
    rw [hr] at hp
    refine ⟨strPrefix reps ++ (stdText nedS s ++ '/' :: stdText nedE e), r, _, ?_, hp,
      parseRec_of_full _ _ _ hp, C14.Rec_eq_refl _ _, rfl, rfl, rfl, rfl, fun _ => rfl, Or.inl rfl⟩
    simp only [Rec.toString, secondNed, if_neg hne, h4, h2, h1, h3, hstrS, hstrE, List.append_assoc]

theorem mkRec_both_none (m : Mode) (reps : Option Int) (s e : TP) (d : Dur) :
    mkRec m reps (some s) (some d) (some e) = none := by
  rw [mkRec_dur_eq]; simp

theorem mkRec_neither_none (m : Mode) (reps : Option Int) (d : Dur) :
    mkRec m reps none (some d) none = none := by
  rw [mkRec_dur_eq]; simp

theorem mkRec_start_only (m : Mode) (reps : Option Int) (s : TP) (r : Rec)
    (h : mkRec m reps (some s) none none = some r) :
    reps = some 1 ∧ r = ⟨some 1, some s, none, some s, some s, 1⟩ := by
  rcases mkRec_points_shape _ _ _ _ _ h with h | ⟨_, _, _, _, h, _⟩
  · exact h
  · cases h

/-- **C14, text round trip** — `TimeRecurrenceParser.parse(str(r)) == r` with the same points —
    for every recurrence `r` the constructor builds from

      * repetitions `reps` (absent = unbounded, else any positive count),
      * a start point and a second point (notation 1), a start point and an interval (notation 3),
        an interval and an end point (notation 4), or one repetition of a start point alone,
      * the given points valid whole-second points (any of the three date representations, any
        calendar mode, any legal UTC offset, 24:00:00 included), each carrying either the parser's
        number of expanded year digits or none (`NedOK`; independently for the two points) and a
        year those digits can spell (`YearInRange`, as in C08: 0000–9999 without expanded digits,
        `|y| < 10^(4+n)` with `n`) — so also the default `TimeRecurrenceParser()` reading back
        four-digit years (`parse_stdText0`),
      * the interval a non-negative integer duration, unit form or week form, nominal or exact, of
        any size, with hours/minutes/seconds exactly representable in binary64 (as in C10; a
        single-signed interval with a negative component is refused by the constructor:
        `mkRec_neg_none`):

    `str(r)` succeeds with some text; `parse(text)` succeeds with a recurrence `r'` such that
    `r' == r` (`TimeRecurrence.__eq__`), `r'` is in the same notation, and iterating `r'` yields
    exactly the points iterating `r` yields (any number of them).  (`r'` is `r` itself, field for
    field, except for two spellings of one instant given as start and second point: see
    `C14_text_roundtrip_start_second`.)

    The digits passed to `Rec.toString` for the second point are the start point's when one
    repetition was asked for in notation 1 (`secondNed`: the stored second point is then the start
    point object itself).

    Not covered, because false or outside the model: a recurrence built from one repetition and
    an end point only prints as `R1/None/None` (`C14_text_none_unparseable`); points with decimal
    seconds / intervals with decimal components (float domain); `min_point`/`max_point` (never
    printed by `__str__`, so lost — the value model has no such fields); `int`/`str` of the
    repetitions are the mathematical conversions (CPython's 4300-digit limit on `int`↔`str` is an
    interpreter setting, not modelled, here as in C10). -/
theorem C14_text_roundtrip (cfg : Cfg) (hpt : cfg.pt ∈ Gen.Templates.parserTables)
    (hb : cfg.pt.basicOnly = false) (nedS nedE : Nat) (hnS : NedOK cfg nedS) (hnE : NedOK cfg nedE)
    (reps : Option Int) (start : Option TP) (dur : Option Dur)
    (end_ : Option TP) (r : Rec)
    (hr : mkRec cfg.mode reps start dur end_ = some r)
    (hst : ∀ s, start = some s → s.Valid cfg.mode ∧ YearInRange nedS (dateYear s.date))
    (hen : ∀ e, end_ = some e → e.Valid cfg.mode ∧ YearInRange nedE (dateYear e.date))
    (hdu : ∀ d, dur = some d → NonNeg d ∧ TimeExact d)
    (hne : start.isSome = true ∨ dur.isSome = true) :
    ∃ text r', r.toString cfg.mode nedS (if dur = none then secondNed reps nedS nedE else nedE) = .ok text ∧
      parseRec cfg text = some r' ∧
      Rec.eq cfg.mode r' r = true ∧ r'.fmt = r.fmt ∧ ∀ fuel, iter cfg.mode r' fuel = iter cfg.mode r fuel := by
  cases dur with
  | none =>
    cases start with
    | none => simp at hne
    | some s =>
      obtain ⟨hs, hys⟩ := hst s rfl
      cases end_ with
      | some e =>
        obtain ⟨he, hye⟩ := hen e rfl
        obtain ⟨text, r', _, h1, _, h3, h4, h5, _, _, _, h6, _⟩ :=
          C14_text_roundtrip_start_second cfg hpt hb nedS nedE hnS hnE reps s e hs hys he hye r hr
        exact ⟨text, r', by simpa using h1, h3, h4, h5, h6⟩
      | none =>
        obtain ⟨rfl, rfl⟩ := mkRec_start_only _ _ _ _ hr
        obtain ⟨text, r', _, h1, _, h3, h4, h5, _, _, _, h6, _⟩ :=
          C14_text_roundtrip_start_second cfg hpt hb nedS nedS hnS hnS (some 1) s s hs hys hs hys _ (mkRec_one _ _ _)
        refine ⟨text, r', ?_, h3, h4, h5, h6⟩
        simpa [secondNed] using h1
  | some d =>
    obtain ⟨hnn, hx⟩ := hdu d rfl
    cases start with
    | some s =>
      obtain ⟨hs, hys⟩ := hst s rfl
      cases end_ with
      | some e => rw [mkRec_both_none] at hr; cases hr
      | none =>
        obtain ⟨text, h1, _, h3, h4⟩ :=
          C14_text_roundtrip_start_duration cfg hpt hb nedS hnS reps s d hs hys hnn hx r hr nedE
        exact ⟨text, r, by simpa using h1, h3, h4, rfl, fun _ => rfl⟩
    | none =>
      cases end_ with
      | none => rw [mkRec_neither_none] at hr; cases hr
      | some e =>
        obtain ⟨he, hye⟩ := hen e rfl
        obtain ⟨text, h1, _, h3, h4⟩ :=
          C14_text_roundtrip_duration_end cfg hpt hb nedE hnE reps e d he hye hnn hx r hr nedS
        exact ⟨text, r, by simpa using h1, h3, h4, rfl, fun _ => rfl⟩

/-! ## Negative intervals are outside the property -/

/-- A single-signed interval with a negative component is `< Duration()`: the constructor refuses
    it, whatever else is given (so `NonNeg` above is the whole single-signed domain). -/
theorem mkRec_neg_none (m : Mode) (reps : Option Int) (st en : Option TP) (d : Dur)
    (hs : SingleSigned d) (hneg : ¬ NonNeg d) : mkRec m reps st (some d) en = none := by
  have hlt : Dur.lt m d Dur.zero = true := by
    have zero_das : Dur.zero.daysAndSeconds m = (0, 0) := by cases m <;> decide
    unfold Dur.lt
    rw [zero_das]
    cases d with
    | weeks w =>
      have hw : w < 0 := by unfold NonNeg at hneg; omega
      simp only [Dur.daysAndSeconds, pairLt, daysInWeek_eq, Bool.or_eq_true, decide_eq_true_eq]
      left; omega
    | units y mo dd hh mi ss =>
      rcases hs with h | ⟨a1, a2, a3, a4, a5, a6⟩
      · exact absurd h hneg
      · have hsome : y < 0 ∨ mo < 0 ∨ dd < 0 ∨ hh < 0 ∨ mi < 0 ∨ ss < 0 := by
          unfold NonNeg at hneg; omega
        -- a year has at least one day: `y * roughDaysInYear ≤ y`
        have hY := Int.mul_le_mul_of_nonpos_left a1
          (show 1 ≤ (calOf m).roughDaysInYear by cases m <;> decide)
        simp only [Dur.daysAndSeconds, pairLt, roughDaysInMonth_eq', secondsInDay_eq, secondsInHour_eq,
          secondsInMinute_eq, Bool.or_eq_true, decide_eq_true_eq]
        left
        omega
  rw [mkRec_dur_eq, hlt]
  simp

example : mkRec .greg (some 2) (some ⟨.cal 2000 1 1, 0, 0, 0, ⟨0, 0⟩⟩) (some (.units 0 (-1) 0 0 0 0)) none = none :=
  mkRec_neg_none _ _ _ _ _ (Or.inr (by decide)) (by decide)

/-! ## Totality (C09 for recurrence texts) -/

theorem mkRec_fmt (m : Mode) (a : Option Int) (b : Option TP) (c : Option Dur) (e : Option TP) (r : Rec)
    (hh : mkRec m a b c e = some r) : r.fmt = 1 ∨ r.fmt = 3 ∨ r.fmt = 4 := by
  cases c with
  | none =>
    left
    rcases mkRec_points_shape _ _ _ _ _ hh with ⟨_, rfl⟩ | ⟨_, _, _, _, _, ⟨_, rfl⟩ | ⟨_, _, _, h⟩⟩
    · rfl
    · rfl
    · exact h
  | some d =>
    right
    match b, e, mkRec_dur_shape _ _ _ _ _ _ hh with
    | some _, none, h =>
      left
      rcases h with rfl | ⟨_, _, _, h⟩
      · rfl
      · exact h
    | none, some _, h =>
      right
      rcases h with rfl | ⟨_, _, _, h⟩
      · rfl
      · exact h
    | some _, some _, h | none, none, h => exact h.elim

/-- **The recurrence parser is total**: on every text whatsoever `parseRecFull` answers — a
    failure (the Python's `ValueError`-derived exceptions), `outside` (no claim), or a recurrence;
    and a recurrence it returns is one the constructor accepted for some repetitions, start,
    interval and end read from the text, with a positive repetition count if any, in one of the
    three notations. -/
theorem C09_rec_text_total (cfg : Cfg) (s : List Char) :
    parseRecFull cfg s = .fail ∨ parseRecFull cfg s = .outside ∨
    ∃ p reps start dur end_, parseRecFull cfg s = .ok p ∧ parseRec cfg s = some p.val ∧
      mkRec cfg.mode reps start dur end_ = some p.val ∧ (∀ n, reps = some n → 0 < n) ∧
      (p.val.fmt = 1 ∨ p.val.fmt = 3 ∨ p.val.fmt = 4) := by
  cases h : parseRecFull cfg s with
  | fail => exact Or.inl rfl
  | outside => exact Or.inr (Or.inl rfl)
  | ok p =>
    right; right
    have h0 := h
    unfold parseRecFull at h
    split at h
    · cases h
    · cases h
    · split at h
      · cases h
      · split at h
        · cases h
        · cases h
        · split at h
          · cases h
          · rename_i reps rest _ g _ st en iv _ r hm
            simp only [Res.ok.injEq] at h
            subst h
            refine ⟨_, _, _, _, _, rfl, parseRec_of_full _ _ _ h0, hm, mkRec_pos _ _ _ _ _ _ hm, ?_⟩
            exact mkRec_fmt _ _ _ _ _ _ hm

/-! ## Outside the property -/

/-- One repetition with an end point only: the constructor drops the end point
    (`self._second_point = self._end_point = self._start_point`, which is `None`), the recurrence has
    no points, prints as `R1/None/None`, and that text is refused. -/
theorem C14_text_none_unparseable :
    mkRec .greg (some 1) none none (some ⟨.cal 2000 1 1, 0, 0, 0, ⟨0, 0⟩⟩) =
      some ⟨some 1, none, none, none, none, 1⟩ ∧
    (⟨some 1, none, none, none, none, 1⟩ : Rec).toString .greg 0 0 = .ok "R1/None/None".toList ∧
    iter .greg ⟨some 1, none, none, none, none, 1⟩ 5 = [] ∧
    parseRecFull (defaultCfg .greg 0 0) "R1/None/None".toList = .fail := by
  decide +kernel

/-! ## Non-vacuity

  `cfgD` is the configuration of `TimeRecurrenceParser()` (two expanded year digits) in a process
  whose local offset is +00:00, Gregorian calendar; `cfg0` a recurrence parser built on
  `TimePointParser(num_expanded_year_digits=0, allow_truncated=True, assumed_time_zone=(5, 30))`
  in the 360-day calendar. -/

def cfgD : Cfg := defaultCfg .greg 0 0
def cfg0 : Cfg := ⟨Gen.Templates.parser_0_all, true, .assumed 5 30, .d360⟩

theorem cfgD_pt : cfgD.pt = Gen.Templates.parser_2_all := rfl
theorem cfgD_mem : cfgD.pt ∈ Gen.Templates.parserTables := by rw [cfgD_pt]; exact .tail _ (.tail _ (.head _))
theorem cfgD_ext : cfgD.pt.basicOnly = false := by rw [cfgD_pt]; rfl

-- start/interval, nominal interval, negative expanded year, week date, 24:00:00, offset -00:30
example := C14_text_roundtrip_start_duration cfgD cfgD_mem cfgD_ext 2 (Or.inl rfl) (some 3)
    ⟨.week (-396) 53 7, 24, 0, 0, ⟨0, -30⟩⟩ (.units 0 1 0 6 0 0) (by decide +kernel)
    (by decide +kernel) (by decide)
    (C10.timeExact_of_lt _ _ _ _ _ _ (by decide) (by decide) (by decide))
    ⟨some 3, some ⟨.week (-396) 53 7, 24, 0, 0, ⟨0, -30⟩⟩, some (.units 0 1 0 6 0 0),
      some ⟨.week (-395) 9 4, 12, 0, 0, ⟨0, -30⟩⟩, none, 3⟩ (by decide +kernel) 2
-- the same recurrence, computed: the text and its parse
example : (⟨some 3, some ⟨.week (-396) 53 7, 24, 0, 0, ⟨0, -30⟩⟩, some (.units 0 1 0 6 0 0),
      some ⟨.week (-395) 9 4, 12, 0, 0, ⟨0, -30⟩⟩, none, 3⟩ : Rec).toString .greg 2 2 =
      .ok "R3/-000396-W53-7T24:00:00-00:30/P1MT6H".toList ∧
    parseRec cfgD "R3/-000396-W53-7T24:00:00-00:30/P1MT6H".toList =
      some ⟨some 3, some ⟨.week (-396) 53 7, 24, 0, 0, ⟨0, -30⟩⟩, some (.units 0 1 0 6 0 0),
        some ⟨.week (-395) 9 4, 12, 0, 0, ⟨0, -30⟩⟩, none, 3⟩ := by
  decide +kernel

-- interval/end, unbounded, week-form interval, four-digit years with a parser that has no expanded digits
example := C14_text_roundtrip_duration_end cfg0 (.head _) rfl 0 (Or.inl rfl) none ⟨.ord 2000 360, 23, 59, 59, ⟨5, 30⟩⟩ (.weeks 2)
    (by decide +kernel) (by decide +kernel) (by decide) trivial
    ⟨none, none, some (.weeks 2), some ⟨.ord 2000 360, 23, 59, 59, ⟨5, 30⟩⟩, none, 4⟩ (by decide +kernel) 0
example : (⟨none, none, some (.weeks 2), some ⟨.ord 2000 360, 23, 59, 59, ⟨5, 30⟩⟩, none, 4⟩ : Rec).toString .d360 0 0 =
      .ok "R/P2W/2000-360T23:59:59+05:30".toList ∧
    parseRec cfg0 "R/P2W/2000-360T23:59:59+05:30".toList =
      some ⟨none, none, some (.weeks 2), some ⟨.ord 2000 360, 23, 59, 59, ⟨5, 30⟩⟩, none, 4⟩ := by
  decide +kernel

-- start/second point: two spellings of one instant — the parse is equal, not identical
example := C14_text_roundtrip cfgD cfgD_mem cfgD_ext 2 2 (Or.inl rfl) (Or.inl rfl) (some 5)
    (some ⟨.cal 2000 1 1, 0, 0, 0, ⟨0, 0⟩⟩) none
    (some ⟨.ord 2000 1, 1, 0, 0, ⟨1, 0⟩⟩)
    ⟨some 1, some ⟨.cal 2000 1 1, 0, 0, 0, ⟨0, 0⟩⟩, none, some ⟨.ord 2000 1, 1, 0, 0, ⟨1, 0⟩⟩,
      some ⟨.ord 2000 1, 1, 0, 0, ⟨1, 0⟩⟩, 1⟩ (by decide +kernel)
    (fun s h => by cases h; decide +kernel) (fun s h => by cases h; decide +kernel)
    (fun d h => by cases h) (Or.inl rfl)
example : parseRec cfgD "R1/+002000-01-01T00:00:00Z/+002000-001T01:00:00+01:00".toList =
    some ⟨some 1, some ⟨.cal 2000 1 1, 0, 0, 0, ⟨0, 0⟩⟩, none, some ⟨.cal 2000 1 1, 0, 0, 0, ⟨0, 0⟩⟩,
      some ⟨.cal 2000 1 1, 0, 0, 0, ⟨0, 0⟩⟩, 1⟩ := by decide +kernel
-- start/second point, bounded; the default parser, the start carrying no expanded digits (four-digit
-- year), the second point two
example := C14_text_roundtrip cfgD cfgD_mem cfgD_ext 0 2 (Or.inr rfl) (Or.inl rfl) (some 4)
    (some ⟨.cal 2001 2 28, 12, 0, 0, ⟨1, 0⟩⟩) none (some ⟨.ord 2001 60, 6, 30, 0, ⟨-2, 0⟩⟩)
    ⟨some 4, some ⟨.cal 2001 2 28, 12, 0, 0, ⟨1, 0⟩⟩, some (.units 0 0 0 21 30 0),
      some ⟨.cal 2001 3 3, 4, 30, 0, ⟨1, 0⟩⟩, some ⟨.ord 2001 60, 6, 30, 0, ⟨-2, 0⟩⟩, 1⟩ (by decide +kernel)
    (fun s h => by cases h; decide +kernel) (fun s h => by cases h; decide +kernel)
    (fun d h => by cases h) (Or.inl rfl)
example : (⟨some 4, some ⟨.cal 2001 2 28, 12, 0, 0, ⟨1, 0⟩⟩, some (.units 0 0 0 21 30 0),
        some ⟨.cal 2001 3 3, 4, 30, 0, ⟨1, 0⟩⟩, some ⟨.ord 2001 60, 6, 30, 0, ⟨-2, 0⟩⟩, 1⟩ : Rec).toString .greg 0 2 =
      .ok "R4/2001-02-28T12:00:00+01:00/+002001-060T06:30:00-02:00".toList ∧
    parseRecFull cfgD "R4/2001-02-28T12:00:00+01:00/+002001-060T06:30:00-02:00".toList =
      .ok ⟨⟨some 4, some ⟨.cal 2001 2 28, 12, 0, 0, ⟨1, 0⟩⟩, some (.units 0 0 0 21 30 0),
        some ⟨.cal 2001 3 3, 4, 30, 0, ⟨1, 0⟩⟩, some ⟨.ord 2001 60, 6, 30, 0, ⟨-2, 0⟩⟩, 1⟩, 0, 2⟩ := by
  decide +kernel
-- the default parser, four-digit year, single point from an empty week-form interval
example := C14_text_roundtrip_start_duration cfgD cfgD_mem cfgD_ext 0 (Or.inr rfl) none
    ⟨.cal 9999 12 31, 23, 59, 59, ⟨-12, 0⟩⟩ (.weeks 0) (by decide +kernel) (by decide +kernel) (by decide) trivial
    ⟨some 1, some ⟨.cal 9999 12 31, 23, 59, 59, ⟨-12, 0⟩⟩, none, some ⟨.cal 9999 12 31, 23, 59, 59, ⟨-12, 0⟩⟩, none, 3⟩
    (by decide +kernel) 0
example : (⟨some 1, some ⟨.cal 9999 12 31, 23, 59, 59, ⟨-12, 0⟩⟩, none, some ⟨.cal 9999 12 31, 23, 59, 59, ⟨-12, 0⟩⟩,
      none, 3⟩ : Rec).toString .greg 0 0 = .ok "R1/9999-12-31T23:59:59-12:00/P0Y".toList := by decide +kernel

-- which `/` wins, what the classes admit, the default parser on four-digit and reduced spellings
example : firstRegex "P1D/P/2000".toList = some ⟨none, some "2000".toList, some "P1D/P".toList⟩ ∧
    firstRegex "P1D/2000/P".toList = some ⟨none, some "2000/P".toList, some "P1D".toList⟩ ∧
    firstRegex "Px//P".toList = some ⟨none, some "/P".toList, some "Px".toList⟩ ∧
    firstRegex "/x/y".toList = some ⟨some "/x".toList, some "y".toList, none⟩ ∧
    firstRegex "a/b/c".toList = some ⟨some "a".toList, some "b/c".toList, none⟩ ∧
    firstRegex "a/Px\n".toList = some ⟨some "a".toList, none, some "Px".toList⟩ ∧
    firstRegex "a/\n\n".toList = some ⟨some "a".toList, some "\n".toList, none⟩ ∧
    firstRegex "Pa\nb/c".toList = none ∧ firstRegex "a/P".toList = none := by decide
example : parseRec cfgD "R2/2000-01-31T00Z/P1M".toList =
      some ⟨some 2, some ⟨.cal 2000 1 31, 0, 0, 0, ⟨0, 0⟩⟩, some (.units 0 1 0 0 0 0),
        some ⟨.cal 2000 2 29, 0, 0, 0, ⟨0, 0⟩⟩, none, 3⟩ ∧
    parseRec cfgD "R/20000101T00/PT1H".toList =
      some ⟨none, some ⟨.cal 2000 1 1, 0, 0, 0, ⟨0, 0⟩⟩, some (.units 0 0 0 1 0 0), none, none, 3⟩ ∧
    parseRecFull cfgD "R0/2000/P1D".toList = .fail ∧ parseRecFull cfgD "R/2000/-P1D".toList = .fail ∧
    parseRecFull cfgD "R/2000/PT1,5H".toList = .outside ∧ parseRecFull cfgD "R/P1D/2000/P".toList = .fail := by
  decide +kernel

end IsoDT.Props.C14b
