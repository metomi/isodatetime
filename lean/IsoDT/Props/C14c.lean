/-
  C14 (month/year intervals, any shift) — shifting a recurrence whose interval has months and/or
  years, by ANY duration `x` (exact or not, either sign).

  `Model.Rec.shift` mirrors `TimeRecurrence.__add__(Duration)`.  `NominalNonneg d`: unit form, every
  component `≥ 0`, years or months non-zero (`Lemmas/NominalMono.lean`).  `repeatAdd m d n p` is
  `p, p+d, (p+d)+d, …` (`Lemmas/Rec.lean`).

  For every mode and every valid whole-second anchor, `p + x` is defined for every duration `x`, so
  `r + x` never fails; in start/duration and duration/end notation `r + x` is what the constructor
  builds from the anchor moved by `x` with the same repetitions and interval, and it iterates the
  repeated additions from the moved anchor (C12b).  The far bound of a bounded recurrence is
  RE-DERIVED from the moved anchor (`(s + x) + (n−1)·d`), in general NOT the old bound moved by `x`,
  and the points do not all move by `x`: the property's pointwise clause is claimed for exact
  intervals only (C14).  `(r + x) − x == r` holds for exact `x`.
-/
import IsoDT.Props.C12b
import IsoDT.Props.C14
import IsoDT.Lemmas.RecNominalQuery

namespace IsoDT.Props.C14
open IsoDT IsoDT.Model IsoDT.Lemmas IsoDT.Props.C12
open IsoDT.Spec (Date TZ TP)

/-- **`p + x` never fails**: for every duration `x` (weeks or units, exact or month/year, any
    signs) and every valid point `p`, `p + x` is a valid point with `0 ≤ h < 24` in `p`'s
    representation and offset; for an exact `x` it is exactly `x`'s length later (C01). -/
theorem C14_anchor_shift_total (m : Mode) (p : TP) (x : Dur) (hp : p.Valid m) :
    ∃ q, addDur m p x = some q ∧ q.Strict m ∧ q.date.rep = p.date.rep ∧ q.tz = p.tz ∧
      (x.isExact = true → q.inst m = p.inst m + x.exactSeconds m) := by
  obtain ⟨q, e, sq, rq, tq⟩ := addDur_total m p x hp
  refine ⟨q, e, sq, rq, tq, ?_⟩
  intro hx
  obtain ⟨q', e', g⟩ := addDur_exact m p x hp hx
  rw [e] at e'; cases e'
  exact g.inst

example : (⟨.cal 2001 1 31, 24, 0, 0, ⟨1, 0⟩⟩ : TP).Valid .greg ∧
    addDur .greg ⟨.cal 2001 1 31, 24, 0, 0, ⟨1, 0⟩⟩ (.units (-1) 13 0 (-5) 0 0) =
      some ⟨.cal 2001 2 28, 19, 0, 0, ⟨1, 0⟩⟩ := by decide +kernel

/-- **Shifting `R/start/d` (month/year interval) by any `x`**: the result is `R/(start + x)/d` —
    what the constructor builds from the moved start, the same (absent) repetitions and the same
    interval, same notation — and it iterates `start+x, (start+x)+d, ((start+x)+d)+d, …`. -/
theorem C14_shift_nominal_start_duration_unbounded (m : Mode) (s : TP) (d x : Dur) (hs : s.Valid m)
    (hd : NominalNonneg d) (fuel : Nat) :
    ∃ r r' s', mkRec m none (some s) (some d) none = some r ∧
      addDur m s x = some s' ∧ s'.Strict m ∧ s'.date.rep = s.date.rep ∧ s'.tz = s.tz ∧
      (x.isExact = true → s'.inst m = s.inst m + x.exactSeconds m) ∧
      r.shift m x = some r' ∧ mkRec m none (some s') (some d) none = some r' ∧
      r = ⟨none, some s, some d, none, none, 3⟩ ∧ r' = ⟨none, some s', some d, none, none, 3⟩ ∧
      iter m r fuel = repeatAdd m d fuel s ∧ iter m r' fuel = repeatAdd m d fuel s' := by
  obtain ⟨s', hs', ss', rs', ts', ex⟩ := C14_anchor_shift_total m s x hs
  have hr := mkRec_fmt3_unbounded_nominal m s d hd
  have hr' := mkRec_fmt3_unbounded_nominal m s' d hd
  refine ⟨_, _, s', hr, hs', ss', rs', ts', ex, ?_, hr', rfl, rfl, ?_, ?_⟩
  · rw [shift_fmt3_eq m _ s s' d x _ _ hs', hr']
  · exact iter_nominal_unbounded m _ d (nomRec_fmt3_unbounded m s d hs hd) s rfl rfl fuel
  · exact iter_nominal_unbounded m _ d (nomRec_fmt3_unbounded m s' d ss'.1 hd) s' rfl rfl fuel

/-- `R/2001-01-30T00Z/P1M` shifted by the month/year duration `P1M1D`: anchor 2001-03-01 (30 Jan + 1
    day = 31 Jan, + 1 month = 28 Feb … in `__add__`'s order: days first, then months). -/
example : NominalNonneg (.units 0 1 0 0 0 0) ∧ (⟨.cal 2001 1 30, 0, 0, 0, ⟨0, 0⟩⟩ : TP).Valid .greg ∧
    (mkRec .greg none (some ⟨.cal 2001 1 30, 0, 0, 0, ⟨0, 0⟩⟩) (some (.units 0 1 0 0 0 0)) none).bind
      (fun r => (r.shift .greg (.units 0 1 1 0 0 0)).map fun r' => (r', iter .greg r' 3)) =
    some (⟨none, some ⟨.cal 2001 2 28, 0, 0, 0, ⟨0, 0⟩⟩, some (.units 0 1 0 0 0 0), none, none, 3⟩,
      [⟨.cal 2001 2 28, 0, 0, 0, ⟨0, 0⟩⟩, ⟨.cal 2001 3 28, 0, 0, 0, ⟨0, 0⟩⟩,
       ⟨.cal 2001 4 28, 0, 0, 0, ⟨0, 0⟩⟩]) := by decide +kernel

/-- **Shifting `Rn/start/d` (`n ≥ 2`, month/year interval) by any `x`**: the result is
    `Rn/(start + x)/d` — what the constructor builds from the moved start, the same repetitions,
    the same interval, same notation.  Its far bound is re-derived from the moved start by ONE
    multiplied addition, `e' = (start + x) + (n−1)·d`, and its iteration is the series of repeated
    additions from `start + x` cut at the first point after `e'` (finding F5 applies to the
    shifted recurrence exactly as to any constructed one). -/
theorem C14_shift_nominal_start_duration (m : Mode) (n : Nat) (s : TP) (d x : Dur) (hn : 2 ≤ n)
    (hs : s.Valid m) (hd : NominalNonneg d) (fuel : Nat) :
    ∃ e r s' e' r', addDur m s (d.mul ((n : Int) - 1)) = some e ∧
      mkRec m (some (n : Int)) (some s) (some d) none = some r ∧
      r = ⟨some (n : Int), some s, some d, some e, none, 3⟩ ∧
      addDur m s x = some s' ∧ s'.Strict m ∧ s'.date.rep = s.date.rep ∧ s'.tz = s.tz ∧
      (x.isExact = true → s'.inst m = s.inst m + x.exactSeconds m) ∧
      addDur m s' (d.mul ((n : Int) - 1)) = some e' ∧ e'.Strict m ∧ s'.inst m < e'.inst m ∧
      r.shift m x = some r' ∧ mkRec m (some (n : Int)) (some s') (some d) none = some r' ∧
      r' = ⟨some (n : Int), some s', some d, some e', none, 3⟩ ∧
      iter m r fuel = (repeatAdd m d fuel s).takeWhile (fun p => decide (p.inst m ≤ e.inst m)) ∧
      iter m r' fuel = (repeatAdd m d fuel s').takeWhile (fun p => decide (p.inst m ≤ e'.inst m)) := by
  obtain ⟨s', hs', ss', rs', ts', ex⟩ := C14_anchor_shift_total m s x hs
  obtain ⟨e, he, hr, se, lt, _, _⟩ := mkRec_fmt3_bounded_nominal m n s d (by omega) hs hd
  obtain ⟨e', he', hr', se', lt', _, _⟩ := mkRec_fmt3_bounded_nominal m n s' d (by omega) ss'.1 hd
  refine ⟨e, _, s', e', _, he, hr, rfl, hs', ss', rs', ts', ex, he', se', lt', ?_, hr', rfl, ?_, ?_⟩
  · rw [shift_fmt3_eq m _ s s' d x _ _ hs', hr']
  · exact (nominal_bounded_prefix m _ d (nomRec_bounded m n s e d 3 (by omega) hs se.1 hd) s e rfl rfl lt fuel).1
  · exact (nominal_bounded_prefix m _ d (nomRec_bounded m n s' e' d 3 (by omega) ss'.1 se'.1 hd) s' e' rfl rfl
      lt' fuel).1

/-- `R3/2001-01-31T00Z/P1M` (31 Jan, 28 Feb, 28 Mar; bound 28 Mar) shifted by `−P1D`:
    `R3/2001-01-30T00Z/P1M`, bound 30 Jan + P2M = 28 Mar (two clamped month steps), points 30 Jan,
    28 Feb, 28 Mar. -/
example : NominalNonneg (.units 0 1 0 0 0 0) ∧ (⟨.cal 2001 1 31, 0, 0, 0, ⟨0, 0⟩⟩ : TP).Valid .greg ∧
    (mkRec .greg (some 3) (some ⟨.cal 2001 1 31, 0, 0, 0, ⟨0, 0⟩⟩) (some (.units 0 1 0 0 0 0)) none).bind
      (fun r => (r.shift .greg (.units 0 0 (-1) 0 0 0)).map fun r' => (r.end_, r', iter .greg r' 9)) =
    some (some ⟨.cal 2001 3 28, 0, 0, 0, ⟨0, 0⟩⟩,
      ⟨some 3, some ⟨.cal 2001 1 30, 0, 0, 0, ⟨0, 0⟩⟩, some (.units 0 1 0 0 0 0),
        some ⟨.cal 2001 3 28, 0, 0, 0, ⟨0, 0⟩⟩, none, 3⟩,
      [⟨.cal 2001 1 30, 0, 0, 0, ⟨0, 0⟩⟩, ⟨.cal 2001 2 28, 0, 0, 0, ⟨0, 0⟩⟩,
       ⟨.cal 2001 3 28, 0, 0, 0, ⟨0, 0⟩⟩]) := by decide +kernel

/-- The far bound is re-derived, not moved: `R3/2001-01-31T00Z/P1M` has bound 2001-03-28; shifted by
    the exact `−P1D` the bound is again 2001-03-28 (30 Jan + P2M), not 2001-03-28 − P1D = 2001-03-27. -/
theorem C14_shift_nominal_bound_rederived :
    ∃ r r' e e' ex, mkRec .greg (some 3) (some ⟨.cal 2001 1 31, 0, 0, 0, ⟨0, 0⟩⟩) (some (.units 0 1 0 0 0 0)) none
        = some r ∧ r.shift .greg (.units 0 0 (-1) 0 0 0) = some r' ∧ r.end_ = some e ∧ r'.end_ = some e' ∧
      addDur .greg e (.units 0 0 (-1) 0 0 0) = some ex ∧ e'.inst .greg ≠ ex.inst .greg :=
  ⟨⟨some 3, some ⟨.cal 2001 1 31, 0, 0, 0, ⟨0, 0⟩⟩, some (.units 0 1 0 0 0 0),
      some ⟨.cal 2001 3 28, 0, 0, 0, ⟨0, 0⟩⟩, none, 3⟩,
    ⟨some 3, some ⟨.cal 2001 1 30, 0, 0, 0, ⟨0, 0⟩⟩, some (.units 0 1 0 0 0 0),
      some ⟨.cal 2001 3 28, 0, 0, 0, ⟨0, 0⟩⟩, none, 3⟩,
    ⟨.cal 2001 3 28, 0, 0, 0, ⟨0, 0⟩⟩, ⟨.cal 2001 3 28, 0, 0, 0, ⟨0, 0⟩⟩, ⟨.cal 2001 3 27, 0, 0, 0, ⟨0, 0⟩⟩,
    by decide +kernel, by decide +kernel, rfl, rfl, by decide +kernel, by decide +kernel⟩

/-- With a month/year interval the points do NOT all move by the shift (the property claims that
    for exact intervals only): `R/2001-01-30T00Z/P1M` is 30 Jan, 28 Feb, 28 Mar; shifted by `P1D` it
    is 31 Jan, 28 Feb, 28 Mar — the second and third points do not move at all. -/
theorem C14_shift_nominal_points_do_not_all_move :
    ∃ r r', mkRec .greg none (some ⟨.cal 2001 1 30, 0, 0, 0, ⟨0, 0⟩⟩) (some (.units 0 1 0 0 0 0)) none = some r ∧
      r.shift .greg (.units 0 0 1 0 0 0) = some r' ∧
      iter .greg r 3 = [⟨.cal 2001 1 30, 0, 0, 0, ⟨0, 0⟩⟩, ⟨.cal 2001 2 28, 0, 0, 0, ⟨0, 0⟩⟩,
        ⟨.cal 2001 3 28, 0, 0, 0, ⟨0, 0⟩⟩] ∧
      iter .greg r' 3 = [⟨.cal 2001 1 31, 0, 0, 0, ⟨0, 0⟩⟩, ⟨.cal 2001 2 28, 0, 0, 0, ⟨0, 0⟩⟩,
        ⟨.cal 2001 3 28, 0, 0, 0, ⟨0, 0⟩⟩] :=
  ⟨⟨none, some ⟨.cal 2001 1 30, 0, 0, 0, ⟨0, 0⟩⟩, some (.units 0 1 0 0 0 0), none, none, 3⟩,
    ⟨none, some ⟨.cal 2001 1 31, 0, 0, 0, ⟨0, 0⟩⟩, some (.units 0 1 0 0 0 0), none, none, 3⟩,
    by decide +kernel, by decide +kernel, by decide +kernel, by decide +kernel⟩

/-- **Shifting `R/d/end` (month/year interval) by any `x`**: the result is `R/d/(end + x)`, same
    (absent) repetitions, same interval, same notation; it iterates backwards
    `end+x, (end+x)−d, ((end+x)−d)−d, …`. -/
theorem C14_shift_nominal_duration_end_unbounded (m : Mode) (e : TP) (d x : Dur) (he : e.Valid m)
    (hd : NominalNonneg d) (fuel : Nat) :
    ∃ r r' e', mkRec m none none (some d) (some e) = some r ∧
      addDur m e x = some e' ∧ e'.Strict m ∧ e'.date.rep = e.date.rep ∧ e'.tz = e.tz ∧
      (x.isExact = true → e'.inst m = e.inst m + x.exactSeconds m) ∧
      r.shift m x = some r' ∧ mkRec m none none (some d) (some e') = some r' ∧
      r = ⟨none, none, some d, some e, none, 4⟩ ∧ r' = ⟨none, none, some d, some e', none, 4⟩ ∧
      iter m r fuel = repeatSub m d fuel e ∧ iter m r' fuel = repeatSub m d fuel e' := by
  obtain ⟨e', he', se', re', te', ex⟩ := C14_anchor_shift_total m e x he
  have hr := mkRec_fmt4_unbounded_nominal m e d hd
  have hr' := mkRec_fmt4_unbounded_nominal m e' d hd
  refine ⟨_, _, e', hr, he', se', re', te', ex, ?_, hr', rfl, rfl, ?_, ?_⟩
  · rw [shift_fmt4_eq m _ _ _ e e' d x he', hr']
  · exact (iter_rev_spec m _ d _ (nomRec_fmt4_unbounded m e d he hd).stepRec e rfl rfl fuel).1
  · exact (iter_rev_spec m _ d _ (nomRec_fmt4_unbounded m e' d se'.1 hd).stepRec e' rfl rfl fuel).1

example : NominalNonneg (.units 1 0 0 0 0 0) ∧ (⟨.ord 2004 366, 12, 0, 0, ⟨0, 0⟩⟩ : TP).Valid .greg ∧
    (mkRec .greg none none (some (.units 1 0 0 0 0 0)) (some ⟨.ord 2004 366, 12, 0, 0, ⟨0, 0⟩⟩)).bind
      (fun r => (r.shift .greg (.units 0 0 0 12 0 0)).map fun r' => (r', iter .greg r' 3)) =
    some (⟨none, none, some (.units 1 0 0 0 0 0), some ⟨.ord 2005 1, 0, 0, 0, ⟨0, 0⟩⟩, none, 4⟩,
      [⟨.ord 2005 1, 0, 0, 0, ⟨0, 0⟩⟩, ⟨.ord 2004 1, 0, 0, 0, ⟨0, 0⟩⟩, ⟨.ord 2003 1, 0, 0, 0, ⟨0, 0⟩⟩]) := by
  decide +kernel

/-- **Shifting `Rn/d/end` (`n ≥ 2`, month/year interval) by any `x`**: the result is
    `Rn/d/(end + x)` — same repetitions, same interval, same notation; its start is re-derived from
    the moved end by ONE multiplied subtraction, `s' = (end + x) − (n−1)·d`, and it iterates
    forwards from `s'` by repeated addition, cut at the first point after `end + x`. -/
theorem C14_shift_nominal_duration_end (m : Mode) (n : Nat) (e : TP) (d x : Dur) (hn : 2 ≤ n)
    (he : e.Valid m) (hd : NominalNonneg d) (fuel : Nat) :
    ∃ s0 r e' s' r', subDur m e (d.mul ((n : Int) - 1)) = some s0 ∧
      mkRec m (some (n : Int)) none (some d) (some e) = some r ∧
      r = ⟨some (n : Int), some s0, some d, some e, none, 4⟩ ∧
      addDur m e x = some e' ∧ e'.Strict m ∧ e'.date.rep = e.date.rep ∧ e'.tz = e.tz ∧
      (x.isExact = true → e'.inst m = e.inst m + x.exactSeconds m) ∧
      subDur m e' (d.mul ((n : Int) - 1)) = some s' ∧ s'.Strict m ∧ s'.inst m < e'.inst m ∧
      r.shift m x = some r' ∧ mkRec m (some (n : Int)) none (some d) (some e') = some r' ∧
      r' = ⟨some (n : Int), some s', some d, some e', none, 4⟩ ∧
      iter m r fuel = (repeatAdd m d fuel s0).takeWhile (fun p => decide (p.inst m ≤ e.inst m)) ∧
      iter m r' fuel = (repeatAdd m d fuel s').takeWhile (fun p => decide (p.inst m ≤ e'.inst m)) := by
  obtain ⟨e', he', se', re', te', ex⟩ := C14_anchor_shift_total m e x he
  obtain ⟨s0, hs0, hr, ss0, lt, _, _⟩ := mkRec_fmt4_bounded_nominal m n e d (by omega) he hd
  obtain ⟨s', hs', hr', ss', lt', _, _⟩ := mkRec_fmt4_bounded_nominal m n e' d (by omega) se'.1 hd
  refine ⟨s0, _, e', s', _, hs0, hr, rfl, he', se', re', te', ex, hs', ss', lt', ?_, hr', rfl, ?_, ?_⟩
  · rw [shift_fmt4_eq m _ _ _ e e' d x he', hr']
  · exact (nominal_bounded_prefix m _ d (nomRec_bounded m n s0 e d 4 (by omega) ss0.1 he hd) s0 e rfl rfl lt fuel).1
  · exact (nominal_bounded_prefix m _ d (nomRec_bounded m n s' e' d 4 (by omega) ss'.1 se'.1 hd) s' e' rfl rfl
      lt' fuel).1

/-- `R3/P1M/2001-05-31T00Z` (30 Mar, 30 Apr, 30 May) shifted by the nominal `P1M`:
    `R3/P1M/2001-06-30T00Z`, derived start 30 Apr, points 30 Apr, 30 May, 30 Jun. -/
example : NominalNonneg (.units 0 1 0 0 0 0) ∧ (⟨.cal 2001 5 31, 0, 0, 0, ⟨0, 0⟩⟩ : TP).Valid .greg ∧
    (mkRec .greg (some 3) none (some (.units 0 1 0 0 0 0)) (some ⟨.cal 2001 5 31, 0, 0, 0, ⟨0, 0⟩⟩)).bind
      (fun r => (r.shift .greg (.units 0 1 0 0 0 0)).map fun r' => (r', iter .greg r' 9)) =
    some (⟨some 3, some ⟨.cal 2001 4 30, 0, 0, 0, ⟨0, 0⟩⟩, some (.units 0 1 0 0 0 0),
        some ⟨.cal 2001 6 30, 0, 0, 0, ⟨0, 0⟩⟩, none, 4⟩,
      [⟨.cal 2001 4 30, 0, 0, 0, ⟨0, 0⟩⟩, ⟨.cal 2001 5 30, 0, 0, 0, ⟨0, 0⟩⟩,
       ⟨.cal 2001 6 30, 0, 0, 0, ⟨0, 0⟩⟩]) := by decide +kernel

/-- **One repetition, month/year interval, any shift `x`**: `R1/start/d` and `R1/d/end` are stored
    as the single anchor point (no interval); shifted by any `x` they are the single point
    `anchor + x` in the same notation — what the constructor builds from the moved anchor — and
    iterate exactly that point. -/
theorem C14_shift_nominal_single (m : Mode) (a : TP) (d x : Dur) (ha : a.Valid m)
    (hd : NominalNonneg d) (fuel : Nat) (hf : 1 ≤ fuel) :
    ∃ a', addDur m a x = some a' ∧ a'.Strict m ∧ a'.date.rep = a.date.rep ∧ a'.tz = a.tz ∧
      (x.isExact = true → a'.inst m = a.inst m + x.exactSeconds m) ∧
      mkRec m (some 1) (some a) (some d) none = some ⟨some 1, some a, none, some a, none, 3⟩ ∧
      mkRec m (some 1) none (some d) (some a) = some ⟨some 1, some a, none, some a, none, 4⟩ ∧
      (⟨some 1, some a, none, some a, none, 3⟩ : Rec).shift m x =
        some ⟨some 1, some a', none, some a', none, 3⟩ ∧
      (⟨some 1, some a, none, some a, none, 4⟩ : Rec).shift m x =
        some ⟨some 1, some a', none, some a', none, 4⟩ ∧
      mkRec m (some 1) (some a') (some d) none = some ⟨some 1, some a', none, some a', none, 3⟩ ∧
      mkRec m (some 1) none (some d) (some a') = some ⟨some 1, some a', none, some a', none, 4⟩ ∧
      iter m ⟨some 1, some a', none, some a', none, 3⟩ fuel = [a'] ∧
      iter m ⟨some 1, some a', none, some a', none, 4⟩ fuel = [a'] := by
  obtain ⟨a', ha', sa', ra', ta', ex⟩ := C14_anchor_shift_total m a x ha
  have mk3 := mkRec_one3 m
  have mk4 := mkRec_one4 m
  have hl := lt_zero_false_nominal m d hd
  have hit : ∀ (b : TP) (f : Nat), iter m ⟨some 1, some b, none, some b, none, f⟩ fuel = [b] := fun b f =>
    iter_single m _ b rfl rfl (inBounds_self m b none f) fuel hf
  exact ⟨a', ha', sa', ra', ta', ex, mk3 a d hl, mk4 a d hl, (shift_single m a a' x ha').1,
    (shift_single m a a' x ha').2, mk3 a' d hl, mk4 a' d hl, hit a' 3, hit a' 4⟩

example : NominalNonneg (.units 0 1 0 0 0 0) ∧ (⟨.week 2020 53 7, 24, 0, 0, ⟨0, 0⟩⟩ : TP).Valid .greg ∧
    (mkRec .greg (some 1) none (some (.units 0 1 0 0 0 0)) (some ⟨.week 2020 53 7, 24, 0, 0, ⟨0, 0⟩⟩)).bind
      (fun r => r.shift .greg (.units 1 0 0 0 0 0)) =
    some ⟨some 1, some ⟨.week 2022 1 1, 0, 0, 0, ⟨0, 0⟩⟩, none, some ⟨.week 2022 1 1, 0, 0, 0, ⟨0, 0⟩⟩, none, 4⟩ := by
  decide +kernel

/-! ### `(r + x) − x == r` for exact `x`

  `r − x` is `r + (-1)·x` (`TimeRecurrence.__sub__`), `==` is `TimeRecurrence.__eq__` (`Rec.eq`).
  The anchor returns to the same instant (C01), in the same representation and offset; the far
  bound re-derived from it is then the identical point, because `p + D` depends on `p` only
  through representation, offset and instant (`addDur_congr`).  If the anchor was written with
  `h < 24` the whole stored recurrence comes back identical. -/

/-- **(r + x) − x == r**, `R/start/d`, month/year interval, exact `x`. -/
theorem C14_shift_inverse_nominal_start_duration_unbounded (m : Mode) (s : TP) (d x : Dur)
    (hs : s.Valid m) (hd : NominalNonneg d) (hx : x.isExact = true) :
    ∃ r r1 r2, mkRec m none (some s) (some d) none = some r ∧ r.shift m x = some r1 ∧
      r1.shift m (x.mul (-1)) = some r2 ∧ Rec.eq m r2 r = true ∧ r2.fmt = r.fmt ∧
      (s.hh < 24 → r2 = r) := by
  obtain ⟨r, r1, r2, h1, h2, h3, h4, h5, _, h7⟩ := shift_inverse_fmt3 m none s d x hs hx
    (accepted_nominal m d hd) (fun _ h => nomatch h)
  exact ⟨r, r1, r2, h1, h2, h3, h4, h5, h7⟩

example : (mkRec .greg none (some ⟨.cal 2000 2 29, 6, 0, 0, ⟨-5, 0⟩⟩) (some (.units 1 0 0 0 0 0)) none).bind
    (fun r => (r.shift .greg (.units 0 0 400 0 0 1)).bind fun r1 =>
      (r1.shift .greg ((Dur.units 0 0 400 0 0 1).mul (-1))).map fun r2 => (Rec.eq .greg r2 r, decide (r2 = r))) =
    some (true, true) := by decide +kernel

/-- **(r + x) − x == r**, `Rn/start/d`, `n ≥ 2`, month/year interval, exact `x`: the re-derived
    far bound is the identical point. -/
theorem C14_shift_inverse_nominal_start_duration (m : Mode) (n : Nat) (s : TP) (d x : Dur) (hn : 2 ≤ n)
    (hs : s.Valid m) (hd : NominalNonneg d) (hx : x.isExact = true) :
    ∃ r r1 r2, mkRec m (some (n : Int)) (some s) (some d) none = some r ∧ r.shift m x = some r1 ∧
      r1.shift m (x.mul (-1)) = some r2 ∧ Rec.eq m r2 r = true ∧ r2.fmt = r.fmt ∧
      r2.end_ = r.end_ ∧ (s.hh < 24 → r2 = r) := by
  exact shift_inverse_fmt3 m (some (n : Int)) s d x hs hx (accepted_nominal m d hd) (fun k h => by cases h; exact Int.ofNat_le.mpr hn)

/-- The start written as 24:00 comes back as 00:00 of the next day — same instant, `==` holds, the
    far bound is identical. -/
example : (mkRec .greg (some 3) (some ⟨.cal 2001 1 30, 24, 0, 0, ⟨0, 0⟩⟩) (some (.units 0 1 0 0 0 0)) none).bind
    (fun r => (r.shift .greg (.weeks 2)).bind fun r1 =>
      (r1.shift .greg ((Dur.weeks 2).mul (-1))).map fun r2 =>
        (Rec.eq .greg r2 r, decide (r2 = r), decide (r2.end_ = r.end_), r2.start)) =
    some (true, false, true, some ⟨.cal 2001 1 31, 0, 0, 0, ⟨0, 0⟩⟩) := by decide +kernel

/-- **(r + x) − x == r**, `R/d/end`, month/year interval, exact `x`. -/
theorem C14_shift_inverse_nominal_duration_end_unbounded (m : Mode) (e : TP) (d x : Dur)
    (he : e.Valid m) (hd : NominalNonneg d) (hx : x.isExact = true) :
    ∃ r r1 r2, mkRec m none none (some d) (some e) = some r ∧ r.shift m x = some r1 ∧
      r1.shift m (x.mul (-1)) = some r2 ∧ Rec.eq m r2 r = true ∧ r2.fmt = r.fmt ∧
      (e.hh < 24 → r2 = r) := by
  obtain ⟨r, r1, r2, h1, h2, h3, h4, h5, _, h7⟩ := shift_inverse_fmt4 m none e d x he hx
    (accepted_nominal m d hd) (fun _ h => nomatch h)
  exact ⟨r, r1, r2, h1, h2, h3, h4, h5, h7⟩

example : (mkRec .greg none none (some (.units 0 1 0 0 0 0)) (some ⟨.cal 2001 3 31, 0, 0, 0, ⟨0, 0⟩⟩)).bind
    (fun r => (r.shift .greg (.units 0 0 0 (-36) 0 0)).bind fun r1 =>
      (r1.shift .greg ((Dur.units 0 0 0 (-36) 0 0).mul (-1))).map fun r2 => (Rec.eq .greg r2 r, decide (r2 = r))) =
    some (true, true) := by decide +kernel

/-- **(r + x) − x == r**, `Rn/d/end`, `n ≥ 2`, month/year interval, exact `x`: the re-derived
    start is the identical point. -/
theorem C14_shift_inverse_nominal_duration_end (m : Mode) (n : Nat) (e : TP) (d x : Dur) (hn : 2 ≤ n)
    (he : e.Valid m) (hd : NominalNonneg d) (hx : x.isExact = true) :
    ∃ r r1 r2, mkRec m (some (n : Int)) none (some d) (some e) = some r ∧ r.shift m x = some r1 ∧
      r1.shift m (x.mul (-1)) = some r2 ∧ Rec.eq m r2 r = true ∧ r2.fmt = r.fmt ∧
      r2.start = r.start ∧ (e.hh < 24 → r2 = r) := by
  exact shift_inverse_fmt4 m (some (n : Int)) e d x he hx (accepted_nominal m d hd) (fun k h => by cases h; exact Int.ofNat_le.mpr hn)

example : (mkRec .greg (some 3) none (some (.units 0 1 0 0 0 0)) (some ⟨.cal 2001 5 31, 0, 0, 0, ⟨0, 0⟩⟩)).bind
    (fun r => (r.shift .greg (.units 0 0 1 0 0 30)).bind fun r1 =>
      (r1.shift .greg ((Dur.units 0 0 1 0 0 30).mul (-1))).map fun r2 => (Rec.eq .greg r2 r, decide (r2 = r))) =
    some (true, true) := by decide +kernel

/-- For a month/year SHIFT the round trip can fail (the property claims it for exact `x` only):
    `R/2001-01-31T00Z/P1M` plus `P1M` is anchored at 28 Feb, minus `P1M` at 28 Jan. -/
theorem C14_shift_inverse_fails_for_nominal_shift :
    ∃ r r1 r2, mkRec .greg none (some ⟨.cal 2001 1 31, 0, 0, 0, ⟨0, 0⟩⟩) (some (.units 0 1 0 0 0 0)) none = some r ∧
      r.shift .greg (.units 0 1 0 0 0 0) = some r1 ∧
      r1.shift .greg ((Dur.units 0 1 0 0 0 0).mul (-1)) = some r2 ∧ Rec.eq .greg r2 r = false :=
  ⟨⟨none, some ⟨.cal 2001 1 31, 0, 0, 0, ⟨0, 0⟩⟩, some (.units 0 1 0 0 0 0), none, none, 3⟩,
    ⟨none, some ⟨.cal 2001 2 28, 0, 0, 0, ⟨0, 0⟩⟩, some (.units 0 1 0 0 0 0), none, none, 3⟩,
    ⟨none, some ⟨.cal 2001 1 28, 0, 0, 0, ⟨0, 0⟩⟩, some (.units 0 1 0 0 0 0), none, none, 3⟩,
    by decide +kernel, by decide +kernel, by decide +kernel, by decide +kernel⟩

end IsoDT.Props.C14
