/-
  C15 — The active calendar mode alone determines calendar results.

  Two halves.

  (1) The process-wide state: `CALENDAR` (mode + the attributes `set_mode` installs) and the
      `lru_cache` tables of the memoised helpers.  `Model.Cache` is that state machine, with
      *arbitrary* function bodies constrained only by what `Gen.Cache.table` (regenerated from
      data.py / dumpers.py on every run) says they read and call.  `C15_inv` and `C15_fresh` hold
      for every table that passes `KeyDiscipline`, every history of `set_mode`/calls of any
      length, every depth bound; `C15_discipline` is the obligation on the *source*: the
      regenerated table passes.  It stops compiling when a mode-dependent helper loses its key
      parameter, when a call site stops passing `CALENDAR.mode`, or when an un-keyed memoised
      function (e.g. `get_is_leap_year`) starts reading a mode-dependent attribute.

  (2) What a mode *is*: `C15_modes*` — the seven spellings are the keys of `Calendar.MODES`, all
      spellings of one mode install identical records, every derived constant is the function of
      the month tables it should be, and the four records carry exactly the month tables of the
      property text; the leap rule is the 4/100/400 rule.

  Not proved here (correspondence, harness/props/c15.py): that the Python bodies read and call
  what the translator says (re-validated dynamically), and that `functools.lru_cache` is a map.
-/
import IsoDT.Lemmas.Cache
import IsoDT.Lemmas.Calendar

namespace IsoDT.Props.C15
open IsoDT IsoDT.Model.Cache IsoDT.Lemmas.Cache

variable {V : Type} [DecidableEq V]

/-- Under the key discipline every cache entry of every reachable state holds the cache-free
    value for the mode named in its key (for an un-keyed entry: for every mode).  Reachable =
    any history of mode switches and calls, from a fresh process. -/
theorem C15_inv (S : Sys V) (hd : KeyDiscipline S.T = true) (he : EnvOK S) (hc : Conf S)
    (fuel : Nat) (s0 : Spelling) (ops : List (Op V)) :
    CacheOK S (run S fuel (fresh s0) ops).cache :=
  run_ok S hd he hc fuel ops (fresh s0) (fun _ h => by simp [fresh] at h)

/-- Same, from any state whose cache is sound (e.g. after eviction of arbitrary entries). -/
theorem C15_inv_from (S : Sys V) (hd : KeyDiscipline S.T = true) (he : EnvOK S) (hc : Conf S)
    (fuel : Nat) (st : State V) (h : CacheOK S st.cache) (ops : List (Op V)) :
    CacheOK S (run S fuel st ops).cache := run_ok S hd he hc fuel ops st h

omit [DecidableEq V] in
/-- Dropping entries (LRU eviction) keeps a cache sound. -/
theorem C15_eviction (S : Sys V) (c c' : Cache V) (h : CacheOK S c) (hsub : ∀ e, e ∈ c' → e ∈ c) :
    CacheOK S c' := fun e he => h e (hsub e he)

/-- After any history of `set_mode`s and calls, whatever a call returns is
    (a) the cache-free value for the *current* mode,
    (b) what a fresh process that only ever used the current mode returns (given enough depth), and
    (c) the only thing such a process can return. -/
theorem C15_fresh (S : Sys V) (hd : KeyDiscipline S.T = true) (he : EnvOK S) (hc : Conf S)
    (fuel : Nat) (s0 : Spelling) (ops : List (Op V)) (f : Fn) (a : List V) (v : V)
    (h : (step S fuel (run S fuel (fresh s0) ops) (.call f a)).2 = some v) :
    let cur := (run S fuel (fresh s0) ops).mode
    PureVal S cur f a v ∧
    (∃ n, (step S n (fresh cur) (.call f a)).2 = some v) ∧
    (∀ n v', (step S n (fresh cur) (.call f a)).2 = some v' → v' = v) := by
  intro cur
  have hinv := C15_inv S hd he hc fuel s0 ops
  obtain ⟨c, hev⟩ := step_call_out S fuel _ f a v h
  have hpv : PureVal S cur f a v := (evalM_sound S hd he hc _ fuel _ f a v c hinv hev).2
  have hempty : CacheOK S (fresh (V := V) cur).cache := fun _ hmem => by simp [fresh] at hmem
  refine ⟨hpv, ?_, ?_⟩
  · obtain ⟨n, hn⟩ := hpv
    obtain ⟨c', hc'⟩ := evalM_complete S hd he hc cur n [] f a v hempty hn
    exact ⟨n, by simp [step, fresh, hc']⟩
  · intro n v' hv'
    obtain ⟨c', hc'⟩ := step_call_out S n _ f a v' hv'
    exact pureVal_unique S cur f a v' v
      (evalM_sound S hd he hc _ n _ f a v' c' hempty hc').2 hpv

/-- The current mode after a history is the last accepted `set_mode` argument: the history
    matters to later results only through it. -/
theorem C15_mode_last (S : Sys V) (fuel : Nat) (st : State V) (ops : List (Op V)) (s : Spelling)
    (hs : S.valid s = true) : (run S fuel st (ops ++ [.setMode s])).mode = s := by
  induction ops generalizing st with
  | nil => simp [run, step, hs]
  | cons op ops ih => simp only [List.cons_append, run]; exact ih _

/-- The regenerated memoised-helper table obeys the key discipline. -/
theorem C15_discipline : KeyDiscipline Gen.Cache.table = true := by decide +kernel

/-- Hence, for the system whose table is the one read off the source: -/
theorem C15_inv_source (S : Sys V) (hT : S.T = Gen.Cache.table) (he : EnvOK S) (hc : Conf S)
    (fuel : Nat) (s0 : Spelling) (ops : List (Op V)) :
    CacheOK S (run S fuel (fresh s0) ops).cache :=
  C15_inv S (hT ▸ C15_discipline) he hc fuel s0 ops

theorem C15_fresh_source (S : Sys V) (hT : S.T = Gen.Cache.table) (he : EnvOK S) (hc : Conf S)
    (fuel : Nat) (s0 : Spelling) (ops : List (Op V)) (f : Fn) (a : List V) (v : V)
    (h : (step S fuel (run S fuel (fresh s0) ops) (.call f a)).2 = some v) :
    PureVal S (run S fuel (fresh s0) ops).mode f a v ∧
    (∃ n, (step S n (fresh (run S fuel (fresh s0) ops).mode) (.call f a)).2 = some v) :=
  let r := C15_fresh S (hT ▸ C15_discipline) he hc fuel s0 ops f a v h
  ⟨r.1, r.2.1⟩

/-- Every memoised function of the source that is *not* keyed by the mode at every call site
    (`get_is_leap_year`, the two `TimePointDumper` methods) is outside the mode-dependent set:
    it reads only mode-independent attributes and calls only such functions. -/
theorem C15_unkeyed_independent (f : Nat) (hm : isMemo Gen.Cache.table f = true)
    (hk : effKeyed Gen.Cache.table f = false) :
    modeDep Gen.Cache.table f = false ∧
    (∀ a, a ∈ (fnOf Gen.Cache.table f).reads → a ∈ Gen.Cache.table.indepAttrs) ∧
    (∀ g, g ∈ (fnOf Gen.Cache.table f).calls → modeDep Gen.Cache.table g = false) :=
  have h := discipline_keyed _ C15_discipline f hm hk
  ⟨h, discipline_closed _ C15_discipline f h⟩

/-- `get_is_leap_year` is in the table and does not depend on the mode. -/
theorem C15_leap_year_independent :
    "get_is_leap_year" ∈ Gen.Cache.fnNames ∧
    (List.range Gen.Cache.fnNames.length).all (fun i =>
      Gen.Cache.fnNames[i]? != some "get_is_leap_year" || !modeDep Gen.Cache.table i) = true := by
  decide +kernel

/-- The table is not trivially disciplined: there are memoised functions that do depend on the
    mode, and every one of them is keyed at every call site. -/
theorem C15_keyed_nonvacuous :
    ((List.range Gen.Cache.table.fns.length).filter (fun f =>
        isMemo Gen.Cache.table f && modeDep Gen.Cache.table f)).length ≥ 1 ∧
    (List.range Gen.Cache.table.fns.length).all (fun f =>
        !(isMemo Gen.Cache.table f && modeDep Gen.Cache.table f) ||
          (effKeyed Gen.Cache.table f && Gen.Cache.table.sites.any (fun s => s.callee == f))) = true := by
  decide +kernel

/-- The attribute `mode` itself is classified mode-dependent (so every wrapper that picks the key
    is in the dependent set, and so is everything that calls a wrapper). -/
theorem C15_mode_attr_dependent :
    (List.range Gen.Cache.attrNames.length).all (fun i =>
      Gen.Cache.attrNames[i]? != some "mode" ||
        (Gen.Cache.table.depAttrs.contains i && !Gen.Cache.table.indepAttrs.contains i)) = true ∧
    "mode" ∈ Gen.Cache.attrNames := by decide +kernel

def sumI (l : List Int) : Int := l.foldl (· + ·) 0
def maxI (l : List Int) : Int := l.foldl (fun a b => if a < b then b else a) 0
def enumFrom1 (l : List Int) : List (Int × Int) :=
  (List.range l.length).zip l |>.map (fun p => ((p.1 : Int) + 1, p.2))

/-- Every constant `set_mode` derives is the function of the two month tables it should be —
    for each of the seven spellings (this is what breaks when `set_mode` forgets to recompute
    one). -/
def Coherent (r : Gen.CalRec) : Bool :=
  r.indexed == enumFrom1 r.daysInMonths && r.indexedLeap == enumFrom1 r.daysInMonthsLeap &&
  r.monthsInYear == r.daysInMonths.length && r.daysInMonthsLeap.length == r.daysInMonths.length &&
  r.daysInYear == sumI r.daysInMonths && r.daysInYearLeap == sumI r.daysInMonthsLeap &&
  r.roughDaysInYear == r.daysInYear && r.maxDaysInMonth == maxI r.daysInMonths &&
  r.maxWeeksInYear == (r.daysInYearLeap + 6) / 7 &&
  r.secondsInMinute == 60 && r.minutesInHour == 60 && r.hoursInDay == 24 && r.daysInWeek == 7 &&
  r.secondsInHour == 3600 && r.secondsInDay == 86400 && r.minutesInDay == 1440

/-- All spellings of one mode install identical records; the spellings are exactly the seven of
    the property text, each naming its mode; every derived constant is coherent. -/
theorem C15_modes :
    (∀ e ∈ Gen.calRecs, e.2.2 = Gen.calOfMode e.2.1) ∧
    (∀ e ∈ Gen.calRecs, Coherent e.2.2 = true) ∧
    Gen.calRecs.length = 7 ∧
    (∀ p ∈ [("gregorian", Mode.greg), ("360day", .d360), ("360_day", .d360), ("365day", .d365),
            ("365_day", .d365), ("366day", .d366), ("366_day", .d366)],
        p ∈ Gen.calRecs.map (fun e => (e.1, e.2.1))) ∧
    Gen.defaultSpelling = "gregorian" := by
  decide +kernel

/-- The four records have exactly the month tables of the property text: twelve 30-day months;
    365 days always; 366 days always; Gregorian 365/366. -/
theorem C15_modes_tables :
    (Gen.calOfMode .d360).daysInMonths = List.replicate 12 30 ∧
    (Gen.calOfMode .d360).daysInMonthsLeap = List.replicate 12 30 ∧
    (Gen.calOfMode .d365).daysInMonths = [31, 28, 31, 30, 31, 30, 31, 31, 30, 31, 30, 31] ∧
    (Gen.calOfMode .d365).daysInMonthsLeap = [31, 28, 31, 30, 31, 30, 31, 31, 30, 31, 30, 31] ∧
    (Gen.calOfMode .d366).daysInMonths = [31, 29, 31, 30, 31, 30, 31, 31, 30, 31, 30, 31] ∧
    (Gen.calOfMode .d366).daysInMonthsLeap = [31, 29, 31, 30, 31, 30, 31, 31, 30, 31, 30, 31] ∧
    (Gen.calOfMode .greg).daysInMonths = [31, 28, 31, 30, 31, 30, 31, 31, 30, 31, 30, 31] ∧
    (Gen.calOfMode .greg).daysInMonthsLeap = [31, 29, 31, 30, 31, 30, 31, 31, 30, 31, 30, 31] ∧
    ((Gen.calOfMode .d360).daysInYear, (Gen.calOfMode .d360).daysInYearLeap) = (360, 360) ∧
    ((Gen.calOfMode .d365).daysInYear, (Gen.calOfMode .d365).daysInYearLeap) = (365, 365) ∧
    ((Gen.calOfMode .d366).daysInYear, (Gen.calOfMode .d366).daysInYearLeap) = (366, 366) ∧
    ((Gen.calOfMode .greg).daysInYear, (Gen.calOfMode .greg).daysInYearLeap) = (365, 366) := by
  decide

/-- In terms of the Spec: month lengths, year length and leap behaviour of every year in every
    mode are the calendar definition's (the Gregorian 4/100/400 rule; none / always otherwise). -/
theorem C15_modes_spec (m : Mode) (y : Int) :
    Model.table m (Spec.leap m y) = Spec.monthTab m (Spec.leap m y) ∧
    Model.daysInYear m y = Spec.yearLen m y ∧
    Model.isLeapYear y = Spec.isLeapG y ∧
    Gen.leapFactors = [(4, true), (100, false), (400, true)] ∧
    (m ≠ .greg → Model.table m true = Model.table m false) :=
  ⟨Lemmas.table_eq m _, Lemmas.daysInYear_eq m y, Lemmas.isLeapYear_eq y, Lemmas.gen_leapFactors,
   fun h => by rw [Lemmas.table_eq, Lemmas.table_eq]; exact Lemmas.monthTab_fixed m h true false⟩

/-! ## Non-vacuity: a three-function instance, and why the discipline is needed -/

namespace Example

/-- 0: `leap` (memoised, un-keyed, reads the mode-independent attribute 1);
    1: `days` (public wrapper: reads the mode, attribute 0, calls 2);
    2: `_days` (memoised, key parameter 1, reads the mode-dependent attribute 2, calls 0). -/
def toy (wrapperPassesMode : Bool) : Gen.Cache.Table :=
  { fns := [{ memo := true, keyIdx := none, reads := [1], calls := [] },
            { memo := false, keyIdx := none, reads := [0], calls := [2] },
            { memo := true, keyIdx := some 1, reads := [2], calls := [0] }],
    sites := [⟨2, wrapperPassesMode⟩], depAttrs := [0, 2], indepAttrs := [1] }

def toySys (wrapperPassesMode : Bool) : Sys Int :=
  { T := toy wrapperPassesMode,
    env := fun s a => if a = 2 then (if s = "360day" then 360 else 365) else if a = 1 then 4 else 0,
    body := fun f a =>
      match f with
      | 0 => .read 1 (fun k => .ret (if a.headD 0 % k = 0 then 1 else 0))
      | 1 => .read 0 (fun _ => .call 2 a .ret)
      | 2 => .call 0 a (fun l => .read 2 (fun d => .ret (d + l)))
      | _ => .ret 0,
    valid := fun s => s = "360day" || s = "gregorian" }

theorem toy_conf (b : Bool) : Conf (toySys b) := by
  intro f a
  match f with
  | 0 => simp [toySys, toy, ConfP, fnOf]
  | 1 => simp [toySys, toy, ConfP, fnOf]
  | 2 => simp [toySys, toy, ConfP, fnOf]
  | n + 3 => simp [toySys, ConfP]

theorem toy_env (b : Bool) : EnvOK (toySys b) := by
  intro a ha s s'
  simp [toySys, toy] at ha
  subst ha
  simp [toySys]

example : KeyDiscipline (toy true) = true := by decide

def history : List (Op Int) := [.call 1 [2004], .setMode "360day", .call 1 [2003], .setMode "bogus"]

/-- With the discipline: 366 under gregorian, then 361 (= 360 + leap flag) under 360day. -/
example : (step (toySys true) 5 (fresh "gregorian") (.call 1 [2004])).2 = some 366 ∧
    (step (toySys true) 5 (run (toySys true) 5 (fresh "gregorian") history) (.call 1 [2004])).2
      = some 361 ∧
    evalP (toySys true) "360day" 5 1 [2004] = some 361 ∧
    (run (toySys true) 5 (fresh "gregorian") history).mode = "360day" ∧
    (run (toySys true) 5 (fresh "gregorian") history).cache.length = 4 := by decide

/-- The discipline is not decoration: if the wrapper stops passing `CALENDAR.mode`, the table
    fails the check, and the same history serves the value computed under gregorian. -/
theorem C15_discipline_needed :
    KeyDiscipline (toy false) = false ∧
    (step (toySys false) 5 (run (toySys false) 5 (fresh "gregorian") history) (.call 1 [2004])).2
      = some 366 ∧
    evalP (toySys false) "360day" 5 1 [2004] = some 361 := by decide

end Example

end IsoDT.Props.C15
