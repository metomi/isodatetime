/-
  C17 (literal text and percent signs) — what `strftime` / `strptime` do with `%%`, with a `%` that
  starts no directive, and with literal text in general.

  Model: `Model/Strftime2.lean` — `TimePoint.strftime` including its last statement
  `expression % property_map` (Python's printf-style formatting of the assembled template, which is
  where a literal `%` gets its meaning) — and the unchanged `strptime` of `Model/Strftime.lean`
  (literal text is `re.escape`d: every character, `%` and the regex-special ones included, matches
  exactly itself).  Specification: part 1 of `Lemmas/Strftime2.lean` (`parseFmt2`: POSIX tokenisation
  with `%%` as one item; `posix2`: `%%` prints one `%`).

  Findings stated and proved here (all confirmed on /repo):

  * strftime renders `%%` as POSIX does (one `%`) EXCEPT when the `%%` is directly followed by a
    letter, digit or underscore: the splitter `(%\w)` pairs the SECOND `%` with that character.
    `"%%Y"` prints `%(century)02d00` for the year 2000 (POSIX: `%Y`), `"%%a"` is refused as the
    unknown directive `%a` (POSIX: `%a`)                       — `C17_percent_posix_counterexample`;
  * strptime does NOT read `%%` as POSIX does: it demands the two characters `%%` in the data.  So no
    format that contains `%%` round-trips, for any point      — `C17_strptime_percent_never_round_trips`;
  * a `%` before anything else is handed to Python's `%` operator: a trailing `%` or `%` + punctuation
    is refused with a bare `ValueError` (not the library's error) if no directive precedes it and with
    a `TypeError` (no `ValueError` at all) if one does; `%(name)…` reads the internal property dict
    (`KeyError`, or the property's value)                     — `C17_strftime_trailing_percent`,
                                                                `C17_strftime_stray_percent`, examples;
  * `%s` of a point with a fraction is the distance from the epoch rounded TOWARD ZERO (`int()`), not
    the floor: before 1970 it disagrees with POSIX and with the civil second `%X` prints, and the
    `%s` round trip lands after the point                     — `C17_unix_rat`, `C17_unix_rat_round_trip`,
                                                                `C17_unix_rat_counterexample`.
-/
import IsoDT.Lemmas.Strftime2
import IsoDT.Props.C17
import IsoDT.Props.C18b

namespace IsoDT.Props.C17
open IsoDT IsoDT.Model IsoDT.Model.Strf IsoDT.Model.Strf2 IsoDT.Lemmas IsoDT.Lemmas.Strf IsoDT.Lemmas.Strf2
open IsoDT.Spec (Date TZ TP)
open IsoDT.Spec.Posix
open IsoDT.Gen.Strftime (Fld Fmt Pat Cls Piece)
open IsoDT.Props.C18 (epochQ C18_seconds_since_rat C18_seconds_since_rat_bounds)

/-- General form: the year needs to lie in 0000–9999 only if the format prints it. -/
theorem C17_strftime_literals_general (m : Mode) (p : TP) (hv : p.Valid m) (c : Civil) (hc : IsCivil m p c)
    (fmt : List Char) (items : List FItem2) (hf : parseFmt2 fmt = some items) (hs : pctSafe items = true)
    (hy : SField.year ∈ fieldsOf2 items → 0 ≤ c.year ∧ c.year ≤ 9999) :
    strftime2 m p fmt = .ok (posix2 c items) := by
  have h := strftime2_prefix m p hv c hc fmt items hf hs [] rfl rfl [] rfl
    (fun h => hy (h.resolve_right (by simp)))
  rw [List.append_nil] at h
  rw [h]
  simp [exprOf, run, prepend]

/-- **C17 (strftime, literal text and `%%`)**: for every valid point `p` (any representation, offset,
    mode) with a civil year in 0000–9999 and every format made of the eleven supported directives,
    `%%` and arbitrary other characters — in which no `%%` is directly followed by a letter, digit,
    underscore or non-ASCII character (`pctSafe`) — `p.strftime(fmt)`, INCLUDING the final
    `expression % property_map`, is the POSIX text: each directive as in `C17_strftime`, each literal
    character as itself, each `%%` as a single `%`. -/
theorem C17_strftime_literals (m : Mode) (p : TP) (hv : p.Valid m) (c : Civil) (hc : IsCivil m p c)
    (hy : 0 ≤ c.year ∧ c.year ≤ 9999) (fmt : List Char) (items : List FItem2)
    (hf : parseFmt2 fmt = some items) (hs : pctSafe items = true) :
    strftime2 m p fmt = .ok (posix2 c items) :=
  C17_strftime_literals_general m p hv c hc fmt items hf hs (fun _ => hy)

example : parseFmt2 "100%% %Y-%m%%|%%%d".toList =
    some [.lit '1', .lit '0', .lit '0', .pct, .lit ' ', .conv .Y, .lit '-', .conv .m, .pct, .lit '|', .pct,
      .conv .d] := by decide +kernel
example : pctSafe [.lit '1', .lit '0', .lit '0', .pct, .lit ' ', .conv .Y, .lit '-', .conv .m, .pct, .lit '|',
    .pct, .conv .d] = true ∧ pctSafe [.pct, .lit 'Y'] = false ∧ pctSafe [.pct, .pct, .conv .Y] = true := by decide
example : strftime2 .greg ⟨.cal 2000 3 4, 5, 6, 7, ⟨0, 0⟩⟩ "100%% %Y-%m%%|%%%d".toList =
    .ok "100% 2000-03%|%04".toList := by decide +kernel
/-- Regex-special and white-space characters are nothing special to strftime. -/
example : strftime2 .greg ⟨.week 1970 53 5, 0, 1, 0, ⟨-3, -30⟩⟩ ".(+\\ \t\n*%Y$^[%z]".toList =
    .ok ".(+\\ \t\n*1971$^[-0330]".toList := by decide +kernel

/-- The first model (`Model/Strftime.lean`, which stops at a literal `%`) and this one agree wherever the
    first one answers: same text, same errors — for every point, valid or not. -/
theorem C17_strftime2_extends (m : Mode) (p : TP) (fmt : List Char) (hna : nonAsciiAfterPct fmt = false)
    (hnp : ∀ ps, translate (scan fmt) = .ok ps → Piece.lit '%' ∉ ps) :
    strftime2 m p fmt = liftRes (strftime m p fmt) := by
  unfold strftime2 strftime
  rw [hna]
  simp only [Bool.false_eq_true, ↓reduceIte]
  cases ht : translate (scan fmt) with
  | error e => rfl
  | ok ps =>
    simp only
    cases hc : (forDump m p).bind (dumpCtx m) with
    | none => rfl
    | some c =>
      simp only
      by_cases hb : ps.contains (.fld .century) ∧ ¬ (0 ≤ c.year ∧ c.year ≤ 9999)
      · rw [if_pos hb, if_pos hb]; rfl
      · rw [if_neg hb, if_neg hb]
        have hno := hnp ps ht
        have hcont : ps.contains (.lit '%') = false := by simpa using hno
        rw [hcont]
        simp only [Bool.false_eq_true, ↓reduceIte, liftRes]
        -- interpreting the assembled printf expression gives the direct rendering of the pieces
        have h := run_pieces (envOf c ps) c ps hno (fun f hf => lookup_envOf c ps f hf) false []
        simp only [List.append_nil] at h
        rw [h]
        simp [run, prepend]

/-- The year bounds check comes before the formatting, as in `C17_strftime_bounds`. -/
theorem C17_strftime_literals_bounds (m : Mode) (p : TP) (hv : p.Valid m) (c : Civil) (hc : IsCivil m p c)
    (hy : ¬ (0 ≤ c.year ∧ c.year ≤ 9999)) (fmt : List Char) (items : List FItem2)
    (hf : parseFmt2 fmt = some items) (hs : pctSafe items = true)
    (hyear : Piece.fld .century ∈ piecesOfItems2 items) :
    strftime2 m p fmt = .error .bounds := by
  obtain ⟨ht, hna⟩ := translate_scan2 fmt items hf hs
  unfold strftime2
  rw [hna, ht]
  simp only [Bool.false_eq_true, ↓reduceIte, dump_ctx m p hv c hc]
  rw [if_pos]
  exact ⟨by simpa using hyear, hy⟩

example : strftime2 .greg ⟨.cal 10000 1 1, 0, 0, 0, ⟨0, 0⟩⟩ "%%%Y".toList = .error .bounds ∧
    strftime2 .greg ⟨.cal 10000 1 1, 0, 0, 0, ⟨0, 0⟩⟩ "%%%m".toList = .ok "%01".toList := by decide +kernel

/-- **`%%` is not always POSIX's `%%`.**  Outside `pctSafe` the POSIX reading FAILS: `%%Y` is, to the
    library, a literal `%` followed by the directive `%Y`, whose printf template `%(century)02d…` then
    has its own `%` eaten (`%%` → `%`), so the template's text is printed: `%(century)02d00` for the year
    2000, where POSIX prints `%Y`; `%%a`, POSIX `%a`, is refused as an unsupported directive. -/
theorem C17_percent_posix_counterexample :
    parseFmt2 "%%Y".toList = some [.pct, .lit 'Y'] ∧
    strftime2 .greg ⟨.cal 2000 3 4, 5, 6, 7, ⟨0, 0⟩⟩ "%%Y".toList = .ok "%(century)02d00".toList ∧
    posix2 ⟨2000, 3, 4, 64, 5, 6, 7, 0, 952146367⟩ [.pct, .lit 'Y'] = "%Y".toList ∧
    parseFmt2 "100%%a".toList = some [.lit '1', .lit '0', .lit '0', .pct, .lit 'a'] ∧
    strftime2 .greg ⟨.cal 2000 3 4, 5, 6, 7, ⟨0, 0⟩⟩ "100%%a".toList = .error .syntax := by
  decide +kernel

/-- **A trailing `%`**: a format of the class above followed by one more `%` is refused with the bare
    `ValueError` ("incomplete format") of Python's `%` operator — not with the library's
    `StrftimeSyntaxError` — for every valid point with a year in 0000–9999. -/
theorem C17_strftime_trailing_percent (m : Mode) (p : TP) (hv : p.Valid m) (c : Civil) (hc : IsCivil m p c)
    (hy : 0 ≤ c.year ∧ c.year ≤ 9999) (pre : List Char) (items : List FItem2)
    (hf : parseFmt2 pre = some items) (hs : pctSafe items = true) :
    strftime2 m p (pre ++ ['%']) = .error .value := by
  rw [strftime2_prefix m p hv c hc pre items hf hs ['%'] (by decide) (by decide) [.lit '%'] (by decide)
    (fun _ => hy)]
  have : exprOf [Piece.lit '%'] = ['%'] := rfl
  rw [this, run_trailing, prepend_error]

example : strftime2 .greg ⟨.cal 2000 3 4, 5, 6, 7, ⟨0, 0⟩⟩ "%Y%".toList = .error .value ∧
    strftime2 .greg ⟨.cal 2000 3 4, 5, 6, 7, ⟨0, 0⟩⟩ "%".toList = .error .value ∧
    strftime2 .greg ⟨.cal 2000 3 4, 5, 6, 7, ⟨0, 0⟩⟩ "50%%%".toList = .error .value := by decide +kernel

/-- **A `%` before punctuation** (`inertPunct`: not a letter, digit, underscore or non-ASCII character,
    and none of `%` `(` `-` `+` space `#` `*` `.`, which printf reads as `%%`, a mapping key, flags, a
    width or a precision): after a format of the class above — whatever follows, as long as it is
    translatable — strftime fails in Python's `%` operator: with `ValueError` ("unsupported format
    character") if no directive precedes the `%`, with `TypeError` ("not enough arguments for format
    string": NOT a `ValueError`) if one does. -/
theorem C17_strftime_stray_percent (m : Mode) (p : TP) (hv : p.Valid m) (c : Civil) (hc : IsCivil m p c)
    (hy : 0 ≤ c.year ∧ c.year ≤ 9999) (pre : List Char) (items : List FItem2)
    (hf : parseFmt2 pre = some items) (hs : pctSafe items = true) (x : Char) (hx : inertPunct x = true)
    (post : List Char) (hpa : nonAsciiAfterPct post = false) (tp : List Piece)
    (htp : translate (scan post) = .ok tp) :
    strftime2 m p (pre ++ '%' :: x :: post) =
      .error (if fieldsOf2 items = [] then .value else .type) := by
  have hx' := hx
  simp only [inertPunct, Bool.and_eq_true, Bool.not_eq_true'] at hx'
  obtain ⟨hxw, hxl⟩ := hx'
  have hxp : x ≠ '%' := by
    intro e; subst e; exact absurd hxl (by decide)
  -- the suffix `%x…` is read as the literal `%`, the literal `x`, then `post`
  have htl : translate (scan ('%' :: x :: post)) = .ok (.lit '%' :: .lit x :: tp) := by
    rw [scan_pct (x :: post) hxw, scan_ch x post hxp]
    simp [translate, htp]
  have hsa : nonAsciiAfterPct ('%' :: x :: post) = false := by
    rw [nonAscii_pct (x :: post) hxw, nonAscii_skip x post hxp, hpa]
  rw [strftime2_prefix m p hv c hc pre items hf hs ('%' :: x :: post) wordLike_percent hsa _ htl (fun _ => hy)]
  have he : exprOf (Piece.lit '%' :: Piece.lit x :: tp) = '%' :: x :: exprOf tp := by simp [exprOf, pieceExpr]
  rw [he, run_stray _ _ x _ hx, prepend_error]
  rw [hasFld_items]
  cases fieldsOf2 items <;> simp

example : inertPunct '!' = true ∧ inertPunct ':' = true ∧ inertPunct '\n' = true ∧ inertPunct ' ' = false ∧
    inertPunct 'd' = false := by decide
example : strftime2 .greg ⟨.cal 2000 3 4, 5, 6, 7, ⟨0, 0⟩⟩ "50%! %Y".toList = .error .value ∧
    strftime2 .greg ⟨.cal 2000 3 4, 5, 6, 7, ⟨0, 0⟩⟩ "%Y 50%!".toList = .error .type := by decide +kernel

/-- What else a `%` in the literal text can do (each line confirmed on /repo, Python 3.12): it is a
    conversion specification of Python's `%` operator on the internal dict of properties —
    a flag then a letter: `ValueError` (unsupported format character 'Y');  `%(name)`: `KeyError` when the
    format names no such property, else the property's value (here the century, printed a second
    time);  a numeric conversion without a key: `TypeError` (the dict is not a number);  a `%` whose
    conversion would print the dict itself (`% s`): outside the model, on /repo the `repr` of the
    internal dict, e.g. `{'century': 20, 'year_of_century': 0}`, appears in the output. -/
example : strftime2 .greg ⟨.cal 2000 3 4, 5, 6, 7, ⟨0, 0⟩⟩ "% Y".toList = .error .value ∧
    strftime2 .greg ⟨.cal 2000 3 4, 5, 6, 7, ⟨0, 0⟩⟩ "%(century)s".toList = .error .key ∧
    strftime2 .greg ⟨.cal 2000 3 4, 5, 6, 7, ⟨0, 0⟩⟩ "%Y %(century)03d|".toList = .ok "2000 020|".toList ∧
    strftime2 .greg ⟨.cal 2000 3 4, 5, 6, 7, ⟨0, 0⟩⟩ "%-5d".toList = .error .type ∧
    strftime2 .greg ⟨.cal 2000 3 4, 5, 6, 7, ⟨0, 0⟩⟩ "%(".toList = .error .value ∧
    strftime2 .greg ⟨.cal 2000 3 4, 5, 6, 7, ⟨0, 0⟩⟩ "% s%Y".toList = .error .unmodelled := by decide +kernel

/-- The format determines date, time and zone (`Determined` of `Lemmas/Strftime.lean`, on the fields the
    format names). -/
def Determined2 (items : List FItem2) : Prop := Determined (items.map FItem2.toItem)

instance (items : List FItem2) : Decidable (Determined2 items) := by unfold Determined2; infer_instance

/-- **C17 (strptime inverts strftime, literal text)**: let `fmt` be a format over the supported
    directives and ARBITRARY literal text — regex-special characters (`.`, `(`, `+`, `\`, `*`, `$`, …),
    white space, anything but `%%` — in any arrangement (literal text before, between and after the
    directives or none at all: adjacent numeric directives are fixed-width), that determines date, time
    and zone.  Then for every valid point with a civil year in 0000–9999, any representation, offset,
    mode, parser zone configuration and local zone: strftime (with its final `%`-formatting) succeeds
    and strptime of that output under the same format returns a valid point at the same instant, with
    `p`'s own offset and clock fields (for `%s`: in the local zone). -/
theorem C17_strptime_literals (m : Mode) (p : TP) (hv : p.Valid m) (c : Civil) (hc : IsCivil m p c)
    (hy : 0 ≤ c.year ∧ c.year ≤ 9999) (fmt : List Char) (items : List FItem2)
    (hf : parseFmt2 fmt = some items) (hnp : FItem2.pct ∉ items) (hd : Determined2 items)
    (cfg : PCfg) (loc : TZ) (hloc : loc.Valid) :
    ∃ text q, strftime2 m p fmt = .ok text ∧ text = posix2 c items ∧ strptime m cfg loc text fmt = .ok q ∧
      q.inst m = p.inst m ∧ q.Valid m ∧
      (fieldsOf2 items = [.unix] → q.tz = loc) ∧
      (fieldsOf2 items ≠ [.unix] → q.tz = p.tz ∧ q.hh = p.hh ∧ q.mi = p.mi ∧ q.ss = p.ss) := by
  have hf1 := parseFmt_of_parseFmt2 fmt items hf hnp
  obtain ⟨text, q, h1, h2, h3, h4, h5, h6⟩ :=
    C17_strptime m p hv c hc hy fmt (items.map FItem2.toItem) hf1 hd cfg loc hloc
  have htext : text = posix2 c items := by
    have := C17_strftime m p hv c hc hy fmt _ hf1
    rw [this, posix_toItem] at h1
    exact (Except.ok.inj h1).symm
  refine ⟨text, q, ?_, htext, h2, h3, h4, ?_, ?_⟩
  · rw [C17_strftime_literals m p hv c hc hy fmt items hf (pctSafe_of_no_pct items hnp), htext]
  · rw [← fieldsOf_toItem]; exact h5
  · rw [← fieldsOf_toItem]; exact h6

example : parseFmt2 "[%Y.%m(%d)+\\ T\t%H*%M?%S$%z]".toList =
    some [.lit '[', .conv .Y, .lit '.', .conv .m, .lit '(', .conv .d, .lit ')', .lit '+', .lit '\\', .lit ' ',
      .lit 'T', .lit '\t', .conv .H, .lit '*', .conv .M, .lit '?', .conv .S, .lit '$', .conv .z, .lit ']'] ∧
    Determined2 [.lit '[', .conv .Y, .lit '.', .conv .m, .lit '(', .conv .d, .lit ')', .lit '+', .lit '\\',
      .lit ' ', .lit 'T', .lit '\t', .conv .H, .lit '*', .conv .M, .lit '?', .conv .S, .lit '$', .conv .z,
      .lit ']'] := by decide +kernel
example : strftime2 .greg ⟨.week 2004 53 5, 24, 0, 0, ⟨0, -30⟩⟩ "[%Y.%m(%d)+\\ T\t%H*%M?%S$%z]".toList =
      .ok "[2004.12(31)+\\ T\t24*00?00$-0030]".toList ∧
    strptime .greg ⟨none, false⟩ ⟨5, 30⟩ "[2004.12(31)+\\ T\t24*00?00$-0030]".toList
      "[%Y.%m(%d)+\\ T\t%H*%M?%S$%z]".toList = .ok ⟨.cal 2004 12 31, 24, 0, 0, ⟨0, -30⟩⟩ := by decide +kernel

/-- Literal text is matched character by character, nothing in it is a regex operator: under a format
    without any directive, strptime accepts exactly the format string itself (and returns the default
    point: year 0, January 1st, midnight, the default zone). -/
theorem C17_strptime_literal_exact (m : Mode) (cfg : PCfg) (loc : TZ) (fmt data : List Char)
    (hl : scan fmt = fmt.map Item.ch) :
    strptime m cfg loc data fmt =
      if data = fmt then assemble m cfg loc [] else .error .conversion := by
  unfold strptime
  rw [hl, translate_chs]
  simp only [fldsOf_lits, hasDup, Bool.false_eq_true, ↓reduceIte, match_lits]
  by_cases h : data = fmt <;> simp [h]

example : scan ".(+\\ \t\n*?[0-9]$".toList = ".(+\\ \t\n*?[0-9]$".toList.map Item.ch := by decide +kernel
example : strptime .greg ⟨some ⟨1, 0⟩, false⟩ ⟨0, 0⟩ ".(+\\ \t\n*?[0-9]$".toList ".(+\\ \t\n*?[0-9]$".toList =
      .ok ⟨.cal 0 1 1, 0, 0, 0, ⟨1, 0⟩⟩ ∧
    strptime .greg ⟨some ⟨1, 0⟩, false⟩ ⟨0, 0⟩ "a(+\\ \t\n*?[0-9]$".toList ".(+\\ \t\n*?[0-9]$".toList =
      .error .conversion ∧
    strptime .greg ⟨some ⟨1, 0⟩, false⟩ ⟨0, 0⟩ ".(+\\ \t\n*?7$".toList ".(+\\ \t\n*?[0-9]$".toList =
      .error .conversion := by decide +kernel

/-- **No format with `%%` round-trips.**  strptime escapes the literal text as it stands, so a `%%` of
    the format demands the two characters `%%` in the data, while strftime prints one `%` for it.  For
    EVERY format of the class of `C17_strftime_literals` that contains `%%`, every civil date-time and
    every parser configuration, strptime refuses (`StrptimeConversionError`) the text that strftime
    printed with the same format. -/
theorem C17_strptime_percent_never_round_trips (m : Mode) (cfg : PCfg) (loc : TZ) (c : Civil)
    (fmt : List Char) (items : List FItem2) (hf : parseFmt2 fmt = some items) (hs : pctSafe items = true)
    (hp : FItem2.pct ∈ items) :
    strptime m cfg loc (posix2 c items) fmt = .error .conversion := by
  obtain ⟨ht, _⟩ := translate_scan2 fmt items hf hs
  have hl := lit_ne_pct fmt items hf
  unfold strptime
  rw [ht]
  simp only
  split
  · rfl
  · cases hm : matchPieces (piecesOfItems2 items) (posix2 c items) with
    | none => rfl
    | some b =>
      exfalso
      have h1 := match_count _ _ _ hm
      rw [count_pieces2 items hl, count_posix2 c items hl] at h1
      have h2 : 0 < items.count .pct := List.count_pos_iff.2 hp
      omega

/-- … concretely, and what strptime wants instead. -/
theorem C17_strptime_percent_counterexample :
    strftime2 .greg ⟨.cal 2000 1 1, 0, 0, 0, ⟨0, 0⟩⟩ "100%% %Y".toList = .ok "100% 2000".toList ∧
    strptime .greg ⟨none, true⟩ ⟨0, 0⟩ "100% 2000".toList "100%% %Y".toList = .error .conversion ∧
    strptime .greg ⟨none, true⟩ ⟨0, 0⟩ "100%% 2000".toList "100%% %Y".toList =
      .ok ⟨.cal 2000 1 1, 0, 0, 0, ⟨0, 0⟩⟩ := by decide +kernel

/-! ## `%s` on points with decimal seconds, minutes or hours -/

theorem forDumpQ_spec (m : Mode) (p : TPQ) (hv : p.Valid m) :
    ∃ p', forDumpQ m p = some p' ∧ p'.Valid m ∧ p'.inst m = p.inst m := by
  unfold forDumpQ
  by_cases h : p.date.rep = 2
  · rw [if_pos h]
    obtain ⟨r, he, hrv, _, hn⟩ := convert_spec m 0 (by omega) p.date hv.1
    rw [he]
    refine ⟨{ p with date := r }, rfl, ⟨hrv, hv.2.1, hv.2.2⟩, ?_⟩
    simp only [TPQ.inst, TPQ.hms, hn]
  · rw [if_neg h]
    exact ⟨p, rfl, hv, rfl⟩

/-- **C17 (`%s`, decimal points)**: `strftime("%s")` of a valid point in ANY precision form prints, in
    decimal, the exact distance in seconds from 1970-01-01T00:00:00Z to its instant ROUNDED TOWARD ZERO
    (`Props/C18b`: the floor from the epoch on, the ceiling before it). -/
theorem C17_unix_rat (m : Mode) (p : TPQ) (hv : p.Valid m) :
    unixTextQ m p = some (decimalInt (truncQ (p.inst m - epochQ m))) := by
  obtain ⟨p', e, hv', hi⟩ := forDumpQ_spec m p hv
  unfold unixTextQ
  rw [e, Option.bind_some, C18_seconds_since_rat m p' hv', hi, Option.map_some, showInt_eq_decimalInt]

/-- **`%s` round trip for decimal points**: `strptime(p.strftime("%s"), "%s")` succeeds for every valid
    point in any precision form, whatever the zones; the result is a valid whole-second point in the
    local zone, less than one second away from `p`: not after `p` if `p` is at or after the epoch —
    but not BEFORE `p` if `p` is before the epoch (truncation toward zero, where POSIX's `time_t`
    would be the floor). -/
theorem C17_unix_rat_round_trip (m : Mode) (p : TPQ) (hv : p.Valid m) (cfg : PCfg) (loc : TZ)
    (hloc : loc.Valid) :
    ∃ n q, unixTextQ m p = some (decimalInt n) ∧ strptime m cfg loc (decimalInt n) ['%', 's'] = .ok q ∧
      q.Valid m ∧ q.tz = loc ∧ ((q.inst m : Int) : Rat) = epochQ m + (n : Rat) ∧
      (epochQ m ≤ p.inst m → ((q.inst m : Int) : Rat) ≤ p.inst m ∧ p.inst m < ((q.inst m : Int) : Rat) + 1) ∧
      (p.inst m < epochQ m → p.inst m ≤ ((q.inst m : Int) : Rat) ∧ ((q.inst m : Int) : Rat) < p.inst m + 1) := by
  obtain ⟨n, e, b1, b2⟩ := C18_seconds_since_rat_bounds m p hv
  have hn : n = truncQ (p.inst m - epochQ m) := by
    rw [C18_seconds_since_rat m p hv] at e
    exact (Option.some.inj e).symm
  obtain ⟨q, hq, hi, hs, ht⟩ := fromUnix_local m n loc hloc
  have hiq : ((q.inst m : Int) : Rat) = epochQ m + (n : Rat) := by
    rw [hi, epochQ, Lemmas.Strf.unixEpoch_inst, Rat.intCast_add]
  refine ⟨n, q, by rw [C17_unix_rat m p hv, hn], ?_, hs.1, ht, hiq, ?_, ?_⟩
  · rw [strptime_unix_text, hq]
  · intro h; obtain ⟨_, a, b⟩ := b1 h; rw [hiq]; exact ⟨a, b⟩
  · intro h; obtain ⟨_, a, b⟩ := b2 h; rw [hiq]; exact ⟨a, b⟩

/-- The `%s` text is not the POSIX one before 1970, and disagrees with `%X` of the same point:
    1969-12-31T23:59:59.5Z prints `%s` = `0` (POSIX: `-1`, the civil second 23:59:59 that `%X` shows), the
    same text as 1970-01-01T00:00:00.5Z; read back it is 1970-01-01T00:00:00Z, AFTER the point. -/
theorem C17_unix_rat_counterexample :
    unixTextQ .greg ⟨.cal 1969 12 31, 23, some 59, some (119/2), ⟨0, 0⟩⟩ = some "0".toList ∧
    unixTextQ .greg ⟨.cal 1970 1 1, 0, some 0, some (1/2), ⟨0, 0⟩⟩ = some "0".toList ∧
    unixTextQ .greg ⟨.cal 1969 12 31, 23, some 59, some 59, ⟨0, 0⟩⟩ = some "-1".toList ∧
    strptime .greg ⟨none, false⟩ ⟨0, 0⟩ "0".toList "%s".toList = .ok ⟨.cal 1970 1 1, 0, 0, 0, ⟨0, 0⟩⟩ := by
  decide +kernel

example : unixTextQ .greg ⟨.week 1970 1 4, 1/8, none, none, ⟨0, 0⟩⟩ = some "450".toList ∧
    unixTextQ .d360 ⟨.ord 1969 360, 23, some (119/2), none, ⟨0, 0⟩⟩ = some "-30".toList := by decide +kernel

end IsoDT.Props.C17
