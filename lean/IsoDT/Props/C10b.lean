/-
  C10 (decimal components) and C09 (totality of the duration parser).

  `toTextQ` is `Duration.__str__`, `parseQ` is `DurationParser.parse` (Model/DurTextQ.lean) over
  durations with whole years / months / days / weeks and RATIONAL hours / minutes / seconds.  The
  theorems do not fix Python's floats: `repr(float)` and `float(str)` are the parameters `reprF`,
  `readF`, and every theorem states the laws it needs of them as hypotheses (`FloatText`, `FloatDec`:
  Lemmas/DurTextQ.lean) — true of CPython on the binary64 values, and satisfied by the concrete
  `reprDec` / `pyFloat` on the eighths `k/8 < 2^17` (`floatText_eighths`, `floatDec_eighths` in
  Lemmas/DurTextQFloat.lean) and by `reprPy` / `pyFloat` on a finite sample that includes exponent
  layouts (`floatText_sample`): the non-vacuity instances.
  `lim` is the interpreter's `int`/`str` digit limit (4300 by default, 0 = none).
-/
import IsoDT.Lemmas.DurTextQ
import IsoDT.Lemmas.DurTextQFloat

namespace IsoDT.Props.C10b
open IsoDT IsoDT.Model IsoDT.Model.DurText IsoDT.Model.DurTextQ IsoDT.Gen IsoDT.Lemmas IsoDT.Lemmas.DurText
  IsoDT.Lemmas.DurTextQ IsoDT.Lemmas.DurTextQFloat

/-- All non-zero components share one sign (the week form has a single component). -/
def SingleSignedQ : DurationQ → Prop
  | .weeks _ => True
  | .units y mo d h mi s =>
    (0 ≤ y ∧ 0 ≤ mo ∧ 0 ≤ d ∧ 0 ≤ h ∧ 0 ≤ mi ∧ 0 ≤ s) ∨ (y ≤ 0 ∧ mo ≤ 0 ∧ d ≤ 0 ∧ h ≤ 0 ∧ mi ≤ 0 ∧ s ≤ 0)

/-- The magnitudes of hours, minutes and seconds lie in the domain of the float laws. -/
def TimeIn (D : Rat → Prop) : DurationQ → Prop
  | .weeks _ => True
  | .units _ _ _ h mi s => D h.abs ∧ D mi.abs ∧ D s.abs

/-- What `parse (str d)` returns: `d` itself, except that an empty duration (also the empty week
    form `0W`, which prints as `P0Y`) comes back as the empty unit form. -/
def normalQ (d : DurationQ) : DurationQ := if d.nonzero then d else .units 0 0 0 0 0 0

theorem normalQ_nonzero (d : DurationQ) (h : d.nonzero = true) : normalQ d = d := by
  unfold normalQ; rw [if_pos h]

theorem limOk_ofv (lim : Nat) (v : Int) (h : intTextOk lim v = true) : LimOk lim (ofv v) := by
  intro ds e
  unfold ofv at e
  split at e
  · injection e with e
    subst e
    simp only [intTextOk, Bool.or_eq_true, beq_iff_eq, decide_eq_true_eq] at h
    exact h
  · cases e

theorem intTextOk_neg (lim : Nat) (v : Int) : intTextOk lim (-v) = intTextOk lim v := by
  simp [intTextOk]

theorem intTextOk_pow10 (lim k : Nat) : intTextOk lim ((10 : Int) ^ k) = (lim == 0 || decide (k + 1 ≤ lim)) := by
  unfold intTextOk
  rw [Int.natAbs_pow, show (10 : Int).natAbs = 10 from rfl, natDigits_pow10_length]

def signedQ (neg : Bool) (s : List Char) : List Char := if neg then '-' :: s else s
def sgnQ (neg : Bool) : Int := if neg then -1 else 1

theorem parseQ_signed (lim : Nat) (readF : List Char → FR) (m : Mode) (neg : Bool) (s : List Char)
    (h : ∀ c ∈ s, c.toNat < 128) (hP : ∃ t, s = 'P' :: t) :
    parseQ lim readF m (signedQ neg s) = parseBodyQ lim readF m (sgnQ neg) s := by
  obtain ⟨t, rfl⟩ := hP
  cases neg
  · show parseQ lim readF m ('P' :: t) = _
    unfold parseQ
    rw [any_ge128_false _ h]
    rfl
  · show parseQ lim readF m ('-' :: 'P' :: t) = _
    unfold parseQ
    rw [any_ge128_false _ (ascii_cons (by decide) h)]
    rfl

/-- A designator string with good fields, with or without a leading `-`: the year / month / day
    fields are read as written, the time fields as `float` reads them (`RdT`). -/
theorem parseQ_signed_desig (lim : Nat) (readF : List Char → FR) (m : Mode) (neg : Bool)
    (fy fmo fd : Option (List Char)) (ft : Option TimeF) (hy : GoodF fy) (hmo : GoodF fmo) (hd : GoodF fd)
    (ly : LimOk lim fy) (lmo : LimOk lim fmo) (ld : LimOk lim fd) (ht : GoodAT ft) (qh qmi qs : Rat)
    (hr : RdT readF ft qh qmi qs) :
    parseQ lim readF m (signedQ neg (desig fy fmo fd ft)) =
      .ok (.units (ival fy * sgnQ neg) (ival fmo * sgnQ neg) (ival fd * sgnQ neg)
        (qh * (sgnQ neg : Rat)) (qmi * (sgnQ neg : Rat)) (qs * (sgnQ neg : Rat))) := by
  rw [parseQ_signed lim readF m neg _ (desig_asciiA fy fmo fd ft hy hmo hd ht) ⟨_, rfl⟩,
    parseBodyQ_desig lim readF m _ fy fmo fd ft hy hmo hd ly lmo ld ht qh qmi qs hr, mkQ_units]

/-- **C10 round trip, decimal components**: under the float laws `FloatText reprF readF D`, for
    every single-signed duration `d` — unit form with whole years / months / days of either sign and
    any size and hours / minutes / seconds whose magnitudes are in `D` (whole or fractional, any mix
    of zero and non-zero), or week form — within the interpreter's digit limit, in every calendar
    mode: `DurationParser.parse(str(d))` succeeds with `normalQ d` (slot for slot `d`; the empty
    duration as the empty unit form), which `==` `d` in both operand orders, and `str` is a
    fixpoint.  `Duration.__eq__` is evaluated over exact rationals here (the Python evaluates it in
    binary64).  The law on the layout of `repr` is only that it starts with a digit and uses digits,
    `.`, `e`, `-`, `+`: the exponent layout (`5e-05`) round-trips as well as the plain one, because
    the hour / minute / second groups are `\d.*` and `float()` reads exponents. -/
theorem C10_roundtrip_decimal {reprF : Rat → List Char} {readF : List Char → FR} {D : Rat → Prop}
    (ft : FloatText reprF readF D) (lim : Nat) (m : Mode) (d : DurationQ) (hs : SingleSignedQ d)
    (hD : TimeIn D d) (hl : strOk lim d = true) :
    toTextQ? lim reprF d = some (toTextQ reprF d) ∧
    parseQ lim readF m (toTextQ reprF d) = .ok (normalQ d) ∧ DurationQ.eq m (normalQ d) d = true ∧
      DurationQ.eq m d (normalQ d) = true ∧ toTextQ reprF (normalQ d) = toTextQ reprF d := by
  refine ⟨by unfold toTextQ?; rw [if_pos hl], ?_⟩
  by_cases hnz : d.nonzero = true
  · rw [normalQ_nonzero d hnz]
    refine ⟨?_, durQ_eq_refl m d, durQ_eq_refl m d, rfl⟩
    cases d with
    | weeks w =>
      have hw : w ≠ 0 := by simpa [DurationQ.nonzero] using hnz
      have hlw : lim = 0 ∨ (natDigits w.natAbs).length ≤ lim := by
        simpa [strOk, intTextOk] using hl
      have key := fun neg =>
        (parseQ_signed lim readF m neg _ (desigW_ascii _ (natDigits_digs w.natAbs)) ⟨_, rfl⟩).trans
          (parseBodyQ_desigW lim readF m _ _ (natDigits_digs w.natAbs) (natDigits_ne_nil _) hlw)
      by_cases hpos : 0 < w
      · rw [toTextQ_weeks_pos reprF w hpos]
        refine (key false).trans ?_
        rw [digitsVal_natDigits, ← mkQ_weeks m w hw]
        congr 2
        show (w.natAbs : Int) * 1 = w
        omega
      · rw [toTextQ_weeks_neg reprF w (by omega)]
        refine (key true).trans ?_
        rw [digitsVal_natDigits, ← mkQ_weeks m w hw]
        congr 2
        show (w.natAbs : Int) * (-1) = w
        omega
    | units y mo dd h mi s =>
      obtain ⟨xh, xmi, xs⟩ := hD
      simp only [strOk, Bool.and_eq_true] at hl
      obtain ⟨⟨⟨⟨⟨ly, lmo⟩, ld⟩, _⟩, _⟩, _⟩ := hl
      rcases hs with ⟨a1, a2, a3, a4, a5, a6⟩ | ⟨a1, a2, a3, a4, a5, a6⟩
      · rw [Rat.abs_of_nonneg a4] at xh
        rw [Rat.abs_of_nonneg a5] at xmi
        rw [Rat.abs_of_nonneg a6] at xs
        have tg := tOfQ_good ft h mi s a4 a5 a6 xh xmi xs
        rw [toTextQ_units_pos reprF y mo dd h mi s a1 a2 a3 a4 a5 a6 hnz]
        refine (parseQ_signed_desig lim readF m false _ _ _ _ (ofv_good y) (ofv_good mo) (ofv_good dd)
          (limOk_ofv lim y ly) (limOk_ofv lim mo lmo) (limOk_ofv lim dd ld) tg.1 h mi s tg.2).trans ?_
        simp only [ival_ofv y a1, ival_ofv mo a2, ival_ofv dd a3, sgnQ, Bool.false_eq_true, if_false, Int.mul_one,
          Rat.intCast_one, Rat.mul_one]
      · rw [Rat.abs_of_nonpos a4] at xh
        rw [Rat.abs_of_nonpos a5] at xmi
        rw [Rat.abs_of_nonpos a6] at xs
        have tg := tOfQ_good ft (-h) (-mi) (-s) (by grind) (by grind) (by grind) xh xmi xs
        rw [toTextQ_units_neg reprF y mo dd h mi s a1 a2 a3 a4 a5 a6 hnz]
        refine (parseQ_signed_desig lim readF m true _ _ _ _ (ofv_good _) (ofv_good _) (ofv_good _)
          (limOk_ofv lim (-y) (by rw [intTextOk_neg]; exact ly))
          (limOk_ofv lim (-mo) (by rw [intTextOk_neg]; exact lmo))
          (limOk_ofv lim (-dd) (by rw [intTextOk_neg]; exact ld)) tg.1 (-h) (-mi) (-s) tg.2).trans ?_
        simp only [ival_ofv (-y) (by omega), ival_ofv (-mo) (by omega), ival_ofv (-dd) (by omega), sgnQ, if_true,
          Int.mul_neg, Int.mul_one, Int.neg_neg, Rat.intCast_neg, Rat.intCast_one, Rat.mul_neg, Rat.mul_one,
          Rat.neg_neg]
  · have hz : d.nonzero = false := by simpa using hnz
    have hn : normalQ d = .units 0 0 0 0 0 0 := by unfold normalQ; rw [hz]; rfl
    rw [hn, toTextQ_zero reprF d hz]
    -- `P0Y` is the designator string with the one field `0Y`
    have hp : parseQ lim readF m ['P', '0', 'Y'] = .ok (.units 0 0 0 0 0 0) :=
      (parseQ_signed_desig lim readF m false (some ['0']) none none none
        (GoodF.some (Digs.cons (by decide) Digs.nil) (by simp)) GoodF.none GoodF.none
        (by intro ds e; injection e with e; subst e; simp only [List.length_cons, List.length_nil]; omega)
        (LimOk.none lim) (LimOk.none lim) trivial 0 0 0 ⟨rfl, rfl, rfl⟩).trans
        (by simp [ival, digitsVal, sgnQ])
    have hzero : DurationQ.eq m (.units 0 0 0 0 0 0) d = true ∧ DurationQ.eq m d (.units 0 0 0 0 0 0) = true := by
      cases d with
      | weeks w =>
        have : w = 0 := by simpa [DurationQ.nonzero] using hz
        subst this
        simp [DurationQ.eq, DurationQ.isExact, DurationQ.exactSeconds, Rat.add_zero]
      | units y mo dd h mi s =>
        simp only [DurationQ.nonzero, Bool.or_eq_false_iff, bne_eq_false_iff_eq] at hz
        obtain ⟨⟨⟨⟨⟨rfl, rfl⟩, rfl⟩, rfl⟩, rfl⟩, rfl⟩ := hz
        exact ⟨durQ_eq_refl m _, durQ_eq_refl m _⟩
    exact ⟨hp, hzero.1, hzero.2, rfl⟩

/-- **C10 comma and point**: for ANY `float` (no law needed), every designator string
    `[-]P[nY][nM][nD]T[xH][xM][xS]` whose hour / minute / second fields `x` start with a digit and
    contain no unit letter or newline (decimal fields `12,5`, `12.5`, but also `1e-05` or garbage
    such as `1,2,3`) gives the same result — the same duration, the same `inf`, the same
    `ValueError` — as the string with every `,` of those fields written `.`: the parser hands
    `value.replace(",", ".")` to `float`, and the greedy `\d.*` groups split both strings alike. -/
theorem C10_decimal_comma_point (lim : Nat) (readF : List Char → FR) (m : Mode) (neg : Bool)
    (fy fmo fd : Option (List Char)) (ft : Option TimeF) (hy : GoodF fy) (hmo : GoodF fmo) (hd : GoodF fd)
    (ht : GoodAT ft) :
    parseQ lim readF m (signedQ neg (desig fy fmo fd ft)) =
      parseQ lim readF m (signedQ neg (desig fy fmo fd (pointT ft))) := by
  rw [parseQ_signed lim readF m neg _ (desig_asciiA fy fmo fd ft hy hmo hd ht) ⟨_, rfl⟩,
    parseQ_signed lim readF m neg _ (desig_asciiA fy fmo fd (pointT ft) hy hmo hd ht.point) ⟨_, rfl⟩,
    parseBodyQ_point lim readF m _ fy fmo fd ft hy hmo hd ht]

/-- A written hour / minute / second field: absent, a run of digits, or digits, a decimal sign
    (`,` or `.`) and digits (possibly none after the sign: `float("1.") == 1.0`). -/
inductive TF where
  | absent
  | whole (a : List Char)
  | dec (a : List Char) (comma : Bool) (b : List Char)

def TF.text : TF → Option (List Char)
  | .absent => none
  | .whole a => some a
  | .dec a c b => some (a ++ (if c then ',' else '.') :: b)

def TF.value : TF → Rat
  | .absent => 0
  | .whole a => (digitsVal a : Rat)
  | .dec a _ b => decVal a b

def TF.Good : TF → Prop
  | .absent => True
  | .whole a => Digs a ∧ a ≠ []
  | .dec a _ b => Digs a ∧ a ≠ [] ∧ Digs b

theorem replaceComma_dec (a b : List Char) (c : Bool) (ha : Digs a) (hb : Digs b) :
    replaceComma (a ++ (if c then ',' else '.') :: b) = a ++ '.' :: b := by
  have : replaceComma (a ++ (if c then ',' else '.') :: b) =
      replaceComma a ++ '.' :: replaceComma b := by
    cases c <;> simp [replaceComma]
  rw [this, replaceComma_id a (ha.not_mem (by decide)), replaceComma_id b (hb.not_mem (by decide))]

theorem TF.goodA (t : TF) (h : t.Good) : GoodA t.text := by
  cases t with
  | absent => exact GoodA.none
  | whole a => exact GoodA.ofGoodF (GoodF.some h.1 h.2)
  | dec a c b =>
    obtain ⟨ha, hne, hb⟩ := h
    intro t e
    injection e with e
    subst e
    refine ⟨?_, ?_⟩
    · cases a with
      | nil => exact absurd rfl hne
      | cons d0 a' => exact ⟨d0, _, rfl, ha.head⟩
    · intro x hx
      simp only [List.mem_append, List.mem_cons] at hx
      rcases hx with hx | hx | hx
      · exact dig_free x (ha x hx)
      · subst hx; cases c <;> decide
      · exact dig_free x (hb x hx)

theorem TF.rd {readF : List Char → FR} {D : Rat → Prop} (fdl : FloatDec readF D) (t : TF) (h : t.Good)
    (hD : D t.value) : Rd readF t.text t.value := by
  cases t with
  | absent => rfl
  | whole a =>
    show readF (replaceComma a) = _
    rw [replaceComma_id a (h.1.not_mem (by decide))]
    exact fdl.read_digits a h.1 h.2 hD
  | dec a c b =>
    obtain ⟨ha, hne, hb⟩ := h
    show readF (replaceComma _) = _
    rw [replaceComma_dec a b c ha hb]
    exact fdl.read_point a b ha hne hb hD

/-- **C10 decimal designators**: when `float` is exact on representable decimal texts
    (`FloatDec`: true of CPython, whose `float` is correctly rounded), every string
    `[-]P[nY][nM][nD]T[xH][xM][xS]` — `n` any non-empty digit runs within the digit limit, each `x`
    absent, a digit run, or digits + `,` or `.` + digits (any mix of the two signs, leading and
    trailing zeros, any length) with its decimal value in the domain — is accepted and decodes to
    exactly the values written, negated by a leading `-`.  (The `T` is needed: `P1,5D` is refused.) -/
theorem C10_designators_decimal {readF : List Char → FR} {D : Rat → Prop} (fdl : FloatDec readF D)
    (lim : Nat) (m : Mode) (neg : Bool) (fy fmo fd : Option (List Char)) (th tmi ts : TF)
    (hy : GoodF fy) (hmo : GoodF fmo) (hd : GoodF fd) (ly : LimOk lim fy) (lmo : LimOk lim fmo)
    (ld : LimOk lim fd) (gh : th.Good) (gmi : tmi.Good) (gs : ts.Good)
    (dh : D th.value) (dmi : D tmi.value) (ds : D ts.value) :
    parseQ lim readF m (signedQ neg (desig fy fmo fd (some (th.text, tmi.text, ts.text)))) =
      .ok (.units (ival fy * sgnQ neg) (ival fmo * sgnQ neg) (ival fd * sgnQ neg)
        (th.value * (sgnQ neg : Rat)) (tmi.value * (sgnQ neg : Rat)) (ts.value * (sgnQ neg : Rat))) :=
  parseQ_signed_desig lim readF m neg fy fmo fd (some (th.text, tmi.text, ts.text)) hy hmo hd ly lmo ld
    ⟨th.goodA gh, tmi.goodA gmi, ts.goodA gs⟩ _ _ _ ⟨th.rd fdl gh dh, tmi.rd fdl gmi dmi, ts.rd fdl gs ds⟩

/-- The time fields `str` prints are written fields in the sense of `C10_designators_decimal`. -/
theorem ofq_plain {reprF : Rat → List Char} {D : Rat → Prop} (fp : FloatPlain reprF D) (h : Rat) (h0 : 0 ≤ h)
    (hD : D h) :
    ∃ t : TF, t.Good ∧ ofq reprF h = t.text ∧ (∀ a c b, t = .dec a c b → c = true ∧ b ≠ []) := by
  by_cases hz : h = 0
  · subst hz
    exact ⟨.absent, trivial, ofq_zero reprF, by intro a c b e; cases e⟩
  · by_cases hd : h.den = 1
    · exact ⟨.whole (natDigits h.num.natAbs), ⟨natDigits_digs _, natDigits_ne_nil _⟩,
        ofq_whole reprF h hz hd h0, by intro a c b e; cases e⟩
    · obtain ⟨a, b, er, ha, hne, hb, hbne⟩ := fp h hD (by grind)
      refine ⟨.dec a true b, ⟨ha, hne, hb⟩, ?_, by intro a' c' b' e'; cases e'; exact ⟨rfl, hbne⟩⟩
      rw [ofq_frac reprF h hd, er, replaceDot_append, replaceDot_id a (ha.not_mem (by decide))]
      have : replaceDot ('.' :: b) = ',' :: b := by
        have := replaceDot_id b (hb.not_mem (by decide))
        simp only [replaceDot, List.map_cons, ↓reduceIte, List.cons.injEq, true_and] at this ⊢
        exact this
      rw [this]
      rfl

/-- **C10, what `str` prints in the plain range**: when `repr` has the plain layout on the domain
    (`FloatPlain`: CPython for `1e-4 ≤ x < 1e16`), the text of a duration without negative
    components is `P[nY][nM][nD][T[xH][xM][xS]]` with each `x` a run of digits (whole value) or
    `digits,digits` — decimal COMMA, at least one digit on either side — i.e. an ISO 8601
    designator text inside the grammar of `C10_designators_decimal`; a duration without positive
    components prints as `-` followed by the text of its absolute value (`toTextQ_units_neg`). -/
theorem C10_str_decimal_shape {reprF : Rat → List Char} {D : Rat → Prop} (fp : FloatPlain reprF D)
    (y mo d : Int) (h mi s : Rat) (hy : 0 ≤ y) (hmo : 0 ≤ mo) (hd : 0 ≤ d) (hh : 0 ≤ h) (hmi : 0 ≤ mi)
    (hs : 0 ≤ s) (hnz : (DurationQ.units y mo d h mi s).nonzero = true) (dh : D h) (dmi : D mi) (ds : D s) :
    ∃ th tmi ts : TF, th.Good ∧ tmi.Good ∧ ts.Good ∧
      (∀ t ∈ [th, tmi, ts], ∀ a c b, t = .dec a c b → c = true ∧ b ≠ []) ∧
      toTextQ reprF (.units y mo d h mi s) =
        desig (ofv y) (ofv mo) (ofv d)
          (if h = 0 ∧ mi = 0 ∧ s = 0 then none else some (th.text, tmi.text, ts.text)) := by
  obtain ⟨th, g1, e1, c1⟩ := ofq_plain fp h hh dh
  obtain ⟨tmi, g2, e2, c2⟩ := ofq_plain fp mi hmi dmi
  obtain ⟨ts, g3, e3, c3⟩ := ofq_plain fp s hs ds
  refine ⟨th, tmi, ts, g1, g2, g3, ?_, ?_⟩
  · intro t ht
    simp only [List.mem_cons, List.not_mem_nil, or_false] at ht
    rcases ht with rfl | rfl | rfl <;> assumption
  · rw [toTextQ_units_pos reprF y mo d h mi s hy hmo hd hh hmi hs hnz]
    unfold tOfQ
    rw [e1, e2, e3]

/-! ## C09: the duration parser is total -/

theorem parseQ_nonascii (lim : Nat) (readF : List Char → FR) (m : Mode) (s : List Char)
    (h : s.any (fun c => decide (128 ≤ c.toNat)) = true) : parseQ lim readF m s = .outside := by
  unfold parseQ; rw [if_pos h]

theorem parseQ_minus (lim : Nat) (readF : List Char → FR) (m : Mode) (e : List Char)
    (h : ¬ ('-' :: e).any (fun c => decide (128 ≤ c.toNat)) = true) :
    parseQ lim readF m ('-' :: e) = parseBodyQ lim readF m (-1) e := by
  unfold parseQ; rw [if_neg h]; rfl

theorem parseQ_other (lim : Nat) (readF : List Char → FR) (m : Mode) (s : List Char)
    (h : ¬ s.any (fun c => decide (128 ≤ c.toNat)) = true) (hm : ∀ e, s ≠ '-' :: e) :
    parseQ lim readF m s = parseBodyQ lim readF m 1 s := by
  unfold parseQ; rw [if_neg h]
  split
  · rename_i e; exact absurd rfl (hm e)
  · rfl

/-- **C09 totality of the duration parser**.  `parseQ` is defined by structural recursion on the
    regex and on the text (the matcher `Re.run` / `starK` takes no fuel, `digitsVal` is a fold), so
    it answers on every text, however long its digit runs, and its answer (type `PRQ`) is

      * `ok d`: then `d` is `Duration(**result_map)` of WHOLE years / months / weeks / days (what the
        constructor's type check demands) and float hours / minutes / seconds — `DurationQ.mk?`, the
        constructor with its type check, accepts the arguments;
      * `okInf`: the same with an infinite float slot (`float("1e999")`), also accepted;
      * `syntaxErr` (`ISO8601SyntaxError`) or `valueErr` (`ValueError`) — both derived from
        `ValueError`;
      * `outside` — and that ONLY for a text with a non-ASCII character, or for a `P…` text that none
        of the three designator patterns matches and whose date-time-like reading
        `Model.DurText.altPath` does not follow (reduced / decimal / zoned / expanded spellings).
    In particular a text matched by a designator pattern is never `outside`, whatever `float` does
    with its hour / minute / second groups (`C09_duration_designator_total`). -/
theorem C09_duration_text_total (lim : Nat) (readF : List Char → FR) (m : Mode) (s : List Char) :
    (∀ d, parseQ lim readF m s = .ok d →
      ∃ (y mo w dd : Int) (h mi sec : Rat), d = DurationQ.mk m y mo w dd h mi sec ∧
        DurationQ.mk? m y mo w dd h mi sec = some d) ∧
    (parseQ lim readF m s = .outside →
      (∃ c ∈ s, 128 ≤ c.toNat) ∨
        ∃ rest, s = 'P' :: rest ∧ firstMatch durRegexes s = none ∧ altPath m rest = .outside) := by
  have mk?_int : ∀ (y mo w dd : Int) (h mi sec : Rat),
      DurationQ.mk? m y mo w dd h mi sec = some (DurationQ.mk m y mo w dd h mi sec) := by
    intro y mo w dd h mi sec
    simp [DurationQ.mk?, DurationQ.intLike?]
  have okk : ∀ sg e d, parseBodyQ lim readF m sg e = .ok d →
      ∃ (y mo w dd : Int) (h mi sec : Rat), d = DurationQ.mk m y mo w dd h mi sec ∧
        DurationQ.mk? m y mo w dd h mi sec = some d := by
    intro sg e d h
    obtain ⟨y, mo, w, dd, hh, mi, sec, rfl⟩ := (parseBodyQ_answer lim readF m sg e).1 d h
    exact ⟨y, mo, w, dd, hh, mi, sec, rfl, mk?_int ..⟩
  by_cases hna : s.any (fun c => decide (128 ≤ c.toNat)) = true
  · rw [parseQ_nonascii lim readF m s hna]
    refine ⟨fun d h => PRQ.noConfusion h, fun _ => Or.inl ?_⟩
    simpa [List.any_eq_true] using hna
  · by_cases hm : ∃ e, s = '-' :: e
    · obtain ⟨e, rfl⟩ := hm
      rw [parseQ_minus lim readF m e hna]
      refine ⟨okk _ _, fun h => ?_⟩
      exact absurd ((parseBodyQ_answer lim readF m (-1) e).2 h).1 (by decide)
    · rw [parseQ_other lim readF m s hna (fun e he => hm ⟨e, he⟩)]
      exact ⟨okk _ _, fun h => Or.inr ((parseBodyQ_answer lim readF m 1 s).2 h).2⟩

/-- **C09, designator texts**: an ASCII text (after an optional leading `-`) that one of the three
    `DURATION_REGEXES` matches gets a definite answer of the model — a duration, a duration with an
    infinite slot, or `ValueError` — never `outside` and never `ISO8601SyntaxError`. -/
theorem C09_duration_designator_total (lim : Nat) (readF : List Char → FR) (m : Mode) (sg : Int) (e : List Char)
    (gs : List DUnit) (cp : Caps) (hfm : firstMatch durRegexes e = some (gs, cp)) :
    (∃ d, parseBodyQ lim readF m sg e = .ok d) ∨ parseBodyQ lim readF m sg e = .okInf ∨
      parseBodyQ lim readF m sg e = .valueErr := by
  rw [parseBodyQ_of_match lim readF m sg e gs cp hfm]
  cases hcv : convertQ lim readF sg cp gs Acc.zero with
  | error r =>
    have := convertQ_error lim readF sg cp (firstMatch_capI e gs cp hfm) gs _ r hcv
    subst this
    exact Or.inr (Or.inr rfl)
  | ok a =>
    simp only
    split
    · exact Or.inr (Or.inl rfl)
    · exact Or.inl ⟨_, rfl⟩

/-- ... and a text that none of them matches is refused with `ISO8601SyntaxError` unless it starts
    with `P` and has no `-` sign (then the date-time-like reading decides). -/
theorem C09_duration_nomatch_syntax (lim : Nat) (readF : List Char → FR) (m : Mode) (sg : Int) (e : List Char)
    (hfm : firstMatch durRegexes e = none) (h : sg ≠ 1 ∨ ∀ rest, e ≠ 'P' :: rest) :
    parseBodyQ lim readF m sg e = .syntaxErr := by
  by_cases hP : ∃ rest, e = 'P' :: rest
  · obtain ⟨rest, rfl⟩ := hP
    rcases h with h | h
    · rw [parseBodyQ_nomatch_P lim readF m sg rest hfm, if_neg h]
    · exact absurd rfl (h rest)
  · exact parseBodyQ_nomatch_other lim readF m sg e hfm (fun rest he => hP ⟨rest, he⟩)

/-! ## The float laws are satisfiable: a concrete instance with `reprPy` / `pyFloat` -/

/-- A finite domain of binary64 values: zero, eighths, values whose `repr` has the exponent layout
    (`1/32768 = 3.0517578125e-05`, `2^-20`, `10^22`), `2^51 + 1/2`, whole values (`2^53`, `10^15`, `10^16`). -/
def sampleDomain : List Rat :=
  [0, 1/8, 1/4, 3/8, 1/2, 5/8, 3/4, 7/8, 3/2, 9/4, 25/2, 803/8, 1, 5, 24, 59, 60, 90, 3600, 86400,
   1/16, 1/1024, 1/8192, 1/16384, 1/32768, 3/65536, 1/1048576, 123456789/1024, 4503599627370497/2,
   9007199254740992, 1000000000000000, 10000000000000000, 10000000000000000000000]

def floatChB (c : Char) : Bool := isDig c || c == '.' || c == 'e' || c == '-' || c == '+'

theorem floatCh_of_B (c : Char) (h : floatChB c = true) : FloatCh c := by
  simpa [floatChB, FloatCh, or_assoc] using h

def reprShapeB (t : List Char) : Bool :=
  match t with
  | d0 :: body => isDig d0 && body.all floatChB
  | [] => false

/-- The concrete `reprPy` (exact decimal expansion in CPython's layout) and `pyFloat` (CPython's
    `float(str)` grammar + correct rounding), the functions the driver is validated with against
    CPython, satisfy the float laws on `sampleDomain` — by evaluation. -/
theorem floatText_sample : FloatText reprPy pyFloat (· ∈ sampleDomain) := by
  -- one sweep for both facts about `reprPy q`, so that it is evaluated once per value
  have hab : ∀ q ∈ sampleDomain, pyFloat (reprPy q) = .val q ∧ (0 < q → reprShapeB (reprPy q) = true) := by
    decide +kernel
  have hc : ∀ q ∈ sampleDomain, q.den = 1 → 0 ≤ q → pyFloat (natDigits q.num.natAbs) = .val q := by
    decide +kernel
  refine ⟨fun q hq => (hab q hq).1, ?_, ?_⟩
  · intro q hq hpos
    have := (hab q hq).2 hpos
    unfold reprShapeB at this
    split at this
    · rename_i d0 body heq
      simp only [Bool.and_eq_true, List.all_eq_true] at this
      exact ⟨d0, body, heq, this.1, fun c hc => floatCh_of_B c (this.2 c hc)⟩
    · cases this
  · intro n hn
    have := hc (n : Rat) hn (Rat.den_natCast n) Rat.natCast_nonneg
    rw [Rat.num_natCast, Int.natAbs_natCast] at this
    exact this

theorem digs_of_all (ds : List Char) (h : ds.all isDig = true) : Digs ds := by
  intro c hc; exact List.all_eq_true.mp h c hc

-- the round trip instantiated on the eighths: -P1Y3DT1,5H0,25M59,875S in the 360-day calendar
example :
    let d := DurationQ.units (-1) 0 (-3) (-3/2) (-1/4) (-479/8)
    toTextQ reprDec d = "-P1Y3DT1,5H0,25M59,875S".toList ∧
      parseQ 4300 pyFloat .d360 (toTextQ reprDec d) = .ok (normalQ d) ∧ normalQ d = d := by
  intro d
  have hs : SingleSignedQ d := Or.inr (by decide +kernel)
  have hD : TimeIn Eighth d :=
    ⟨⟨12, by decide, by decide +kernel⟩, ⟨2, by decide, by decide +kernel⟩, ⟨479, by decide, by decide +kernel⟩⟩
  have hl : strOk 4300 d = true := by decide +kernel
  exact ⟨by decide +kernel, (C10_roundtrip_decimal floatText_eighths 4300 .d360 d hs hD hl).2.1,
    by decide +kernel⟩

-- ... and on the sample with CPython's `repr` layout, week form and whole floats included
example : parseQ 4300 pyFloat .greg (toTextQ reprPy (.units 2 0 0 (803/8) 0 90)) =
      .ok (.units 2 0 0 (803/8) 0 90) ∧
    toTextQ reprPy (.units 2 0 0 (803/8) 0 90) = "P2YT100,375H90S".toList ∧
    parseQ 0 pyFloat .greg (toTextQ reprPy (.weeks (-52))) = .ok (.weeks (-52)) := by
  have h1 := C10_roundtrip_decimal floatText_sample 4300 .greg (.units 2 0 0 (803/8) 0 90)
    (Or.inl (by decide +kernel)) ⟨by decide +kernel, by decide +kernel, by decide +kernel⟩ (by decide +kernel)
  have h2 := C10_roundtrip_decimal floatText_sample 0 .greg (.weeks (-52)) trivial trivial (by decide +kernel)
  exact ⟨h1.2.1.trans (congrArg PRQ.ok (normalQ_nonzero _ (by decide +kernel))), by decide +kernel,
    h2.2.1.trans (congrArg PRQ.ok (normalQ_nonzero _ (by decide +kernel)))⟩

-- what `str` prints in the plain range, on the eighths: P1YT1,5H (fields th = `1,5`, tmi, ts absent)
example : ∃ th tmi ts : TF, th.Good ∧ tmi.Good ∧ ts.Good ∧
    (∀ t ∈ [th, tmi, ts], ∀ a c b, t = .dec a c b → c = true ∧ b ≠ []) ∧
    toTextQ reprDec (.units 1 0 0 (3/2) 0 0) = desig (ofv 1) (ofv 0) (ofv 0)
      (if (3/2 : Rat) = 0 ∧ (0 : Rat) = 0 ∧ (0 : Rat) = 0 then none else some (th.text, tmi.text, ts.text)) :=
  C10_str_decimal_shape floatPlain_eighths 1 0 0 (3/2) 0 0 (by decide) (by decide) (by decide)
    (by decide +kernel) (by decide +kernel) (by decide +kernel) (by decide +kernel)
    ⟨12, by decide, by decide +kernel⟩ ⟨0, by decide, by decide +kernel⟩ ⟨0, by decide, by decide +kernel⟩

/-- **No counter-witness in the exponent range** (below `1e-4`, where `repr` switches to the exponent
    layout): `Duration(seconds=2**-15)` prints `PT3,0517578125e-05S` — not an ISO 8601 duration text,
    but the `seconds` group `\d.*` takes it and `float("3.0517578125e-05")` reads it back, so
    `parse(str(d)) == d` and `str` is a fixpoint.  (So does /repo: `Duration(seconds=0.00005)` →
    `PT5e-05S` → parses back equal.) -/
theorem C10_exponent_range_no_counterexample :
    toTextQ reprPy (.units 0 0 0 0 0 (1/32768)) = "PT3,0517578125e-05S".toList ∧
    parseQ 4300 pyFloat .greg "PT3,0517578125e-05S".toList = .ok (.units 0 0 0 0 0 (1/32768)) ∧
    parseQ 4300 pyFloat .greg "-PT9,5367431640625e-07H".toList = .ok (.units 0 0 0 (-1/1048576) 0 0) := by
  decide +kernel

/-- ... as an instance of the general theorem (the laws hold on a domain with exponent layouts). -/
example : parseQ 4300 pyFloat .greg (toTextQ reprPy (.units 0 0 0 0 (-1/1048576) (-1/32768))) =
    .ok (.units 0 0 0 0 (-1/1048576) (-1/32768)) :=
  ((C10_roundtrip_decimal floatText_sample 4300 .greg (.units 0 0 0 0 (-1/1048576) (-1/32768))
    (Or.inr (by decide +kernel)) ⟨by decide +kernel, by decide +kernel, by decide +kernel⟩
    (by decide +kernel)).2.1).trans (congrArg PRQ.ok (normalQ_nonzero _ (by decide +kernel)))

/-- **Counter-witness (interpreter digit limit)**: the round trip for *every* duration is false of
    the code under a default CPython ≥ 3.11: `str(Duration(years=10**4300))` raises `ValueError`
    ("Exceeds the limit (4300 digits) for integer string conversion") inside `__str__`, while
    `10**4299` years still print; with the limit lifted (`lim = 0`) the text is produced.  (So does
    /repo under Python 3.12.) -/
theorem C10_str_int_limit_counterexample :
    SingleSignedQ (.units (10 ^ 4300) 0 0 0 0 0) ∧
    toTextQ? 4300 reprPy (.units (10 ^ 4300) 0 0 0 0 0) = none ∧
    (toTextQ? 4300 reprPy (.units (10 ^ 4299) 0 0 0 0 0)).isSome = true ∧
    (toTextQ? 0 reprPy (.units (10 ^ 4300) 0 0 0 0 0)).isSome = true := by
  have z : intTextOk 4300 0 = true := by decide
  have zs : slotOk 4300 0 = true := by decide
  refine ⟨Or.inl ⟨Int.pow_nonneg (by decide), by decide, by decide, by decide, by decide, by decide⟩, ?_, ?_, ?_⟩
  -- `10^k` prints with `k + 1` digits
  · simp only [toTextQ?, strOk, intTextOk_pow10]
    rfl
  · simp only [toTextQ?, strOk, intTextOk_pow10, z, zs]
    rfl
  · simp only [toTextQ?, strOk, intTextOk_pow10]
    rfl

-- comma and point: the same duration, and the same ValueError on a malformed field
example : parseQ 4300 pyFloat .greg "P1DT1,5H0,25M".toList = parseQ 4300 pyFloat .greg "P1DT1.5H0.25M".toList :=
  C10_decimal_comma_point 4300 pyFloat .greg false none none (some ['1']) (some
    ((TF.dec ['1'] true ['5']).text, (TF.dec ['0'] true ['2', '5']).text, none))
    GoodF.none GoodF.none (GoodF.some (digs_of_all _ (by decide)) (by decide))
    ⟨TF.goodA _ ⟨digs_of_all _ (by decide), by decide, digs_of_all _ (by decide)⟩,
     TF.goodA _ ⟨digs_of_all _ (by decide), by decide, digs_of_all _ (by decide)⟩, GoodA.none⟩
example : parseQ 4300 pyFloat .greg "-PT1,5H".toList = .ok (.units 0 0 0 (-3/2) 0 0) ∧
    parseQ 4300 pyFloat .greg "-PT1.5H".toList = .ok (.units 0 0 0 (-3/2) 0 0) ∧
    parseQ 4300 pyFloat .greg "PT1,5,5H".toList = .valueErr ∧
    parseQ 4300 pyFloat .greg "PT1.5.5H".toList = .valueErr := by
  decide +kernel

-- decimal designators on the eighths: leading / trailing zeros, both decimal signs, a sign
example : parseQ 4300 pyFloat .greg "-P007YT01,50H0.125M".toList =
    .ok (.units (-7) 0 0 (-3/2) (-1/8) 0) := by
  have h := C10_designators_decimal floatDec_eighths 4300 .greg true (some ['0', '0', '7']) none none
    (TF.dec ['0', '1'] true ['5', '0']) (TF.dec ['0'] false ['1', '2', '5']) TF.absent
    (GoodF.some (digs_of_all _ (by decide)) (by decide)) GoodF.none GoodF.none
    (by intro ds e; injection e with e; subst e; exact Or.inr (by decide)) (LimOk.none _) (LimOk.none _)
    ⟨digs_of_all _ (by decide), by decide, digs_of_all _ (by decide)⟩
    ⟨digs_of_all _ (by decide), by decide, digs_of_all _ (by decide)⟩ trivial
    ⟨12, by decide, by decide +kernel⟩ ⟨1, by decide, by decide +kernel⟩ ⟨0, by decide, by decide +kernel⟩
  have e : signedQ true (desig (some ['0', '0', '7']) none none
      (some ((TF.dec ['0', '1'] true ['5', '0']).text, (TF.dec ['0'] false ['1', '2', '5']).text, TF.absent.text))) =
      "-P007YT01,50H0.125M".toList := by decide +kernel
  rw [e] at h
  rw [h]
  decide +kernel

-- C09: garbage, float()'s extensions, overflow, long digit runs (no fuel anywhere)
example : parseQ 4300 pyFloat .greg "PT1H2H".toList = .valueErr ∧
    parseQ 4300 pyFloat .greg "P1Y2M3D4H".toList = .syntaxErr ∧
    parseQ 4300 pyFloat .greg "P1,5D".toList = .syntaxErr ∧
    parseQ 4300 pyFloat .greg "PT1e999H".toList = .okInf ∧
    parseQ 4300 pyFloat .greg "PT1e999H1xM".toList = .valueErr ∧
    parseQ 4300 pyFloat .greg "PT1_0H".toList = .ok (.units 0 0 0 10 0 0) ∧
    parseQ 4300 pyFloat .greg "PT1 H".toList = .ok (.units 0 0 0 1 0 0) ∧
    parseQ 4300 pyFloat .greg "PT1,5S\n".toList = .ok (.units 0 0 0 0 0 (3/2)) := by
  decide +kernel
example : parseQ 4300 pyFloat .greg ('P' :: 'T' :: (List.replicate 400 '9' ++ ['H'])) = .okInf ∧
    parseQ 4300 pyFloat .greg ('P' :: 'T' :: (List.replicate 1500 '1' ++ ['S'])) = .okInf ∧
    parseQ 40 pyFloat .greg ('P' :: (List.replicate 40 '9' ++ ['Y'])) = .ok (.units (10 ^ 40 - 1) 0 0 0 0 0) ∧
    parseQ 40 pyFloat .greg ('P' :: (List.replicate 41 '9' ++ ['Y'])) = .valueErr ∧
    parseQ 0 pyFloat .greg ('P' :: (List.replicate 41 '9' ++ ['Y'])) = .ok (.units (10 ^ 41 - 1) 0 0 0 0 0) := by
  decide +kernel
example : (C09_duration_text_total 4300 pyFloat .greg "P0001-02-03T04:05:06,5".toList).2
    (by decide +kernel) = Or.inr ⟨"0001-02-03T04:05:06,5".toList, rfl, by decide +kernel, by decide +kernel⟩ := rfl

end IsoDT.Props.C10b
