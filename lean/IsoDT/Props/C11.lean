/-
  C11 — Duration arithmetic, equality, ordering and hashing are coherent.

  `Model.Dur.*` mirror `Duration.__add__`, `__mul__`, `__eq__`, `__hash__`, the ordering operators
  and `get_days_and_seconds` for integer components (the `TimeZone` subclass is excluded, as in the
  property).  Decimal components are outside this model; `Props/C11q.lean` has them, over exact
  rationals.
-/
import IsoDT.Lemmas.Dur

namespace IsoDT.Props.C11
open IsoDT IsoDT.Model IsoDT.Lemmas

def ym : Dur → Int × Int
  | .weeks _ => (0, 0)
  | .units y mo _ _ _ _ => (y, mo)

theorem ym_eq (a : Dur) : ym a = durYm a := by cases a <;> rfl

theorem isExact_iff (a : Dur) : a.isExact = true ↔ ym a = (0, 0) := by
  rw [ym_eq]; exact dur_isExact_iff a

/-- `==` on durations: equal exactly when years, months and the exact remainder all match (so two
    exact durations are equal purely by total length, whatever units spell them, and an exact
    duration never equals a nominal one). -/
theorem C11_eq_iff (m : Mode) (a b : Dur) :
    Dur.eq m a b = true ↔ ym a = ym b ∧ a.exactSeconds m = b.exactSeconds m := by
  rw [ym_eq, ym_eq]; exact dur_eq_iff m a b

theorem C11_eq_equivalence (m : Mode) (a b c : Dur) :
    Dur.eq m a a = true ∧ (Dur.eq m a b = true → Dur.eq m b a = true) ∧
    (Dur.eq m a b = true → Dur.eq m b c = true → Dur.eq m a c = true) := by
  refine ⟨(C11_eq_iff m a a).mpr ⟨rfl, rfl⟩, fun h => ?_, fun h1 h2 => ?_⟩
  · have := (C11_eq_iff m a b).mp h
    exact (C11_eq_iff m b a).mpr ⟨this.1.symm, this.2.symm⟩
  · have x := (C11_eq_iff m a b).mp h1
    have y := (C11_eq_iff m b c).mp h2
    exact (C11_eq_iff m a c).mpr ⟨x.1.trans y.1, x.2.trans y.2⟩

theorem hashKey_eq (m : Mode) (a : Dur) : Dur.hashKey m a = ((ym a).1, (ym a).2, a.exactSeconds m) := by
  cases a <;> rfl

/-- Equal durations hash equally. -/
theorem C11_hash (m : Mode) (a b : Dur) (h : Dur.eq m a b = true) : Dur.hashKey m a = Dur.hashKey m b := by
  rw [C11_eq_iff] at h
  rw [hashKey_eq, hashKey_eq, h.1, h.2]

theorem add_ym (m : Mode) (a b : Dur) : ym (Dur.add m a b) = ((ym a).1 + (ym b).1, (ym a).2 + (ym b).2) := by
  cases a <;> cases b <;> simp [Dur.add, Dur.toDays, ym]

theorem add_isExact (m : Mode) (a b : Dur) (ha : a.isExact = true) (hb : b.isExact = true) :
    (Dur.add m a b).isExact = true := by
  rw [isExact_iff] at ha hb ⊢
  rw [add_ym, ha, hb]; rfl

theorem add_seconds (m : Mode) (a b : Dur) :
    (Dur.add m a b).exactSeconds m = a.exactSeconds m + b.exactSeconds m := by
  cases a <;> cases b <;>
    simp only [Dur.add, Dur.toDays, exactSeconds_units, exactSeconds_weeks, daysInWeek_eq] <;> grind

/-- Commutative — even field for field. -/
theorem C11_add_comm (m : Mode) (a b : Dur) : Dur.add m a b = Dur.add m b a := by
  cases a <;> cases b <;> simp only [Dur.add, Dur.toDays, Int.add_comm]

/-- Associative — even field for field. -/
theorem C11_add_assoc (m : Mode) (a b c : Dur) :
    Dur.add m (Dur.add m a b) c = Dur.add m a (Dur.add m b c) := by
  cases a <;> cases b <;> cases c <;>
    simp only [Dur.add, Dur.toDays, Int.add_assoc, Int.add_mul, Int.zero_add, Int.add_zero]

/-- The empty duration is the identity (up to `==`: `P1W + P0Y` is spelled `P7D`). -/
theorem C11_add_zero (m : Mode) (a : Dur) :
    Dur.eq m (Dur.add m a Dur.zero) a = true ∧ Dur.eq m (Dur.add m Dur.zero a) a = true := by
  rw [C11_add_comm m Dur.zero a, C11_eq_iff, add_ym, add_seconds]
  simp [ym, Dur.zero, Dur.exactSeconds]

/-- `d + (-1 * d)` is empty. -/
theorem C11_add_inverse (m : Mode) (a : Dur) :
    (Dur.add m a (a.mul (-1))).nonzero = false ∧ Dur.eq m (Dur.add m a (a.mul (-1))) Dur.zero = true := by
  cases a with
  | weeks w =>
    have e : Dur.add m (.weeks w) ((Dur.weeks w).mul (-1)) = .weeks 0 := by
      simp only [Dur.mul, Dur.add]; congr 1; omega
    rw [e]
    refine ⟨rfl, (C11_eq_iff m _ _).mpr ⟨rfl, ?_⟩⟩
    simp [Dur.zero, Dur.exactSeconds]
  | units y mo d h mi s =>
    have e : Dur.add m (.units y mo d h mi s) ((Dur.units y mo d h mi s).mul (-1)) = .units 0 0 0 0 0 0 := by
      simp only [Dur.mul, Dur.add, Dur.toDays]; congr 1 <;> omega
    rw [e]
    exact ⟨rfl, (C11_eq_iff m _ _).mpr ⟨rfl, rfl⟩⟩

/-- Subtraction is addition of the negation (by definition of `__sub__`). -/
theorem C11_sub (m : Mode) (a b : Dur) : Dur.sub m a b = Dur.add m a (b.mul (-1)) := rfl

theorem mul_ym (a : Dur) (n : Int) : ym (a.mul n) = ((ym a).1 * n, (ym a).2 * n) := by
  cases a <;> simp [Dur.mul, ym]

theorem nfold_ym (m : Mode) (a : Dur) : ∀ n : Nat,
    ym (Dur.nfold m a n) = ((ym a).1 * (n : Int), (ym a).2 * (n : Int)) ∧
    (Dur.nfold m a n).exactSeconds m = a.exactSeconds m * (n : Int) := by
  intro n
  induction n with
  | zero => simp [Dur.nfold, Dur.zero, ym, Dur.exactSeconds]
  | succ k ih =>
    obtain ⟨i1, i2⟩ := ih
    simp only [Dur.nfold, add_ym, add_seconds, i1, i2]
    have e : ((k + 1 : Nat) : Int) = (k : Int) + 1 := by omega
    rw [e, Int.mul_add, Int.mul_add, Int.mul_add]
    simp

/-- `n * d` equals `n`-fold addition of `d`. -/
theorem C11_mul_is_repeated_add (m : Mode) (a : Dur) (n : Nat) :
    Dur.eq m (a.mul n) (Dur.nfold m a n) = true := by
  rw [C11_eq_iff, mul_ym, exactSeconds_mul, (nfold_ym m a n).1, (nfold_ym m a n).2]
  exact ⟨rfl, rfl⟩

/-- A week is exactly 7 days, a day 24 hours, an hour 60 minutes, a minute 60 seconds. -/
theorem C11_units (m : Mode) (n : Int) :
    Dur.eq m (.weeks n) (.units 0 0 (7 * n) 0 0 0) = true ∧
    Dur.eq m (.units 0 0 n 0 0 0) (.units 0 0 0 (24 * n) 0 0) = true ∧
    Dur.eq m (.units 0 0 0 n 0 0) (.units 0 0 0 0 (60 * n) 0) = true ∧
    Dur.eq m (.units 0 0 0 0 n 0) (.units 0 0 0 0 0 (60 * n)) = true ∧
    (Dur.weeks n).toDays m = .units 0 0 (n * 7) 0 0 0 := by
  refine ⟨(C11_eq_iff m _ _).mpr ⟨rfl, ?_⟩, (C11_eq_iff m _ _).mpr ⟨rfl, ?_⟩,
    (C11_eq_iff m _ _).mpr ⟨rfl, ?_⟩, (C11_eq_iff m _ _).mpr ⟨rfl, ?_⟩, ?_⟩
  all_goals simp only [exactSeconds_units, exactSeconds_weeks, Dur.toDays, daysInWeek_eq]
  all_goals omega

/-- The constructor counts weeks as 7 days unless weeks is the only unit given. -/
theorem C11_constructor (m : Mode) (y mo w d h mi s : Int) :
    (mkDur m y mo w d h mi s).exactSeconds m = (Dur.units y mo (d + 7 * w) h mi s).exactSeconds m ∧
    ym (mkDur m y mo w d h mi s) = (y, mo) := by
  unfold mkDur
  simp only [daysInWeek_eq]
  by_cases hc : w ≠ 0 ∧ y = 0 ∧ mo = 0 ∧ d = 0 ∧ h = 0 ∧ mi = 0 ∧ s = 0
  · rw [if_pos hc]
    obtain ⟨_, rfl, rfl, rfl, rfl, rfl, rfl⟩ := hc
    refine ⟨?_, rfl⟩
    rw [exactSeconds_units, exactSeconds_weeks]
    omega
  · rw [if_neg hc]
    exact ⟨rfl, rfl⟩

/-- The rough length used by `<`, `<=`, `>`, `>=`: a year counts as the calendar's common-year
    length, a month as 30 days. -/
def roughSeconds (m : Mode) (a : Dur) : Int :=
  (ym a).1 * Spec.yearLenB m false * 86400 + (ym a).2 * 30 * 86400 + a.exactSeconds m

theorem das_spec (m : Mode) (a : Dur) :
    (a.daysAndSeconds m).1 * 86400 + (a.daysAndSeconds m).2 = roughSeconds m a ∧
    0 ≤ (a.daysAndSeconds m).2 ∧ (a.daysAndSeconds m).2 < 86400 := by
  unfold roughSeconds; rw [ym_eq]; exact das_rough m a

/-- `<`, `<=`, `>`, `>=` are the order of the rough lengths, hence mutually consistent: exactly
    one of `<`, "same rough length", `>`; `<=`/`>=` are the unions; transitive. -/
theorem C11_order (m : Mode) (a b : Dur) :
    (Dur.lt m a b = true ↔ roughSeconds m a < roughSeconds m b) ∧
    (Dur.le m a b = true ↔ roughSeconds m a ≤ roughSeconds m b) ∧
    (Dur.gt m a b = true ↔ roughSeconds m a > roughSeconds m b) ∧
    (Dur.ge m a b = true ↔ roughSeconds m a ≥ roughSeconds m b) := by
  obtain ⟨ea, ra⟩ := das_spec m a
  obtain ⟨eb, rb⟩ := das_spec m b
  have l1 := pairLt_iff_lt _ _ ra rb
  have l2 := pairLt_iff_lt _ _ rb ra
  rw [ea, eb] at l1 l2
  unfold Dur.lt Dur.le Dur.gt Dur.ge
  refine ⟨l1, ?_, l2, ?_⟩
  · rw [Bool.not_eq_true', ← Bool.not_eq_true, l2, Int.not_lt]
  · rw [Bool.not_eq_true', ← Bool.not_eq_true, l1, Int.not_lt]

/-- Equal durations are neither `<` nor `>`; exact durations are ordered purely by length. -/
theorem C11_order_consistent_with_eq (m : Mode) (a b : Dur) (h : Dur.eq m a b = true) :
    Dur.lt m a b = false ∧ Dur.gt m a b = false ∧ Dur.le m a b = true ∧ Dur.ge m a b = true := by
  rw [C11_eq_iff] at h
  have e : roughSeconds m a = roughSeconds m b := by unfold roughSeconds; rw [h.1, h.2]
  obtain ⟨o1, o2, o3, o4⟩ := C11_order m a b
  rw [← Bool.not_eq_true, ← Bool.not_eq_true, o1, o2, o3, o4]
  omega

theorem C11_exact_order_by_length (m : Mode) (a b : Dur) (ha : a.isExact = true) (hb : b.isExact = true) :
    (Dur.lt m a b = true ↔ a.exactSeconds m < b.exactSeconds m) ∧
    (Dur.eq m a b = true ↔ a.exactSeconds m = b.exactSeconds m) := by
  rw [isExact_iff] at ha hb
  obtain ⟨o1, _⟩ := C11_order m a b
  rw [o1, C11_eq_iff, ha, hb]
  unfold roughSeconds; rw [ha, hb]
  simp

example : Dur.eq .greg (.weeks 1) (.units 0 0 6 23 59 60) = true := by decide
example : Dur.eq .greg (.units 1 0 0 0 0 0) (.units 0 0 365 0 0 0) = false := by decide
example : Dur.le .greg (.units 1 0 0 0 0 0) (.units 0 0 365 0 0 0) = true ∧
    Dur.lt .d360 (.units 1 0 0 0 0 0) (.units 0 0 365 0 0 0) = true := by decide
example : Dur.add .greg (.weeks 1) (.weeks (-1)) = .weeks 0 := by decide

end IsoDT.Props.C11
