/-
  C07 (second sentence) — "Parsing with dump_as_parsed and converting back to text reproduces the
  input (up to trailing zeros of a decimal fraction)", for every documented non-truncated form.

  `Props/C07` / `Props/C07b` say what `parse` returns for the text a complete date form, a
  non-truncated time form and a zone form (or none) spell: the point `pointOf`.  With
  `dump_as_parsed=True` the same point carries the concatenated expression text of the matched
  entries as its dump format (`parse_asParsed`), and `str` runs the dumper on it.  Here `str` of that
  point is shown to be the text the same regular expressions spell for the values as read back from
  the point (`Lemmas/TextAsParsed`): the input itself, except that
  * a `-` on an all-zero year (`-000000`) or on an all-zero zone (`-00`, `-00:00`, `-0000`) comes back
    as `+` (the point does not keep the sign of a zero);
  * a decimal fraction comes back as `TimePoint._decimal_string` of its digits: trailing zeros
    stripped, at least one digit kept, when there are at most six digits; longer fractions are
    rounded to six digits (the known finding F12);
  * a text without zone has a format without zone: nothing is printed for the configured default
    zone the point received; `Z` prints `Z`.
  The dumper's chain of regex substitutions is evaluated by the kernel on the expression text of
  every entry of every regenerated table (`asParsed_parts_tables`); what it does on every combination
  of entries follows (`C07_as_parsed_tables`).
-/
import IsoDT.Props.C07b
import IsoDT.Lemmas.TextAsParsed

namespace IsoDT.Props.C07
open IsoDT IsoDT.Text IsoDT.Model
open _root_.IsoDT.Gen.Templates (timeDesignator dateTypeOrder parserTables)

/-- The zone forms that may follow a time of format `f`: none, or a listed zone form of that format. -/
def zoneOpts (pt : ParserTables) (f : FormatKey) : List (Option ZEntry) :=
  none :: (pt.zoneEntries.filter (·.fmt == f)).map some

/-- For every non-truncated date form alone, and for every complete date form with every non-truncated
    time form of the same format and every zone form of that format or none: the parts have groups of
    their own kind only (`shapeCheck`), and the dumper compiles the concatenated expression text to
    exactly the printf expression the regular expressions correspond to (`exprCheck`). -/
def asParsedOK (pt : ParserTables) : Bool :=
  pt.dateEntries.all fun de =>
    (de.typ == .truncated || (shapeCheck de none none && exprCheck pt de none none)) &&
    (de.typ != .complete ||
      pt.timeEntries.all fun te => te.typ == .truncated || te.fmt != de.fmt ||
        (zoneOpts pt de.fmt).all fun zo => shapeCheck de (some te) zo && exprCheck pt de (some te) zo)

/-- The zone forms that may follow a time after a truncated date: none, or ANY listed zone form (no
    format is excluded). -/
def zoneOptsAll (pt : ParserTables) : List (Option ZEntry) := none :: pt.zoneEntries.map some

/-- The checks on the parts, from which those on the combinations follow (`exprCheck_time`,
    `exprCheck_date`, `shapeCheck_time`, `ttzCheck_spec`): every non-truncated date entry is compiled
    by the date rules to its regular expression and has date groups only; every time entry is compiled
    by the time rules, and a non-truncated one has time groups only; every zone entry, and no zone, is
    compiled by the zone rules. -/
def asParsedPartsOK (pt : ParserTables) : Bool :=
  pt.dateEntries.all (fun de => de.typ == .truncated || (datePartOK pt de && shapeCheck de none none)) &&
  pt.timeEntries.all (fun te =>
    (te.typ == .truncated || (groupFields te.tmpl).all isTimeFld) && timePartOK te) &&
  (zoneOptsAll pt).all zonePartOK

theorem asParsed_parts_tables : parserTables.all asParsedPartsOK = true := by decide +kernel

structure PartFacts (pt : ParserTables) : Prop where
  dates : ∀ de ∈ pt.dateEntries, de.typ ≠ .truncated →
    datePartOK pt de = true ∧ shapeCheck de none none = true
  times : ∀ te ∈ pt.timeEntries, te.typ ≠ .truncated → (groupFields te.tmpl).all isTimeFld = true
  timeZones : ∀ te ∈ pt.timeEntries, ∀ zo : Option ZEntry, (∀ ze, zo = some ze → ze ∈ pt.zoneEntries) →
    ttzCheck te zo = true

theorem partFacts (pt : ParserTables) (hpt : pt ∈ parserTables) : PartFacts pt := by
  have hk := List.all_eq_true.mp asParsed_parts_tables pt hpt
  simp only [asParsedPartsOK, Bool.and_eq_true, List.all_eq_true, Bool.or_eq_true, beq_iff_eq] at hk
  refine ⟨fun de hde hnt => (hk.1.1 de hde).resolve_left hnt,
    fun te hte hnt => List.all_eq_true.mpr (((hk.1.2 te hte).1).resolve_left hnt),
    fun te hte zo hzo => Bool.and_eq_true _ _ ▸ ⟨(hk.1.2 te hte).2, hk.2 zo ?_⟩⟩
  cases zo with
  | none => exact List.mem_cons_self ..
  | some ze => exact List.mem_cons_of_mem _ (List.mem_map.mpr ⟨ze, hzo ze rfl, rfl⟩)

theorem asParsed_pair (pt : ParserTables) (hpt : pt ∈ parserTables)
    (de : Entry) (hde : de ∈ pt.dateEntries) (hnt : de.typ ≠ .truncated)
    (te : Entry) (hte : te ∈ pt.timeEntries) (htt : te.typ ≠ .truncated)
    (zo : Option ZEntry) (hzo : ∀ ze, zo = some ze → ze ∈ pt.zoneEntries) :
    shapeCheck de (some te) zo = true ∧ exprCheck pt de (some te) zo = true :=
  have pf := partFacts pt hpt
  ⟨shapeCheck_time de te zo (pf.dates de hde hnt).2 (pf.times te hte htt) (pf.timeZones te hte zo hzo),
   exprCheck_time pt de te zo (pf.dates de hde hnt).1 (pf.timeZones te hte zo hzo)⟩

theorem asParsed_time (pt : ParserTables) (hpt : pt ∈ parserTables)
    (de : Entry) (hde : de ∈ pt.dateEntries) (hdc : de.typ = .complete)
    (te : Entry) (hte : te ∈ pt.timeEntries) (htt : te.typ ≠ .truncated) (_htf : te.fmt = de.fmt)
    (zo : Option ZEntry) (hzo : ∀ ze, zo = some ze → ze ∈ pt.zoneEntries ∧ ze.fmt = de.fmt) :
    shapeCheck de (some te) zo = true ∧ exprCheck pt de (some te) zo = true :=
  asParsed_pair pt hpt de hde (by rw [hdc]; decide) te hte htt zo fun ze h => (hzo ze h).1

theorem asParsed_date (pt : ParserTables) (hpt : pt ∈ parserTables)
    (de : Entry) (hde : de ∈ pt.dateEntries) (hnt : de.typ ≠ .truncated) :
    shapeCheck de none none = true ∧ exprCheck pt de none none = true :=
  ⟨((partFacts pt hpt).dates de hde hnt).2, exprCheck_date pt de ((partFacts pt hpt).dates de hde hnt).1⟩

/-- **C07 (expression texts)**: in every regenerated configuration, the expression text of every
    documented non-truncated combination of forms is compiled by the dumper's substitution rules to the
    printf expression that corresponds, item by item, to the forms' regular expressions. -/
theorem C07_as_parsed_tables : parserTables.all asParsedOK = true := by
  rw [List.all_eq_true]
  intro pt hpt
  simp only [asParsedOK, zoneOpts, Bool.and_eq_true, List.all_eq_true, Bool.or_eq_true, beq_iff_eq,
    bne_iff_ne, ne_eq, List.mem_cons, List.mem_map, List.mem_filter]
  intro de hde
  by_cases hnt : de.typ = .truncated
  · exact ⟨Or.inl hnt, Or.inl (by rw [hnt]; decide)⟩
  · refine ⟨Or.inr (asParsed_date pt hpt de hde hnt), Or.inr fun te hte => ?_⟩
    by_cases htt : te.typ = .truncated
    · exact Or.inl (Or.inl htt)
    · refine Or.inr fun zo hzo => asParsed_pair pt hpt de hde hnt te hte htt zo ?_
      rintro ze rfl
      rcases hzo with h | ⟨ze', h, h'⟩
      · cases h
      · cases h'; exact h.1

/-- The text a date form, a time form and a zone form (or none) spell for the values `v`. -/
def formText (de te : Entry) (zo : Option ZEntry) (v : Vals) : List Char :=
  trender de.tmpl (envOf de.tmpl v) ++ 'T' :: (trender te.tmpl (envOf te.tmpl v) ++ zoneText zo v)

/-- The expression text `get_info` assembles for these forms: `CCYY-MM-DD` `T` `hh:mm:ss` `+hh:mm`. -/
def formExpr (de te : Entry) (zo : Option ZEntry) : List Char :=
  de.expr ++ 'T' :: (te.expr ++ zexprO zo)

/-- The values as `str` spells the SIGNS back: a `-` on an all-zero year, or on an all-zero zone
    (hour `00` and, if the form has minutes, minute `00`), is `+`. -/
def respell (de : Template) (zo : Option ZEntry) (v : Vals) : Vals :=
  { v with
    yearNeg := v.yearNeg && decide (yearOf de v ≠ 0)
    tzNeg := v.tzNeg && !zoneZero (ztmplO zo) v }

/-- … and the decimal fraction as `_decimal_string` prints a fraction of at most six digits: without
    its trailing zeros, at least one digit kept (`stripZeros_spec`). -/
def respellDec (de : Template) (zo : Option ZEntry) (v : Vals) : Vals :=
  { respell de zo v with
    hourDec := stripZeros v.hourDec
    minuteDec := stripZeros v.minuteDec
    secondDec := stripZeros v.secondDec }

theorem ztmpl_map (zo : Option ZEntry) (f : Fld) :
    hasGroup (ztmplO zo) f = true → ∃ ze, zo = some ze ∧ hasGroup ze.tmpl f = true := by
  cases zo with
  | none => intro h; simp [ztmplO, hasGroup, groupFields] at h
  | some ze => intro h; exact ⟨ze, rfl, h⟩

/-- Two assignments with the same numbers and signs spell the same text in forms that pass `shapeCheck`
    (only the time form may have a decimal group), if they spell the time form's fractions alike. -/
theorem formText_frac (de te : Entry) (zo : Option ZEntry) (hsh : shapeCheck de (some te) zo = true)
    (v v' : Vals) (hn : ∀ f, v.nat f = v'.nat f) (hs : ∀ f, v.neg f = v'.neg f)
    (hd : ∀ f, isDecFld f = true → hasGroup te.tmpl f = true → v.dec f = v'.dec f) :
    formText de te zo v = formText de te zo v' := by
  simp only [shapeCheck, Bool.and_eq_true] at hsh
  unfold formText
  rw [envOf_frac de.tmpl v v' hn hs fun f hd hf => (no_decGroup _ _ hsh.1.1.1.1 rfl f hd hf).elim,
    envOf_frac te.tmpl v v' hn hs hd]
  cases zo with
  | none => rfl
  | some ze =>
    simp only [zoneText]
    rw [envOf_frac ze.tmpl v v' hn hs fun f hd hf => (no_decGroup _ _ hsh.1.2 rfl f hd hf).elim]

theorem zone_itemOK (pt : ParserTables) (hpt : pt ∈ parserTables) (zo : Option ZEntry)
    (hzo : ∀ ze, zo = some ze → ze ∈ pt.zoneEntries) : (ztmplO zo).all (itemOK pt.ned) = true := by
  cases zo with
  | none => rfl
  | some ze =>
    have := (decodeFacts pt hpt).zones ze (hzo ze rfl)
    simp only [zoneOK, Bool.and_eq_true] at this
    exact this.1

/-- **C07 (dump_as_parsed, the parse)**: with `dump_as_parsed=True` the parser returns the same point
    as without (`C07_parse`: `pointOf`, iff the values form a valid date-time), carrying as its dump
    format the concatenated expression text of the matched date, time and zone forms. -/
theorem C07_parse_as_parsed (cfg : Cfg) (hpt : cfg.pt ∈ parserTables)
    (de : Entry) (hde : de ∈ cfg.pt.dateEntries) (hdc : de.typ = .complete)
    (hx : cfg.pt.ned = 0 → hasGroup de.tmpl .expandedYear = false)
    (te : Entry) (hte : te ∈ cfg.pt.timeEntries) (htt : te.typ ≠ .truncated) (htf : te.fmt = de.fmt)
    (zo : Option ZEntry) (hzo : ∀ ze, zo = some ze → ze ∈ cfg.pt.zoneEntries ∧ ze.fmt = de.fmt)
    (v : Vals) (hv : v.Fit cfg.pt.ned) (tz : Spec.TZ)
    (hz : mkTZ cfg.mode ((zoneOf cfg.zone (zo.map (·.tmpl)) v).hour.getD 0)
      ((zoneOf cfg.zone (zo.map (·.tmpl)) v).minute.getD 0) = some tz) :
    parse cfg (formText de te zo v) true =
      if (dateOf de.tmpl v).Valid cfg.mode ∧ TimeValid te.tmpl v then
        some { pointOf cfg de.tmpl te.tmpl v tz with dumpFmt := some (formExpr de te zo) }
      else none := by
  have key := C07_info cfg hpt de hde hdc te hte htt htf zo hzo v hv
  rw [show (zo.map (·.expr)).getD [] = zexprO zo by cases zo <;> rfl] at key
  unfold formText
  rw [parse_asParsed cfg _ _ key, C07_parse cfg hpt de hde hdc hx te hte htt htf zo hzo v hv tz hz]
  split <;> rfl

/-- **C07 (dump_as_parsed round trip, every time form)**: for every regenerated configuration, every
    complete date form (not a signed form when no expanded digits are configured), every non-truncated
    time form of the same format — with or without a decimal fraction —, every zone form of that
    format or none, and every assignment of values that fit the widths and form a valid date-time:
    parsing the text with `dump_as_parsed=True` succeeds, and `str` of the result is the text the same
    forms spell for the values `spelled` — as given, except that a `-` on an all-zero year or zone is
    `+` and a decimal fraction of ANY length is `_decimal_string` of its digits (≤ 6 digits: trailing
    zeros dropped; more: rounded to six — finding F12).  Without a zone in the text nothing is printed
    for the zone; `Z` prints `Z`. -/
theorem C07_as_parsed_any (cfg : Cfg) (hpt : cfg.pt ∈ parserTables)
    (de : Entry) (hde : de ∈ cfg.pt.dateEntries) (hdc : de.typ = .complete)
    (hx : cfg.pt.ned = 0 → hasGroup de.tmpl .expandedYear = false)
    (te : Entry) (hte : te ∈ cfg.pt.timeEntries) (htt : te.typ ≠ .truncated) (htf : te.fmt = de.fmt)
    (zo : Option ZEntry) (hzo : ∀ ze, zo = some ze → ze ∈ cfg.pt.zoneEntries ∧ ze.fmt = de.fmt)
    (v : Vals) (hv : v.Fit cfg.pt.ned) (tz : Spec.TZ)
    (hz : mkTZ cfg.mode ((zoneOf cfg.zone (zo.map (·.tmpl)) v).hour.getD 0)
      ((zoneOf cfg.zone (zo.map (·.tmpl)) v).minute.getD 0) = some tz)
    (hvalid : (dateOf de.tmpl v).Valid cfg.mode ∧ TimeValid te.tmpl v) :
    ∃ x, parse cfg (formText de te zo v) true = some x ∧
      x = { pointOf cfg de.tmpl te.tmpl v tz with dumpFmt := some (formExpr de te zo) } ∧
      str cfg.mode x = .ok (formText de te zo (spelled de.tmpl (ztmplO zo) v)) := by
  refine ⟨_, ?_, rfl, ?_⟩
  · rw [C07_parse_as_parsed cfg hpt de hde hdc hx te hte htt htf zo hzo v hv tz hz, if_pos hvalid]
  · have df := decodeFacts cfg.pt hpt
    obtain ⟨hdi, hdcc, hds⟩ := df.dates de hde (by rw [hdc]; decide)
    obtain ⟨hti, hts⟩ := df.times te hte htt
    obtain ⟨hsh, hex⟩ := asParsed_time cfg.pt hpt de hde hdc te hte htt htf zo hzo
    have hzi := zone_itemOK cfg.pt hpt zo fun ze h => (hzo ze h).1
    exact (str_pointOf cfg de (some te) zo v tz hdi hdcc hds hx hti hts hzi hsh hex hv hz).trans
      (by cases zo <;> rfl)

/-- **C07 (dump_as_parsed round trip)**: for a time form WITHOUT a decimal fraction (`hh`, `hhmm`,
    `hhmmss`, basic or extended), `str` of the point parsed with `dump_as_parsed=True` reproduces the
    input text, except that a `-` on an all-zero year or an all-zero zone is re-spelled `+`
    (`respell`); with no zone in the text the format has none either — the point carries the
    configured default zone and nothing is printed for it; `Z` prints `Z`. -/
theorem C07_as_parsed (cfg : Cfg) (hpt : cfg.pt ∈ parserTables)
    (de : Entry) (hde : de ∈ cfg.pt.dateEntries) (hdc : de.typ = .complete)
    (hx : cfg.pt.ned = 0 → hasGroup de.tmpl .expandedYear = false)
    (te : Entry) (hte : te ∈ cfg.pt.timeEntries) (htt : te.typ ≠ .truncated) (htf : te.fmt = de.fmt)
    (hnd : ∀ f, isDecFld f = true → hasGroup te.tmpl f = false)
    (zo : Option ZEntry) (hzo : ∀ ze, zo = some ze → ze ∈ cfg.pt.zoneEntries ∧ ze.fmt = de.fmt)
    (v : Vals) (hv : v.Fit cfg.pt.ned) (tz : Spec.TZ)
    (hz : mkTZ cfg.mode ((zoneOf cfg.zone (zo.map (·.tmpl)) v).hour.getD 0)
      ((zoneOf cfg.zone (zo.map (·.tmpl)) v).minute.getD 0) = some tz)
    (hvalid : (dateOf de.tmpl v).Valid cfg.mode ∧ TimeValid te.tmpl v) :
    ∃ x, parse cfg (formText de te zo v) true = some x ∧
      x = { pointOf cfg de.tmpl te.tmpl v tz with dumpFmt := some (formExpr de te zo) } ∧
      str cfg.mode x = .ok (formText de te zo (respell de.tmpl zo v)) := by
  obtain ⟨x, h1, h2, h3⟩ := C07_as_parsed_any cfg hpt de hde hdc hx te hte htt htf zo hzo v hv tz hz hvalid
  refine ⟨x, h1, h2, ?_⟩
  rw [h3]
  obtain ⟨hsh, _⟩ := asParsed_time cfg.pt hpt de hde hdc te hte htt htf zo hzo
  exact congrArg _ (formText_frac de te zo hsh _ _ (fun f => by cases f <;> rfl) (fun f => by cases f <;> rfl)
    fun f hd hf => by rw [hnd f hd] at hf; cases hf)

/-- **C07 (dump_as_parsed round trip, unchanged text)**: … and when the text does not spell a negative
    zero — no `-` on an all-zero year, no `-` on an all-zero zone — `str` reproduces the input text
    exactly. -/
theorem C07_as_parsed_same (cfg : Cfg) (hpt : cfg.pt ∈ parserTables)
    (de : Entry) (hde : de ∈ cfg.pt.dateEntries) (hdc : de.typ = .complete)
    (hx : cfg.pt.ned = 0 → hasGroup de.tmpl .expandedYear = false)
    (te : Entry) (hte : te ∈ cfg.pt.timeEntries) (htt : te.typ ≠ .truncated) (htf : te.fmt = de.fmt)
    (hnd : ∀ f, isDecFld f = true → hasGroup te.tmpl f = false)
    (zo : Option ZEntry) (hzo : ∀ ze, zo = some ze → ze ∈ cfg.pt.zoneEntries ∧ ze.fmt = de.fmt)
    (v : Vals) (hv : v.Fit cfg.pt.ned) (tz : Spec.TZ)
    (hz : mkTZ cfg.mode ((zoneOf cfg.zone (zo.map (·.tmpl)) v).hour.getD 0)
      ((zoneOf cfg.zone (zo.map (·.tmpl)) v).minute.getD 0) = some tz)
    (hvalid : (dateOf de.tmpl v).Valid cfg.mode ∧ TimeValid te.tmpl v)
    (hy0 : v.yearNeg = true → yearOf de.tmpl v ≠ 0)
    (hz0 : v.tzNeg = true → zoneZero (ztmplO zo) v = false) :
    ∃ x, parse cfg (formText de te zo v) true = some x ∧
      str cfg.mode x = .ok (formText de te zo v) := by
  obtain ⟨x, h1, _, h3⟩ := C07_as_parsed cfg hpt de hde hdc hx te hte htt htf hnd zo hzo v hv tz hz hvalid
  refine ⟨x, h1, ?_⟩
  rw [h3]
  have e1 : (v.yearNeg && decide (yearOf de.tmpl v ≠ 0)) = v.yearNeg := by
    cases hn : v.yearNeg
    · rfl
    · exact decide_eq_true (hy0 hn)
  have e2 : (v.tzNeg && !zoneZero (ztmplO zo) v) = v.tzNeg := by
    cases hn : v.tzNeg
    · rfl
    · rw [hz0 hn]; rfl
  unfold respell
  rw [e1, e2]

/-- **C07 (dump_as_parsed round trip, decimal fraction)**: for a time form WITH a decimal fraction
    (`hh,ii`, `hhmm,nn`, `hhmmss,tt` and their `.` and extended variants — the decimal sign is kept as
    written) whose fraction has at most six digits, `str` of the point parsed with
    `dump_as_parsed=True` reproduces the input text up to the trailing zeros of the fraction: the
    printed fraction is the input digits with trailing zeros stripped, at least one digit kept
    (`stripZeros`, `stripZeros_spec`); signs of zero as in `C07_as_parsed`.  (Fractions of more than six
    digits are rounded to six: `C07_as_parsed_any`, finding F12.) -/
theorem C07_as_parsed_decimal (cfg : Cfg) (hpt : cfg.pt ∈ parserTables)
    (de : Entry) (hde : de ∈ cfg.pt.dateEntries) (hdc : de.typ = .complete)
    (hx : cfg.pt.ned = 0 → hasGroup de.tmpl .expandedYear = false)
    (te : Entry) (hte : te ∈ cfg.pt.timeEntries) (htt : te.typ ≠ .truncated) (htf : te.fmt = de.fmt)
    (zo : Option ZEntry) (hzo : ∀ ze, zo = some ze → ze ∈ cfg.pt.zoneEntries ∧ ze.fmt = de.fmt)
    (v : Vals) (hv : v.Fit cfg.pt.ned)
    (h6 : ∀ f, isDecFld f = true → hasGroup te.tmpl f = true → (v.dec f).length ≤ 6)
    (tz : Spec.TZ)
    (hz : mkTZ cfg.mode ((zoneOf cfg.zone (zo.map (·.tmpl)) v).hour.getD 0)
      ((zoneOf cfg.zone (zo.map (·.tmpl)) v).minute.getD 0) = some tz)
    (hvalid : (dateOf de.tmpl v).Valid cfg.mode ∧ TimeValid te.tmpl v) :
    ∃ x, parse cfg (formText de te zo v) true = some x ∧
      x = { pointOf cfg de.tmpl te.tmpl v tz with dumpFmt := some (formExpr de te zo) } ∧
      str cfg.mode x = .ok (formText de te zo (respellDec de.tmpl zo v)) := by
  obtain ⟨x, h1, h2, h3⟩ := C07_as_parsed_any cfg hpt de hde hdc hx te hte htt htf zo hzo v hv tz hz hvalid
  refine ⟨x, h1, h2, ?_⟩
  rw [h3]
  obtain ⟨hsh, _⟩ := asParsed_time cfg.pt hpt de hde hdc te hte htt htf zo hzo
  refine congrArg _ (formText_frac de te zo hsh _ _ (fun f => by cases f <;> rfl) (fun f => by cases f <;> rfl)
    fun f hd hf => ?_)
  have hl := h6 f hd hf
  cases f <;> first
    | exact absurd hd (by decide)
    | (simp only [Vals.dec] at hl
       simp only [spelled, respellDec, Vals.dec, decimalString, hl, if_true])

/-- **C07 (dump_as_parsed round trip, date alone)**: for a text that is one date form, complete or
    reduced (`CCYYMMDD`, `CCYY-DDD`, `CCYY-Www-D`, `CCYY-MM`, `CCYY`, `CC`, `CCYYWww`, … and their
    signed expanded variants; not the later form of a documented overlap): parsing with
    `dump_as_parsed=True` gives the point of `C07_parse_date` with the form's expression text as its
    dump format, and `str` prints the input text back (a `-` on an all-zero year as `+`): no time, no
    zone — whatever zone the configuration gave the point. -/
theorem C07_as_parsed_date (cfg : Cfg) (hpt : cfg.pt ∈ parserTables) (de : Entry)
    (hmem : de ∈ dateOrder cfg.pt (dateTypes cfg.allowTruncated [])) (hnt : de.typ ≠ .truncated)
    (hl : cfg.allowTruncated = false ∨ isLoser cfg.pt.ned de = false)
    (hx : cfg.pt.ned = 0 → hasGroup de.tmpl .expandedYear = false)
    (v : Vals) (hv : v.Fit cfg.pt.ned) (tz : Spec.TZ)
    (hz : mkTZ cfg.mode ((zoneOf cfg.zone none v).hour.getD 0)
      ((zoneOf cfg.zone none v).minute.getD 0) = some tz)
    (hvalid : (dateOf de.tmpl v).Valid cfg.mode) :
    ∃ x, parse cfg (trender de.tmpl (envOf de.tmpl v)) true = some x ∧
      x = { pointOf cfg de.tmpl [] v tz with dumpFmt := some de.expr } ∧
      str cfg.mode x = .ok (trender de.tmpl (envOf de.tmpl (respell de.tmpl none v))) := by
  have hde := dateOrder_sub _ _ de hmem
  obtain ⟨hdi, hdcc, hds⟩ := (decodeFacts cfg.pt hpt).dates de hde hnt
  refine ⟨_, ?_, rfl, ?_⟩
  · rw [parse_asParsed cfg _ _ (C07_info_date cfg hpt de hmem hnt hl v hv),
      C07_parse_date cfg hpt de hmem hnt hl hx v hv tz hz, if_pos hvalid]
    rfl
  · obtain ⟨hsh, hex⟩ := asParsed_date cfg.pt hpt de hde hnt
    have := str_pointOf cfg de none none v tz hdi hdcc hds hx rfl (by decide) rfl hsh hex hv hz
    simp only [textOf, fmtOf, ttmplO, ztmplO] at this
    rw [this]
    simp only [shapeCheck, Bool.and_eq_true] at hsh
    exact congrArg _ (congrArg _ (envOf_frac de.tmpl _ _ (fun f => by cases f <;> rfl)
      (fun f => by cases f <;> rfl) fun f hd hf => (no_decGroup _ _ hsh.1.1.1.1 rfl f hd hf).elim))

section Examples
open _root_.IsoDT.Gen.Templates

/-- `parse(s, dump_as_parsed=True)` then `str`, by evaluation of the two models. -/
def reprint (cfg : Cfg) (s : String) : Option (List Char) :=
  match parse cfg s.toList true with
  | none => none
  | some x =>
    match str cfg.mode x with
    | .ok t => some t
    | .error _ => none

/-- `±XCCYY-MM-DD`, `hh:mm:ss`, `±hh:mm` of the configuration with two expanded digits. -/
def apDate : Entry := ⟨.extended, .complete, "+XCCYY-MM-DD".toList, t84⟩
def apTime : Entry := ⟨.extended, .complete, "hh:mm:ss".toList, t64⟩
def apZone : ZEntry := ⟨.extended, "+hh:mm".toList, t76⟩

/-- Year −0 (a leap year), 29 February, 24:00:00, zone −00:00: every sign is on a zero. -/
def apVals : Vals :=
  { yearNeg := true, x := 0, cc := 0, yy := 0, month := 2, day := 29, hour := 24, minute := 0, second := 0,
    tzNeg := true, tzHour := 0, tzMinute := 0 }

example : apDate ∈ exCfg.pt.dateEntries ∧ apTime ∈ exCfg.pt.timeEntries ∧ apZone ∈ exCfg.pt.zoneEntries ∧
    apVals.Fit exCfg.pt.ned ∧ (dateOf apDate.tmpl apVals).Valid exCfg.mode ∧ TimeValid apTime.tmpl apVals := by
  decide +kernel

example : formText apDate apTime (some apZone) apVals = "-000000-02-29T24:00:00-00:00".toList ∧
    formExpr apDate apTime (some apZone) = "+XCCYY-MM-DDThh:mm:ss+hh:mm".toList ∧
    formText apDate apTime (some apZone) (respell apDate.tmpl (some apZone) apVals) =
      "+000000-02-29T24:00:00+00:00".toList := by decide +kernel

/-- `C07_as_parsed` at a text whose two signs are both on zeros: both come back as `+`. -/
example : ∃ x, parse exCfg (formText apDate apTime (some apZone) apVals) true = some x ∧
    x = { pointOf exCfg apDate.tmpl apTime.tmpl apVals ⟨0, 0⟩ with
          dumpFmt := some (formExpr apDate apTime (some apZone)) } ∧
    str exCfg.mode x = .ok (formText apDate apTime (some apZone) (respell apDate.tmpl (some apZone) apVals)) :=
  C07_as_parsed exCfg exCfg_mem apDate (by decide +kernel) rfl (fun h => absurd h (by decide))
    apTime (by decide +kernel) (by decide) rfl (fun f hf => by cases f <;> first | decide +kernel | cases hf)
    (some apZone) (fun ze h => by cases h; exact ⟨by decide +kernel, rfl⟩) apVals (by decide +kernel) ⟨0, 0⟩
    (by decide +kernel) (by decide +kernel)

/-- … and by evaluation of the parser and dumper models on the text itself. -/
example : reprint exCfg "-000000-02-29T24:00:00-00:00" = some "+000000-02-29T24:00:00+00:00".toList := by
  decide +kernel

/-- A `-` on a zone that is zero hours but NOT zero minutes stays: `-00:30`. -/
example : reprint exCfg "2000-02-29T23:59:59-00:30" = some "2000-02-29T23:59:59-00:30".toList ∧
    zoneZero apZone.tmpl { tzNeg := true, tzHour := 0, tzMinute := 30 } = false := by decide +kernel

/-- `C07_parse_as_parsed` at these forms: the point of `C07_parse` with the expression text. -/
example : parse exCfg (formText apDate apTime (some apZone) apVals) true =
    some { pointOf exCfg apDate.tmpl apTime.tmpl apVals ⟨0, 0⟩ with
           dumpFmt := some "+XCCYY-MM-DDThh:mm:ss+hh:mm".toList } := by
  rw [C07_parse_as_parsed exCfg exCfg_mem apDate (by decide +kernel) rfl (fun h => absurd h (by decide))
    apTime (by decide +kernel) (by decide) rfl (some apZone)
    (fun ze h => by cases h; exact ⟨by decide +kernel, rfl⟩) apVals (by decide +kernel) ⟨0, 0⟩
    (by decide +kernel), if_pos (by decide +kernel),
    show formExpr apDate apTime (some apZone) = "+XCCYY-MM-DDThh:mm:ss+hh:mm".toList from by decide +kernel]

/-- `C07_as_parsed_same`: an extended week date, `hh:mm`, NO zone (assumed zone `+05:30`, not printed). -/
def apWeek : Entry := ⟨.extended, .complete, "CCYY-Www-D".toList, t33⟩
def apHM : Entry := ⟨.extended, .reduced, "hh:mm".toList, t69⟩
def apWVals : Vals := { cc := 20, yy := 0, week := 5, dow := 3, hour := 12, minute := 30 }

example : ∃ x, parse exCfg (formText apWeek apHM none apWVals) true = some x ∧
    str exCfg.mode x = .ok (formText apWeek apHM none apWVals) :=
  C07_as_parsed_same exCfg exCfg_mem apWeek (by decide +kernel) rfl (fun h => absurd h (by decide))
    apHM (by decide +kernel) (by decide) rfl (fun f hf => by cases f <;> first | decide +kernel | cases hf)
    none (fun _ h => by cases h) apWVals (by decide +kernel) ⟨5, 30⟩ (by decide +kernel) (by decide +kernel)
    (fun h => by cases h) (fun h => by cases h)

example : formText apWeek apHM none apWVals = "2000-W05-3T12:30".toList ∧
    reprint exCfg "2000-W05-3T12:30" = some "2000-W05-3T12:30".toList ∧
    ((parse exCfg "2000-W05-3T12:30".toList true).map (·.tz)) = some ⟨5, 30⟩ := by decide +kernel

/-- `Z` prints `Z`; a basic ordinal date with `hh` only. -/
example : reprint exCfgB "2000060T23Z" = some "2000060T23Z".toList := by decide +kernel

/-- `C07_as_parsed_decimal`: `±XCCYYMMDD`, `hhmm,nn`, `±hh` (the forms of `Props/C07b`), fraction `500`:
    the trailing zeros go, the comma stays, `-03` stays. -/
def apDecVals : Vals := { exVals with minuteDec := ['5', '0', '0'] }

example : ∃ x, parse exCfg (formText exDate exTime (some exZone) apDecVals) true = some x ∧
    x = { pointOf exCfg exDate.tmpl exTime.tmpl apDecVals ⟨-3, 0⟩ with
          dumpFmt := some (formExpr exDate exTime (some exZone)) } ∧
    str exCfg.mode x = .ok (formText exDate exTime (some exZone) (respellDec exDate.tmpl (some exZone) apDecVals)) :=
  C07_as_parsed_decimal exCfg exCfg_mem exDate (by decide +kernel) rfl (fun h => absurd h (by decide))
    exTime (by decide +kernel) (by decide) rfl (some exZone)
    (fun ze h => by cases h; exact ⟨by decide +kernel, rfl⟩) apDecVals (by decide +kernel)
    (fun f _ _ => by cases f <;> decide +kernel) ⟨-3, 0⟩ (by decide +kernel) (by decide +kernel)

example : formText exDate exTime (some exZone) apDecVals = "-0004000229T1230,500-03".toList ∧
    formText exDate exTime (some exZone) (respellDec exDate.tmpl (some exZone) apDecVals) =
      "-0004000229T1230,5-03".toList ∧
    reprint exCfg "-0004000229T1230,500-03" = some "-0004000229T1230,5-03".toList := by decide +kernel

/-- An all-zero fraction keeps one digit; the decimal point is kept as written. -/
example : reprint exCfg "2000-01-01T12.000Z" = some "2000-01-01T12.0Z".toList ∧
    stripZeros ['0', '0', '0'] = ['0'] ∧ stripZeros ['5', '0', '0'] = ['5'] ∧
    stripZeros ['0', '5', '0', '1'] = ['0', '5', '0', '1'] := by decide +kernel

/-- `C07_as_parsed_any` at a fraction of SEVEN digits (finding F12): `.1234567` is printed `.123457`. -/
def apSecDec : Entry := ⟨.extended, .complete, "hh:mm:ss.tt".toList, t67⟩
def apUtc : ZEntry := ⟨.extended, "Z".toList, t73⟩
def apLongVals : Vals :=
  { cc := 20, yy := 0, month := 1, day := 1, hour := 12, minute := 0, second := 0,
    secondDec := ['1', '2', '3', '4', '5', '6', '7'] }
def apCal : Entry := ⟨.extended, .complete, "CCYY-MM-DD".toList, t29⟩

example : ∃ x, parse exCfg (formText apCal apSecDec (some apUtc) apLongVals) true = some x ∧
    x = { pointOf exCfg apCal.tmpl apSecDec.tmpl apLongVals ⟨0, 0⟩ with
          dumpFmt := some (formExpr apCal apSecDec (some apUtc)) } ∧
    str exCfg.mode x = .ok (formText apCal apSecDec (some apUtc) (spelled apCal.tmpl apUtc.tmpl apLongVals)) :=
  C07_as_parsed_any exCfg exCfg_mem apCal (by decide +kernel) rfl (fun _ => by decide +kernel)
    apSecDec (by decide +kernel) (by decide) rfl (some apUtc)
    (fun ze h => by cases h; exact ⟨by decide +kernel, rfl⟩) apLongVals (by decide +kernel) ⟨0, 0⟩
    (by decide +kernel) (by decide +kernel)

example : formText apCal apSecDec (some apUtc) apLongVals = "2000-01-01T12:00:00.1234567Z".toList ∧
    formText apCal apSecDec (some apUtc) (spelled apCal.tmpl apUtc.tmpl apLongVals) =
      "2000-01-01T12:00:00.123457Z".toList ∧
    reprint exCfg "2000-01-01T12:00:00.1234567Z" = some "2000-01-01T12:00:00.123457Z".toList := by
  decide +kernel

/-- `C07_as_parsed_date`: the reduced century form `±XCC` at `-0000` — year −0 comes back `+0000`; and
    the basic reduced week form `CCYYWww` in a basic-only configuration. -/
example : ∃ x, parse exCfg (trender exCentury.tmpl (envOf exCentury.tmpl { x := 0, cc := 0, yearNeg := true })) true =
      some x ∧
    x = { pointOf exCfg exCentury.tmpl [] { x := 0, cc := 0, yearNeg := true } ⟨5, 30⟩ with
          dumpFmt := some exCentury.expr } ∧
    str exCfg.mode x = .ok (trender exCentury.tmpl (envOf exCentury.tmpl
      (respell exCentury.tmpl none { x := 0, cc := 0, yearNeg := true }))) :=
  C07_as_parsed_date exCfg exCfg_mem exCentury (by decide +kernel) (by decide) (Or.inl rfl)
    (fun h => absurd h (by decide)) _ (by decide +kernel) ⟨5, 30⟩ (by decide +kernel) (by decide +kernel)

example : trender exCentury.tmpl (envOf exCentury.tmpl { x := 0, cc := 0, yearNeg := true }) = "-0000".toList ∧
    trender exCentury.tmpl (envOf exCentury.tmpl
      (respell exCentury.tmpl none { x := 0, cc := 0, yearNeg := true })) = "+0000".toList ∧
    reprint exCfg "-0000" = some "+0000".toList ∧ reprint exCfg "-0020" = some "-0020".toList := by
  decide +kernel

example : ∃ x, parse exCfgB (trender exWeek.tmpl (envOf exWeek.tmpl { cc := 20, yy := 0, week := 5 })) true = some x ∧
    x = { pointOf exCfgB exWeek.tmpl [] { cc := 20, yy := 0, week := 5 } ⟨0, 0⟩ with
          dumpFmt := some exWeek.expr } ∧
    str exCfgB.mode x = .ok (trender exWeek.tmpl (envOf exWeek.tmpl
      (respell exWeek.tmpl none { cc := 20, yy := 0, week := 5 }))) :=
  C07_as_parsed_date exCfgB (.tail _ (.head _)) exWeek (by decide +kernel) (by decide) (Or.inl rfl)
    (fun _ => by decide +kernel) _ (by decide +kernel) ⟨0, 0⟩ (by decide +kernel) (by decide +kernel)

example : reprint exCfgB "2000W05" = some "2000W05".toList ∧ reprint exCfg "2000-02" = some "2000-02".toList ∧
    reprint exCfg "20" = some "20".toList := by decide +kernel

/-- The table check is not vacuous: it ranges over every complete date × non-truncated time × zone
    combination, e.g. 6 × 9 × 4 of the extended format alone in the full tables. -/
example : (parser_2_all.dateEntries.filter fun e => e.typ == .complete && e.fmt == .extended).length = 6 ∧
    (parser_2_all.timeEntries.filter fun e => e.typ != .truncated && e.fmt == .extended).length = 9 ∧
    (zoneOpts parser_2_all .extended).length = 4 ∧
    exprCheck parser_2_all apDate (some apTime) (some apZone) = true ∧
    -- a WRONG correspondence is rejected: the basic time form's regex against the extended expression
    exprCheck parser_2_all apDate (some ⟨.extended, .complete, "hh:mm:ss".toList, t46⟩) (some apZone) = false := by
  decide +kernel

end Examples

end IsoDT.Props.C07
