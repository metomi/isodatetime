/-
  C07 — The parser decodes every documented date-time form to exactly its fields.

  The regular expressions are the templates of `Gen.Templates`, regenerated on every run from the regex
  objects the live `TimePointParser` compiled, for num_expanded_year_digits ∈ {0, 2, 3} ×
  allow_only_basic (allow_truncated does not change the tables, only which of them are tried).
  `IsoDT.Text.parse` mirrors `get_info` / `_create_timepoint_from_info` / `TimePoint.__init__`;
  its agreement with the Python is the correspondence (driver ops `tparse`, `tmatch`).
  This file is the REGEX half: `get_info` on the text a form spells returns exactly the spelled
  groups — no earlier form of the try-order catches it, the later form of a documented overlap
  (`C07_overlaps`) excepted.  `Props/C07b` decodes the groups to field values.
-/
import IsoDT.Lemmas.TextDecode

namespace IsoDT.Props.C07
open IsoDT IsoDT.Text
open _root_.IsoDT.Gen.Templates (timeDesignator dateTypeOrder parserTables)

/-- **C07 (template round trip)**: a regular expression of template shape matches the text it spells for
    any assignment of its groups that fits (right widths, digits only, a sign, the literal group text),
    and `groupdict()` is exactly that assignment — for every template, hence for every entry of every
    regenerated table. -/
theorem C07_template_roundtrip (t : Template) (env : Env) (h : fits t env = true) :
    tmatch t (trender t env) = some env := tmatch_trender t env h

/-- Soundness of the decidable shape check used below: if `shapeDisjoint a b`, nothing `b` matches is
    matched by `a`. -/
theorem C07_shapeDisjoint_sound (a b : Template) (ha : wf a = true) (hb : wf b = true)
    (h : shapeDisjoint a b = true) (s : List Char) (env : Env) (hm : tmatch b s = some env) :
    tmatch a s = none := shapeDisjoint_sound a b ha hb h s env hm

/-- The date forms that an earlier, different form of the try-order can pre-empt, per configuration:
    (earlier expression, later expression).  Only with `allow_truncated`, and only a signed reduced
    form against a truncated form: `-YYMM` / `±XCC` with two expanded digits (`-2706`), and with no
    expanded digits `-YYMM` / `±XCCYY` and `-YY` / `±XCC` (forms that cannot be decoded then anyway). -/
def documentedOverlaps (ned : Nat) : List (List Char × List Char) :=
  if ned = 2 then [(['-', 'Y', 'Y', 'M', 'M'], ['+', 'X', 'C', 'C'])]
  else if ned = 0 then [(['-', 'Y', 'Y', 'M', 'M'], ['+', 'X', 'C', 'C', 'Y', 'Y']),
                        (['-', 'Y', 'Y'], ['+', 'X', 'C', 'C'])]
  else []

/-- **C07 (overlaps)**: the complete list of genuine overlaps between documented date forms, for every
    regenerated configuration with truncated forms enabled, is `documentedOverlaps`; the truncated
    form is reached first.  Without truncated forms, and among the forms that can precede a time,
    there is none. -/
theorem C07_overlaps : ∀ pt ∈ parserTables,
    overlaps (dateOrder pt (dateTypes true [])) = documentedOverlaps pt.ned ∧
    overlaps (dateOrder pt (dateTypes false [])) = [] ∧
    overlaps (dateOrder pt (dateTypes true [.reduced])) = [] ∧
    overlaps (dateOrder pt (dateTypes false [.reduced])) = [] := by
  intro pt hpt
  have tf := tableFacts pt hpt
  -- only the order with truncated forms is evaluated here; the other three are `tables_ok`
  have top : ∀ pt ∈ parserTables,
      overlaps (dateOrder pt (dateTypes true [])) = documentedOverlaps pt.ned := by decide +kernel
  exact ⟨top pt hpt, (overlaps_eq_nil_iff _).mpr tf.orderDateF, (overlaps_eq_nil_iff _).mpr tf.orderTimeT,
    (overlaps_eq_nil_iff _).mpr tf.orderTimeF⟩

/-- Is `e` the later form of a documented overlap? -/
def isLoser (ned : Nat) (e : Entry) : Bool := (documentedOverlaps ned).any (·.2 = e.expr)

/-- **C07 (first match)**, table part: in every configuration, for every date form of the try-order
    (date alone or before a time, truncated forms enabled or not) other than the later form of a
    documented overlap, every form tried earlier either cannot match any text this form matches
    (`shapeDisjoint`) or is the same regular expression with the same expression text; the same holds for
    all pairs of the time table and of the zone table. -/
theorem C07_first_match_tables : ∀ pt ∈ parserTables,
    (∀ trunc : Bool, ∀ e ∈ dateOrder pt (dateTypes trunc []),
      (trunc = false ∨ isLoser pt.ned e = false) → prec okPair (dateOrder pt (dateTypes trunc [])) e = true) ∧
    (∀ trunc : Bool, allAfter okPair (dateOrder pt (dateTypes trunc [.reduced])) = true) ∧
    allAfter okPairT pt.timeEntries = true ∧ allAfter okPairZ pt.zoneEntries = true := by
  intro pt hpt
  have tf := tableFacts pt hpt
  refine ⟨fun trunc e he hl => ?_, fun trunc => ?_, tf.timeOrd, tf.zoneOrd⟩
  · cases trunc with
    | false => exact prec_of_allAfter okPair _ tf.orderDateF e he
    | true =>
      have hl := hl.resolve_left Bool.noConfusion
      simp only [isLoser, List.any_eq_false, decide_eq_true_eq] at hl
      exact prec_of_not_overlapped _ e he ((C07_overlaps pt hpt).1 ▸ hl)
  · cases trunc with
    | false => exact tf.orderTimeF
    | true => exact tf.orderTimeT

/-- **C07 (first match)**: a text rendered from a listed date form (not the later form of a documented
    overlap) is decoded by that form's regular expression and yields that form's expression text, with
    exactly the rendered groups — no earlier entry of the try-order catches it. -/
theorem C07_first_match (cfg : Cfg) (hpt : cfg.pt ∈ parserTables) (e : Entry)
    (he : e ∈ dateOrder cfg.pt (dateTypes cfg.allowTruncated []))
    (hl : cfg.allowTruncated = false ∨ isLoser cfg.pt.ned e = false)
    (env : Env) (hf : fits e.tmpl env = true) :
    ∃ e', getDateInfo cfg (trender e.tmpl env) [] = some (e', env) ∧ e'.tmpl = e.tmpl ∧
      e'.expr = e.expr ∧ e'.typ = e.typ := by
  obtain ⟨e', h2, h3, h4, h5, _⟩ := getDateInfo_rendered cfg (tableFacts cfg.pt hpt) [] e he
    ((C07_first_match_tables cfg.pt hpt).1 cfg.allowTruncated e he hl) env hf
  exact ⟨e', h2, h3, h4, h5⟩

/-- The documented overlap is real: `-2706` is both `-YYMM` and `±XCC` (two expanded digits), and the
    truncated form decodes it. -/
theorem C07_overlap_witness :
    tmatch [.group .truncated ['-'], .digits .yearOfCentury 2, .digits .monthOfYear 2] "-2706".toList = some [(.truncated, ['-']), (.yearOfCentury, ['2', '7']),
      (.monthOfYear, ['0', '6'])] ∧
    (tmatch [.sign .yearSign, .digits .expandedYear 2, .digits .century 2] "-2706".toList).isSome = true := by
  decide +kernel

/-- **C07 (split)**: `get_info` cuts `time ++ zone` exactly where the zone starts, for a time text
    without `Z`, `+`, `-` and every zone style: none, `Z`, `+hh…`, `-hh…` (the last because the "is it
    a truncated time" retry finds both halves well-formed). -/
theorem C07_split (cfg : Cfg) (bf : List FormatKey) (bt : List TypeKey) (t z : List Char)
    (ht : ∀ c ∈ t, Plain c) (hz : ZoneText z)
    (hminus : ∀ body, z = '-' :: body →
      (getTimeInfo cfg t bf bt).isSome = true ∧ (getZoneInfo cfg.pt z bf).isSome = true) :
    splitZone cfg bf bt (t ++ z) = some (t, if z = [] then none else some z) :=
  splitZone_spec cfg bf bt t z ht hz hminus

/-- **C07 (split, whole text)**: for every configuration, every complete date form, every non-truncated
    time form of the same format and every zone form of that format (or none), `get_info` of the
    rendered `date T time zone` returns exactly the rendered groups of the three parts, the zone
    processed by `process_time_zone_info`, and the concatenated expression text. -/
theorem C07_groups (cfg : Cfg) (hpt : cfg.pt ∈ parserTables)
    (de : Entry) (hde : de ∈ cfg.pt.dateEntries) (hdc : de.typ = .complete)
    (te : Entry) (hte : te ∈ cfg.pt.timeEntries) (htt : te.typ ≠ .truncated) (htf : te.fmt = de.fmt)
    (zo : Option (ZEntry × Env))
    (hzo : ∀ ze zenv, zo = some (ze, zenv) →
      ze ∈ cfg.pt.zoneEntries ∧ ze.fmt = de.fmt ∧ fits ze.tmpl zenv = true)
    (denv tenv : Env) (hfd : fits de.tmpl denv = true) (hft : fits te.tmpl tenv = true) :
    getInfo cfg (trender de.tmpl denv ++ timeDesignator :: (trender te.tmpl tenv ++ zoneTextOf zo)) =
      (processZone cfg.zone (zoneEnvOf zo)).map fun z =>
        { dateEnv := denv, dateTrunc := false, timeEnv := tenv, zone := z,
          expr := de.expr ++ timeDesignator :: (te.expr ++ zoneExprOf zo) } :=
  getInfo_rendered cfg hpt de hde hdc te hte htt htf zo hzo denv tenv hfd hft

/-- **C07 (date alone)**: likewise for a text that is one rendered date form (complete, reduced or
    truncated) that is not the later form of a documented overlap. -/
theorem C07_groups_date (cfg : Cfg) (hpt : cfg.pt ∈ parserTables) (de : Entry)
    (hmem : de ∈ dateOrder cfg.pt (dateTypes cfg.allowTruncated []))
    (hl : cfg.allowTruncated = false ∨ isLoser cfg.pt.ned de = false)
    (denv : Env) (hfd : fits de.tmpl denv = true) :
    getInfo cfg (trender de.tmpl denv) =
      (processZone cfg.zone []).map fun z =>
        { dateEnv := denv, dateTrunc := Env.has denv .truncated, timeEnv := [], zone := z,
          expr := de.expr } := by
  obtain ⟨e', hget, _, hexpr, _⟩ := C07_first_match cfg hpt de hmem hl denv hfd
  have hD : timeDesignator ∉ trender de.tmpl denv :=
    no_designator de.tmpl ((tableFacts cfg.pt hpt).dates de (dateOrder_sub _ _ de hmem)).2.1 denv hfd
  unfold getInfo
  rw [splitOnChar_none _ _ hD]
  simp only [hget, hexpr]
  cases processZone cfg.zone [] <;> rfl

/-- `±XCCYY-MM-DD` with two expanded digits, as the live parser compiled it. -/
def exTemplate : Template := [.sign .yearSign, .digits .expandedYear 2, .digits .century 2,
  .digits .yearOfCentury 2, .lit '-', .digits .monthOfYear 2, .lit '-', .digits .dayOfMonth 2]

def exEnv : Env := [(.yearSign, ['-']), (.expandedYear, ['0', '0']), (.century, ['0', '4']),
  (.yearOfCentury, ['0', '0']), (.monthOfYear, ['0', '2']), (.dayOfMonth, ['2', '9'])]

example : (Gen.Templates.parser_2_all.dateEntries.any fun e => e.tmpl = exTemplate) = true := by
  decide +kernel
example : fits exTemplate exEnv = true := by decide +kernel
example : trender exTemplate exEnv = "-000400-02-29".toList := by decide +kernel
example : tmatch exTemplate "-000400-02-29".toList = some exEnv := by decide +kernel

example : Plain ':' ∧ Plain '5' ∧ ZoneText "-00:30".toList :=
  ⟨by decide, by decide, Or.inr (Or.inr ⟨'-', "00:30".toList, by decide, Or.inr rfl, by decide⟩)⟩

example : dateOrder Gen.Templates.parser_2_all (dateTypes true []) ≠ [] ∧
    (dateOrder Gen.Templates.parser_2_all (dateTypes true [])).any (isLoser 2) = true := by decide +kernel

end IsoDT.Props.C07
