/-
  C01 (continued) — exact durations act on the timeline as a group of translations.

  Corollaries of `C01_add_exact`, `C01_sub_exact`, `cmp_spec` and the C11 laws of `Dur.add`:
  successive additions compose and commute, subtraction undoes addition, and adding one exact
  duration to two points preserves their comparison.
-/
import IsoDT.Props.C01
import IsoDT.Props.C11
import IsoDT.Lemmas.Cmp

namespace IsoDT.Props.C01
open IsoDT IsoDT.Model IsoDT.Lemmas
open IsoDT.Spec (Date TZ TP)

/-- `(p + d1) + d2` and `p + (d1 + d2)` denote the same instant (and compare equal), in `p`'s
    representation and offset, for all exact `d1`, `d2` of either sign. -/
theorem C01_add_compose (m : Mode) (p : TP) (d1 d2 : Dur) (hv : p.Valid m)
    (h1 : d1.isExact = true) (h2 : d2.isExact = true) :
    ∃ q1 q2 q, addDur m p d1 = some q1 ∧ addDur m q1 d2 = some q2 ∧
      addDur m p (Dur.add m d1 d2) = some q ∧ q2.inst m = q.inst m ∧ cmp m q2 q = some 0 ∧
      q2.date.rep = q.date.rep ∧ q2.tz = q.tz := by
  obtain ⟨q1, e1, i1, s1, r1, t1⟩ := C01_add_exact m p d1 hv h1
  obtain ⟨q2, e2, i2, s2, r2, t2⟩ := C01_add_exact m q1 d2 s1.1 h2
  obtain ⟨q, e, i, s, r, t⟩ := C01_add_exact m p (Dur.add m d1 d2) hv (C11.add_isExact m d1 d2 h1 h2)
  have hi : q2.inst m = q.inst m := by rw [i2, i1, i, C11.add_seconds]; omega
  exact ⟨q1, q2, q, e1, e2, e, hi, cmp_of_inst_eq m q2 q s2.1 s.1 hi, by rw [r2, r1, r], by rw [t2, t1, t]⟩

/-- The order of two exact additions does not matter. -/
theorem C01_add_commute (m : Mode) (p : TP) (d1 d2 : Dur) (hv : p.Valid m)
    (h1 : d1.isExact = true) (h2 : d2.isExact = true) :
    ∃ a b a' b', addDur m p d1 = some a ∧ addDur m a d2 = some b ∧
      addDur m p d2 = some a' ∧ addDur m a' d1 = some b' ∧
      b.inst m = b'.inst m ∧ cmp m b b' = some 0 := by
  obtain ⟨a, e1, i1, s1, _⟩ := C01_add_exact m p d1 hv h1
  obtain ⟨b, e2, i2, s2, _⟩ := C01_add_exact m a d2 s1.1 h2
  obtain ⟨a', e3, i3, s3, _⟩ := C01_add_exact m p d2 hv h2
  obtain ⟨b', e4, i4, s4, _⟩ := C01_add_exact m a' d1 s3.1 h1
  have hi : b.inst m = b'.inst m := by omega
  exact ⟨a, b, a', b', e1, e2, e3, e4, hi, cmp_of_inst_eq m b b' s2.1 s4.1 hi⟩

/-- `(p + d) - d` is `p` again: same instant, representation and offset, compares equal. -/
theorem C01_add_sub_cancel (m : Mode) (p : TP) (d : Dur) (hv : p.Valid m) (hd : d.isExact = true) :
    ∃ q r, addDur m p d = some q ∧ subDur m q d = some r ∧ r.inst m = p.inst m ∧
      cmp m r p = some 0 ∧ r.date.rep = p.date.rep ∧ r.tz = p.tz := by
  obtain ⟨q, e1, i1, s1, r1, t1⟩ := C01_add_exact m p d hv hd
  obtain ⟨r, e2, i2, s2, r2, t2⟩ := C01_sub_exact m q d s1.1 hd
  have hi : r.inst m = p.inst m := by omega
  exact ⟨q, r, e1, e2, hi, cmp_of_inst_eq m r p s2.1 hv hi, by rw [r2, r1], by rw [t2, t1]⟩

/-- Adding the same exact duration to two points preserves their comparison (`<`, `==`, `>`),
    whatever their representations and offsets. -/
theorem C01_add_preserves_order (m : Mode) (a b : TP) (d : Dur) (ha : a.Valid m) (hb : b.Valid m)
    (hd : d.isExact = true) :
    ∃ a' b', addDur m a d = some a' ∧ addDur m b d = some b' ∧ cmp m a' b' = cmp m a b := by
  obtain ⟨a', e1, i1, s1, _⟩ := C01_add_exact m a d ha hd
  obtain ⟨b', e2, i2, s2, _⟩ := C01_add_exact m b d hb hd
  refine ⟨a', b', e1, e2, ?_⟩
  rw [cmp_spec m a' b' s1.1 s2.1, cmp_spec m a b ha hb]
  congr 2; omega

example : (addDur .greg ⟨.cal 2020 2 28, 23, 0, 0, ⟨0, 0⟩⟩ (.units 0 0 1 2 0 0)).bind
      (fun q => addDur .greg q (.weeks (-1))) =
    some ⟨.cal 2020 2 23, 1, 0, 0, ⟨0, 0⟩⟩ := by decide +kernel
example : addDur .greg ⟨.cal 2020 2 28, 23, 0, 0, ⟨0, 0⟩⟩ (Dur.add .greg (.units 0 0 1 2 0 0) (.weeks (-1))) =
    some ⟨.cal 2020 2 23, 1, 0, 0, ⟨0, 0⟩⟩ := by decide +kernel

end IsoDT.Props.C01
