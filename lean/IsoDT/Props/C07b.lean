/-
  C07 (value half) — the groups of every documented non-truncated form decode to exactly the spelled
  field values, with the documented defaults.

  `Props/C07` proves the REGEX half: `get_info` on a rendered `date T time zone` (or a date alone)
  returns exactly the rendered groups.  Here the groups are the ones a `Vals` assignment of field
  VALUES spells (`envOf`), and `parse` of the rendered text is shown to be the constructor applied to
  the keyword arguments the documented semantics prescribes (`argsOf`, `zoneOf`), which in turn is the
  point `pointOf` with every omitted lower-order field at the start of its period — for every complete
  and reduced, basic and extended, calendar / ordinal / week date form, every `hh`, `hhmm`, `hhmmss`
  form with or without a decimal fraction, every zone form, of every regenerated table.  The
  specification (`Vals`, `envOf`, `argsOf`, `zoneOf`, `pointOf`) lives in `Lemmas/TextDecodeAll` and
  does not mention `assemble` / `ctor`.
-/
import IsoDT.Props.C07
import IsoDT.Lemmas.TextDecodeAll

namespace IsoDT.Props.C07
open IsoDT IsoDT.Text IsoDT.Model
open _root_.IsoDT.Gen.Templates (timeDesignator dateTypeOrder parserTables)

/-- Every non-truncated date form is made of literals, sign groups and digit groups of the documented
    widths, has a century group and one of the six documented date patterns; every non-truncated time
    form likewise with one of the documented time patterns; every zone form is `Z` or has an hour. -/
def decodeOK (pt : ParserTables) : Bool :=
  pt.dateEntries.all (fun e => e.typ == .truncated ||
    (e.tmpl.all (itemOK pt.ned) && hasGroup e.tmpl .century && dateShapeOK e.tmpl)) &&
  pt.timeEntries.all (fun e => e.typ == .truncated ||
    (e.tmpl.all (itemOK pt.ned) && timeShapeOK e.tmpl)) &&
  pt.zoneEntries.all (fun e => zoneOK pt.ned e.tmpl)

theorem C07_decode_tables : parserTables.all decodeOK = true := by decide +kernel

structure DecodeFacts (pt : ParserTables) : Prop where
  dates : ∀ e ∈ pt.dateEntries, e.typ ≠ .truncated →
    e.tmpl.all (itemOK pt.ned) = true ∧ hasGroup e.tmpl .century = true ∧ dateShapeOK e.tmpl = true
  times : ∀ e ∈ pt.timeEntries, e.typ ≠ .truncated →
    e.tmpl.all (itemOK pt.ned) = true ∧ timeShapeOK e.tmpl = true
  zones : ∀ e ∈ pt.zoneEntries, zoneOK pt.ned e.tmpl = true

theorem decodeFacts (pt : ParserTables) (h : pt ∈ parserTables) : DecodeFacts pt := by
  have hk := List.all_eq_true.mp C07_decode_tables pt h
  simp only [decodeOK, Bool.and_eq_true, List.all_eq_true, Bool.or_eq_true, beq_iff_eq] at hk
  obtain ⟨⟨h1, h2⟩, h3⟩ := hk
  refine ⟨fun e he hn => ?_, fun e he hn => ?_, h3⟩
  · rcases h1 e he with h | h
    · exact absurd h hn
    · exact ⟨List.all_eq_true.mpr h.1.1, h.1.2, h.2⟩
  · rcases h2 e he with h | h
    · exact absurd h hn
    · exact ⟨List.all_eq_true.mpr h.1, h.2⟩

def zoneText (zo : Option ZEntry) (v : Vals) : List Char :=
  match zo with
  | none => []
  | some ze => trender ze.tmpl (envOf ze.tmpl v)

theorem decodable_of (ned : Nat) (de te : Template) (h1 : de.all (itemOK ned) = true)
    (h2 : te.all (itemOK ned) = true) (h3 : hasGroup de .century = true)
    (hx : ned = 0 → hasGroup de .expandedYear = false) : decodable ned de te = true := by
  simp only [decodable, h1, h2, h3, Bool.and_self, Bool.true_and, Bool.or_eq_true, bne_iff_ne, ne_eq,
    Bool.not_eq_true']
  by_cases h0 : ned = 0
  · exact Or.inr (hx h0)
  · exact Or.inl h0

/-- The time part of a documented non-truncated text: no time at all (a date alone), or the regular
    expression of a listed non-truncated time form. -/
def NonTruncTime (pt : ParserTables) (te : Template) : Prop :=
  te = [] ∨ ∃ e ∈ pt.timeEntries, e.typ ≠ .truncated ∧ e.tmpl = te

/-- **C07 (field assembly)**: `_create_timepoint_from_info` on the groups a non-truncated date form and
    a non-truncated time form (or none) spell assembles exactly the prescribed keyword arguments
    `argsOf` — for every listed form of every regenerated table, the signed forms provided the
    configuration has expanded digits (`assemble_envOf` with its side condition discharged over the
    tables). -/
theorem C07_assemble (cfg : Cfg) (hpt : cfg.pt ∈ parserTables)
    (de : Entry) (hde : de ∈ cfg.pt.dateEntries) (hnt : de.typ ≠ .truncated)
    (hx : cfg.pt.ned = 0 → hasGroup de.tmpl .expandedYear = false)
    (te : Template) (hte : NonTruncTime cfg.pt te)
    (zone : ZoneInfo) (expr : List Char) (v : Vals) (hv : v.Fit cfg.pt.ned) :
    assemble cfg ⟨envOf de.tmpl v, false, envOf te v, zone, expr⟩ none =
      some (argsOf cfg de.tmpl te zone v) := by
  have df := decodeFacts cfg.pt hpt
  obtain ⟨hdi, hdcc, _⟩ := df.dates de hde hnt
  have hti : te.all (itemOK cfg.pt.ned) = true := by
    rcases hte with rfl | ⟨e, he, hn, rfl⟩
    · rfl
    · exact (df.times e he hn).1
  exact assemble_envOf cfg de.tmpl te zone expr v (decodable_of _ _ _ hdi hti hdcc hx) hv

theorem zone_fits (pt : ParserTables) (hpt : pt ∈ parserTables) (zo : Option ZEntry)
    (hzo : ∀ ze, zo = some ze → ze ∈ pt.zoneEntries) (v : Vals) (hv : v.Fit pt.ned) (ze : ZEntry) (zenv : Env)
    (h : (zo.map fun ze => (ze, envOf ze.tmpl v)) = some (ze, zenv)) :
    zo = some ze ∧ ze ∈ pt.zoneEntries ∧ fits ze.tmpl zenv = true := by
  cases zo with
  | none => cases h
  | some z =>
    simp only [Option.map_some, Option.some.injEq, Prod.mk.injEq] at h
    obtain ⟨rfl, rfl⟩ := h
    have hz := (decodeFacts pt hpt).zones z (hzo z rfl)
    simp only [zoneOK, Bool.and_eq_true] at hz
    exact ⟨rfl, hzo z rfl, fits_envOf pt.ned z.tmpl ((tableFacts pt hpt).zones z (hzo z rfl)).1 hz.1 v hv⟩

/-- `process_time_zone_info` on the groups of the spelled zone (or of none) gives `zoneOf`. -/
theorem processZone_spelled (cfg : Cfg) (hpt : cfg.pt ∈ parserTables) (zo : Option ZEntry)
    (hzo : ∀ ze, zo = some ze → ze ∈ cfg.pt.zoneEntries) (v : Vals) (hv : v.Fit cfg.pt.ned) :
    processZone cfg.zone (zoneEnvOf (zo.map fun ze => (ze, envOf ze.tmpl v))) =
      some (zoneOf cfg.zone (zo.map (·.tmpl)) v) := by
  cases zo with
  | none => exact processZone_none cfg.zone v
  | some z =>
    exact processZone_envOf cfg.pt.ned cfg.zone z.tmpl ((decodeFacts cfg.pt hpt).zones z (hzo z rfl)) v hv

/-- **C07 (what `get_info` returns)**: on the text a complete date form, a non-truncated time form and a
    zone form (or none) spell for the values `v`, `get_info` returns exactly the groups `envOf` spells, the
    zone `zoneOf` prescribes and the concatenated expression text (`C07_groups` with `fits_envOf` and
    `processZone_envOf`). -/
theorem C07_info (cfg : Cfg) (hpt : cfg.pt ∈ parserTables)
    (de : Entry) (hde : de ∈ cfg.pt.dateEntries) (hdc : de.typ = .complete)
    (te : Entry) (hte : te ∈ cfg.pt.timeEntries) (htt : te.typ ≠ .truncated) (htf : te.fmt = de.fmt)
    (zo : Option ZEntry) (hzo : ∀ ze, zo = some ze → ze ∈ cfg.pt.zoneEntries ∧ ze.fmt = de.fmt)
    (v : Vals) (hv : v.Fit cfg.pt.ned) :
    getInfo cfg (trender de.tmpl (envOf de.tmpl v) ++
        'T' :: (trender te.tmpl (envOf te.tmpl v) ++ zoneText zo v)) =
      some { dateEnv := envOf de.tmpl v, dateTrunc := false, timeEnv := envOf te.tmpl v,
             zone := zoneOf cfg.zone (zo.map (·.tmpl)) v,
             expr := de.expr ++ 'T' :: (te.expr ++ (zo.map (·.expr)).getD []) } := by
  have tf := tableFacts cfg.pt hpt
  have df := decodeFacts cfg.pt hpt
  have hfd := fits_envOf cfg.pt.ned de.tmpl (tf.dates de hde).1 (df.dates de hde (by rw [hdc]; decide)).1 v hv
  have hft := fits_envOf cfg.pt.ned te.tmpl (tf.times te hte).1 (df.times te hte htt).1 v hv
  have hzm : ∀ ze, zo = some ze → ze ∈ cfg.pt.zoneEntries := fun ze e => (hzo ze e).1
  have key := C07_groups cfg hpt de hde hdc te hte htt htf (zo.map fun ze => (ze, envOf ze.tmpl v))
    (fun ze zenv h => by
      obtain ⟨e, h1, h3⟩ := zone_fits cfg.pt hpt zo hzm v hv ze zenv h
      exact ⟨h1, (hzo ze e).2, h3⟩)
    (envOf de.tmpl v) (envOf te.tmpl v) hfd hft
  rw [processZone_spelled cfg hpt zo hzm v hv] at key
  cases zo <;> exact key

/-- **C07 (what `get_info` returns, date alone)**: for one complete or reduced date form there are no time
    groups, nothing is marked truncated, and the zone is the one the parser's configuration prescribes. -/
theorem C07_info_date (cfg : Cfg) (hpt : cfg.pt ∈ parserTables) (de : Entry)
    (hmem : de ∈ dateOrder cfg.pt (dateTypes cfg.allowTruncated [])) (hnt : de.typ ≠ .truncated)
    (hl : cfg.allowTruncated = false ∨ isLoser cfg.pt.ned de = false)
    (v : Vals) (hv : v.Fit cfg.pt.ned) :
    getInfo cfg (trender de.tmpl (envOf de.tmpl v)) =
      some { dateEnv := envOf de.tmpl v, dateTrunc := false, timeEnv := [],
             zone := zoneOf cfg.zone none v, expr := de.expr } := by
  have hde := dateOrder_sub _ _ de hmem
  have hdi := ((decodeFacts cfg.pt hpt).dates de hde hnt).1
  have htr : Env.has (envOf de.tmpl v) .truncated = false := by
    rw [has_envOf]; exact hasGroup_unclassed _ _ hdi _ rfl rfl rfl (by decide)
  rw [C07_groups_date cfg hpt de hmem hl (envOf de.tmpl v)
    (fits_envOf cfg.pt.ned de.tmpl ((tableFacts cfg.pt hpt).dates de hde).1 hdi v hv),
    processZone_none cfg.zone v, htr]
  rfl

/-- **C07 (the keyword arguments)**: `get_info` followed by `_create_timepoint_from_info` on that text
    yields exactly `argsOf` — whatever constructor they are then handed to. -/
theorem C07_args (cfg : Cfg) (hpt : cfg.pt ∈ parserTables)
    (de : Entry) (hde : de ∈ cfg.pt.dateEntries) (hdc : de.typ = .complete)
    (hx : cfg.pt.ned = 0 → hasGroup de.tmpl .expandedYear = false)
    (te : Entry) (hte : te ∈ cfg.pt.timeEntries) (htt : te.typ ≠ .truncated) (htf : te.fmt = de.fmt)
    (zo : Option ZEntry) (hzo : ∀ ze, zo = some ze → ze ∈ cfg.pt.zoneEntries ∧ ze.fmt = de.fmt)
    (v : Vals) (hv : v.Fit cfg.pt.ned) :
    (getInfo cfg (trender de.tmpl (envOf de.tmpl v) ++
        'T' :: (trender te.tmpl (envOf te.tmpl v) ++ zoneText zo v))).bind (assemble cfg · none) =
      some (argsOf cfg de.tmpl te.tmpl (zoneOf cfg.zone (zo.map (·.tmpl)) v) v) := by
  have df := decodeFacts cfg.pt hpt
  obtain ⟨hdi, hdcc, _⟩ := df.dates de hde (by rw [hdc]; decide)
  rw [C07_info cfg hpt de hde hdc te hte htt htf zo hzo v hv]
  exact assemble_envOf cfg de.tmpl te.tmpl _ _ v (decodable_of _ _ _ hdi (df.times te hte htt).1 hdcc hx) hv

/-- **C07 (the keyword arguments, date alone)**: likewise `argsOf` with no time form. -/
theorem C07_args_date (cfg : Cfg) (hpt : cfg.pt ∈ parserTables) (de : Entry)
    (hmem : de ∈ dateOrder cfg.pt (dateTypes cfg.allowTruncated [])) (hnt : de.typ ≠ .truncated)
    (hl : cfg.allowTruncated = false ∨ isLoser cfg.pt.ned de = false)
    (hx : cfg.pt.ned = 0 → hasGroup de.tmpl .expandedYear = false)
    (v : Vals) (hv : v.Fit cfg.pt.ned) :
    (getInfo cfg (trender de.tmpl (envOf de.tmpl v))).bind (assemble cfg · none) =
      some (argsOf cfg de.tmpl [] (zoneOf cfg.zone none v) v) := by
  obtain ⟨hdi, hdcc, _⟩ := (decodeFacts cfg.pt hpt).dates de (dateOrder_sub _ _ de hmem) hnt
  rw [C07_info_date cfg hpt de hmem hnt hl v hv]
  exact assemble_envOf cfg de.tmpl [] _ _ v (decodable_of _ _ _ hdi rfl hdcc hx) hv

/-- `parse` without `dump_as_parsed`: `get_info`, `_create_timepoint_from_info`, the constructor. -/
theorem parse_eq_bind (cfg : Cfg) (s : List Char) :
    parse cfg s false = ((getInfo cfg s).bind (assemble cfg · none)).bind (ctor cfg.mode) := by
  unfold parse
  cases getInfo cfg s with
  | none => rfl
  | some info => simp only [Option.bind_some, Bool.false_eq_true, if_false]; cases assemble cfg info none <;> rfl

/-- **C07 (decode)**: for every regenerated configuration, every COMPLETE date form (basic or extended;
    calendar, ordinal or week; with or without sign and expanded year digits — provided the
    configuration has expanded digits at all when the form has the group), every non-truncated time
    form of the same format (`hh`, `hhmm`, `hhmmss`, each with or without a decimal fraction, comma or
    point), every zone form of that format or none, and every assignment of values that fit the group
    widths: parsing the text the forms spell for these values is the constructor applied to exactly
    the spelled fields — year `±(10000·X + 100·CC + YY)`, each field present iff its group is, the
    fraction attached to its unit, the zone as `zoneOf` says (`Z` = `+00:00`; `±hh` without minutes;
    no zone: the parser's configuration). -/
theorem C07_decode (cfg : Cfg) (hpt : cfg.pt ∈ parserTables)
    (de : Entry) (hde : de ∈ cfg.pt.dateEntries) (hdc : de.typ = .complete)
    (hx : cfg.pt.ned = 0 → hasGroup de.tmpl .expandedYear = false)
    (te : Entry) (hte : te ∈ cfg.pt.timeEntries) (htt : te.typ ≠ .truncated) (htf : te.fmt = de.fmt)
    (zo : Option ZEntry) (hzo : ∀ ze, zo = some ze → ze ∈ cfg.pt.zoneEntries ∧ ze.fmt = de.fmt)
    (v : Vals) (hv : v.Fit cfg.pt.ned) :
    parse cfg (trender de.tmpl (envOf de.tmpl v) ++
        'T' :: (trender te.tmpl (envOf te.tmpl v) ++ zoneText zo v)) false =
      ctor cfg.mode (argsOf cfg de.tmpl te.tmpl (zoneOf cfg.zone (zo.map (·.tmpl)) v) v) := by
  rw [parse_eq_bind, C07_args cfg hpt de hde hdc hx te hte htt htf zo hzo v hv]; rfl

/-- **C07 (decode, date alone)**: likewise for a text that is one date form, complete or reduced
    (`CCYY-MM`, `CCYY`, `CC`, `CCYYWww`, `CCYY-Www` and their signed expanded variants), not the later
    form of a documented overlap: there is no time group at all, and the missing zone is resolved by the
    parser's configuration (`zoneOf cfg.zone none`: the assumed zone, the local zone, or unknown). -/
theorem C07_decode_date (cfg : Cfg) (hpt : cfg.pt ∈ parserTables) (de : Entry)
    (hmem : de ∈ dateOrder cfg.pt (dateTypes cfg.allowTruncated [])) (hnt : de.typ ≠ .truncated)
    (hl : cfg.allowTruncated = false ∨ isLoser cfg.pt.ned de = false)
    (hx : cfg.pt.ned = 0 → hasGroup de.tmpl .expandedYear = false)
    (v : Vals) (hv : v.Fit cfg.pt.ned) :
    parse cfg (trender de.tmpl (envOf de.tmpl v)) false =
      ctor cfg.mode (argsOf cfg de.tmpl [] (zoneOf cfg.zone none v) v) := by
  rw [parse_eq_bind, C07_args_date cfg hpt de hmem hnt hl hx v hv]; rfl

/-- **C07 (signed years without expanded digits — the documented form that never decodes)**: a
    configuration with `num_expanded_year_digits = 0` still lists the `±XCCYY…` forms, with an EMPTY
    expanded-year group; a text of such a form is matched, and then `int('')` fails: the parse is an
    error for every assignment of values.  (So "signed expanded years" of C07 holds exactly for the
    configurations that agree on at least one expanded digit — the hypothesis `hx` above.) -/
theorem C07_decode_no_expanded_digits (cfg : Cfg) (hpt : cfg.pt ∈ parserTables) (h0 : cfg.pt.ned = 0)
    (de : Entry) (hde : de ∈ cfg.pt.dateEntries) (hdc : de.typ = .complete)
    (hX : hasGroup de.tmpl .expandedYear = true)
    (te : Entry) (hte : te ∈ cfg.pt.timeEntries) (htt : te.typ ≠ .truncated) (htf : te.fmt = de.fmt)
    (zo : Option ZEntry) (hzo : ∀ ze, zo = some ze → ze ∈ cfg.pt.zoneEntries ∧ ze.fmt = de.fmt)
    (v : Vals) (hv : v.Fit cfg.pt.ned) (asParsed : Bool) :
    parse cfg (trender de.tmpl (envOf de.tmpl v) ++
        'T' :: (trender te.tmpl (envOf te.tmpl v) ++ zoneText zo v)) asParsed = none := by
  have hdi := ((decodeFacts cfg.pt hpt).dates de hde (by rw [hdc]; decide)).1
  unfold parse
  rw [C07_info cfg hpt de hde hdc te hte htt htf zo hzo v hv]
  simp only []
  rw [assemble_envOf_width0 cfg de.tmpl _ _ _ _ v _ hdi h0 hX]

theorem shapes_of (pt : ParserTables) (hpt : pt ∈ parserTables) (de : Entry) (hde : de ∈ pt.dateEntries)
    (hnt : de.typ ≠ .truncated) (te : Template) (hte : NonTruncTime pt te) :
    dateShapeOK de.tmpl = true ∧ timeShapeOK te = true := by
  have df := decodeFacts pt hpt
  refine ⟨(df.dates de hde hnt).2.2, ?_⟩
  rcases hte with rfl | ⟨e, he, hn, rfl⟩
  · decide
  · exact (df.times e he hn).2

/-- **C07 (defaults)**: what `TimePoint(...)` makes of the decoded arguments of any documented
    non-truncated form.  If the zone is rejected by `TimeZone(...)` the result is an error; otherwise
    it is the point `pointOf` — provided `_check_bounds` accepts that point, else an error.  `pointOf`
    is, per pattern of present groups:
    * year `yearOf` and the number of expanded digits (iff the form has the `X` group);
    * calendar forms (`CC`, `CCYY`, `CCYY-MM`, `CCYYMMDD`): month and day as given, else 1; no
      ordinal day, week or weekday;
    * ordinal forms: the day of year; no month, day, week, weekday;
    * week forms (`CCYYWww`, `CCYYWwwD`): the week, the weekday as given, else 1; no month, day,
      ordinal day;
    * hour as given, else 0 (date alone); minute as given, else 0 — but ABSENT when the hour has a
      decimal fraction; second as given, else 0 — but absent when hour or minute has a fraction;
      the fraction attached to the unit it was spelled on;
    * not truncated, zone not unknown (a missing zone under `default_to_unknown_time_zone` becomes
      `+00:00` for a non-truncated point), no dump format. -/
theorem C07_defaults (cfg : Cfg) (hpt : cfg.pt ∈ parserTables)
    (de : Entry) (hde : de ∈ cfg.pt.dateEntries) (hnt : de.typ ≠ .truncated)
    (te : Template) (hte : NonTruncTime cfg.pt te) (zone : ZoneInfo) (v : Vals) :
    ctor cfg.mode (argsOf cfg de.tmpl te zone v) =
      match mkTZ cfg.mode (zone.hour.getD 0) (zone.minute.getD 0) with
      | none => none
      | some tz =>
        if checkBounds cfg.mode (pointOf cfg de.tmpl te v tz) then some (pointOf cfg de.tmpl te v tz)
        else none := by
  obtain ⟨hd, ht⟩ := shapes_of cfg.pt hpt de hde hnt te hte
  exact ctor_argsOf cfg de.tmpl te zone v hd ht

/-- **C07 (defaults, field by field)**: when the constructor succeeds on the decoded arguments, the
    result carries exactly the given fields, each omitted lower-order field is at the start of its
    period, a decimal fraction suppresses the lower units, and the date keeps the form's
    representation (`dateOf`). -/
theorem C07_defaults_fields (cfg : Cfg) (hpt : cfg.pt ∈ parserTables)
    (de : Entry) (hde : de ∈ cfg.pt.dateEntries) (hnt : de.typ ≠ .truncated)
    (te : Template) (hte : NonTruncTime cfg.pt te) (zone : ZoneInfo) (v : Vals) (p : XTP)
    (h : ctor cfg.mode (argsOf cfg de.tmpl te zone v) = some p) :
    p.year = some (yearOf de.tmpl v) ∧
    p.ned = (if hasGroup de.tmpl .expandedYear then cfg.pt.ned else 0) ∧
    p.date? = some (dateOf de.tmpl v) ∧
    (hasGroup de.tmpl .dayOfYear = false → hasGroup de.tmpl .weekOfYear = false →
      p.month = some (if hasGroup de.tmpl .monthOfYear then (v.month : Int) else 1) ∧
      p.day = some (if hasGroup de.tmpl .dayOfMonth then (v.day : Int) else 1) ∧
      p.doy = none ∧ p.week = none ∧ p.dow = none) ∧
    (hasGroup de.tmpl .dayOfYear = true →
      p.doy = some (v.doy : Int) ∧ p.month = none ∧ p.day = none ∧ p.week = none ∧ p.dow = none) ∧
    (hasGroup de.tmpl .weekOfYear = true →
      p.week = some (v.week : Int) ∧
      p.dow = some (if hasGroup de.tmpl .dayOfWeek then (v.dow : Int) else 1) ∧
      p.month = none ∧ p.day = none ∧ p.doy = none) ∧
    p.hour = some (if hasGroup te .hourOfDay then (v.hour : Int) else 0) ∧
    p.minute = (if hasGroup te .hourDec then none
      else some (if hasGroup te .minuteOfHour then (v.minute : Int) else 0)) ∧
    p.second = (if hasGroup te .hourDec || hasGroup te .minuteDec then none
      else some (if hasGroup te .secondOfMinute then (v.second : Int) else 0)) ∧
    p.hourDec = decOf te .hourDec v.hourDec ∧ p.minuteDec = decOf te .minuteDec v.minuteDec ∧
    p.secondDec = decOf te .secondDec v.secondDec ∧
    mkTZ cfg.mode (zone.hour.getD 0) (zone.minute.getD 0) = some p.tz ∧
    p.truncated = false ∧ p.tzUnknown = false ∧ p.truncProp = none ∧ p.dumpFmt = none := by
  obtain ⟨hd, ht⟩ := shapes_of cfg.pt hpt de hde hnt te hte
  rw [C07_defaults cfg hpt de hde hnt te hte zone v] at h
  cases hz : mkTZ cfg.mode (zone.hour.getD 0) (zone.minute.getD 0) with
  | none => rw [hz] at h; cases h
  | some tz =>
    rw [hz] at h
    simp only at h
    by_cases hc : checkBounds cfg.mode (pointOf cfg de.tmpl te v tz) = true
    · rw [if_pos hc] at h
      cases h
      -- no documented form has both a day of year and a week
      have hex : hasGroup de.tmpl .dayOfYear = true → hasGroup de.tmpl .weekOfYear = false := by
        have hc := dateShape_cases de.tmpl hd
        simp only [datePattern, Prod.mk.injEq] at hc
        rcases hc with ⟨_, _, d3, d4, _⟩ | ⟨_, _, d3, d4, _⟩ | ⟨_, _, d3, d4, _⟩ | ⟨_, _, d3, d4, _⟩ |
          ⟨_, _, d3, d4, _⟩ | ⟨_, _, d3, d4, _⟩ <;> simp [d3, d4]
      refine ⟨rfl, rfl, pointOf_date cfg de.tmpl te v tz hd, fun h1 h2 => ?_, fun h1 => ?_, fun h2 => ?_,
        rfl, rfl, rfl, rfl, rfl, rfl, rfl, rfl, rfl, rfl, rfl⟩
      · simp only [pointOf, fieldOf, h1, h2]
        exact ⟨rfl, rfl, rfl, rfl, rfl⟩
      · simp only [pointOf, fieldOf, h1, hex h1]
        exact ⟨rfl, rfl, rfl, rfl, rfl⟩
      · have h1 : hasGroup de.tmpl .dayOfYear = false := by
          cases h : hasGroup de.tmpl .dayOfYear with
          | false => rfl
          | true => rw [hex h] at h2; cases h2
        simp only [pointOf, fieldOf, h1, h2]
        exact ⟨rfl, rfl, rfl, rfl, rfl⟩
    · rw [if_neg hc] at h
      cases h

/-- **C07 (acceptance)**: the decoded arguments are accepted exactly when the spelled values form a
    valid date-time of the active calendar mode — the date valid in its own representation
    (`Spec.Date.Valid`: month 1..12 and day within the month of that year; ordinal day within the
    year; week within the year's weeks and weekday 1..7), and the time of day below 24:00 with minute
    and second below 60, or exactly 24 with every given lower unit and fraction zero — and then the
    result is `pointOf`. -/
theorem C07_accept (cfg : Cfg) (hpt : cfg.pt ∈ parserTables)
    (de : Entry) (hde : de ∈ cfg.pt.dateEntries) (hnt : de.typ ≠ .truncated)
    (te : Template) (hte : NonTruncTime cfg.pt te) (zone : ZoneInfo) (v : Vals) (tz : Spec.TZ)
    (hz : mkTZ cfg.mode (zone.hour.getD 0) (zone.minute.getD 0) = some tz) :
    ctor cfg.mode (argsOf cfg de.tmpl te zone v) =
      if (dateOf de.tmpl v).Valid cfg.mode ∧ TimeValid te v then some (pointOf cfg de.tmpl te v tz)
      else none := by
  obtain ⟨hd, ht⟩ := shapes_of cfg.pt hpt de hde hnt te hte
  rw [C07_defaults cfg hpt de hde hnt te hte zone v, hz]
  have hiff : checkBounds cfg.mode (pointOf cfg de.tmpl te v tz) = true ↔
      (dateOf de.tmpl v).Valid cfg.mode ∧ TimeValid te v := by
    rw [checkBounds_split, Bool.and_eq_true, dateBounds_pointOf cfg cfg.mode de.tmpl te v tz hd,
      timeBounds_pointOf cfg cfg.mode de.tmpl te v tz ht]
  by_cases hc : checkBounds cfg.mode (pointOf cfg de.tmpl te v tz) = true
  · simp only [hc, if_true, if_pos (hiff.mp hc)]
  · simp only [hc, if_neg (fun h => hc (hiff.mpr h))]
    rfl

/-- **C07 (zone acceptance)**: the zone a zone form spells is accepted by `TimeZone(...)` iff it is
    `Z`, has no minute group, or its minutes are below 60; a `±hh` zone has minutes 0 whatever the
    parser's configured zone. -/
theorem C07_zone_accept (m : Mode) (zd : ZoneDefault) (t : Template) (v : Vals) (hH : v.tzHour < 100) :
    mkTZ m ((zoneOf zd (some t) v).hour.getD 0) ((zoneOf zd (some t) v).minute.getD 0) =
      if hasGroup t .tzUtc = true ∨ hasGroup t .tzMinute = false ∨ v.tzMinute < 60 then
        some ⟨(zoneOf zd (some t) v).hour.getD 0, (zoneOf zd (some t) v).minute.getD 0⟩
      else none := mkTZ_zoneOf m zd t v hH

/-- **C07 (end to end)**: parsing the text of a complete date form, a non-truncated time form and a
    zone form (or none) yields `pointOf` — the spelled values in the form's representation, with the
    defaults — iff the values form a valid date-time, and is an error otherwise (given that the
    resolved zone is one `TimeZone(...)` accepts). -/
theorem C07_parse (cfg : Cfg) (hpt : cfg.pt ∈ parserTables)
    (de : Entry) (hde : de ∈ cfg.pt.dateEntries) (hdc : de.typ = .complete)
    (hx : cfg.pt.ned = 0 → hasGroup de.tmpl .expandedYear = false)
    (te : Entry) (hte : te ∈ cfg.pt.timeEntries) (htt : te.typ ≠ .truncated) (htf : te.fmt = de.fmt)
    (zo : Option ZEntry) (hzo : ∀ ze, zo = some ze → ze ∈ cfg.pt.zoneEntries ∧ ze.fmt = de.fmt)
    (v : Vals) (hv : v.Fit cfg.pt.ned) (tz : Spec.TZ)
    (hz : mkTZ cfg.mode ((zoneOf cfg.zone (zo.map (·.tmpl)) v).hour.getD 0)
      ((zoneOf cfg.zone (zo.map (·.tmpl)) v).minute.getD 0) = some tz) :
    parse cfg (trender de.tmpl (envOf de.tmpl v) ++
        'T' :: (trender te.tmpl (envOf te.tmpl v) ++ zoneText zo v)) false =
      if (dateOf de.tmpl v).Valid cfg.mode ∧ TimeValid te.tmpl v then
        some (pointOf cfg de.tmpl te.tmpl v tz)
      else none := by
  rw [C07_decode cfg hpt de hde hdc hx te hte htt htf zo hzo v hv]
  exact C07_accept cfg hpt de hde (by rw [hdc]; decide) te.tmpl (Or.inr ⟨te, hte, htt, rfl⟩) _ v tz hz

/-- **C07 (end to end, date alone)**: likewise for one date form; the time of day is then 00:00:00 and
    only the date has to be valid. -/
theorem C07_parse_date (cfg : Cfg) (hpt : cfg.pt ∈ parserTables) (de : Entry)
    (hmem : de ∈ dateOrder cfg.pt (dateTypes cfg.allowTruncated [])) (hnt : de.typ ≠ .truncated)
    (hl : cfg.allowTruncated = false ∨ isLoser cfg.pt.ned de = false)
    (hx : cfg.pt.ned = 0 → hasGroup de.tmpl .expandedYear = false)
    (v : Vals) (hv : v.Fit cfg.pt.ned) (tz : Spec.TZ)
    (hz : mkTZ cfg.mode ((zoneOf cfg.zone none v).hour.getD 0)
      ((zoneOf cfg.zone none v).minute.getD 0) = some tz) :
    parse cfg (trender de.tmpl (envOf de.tmpl v)) false =
      if (dateOf de.tmpl v).Valid cfg.mode then some (pointOf cfg de.tmpl [] v tz) else none := by
  rw [C07_decode_date cfg hpt de hmem hnt hl hx v hv,
    C07_accept cfg hpt de (dateOrder_sub _ _ de hmem) hnt [] (Or.inl rfl) _ v tz hz]
  have : TimeValid [] v := by simp [TimeValid, hourOf, minuteOf, secondOf, hasGroup, groupFields]
  simp only [this, and_true]

section Examples
open _root_.IsoDT.Gen.Templates

/-- Two expanded year digits, all formats, an assumed zone with NON-ZERO minutes, Gregorian. -/
def exCfg : Cfg := ⟨parser_2_all, false, .assumed 5 30, .greg⟩
theorem exCfg_mem : exCfg.pt ∈ parserTables := .tail _ (.tail _ (.head _))

/-- `±XCCYYMMDD`, `hhmm,nn` (decimal minute), `±hh` — as the live parser compiled them. -/
def exDate : Entry := ⟨.basic, .complete, "+XCCYYMMDD".toList, t77⟩
def exTime : Entry := ⟨.basic, .complete, "hhmm,nn".toList, t48⟩
def exZone : ZEntry := ⟨.basic, "+hh".toList, t74⟩

/-- Year −400 (a negative multiple of 400: leap), 29 February, 12:30.5, zone −03. -/
def exVals : Vals :=
  { yearNeg := true, x := 0, cc := 4, yy := 0, month := 2, day := 29, hour := 12, minute := 30,
    minuteDec := ['5'], tzNeg := true, tzHour := 3 }

example : exDate ∈ exCfg.pt.dateEntries ∧ exTime ∈ exCfg.pt.timeEntries ∧ exZone ∈ exCfg.pt.zoneEntries ∧
    exVals.Fit exCfg.pt.ned := by decide +kernel

example : trender exDate.tmpl (envOf exDate.tmpl exVals) ++
    'T' :: (trender exTime.tmpl (envOf exTime.tmpl exVals) ++ zoneText (some exZone) exVals) =
    "-0004000229T1230,5-03".toList := by decide +kernel

/-- `C07_decode` at a decimal-minute form with a `-hh` zone under an assumed zone `+05:30`. -/
example : parse exCfg (trender exDate.tmpl (envOf exDate.tmpl exVals) ++
      'T' :: (trender exTime.tmpl (envOf exTime.tmpl exVals) ++ zoneText (some exZone) exVals)) false =
    ctor exCfg.mode (argsOf exCfg exDate.tmpl exTime.tmpl
      (zoneOf exCfg.zone ((some exZone).map (·.tmpl)) exVals) exVals) :=
  C07_decode exCfg exCfg_mem exDate (by decide +kernel) rfl (fun h => absurd h (by decide))
    exTime (by decide +kernel) (by decide) rfl (some exZone)
    (fun ze h => by cases h; exact ⟨by decide +kernel, rfl⟩) exVals (by decide +kernel)

/-- `C07_assemble` at these forms. -/
example : assemble exCfg ⟨envOf exDate.tmpl exVals, false, envOf exTime.tmpl exVals, ⟨some (-3), none⟩, []⟩ none =
    some (argsOf exCfg exDate.tmpl exTime.tmpl ⟨some (-3), none⟩ exVals) :=
  C07_assemble exCfg exCfg_mem exDate (by decide +kernel) (by decide) (fun h => absurd h (by decide))
    exTime.tmpl (Or.inr ⟨exTime, by decide +kernel, by decide, rfl⟩) _ _ exVals (by decide +kernel)

/-- The spelled zone `-03` has NO minute: the arguments carry `time_zone_minute = None`, and the point's
    zone is `-03:00` — not the assumed zone's 30 minutes. -/
example : zoneOf exCfg.zone (some exZone.tmpl) exVals = ⟨some (-3), none⟩ := by decide +kernel

example : argsOf exCfg exDate.tmpl exTime.tmpl ⟨some (-3), none⟩ exVals =
    { ned := 2, year := some (-400), month := some 2, day := some 29, hour := some 12, minute := some 30,
      minuteDec := some ['5'], tzHour := some (-3), tzMinute := none } := by decide +kernel

/-- The whole text, decoded by kernel evaluation of the parser model: the decimal fraction stays on the
    minute and suppresses the second; −400 is a leap year, so 29 February is accepted. -/
example : parse exCfg "-0004000229T1230,5-03".toList false =
    some { ned := 2, year := some (-400), month := some 2, day := some 29, doy := none, week := none,
           dow := none, hour := some 12, minute := some 30, second := none, hourDec := none,
           minuteDec := some ['5'], secondDec := none, tz := ⟨-3, 0⟩, tzUnknown := false,
           truncated := false, truncProp := none, dumpFmt := none } := by decide +kernel

/-- … and it is `pointOf` (`C07_parse`): the values are a valid date-time. -/
example : parse exCfg "-0004000229T1230,5-03".toList false =
    some (pointOf exCfg exDate.tmpl exTime.tmpl exVals ⟨-3, 0⟩) := by
  have h := C07_parse exCfg exCfg_mem exDate (by decide +kernel) rfl (fun h => absurd h (by decide))
    exTime (by decide +kernel) (by decide) rfl (some exZone)
    (fun ze h => by cases h; exact ⟨by decide +kernel, rfl⟩) exVals (by decide +kernel) ⟨-3, 0⟩
    (by decide +kernel)
  have ht : trender exDate.tmpl (envOf exDate.tmpl exVals) ++
      'T' :: (trender exTime.tmpl (envOf exTime.tmpl exVals) ++ zoneText (some exZone) exVals) =
      "-0004000229T1230,5-03".toList := by decide +kernel
  rw [if_pos (by decide +kernel), ht] at h
  exact h

/-- The same day in year −401 (not leap) is rejected (`C07_accept`: the date is not valid). -/
example : parse exCfg "-0004010229T1230,5-03".toList false = none := by decide +kernel
example : ¬ (dateOf exDate.tmpl { exVals with yy := 1 }).Valid .greg := by decide +kernel

/-- A BASIC REDUCED WEEK form, `CCYYWww`, in a basic-only configuration without expanded digits and
    with `default_to_unknown_time_zone`: weekday 1, 00:00:00, zone `+00:00` and not unknown. -/
def exCfgB : Cfg := ⟨parser_0_basic, false, .unknown, .greg⟩
def exWeek : Entry := ⟨.basic, .reduced, "CCYYWww".toList, t12⟩

example : parse exCfgB "2000W05".toList false =
    some { ned := 0, year := some 2000, month := none, day := none, doy := none, week := some 5,
           dow := some 1, hour := some 0, minute := some 0, second := some 0, hourDec := none,
           minuteDec := none, secondDec := none, tz := ⟨0, 0⟩, tzUnknown := false,
           truncated := false, truncProp := none, dumpFmt := none } := by decide +kernel

/-- `C07_decode_date` at that form. -/
example : parse exCfgB (trender exWeek.tmpl (envOf exWeek.tmpl { cc := 20, yy := 0, week := 5 })) false =
    ctor .greg (argsOf exCfgB exWeek.tmpl [] ⟨none, none⟩ { cc := 20, yy := 0, week := 5 }) :=
  C07_decode_date exCfgB (.tail _ (.head _)) exWeek (by decide +kernel) (by decide) (Or.inl rfl)
    (fun _ => by decide +kernel) { cc := 20, yy := 0, week := 5 } (by decide +kernel)

example : trender exWeek.tmpl (envOf exWeek.tmpl { cc := 20, yy := 0, week := 5 }) = "2000W05".toList := by
  decide +kernel

/-- `C07_defaults` / `C07_defaults_fields` / `C07_accept` at that form: the week form gets weekday 1 and
    no month or day. -/
example : ctor exCfgB.mode (argsOf exCfgB exWeek.tmpl [] ⟨none, none⟩ { cc := 20, yy := 0, week := 5 }) =
    some (pointOf exCfgB exWeek.tmpl [] { cc := 20, yy := 0, week := 5 } ⟨0, 0⟩) := by
  rw [C07_accept exCfgB (.tail _ (.head _)) exWeek (by decide +kernel) (by decide) [] (Or.inl rfl)
    ⟨none, none⟩ _ ⟨0, 0⟩ (by decide +kernel)]
  exact if_pos (by decide +kernel)

example : (pointOf exCfgB exWeek.tmpl [] { cc := 20, yy := 0, week := 5 } ⟨0, 0⟩).dow = some 1 ∧
    (pointOf exCfgB exWeek.tmpl [] { cc := 20, yy := 0, week := 5 } ⟨0, 0⟩).month = none ∧
    dateOf exWeek.tmpl { cc := 20, yy := 0, week := 5 } = .week 2000 5 1 := by decide +kernel

/-- Week 00 is spelled but not valid: rejected (the constructor's "no week given" path and `pointOf`
    agree on the error). -/
example : parse exCfgB "2000W00".toList false = none := by decide +kernel

/-- A NEGATIVE EXPANDED YEAR that is a multiple of 400, reduced extended form `±XCCYY-MM`, date alone,
    truncated forms allowed: year −400, day 1, the assumed zone. -/
example : parse ⟨parser_2_all, true, .assumed 5 30, .greg⟩ "-000400-02".toList false =
    some { ned := 2, year := some (-400), month := some 2, day := some 1, doy := none, week := none,
           dow := none, hour := some 0, minute := some 0, second := some 0, hourDec := none,
           minuteDec := none, secondDec := none, tz := ⟨5, 30⟩, tzUnknown := false,
           truncated := false, truncProp := none, dumpFmt := none } := by decide +kernel

/-- CENTURY ONLY, `±XCC`: `+0020` is the year 2000 (100·CC), 1 January; `-0020` the year −2000. -/
def exCentury : Entry := ⟨.basic, .reduced, "+XCC".toList, t82⟩

example : parse exCfg "+0020".toList false =
    some { ned := 2, year := some 2000, month := some 1, day := some 1, doy := none, week := none,
           dow := none, hour := some 0, minute := some 0, second := some 0, hourDec := none,
           minuteDec := none, secondDec := none, tz := ⟨5, 30⟩, tzUnknown := false,
           truncated := false, truncProp := none, dumpFmt := none } := by decide +kernel

example : yearOf exCentury.tmpl { x := 0, cc := 20, yearNeg := true } = -2000 ∧
    trender exCentury.tmpl (envOf exCentury.tmpl { x := 0, cc := 20, yearNeg := true }) = "-0020".toList ∧
    (parse exCfg "-0020".toList false).map (·.year) = some (some (-2000)) := by decide +kernel

example : parse exCfg (trender exCentury.tmpl (envOf exCentury.tmpl { x := 0, cc := 20, yearNeg := true }))
      false =
    ctor .greg (argsOf exCfg exCentury.tmpl [] ⟨some 5, some 30⟩ { x := 0, cc := 20, yearNeg := true }) :=
  C07_decode_date exCfg exCfg_mem exCentury (by decide +kernel) (by decide) (Or.inl rfl)
    (fun h => absurd h (by decide)) _ (by decide +kernel)

/-- With truncated forms allowed, `±XCC` is the later form of the documented overlap (hypothesis `hl`):
    `-0020` is then read as the truncated `-YYMM` (year-of-century 00, month 20) and rejected. -/
example : isLoser 2 exCentury = true ∧
    parse ⟨parser_2_all, true, .assumed 5 30, .greg⟩ "-0020".toList false = none ∧
    ctor .greg (argsOf ⟨parser_2_all, true, .assumed 5 30, .greg⟩ exCentury.tmpl [] ⟨some 5, some 30⟩
      { x := 0, cc := 20, yearNeg := true }) ≠ none := by decide +kernel

/-- `C07_decode_no_expanded_digits`: without expanded digits the signed forms are listed, matched, and
    never decoded. -/
def exSigned0 : Entry := ⟨.basic, .complete, "+XCCYYMMDD".toList, t1⟩

example : exSigned0 ∈ parser_0_all.dateEntries ∧ hasGroup exSigned0.tmpl .expandedYear = true ∧
    parse ⟨parser_0_all, false, .unknown, .greg⟩ "+20000101T00Z".toList false = none ∧
    parse ⟨parser_0_all, false, .unknown, .greg⟩ "20000101T00Z".toList false ≠ none := by decide +kernel

example (v : Vals) (hv : v.Fit 0) :
    parse ⟨parser_0_all, false, .unknown, .greg⟩ (trender exSigned0.tmpl (envOf exSigned0.tmpl v) ++
      'T' :: (trender t54 (envOf t54 v) ++ zoneText none v)) false = none :=
  C07_decode_no_expanded_digits ⟨parser_0_all, false, .unknown, .greg⟩ (.head _) rfl exSigned0
    (by decide +kernel) rfl (by decide +kernel) ⟨.basic, .reduced, "hh".toList, t54⟩ (by decide +kernel)
    (by decide) rfl none (fun _ h => by cases h) v hv false

/-- `C07_zone_accept`: `-03` is accepted with minutes 0; `+05:75` is not a zone. -/
example : mkTZ .greg ((zoneOf (.assumed 5 30) (some t74) exVals).hour.getD 0)
    ((zoneOf (.assumed 5 30) (some t74) exVals).minute.getD 0) = some ⟨-3, 0⟩ := by decide +kernel
example : mkTZ .greg ((zoneOf .unknown (some t76) { tzHour := 5, tzMinute := 75 }).hour.getD 0)
    ((zoneOf .unknown (some t76) { tzHour := 5, tzMinute := 75 }).minute.getD 0) = none := by
  rw [C07_zone_accept .greg .unknown t76 _ (by decide)]; decide +kernel

/-- Hour 24 is accepted with a zero fraction only. -/
example : TimeValid t49 { hour := 24, hourDec := ['0', '0'] } ∧ ¬ TimeValid t49 { hour := 24, hourDec := ['0', '1'] } ∧
    (parse exCfg "2000-01-01T24,0".toList false).isSome = true ∧
    parse exCfg "2000-01-01T24:00,01".toList false = none := by decide +kernel

end Examples

end IsoDT.Props.C07
