/-
  C20 — the end-of-day hour as a truncated target (F21).

  `add_truncated` steps the hour up until it equals the target; no point keeps an hour of 24 through
  `_tick_over`, so with target 24 that loop would not end within any fuel (`hour24_never`).  The code
  reads the target 24 as 0 first: its model is `addTruncated24 m p t = addTruncated m p t.norm24`, and
  everything `Props/C20.lean` proves for legal truncations with `hh < 24` carries over to `hh ≤ 24`.
-/
import IsoDT.Props.C20

namespace IsoDT.Props.C20
open IsoDT IsoDT.Model IsoDT.Lemmas
open IsoDT.Spec (Date TZ TP)

/-- What the constructor of a truncated point admits: as `LegalTrunc`, with the hour up to 24 (24 only with
    minute and second absent or zero - the 24:xx rule). -/
def LegalTrunc24 (m : Mode) (t : Trunc) : Prop :=
  (∀ x, t.ss = some x → 0 ≤ x ∧ x < 60) ∧ (∀ x, t.mi = some x → 0 ≤ x ∧ x < 60) ∧
  (∀ x, t.hh = some x → 0 ≤ x ∧ x ≤ 24) ∧ (∀ x, t.dow = some x → 1 ≤ x ∧ x ≤ 7) ∧
  (∀ x, t.dom = some x → 1 ≤ x ∧ x ≤ (calOf m).maxDaysInMonth) ∧
  (∀ x, t.doy = some x → 1 ≤ x ∧ x ≤ (calOf m).daysInYearLeap) ∧
  (∀ x, t.week = some x → 1 ≤ x ∧ x ≤ (calOf m).maxWeeksInYear)

theorem norm24_legal (m : Mode) (t : Trunc) (h : LegalTrunc24 m t) : LegalTrunc m t.norm24 := by
  obtain ⟨l1, l2, l3, l4, l5, l6, l7⟩ := h
  unfold Trunc.norm24
  split
  · exact ⟨l1, l2, fun x hx => by cases hx; omega, l4, l5, l6, l7⟩
  · next hne =>
    refine ⟨l1, l2, fun x hx => ?_, l4, l5, l6, l7⟩
    have := l3 x hx
    have : x ≠ 24 := fun h24 => hne (by rw [hx, h24])
    omega

theorem norm24_of_legal (m : Mode) (t : Trunc) (h : LegalTrunc m t) : t.norm24 = t := by
  unfold Trunc.norm24
  split
  · rename_i h24
    have := h.2.2.1 24 h24
    omega
  · rfl

/-- **The operation terminates, hour 24 included**: for every valid full point and every truncated point the
    constructor admits, the repaired `add_truncated` returns a valid date-time in `p`'s offset, not earlier
    than `p`. -/
theorem C20_terminates_hour24 (m : Mode) (p : TP) (hv : p.Valid m) (t : Trunc) (hl : LegalTrunc24 m t) :
    ∃ q, addTruncated24 m p t = some q ∧ q.Strict m ∧ q.tz = p.tz ∧ p.inst m ≤ q.inst m :=
  C20_terminates m p hv t.norm24 (norm24_legal m t hl)

/-- The end-of-day target is the start-of-day target: `T24 + p = T00 + p`. -/
theorem C20_hour24_is_hour0 (m : Mode) (p : TP) (t : Trunc) (h : t.hh = some 24) :
    addTruncated24 m p t = addTruncated24 m p { t with hh := some 0 } := by
  unfold addTruncated24 Trunc.norm24
  simp [h]

/-- On the truncations with `hh < 24` nothing changes. -/
theorem C20_repair_conservative (m : Mode) (p : TP) (t : Trunc) (h : LegalTrunc m t) :
    addTruncated24 m p t = addTruncated m p t ∧ addTruncTP24 m p t = addTruncTP m p t := by
  unfold addTruncated24 addTruncTP24
  rw [norm24_of_legal m t h]
  exact ⟨rfl, rfl⟩

/-- No valid point with `hh < 24` shows hour 24 and every step of the hour loop ends in such a point, so the
    hour loop with target 24 itself is not done within any fuel. -/
theorem hour24_never (m : Mode) (fuel : Nat) (p : TP) (hp : p.Strict m) :
    loopField m (·.hh) (fun q => { q with hh := q.hh + 1 }) 24 fuel p = none :=
  loopField_never m _ _ 24 3600 _ (stepOK_hh m _) (fun x xs => by have := xs.2; omega) fuel p hp rfl

/-- The hour loop with target 24 itself, started at 00:00, is not done within either of these fuels (it steps
    0, 1, …, 23, 0, … and never shows 24). -/
theorem C20_hour24_unrepaired_witness :
    let p : TP := ⟨.cal 2000 1 1, 0, 0, 0, ⟨0, 0⟩⟩
    (loopField .greg (·.hh) (fun q => { q with hh := q.hh + 1 }) 24 60 p = none) ∧
    (loopField .greg (·.hh) (fun q => { q with hh := q.hh + 1 }) 24 500 p = none) := by
  intro p
  exact ⟨hour24_never .greg 60 p (by decide), hour24_never .greg 500 p (by decide)⟩

/-- F21: `T24` added to noon gives the next midnight; added to a midnight gives that midnight; idempotent. -/
example :
    addTruncTP24 .greg ⟨.cal 2000 1 1, 12, 30, 0, ⟨0, 0⟩⟩ ⟨none, none, none, none, some 24, none, none, none⟩
      = some ⟨.cal 2000 1 2, 0, 0, 0, ⟨0, 0⟩⟩ ∧
    addTruncTP24 .greg ⟨.cal 2000 1 2, 0, 0, 0, ⟨0, 0⟩⟩ ⟨none, none, none, none, some 24, none, none, none⟩
      = some ⟨.cal 2000 1 2, 0, 0, 0, ⟨0, 0⟩⟩ ∧
    addTruncTP24 .greg ⟨.cal 2000 12 31, 23, 59, 59, ⟨0, 0⟩⟩ ⟨none, none, none, none, some 24, some 0, none, none⟩
      = some ⟨.cal 2001 1 1, 0, 0, 0, ⟨0, 0⟩⟩ := by
  decide +kernel

example : LegalTrunc24 .greg ⟨none, none, none, none, some 24, none, none, none⟩ := by
  refine ⟨?_, ?_, ?_, ?_, ?_, ?_, ?_⟩ <;> intro x hx <;> simp at hx <;> omega

end IsoDT.Props.C20
