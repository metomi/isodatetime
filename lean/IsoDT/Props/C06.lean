/-
  C06 — Changing the UTC offset never changes the instant.
-/
import IsoDT.Lemmas.Cmp

namespace IsoDT.Props.C06
open IsoDT IsoDT.Model IsoDT.Lemmas
open IsoDT.Spec (Date TZ TP)

/-- **C06**: `to_time_zone` (hence `to_utc`, `to_local_time_zone` and a dump with a literal zone,
    which all go through it) keeps the instant, carries exactly the requested offset, keeps the
    date representation and has valid local fields — for every valid point, every legal
    destination offset (−99:59 … +99:59, minutes carrying the hour's sign), every mode. -/
theorem C06_to_time_zone (m : Mode) (p : TP) (z : TZ) (hv : p.Valid m) (hz : z.Valid) :
    ∃ q, toTimeZone m p z = some q ∧ q.inst m = p.inst m ∧ q.tz = z ∧ q.date.rep = p.date.rep ∧
      q.Valid m ∧ (p.hh < 24 → q.hh < 24) := toTimeZone_spec m p z hv hz

/-- The re-zoned value compares equal to the original (both operand orders), hashes equal, and
    their difference is the empty duration. -/
theorem C06_equal_hash_diff (m : Mode) (p : TP) (z : TZ) (hv : p.Valid m) (hz : z.Valid) :
    ∃ q, toTimeZone m p z = some q ∧ cmp m q p = some 0 ∧ cmp m p q = some 0 ∧
      hashKey m q = hashKey m p ∧ (hashKey m p).isSome ∧
      subTP m q p = some (.units 0 0 0 0 0 0) := by
  obtain ⟨q, e, hi, _, _, vq, _⟩ := toTimeZone_spec m p z hv hz
  exact ⟨q, e, cmp_of_inst_eq m q p vq hv hi, cmp_of_inst_eq m p q hv vq hi.symm,
    (hashKey_eq_of_inst_eq m q p vq hv hi).1, hashKey_isSome m p hv,
    subTP_unique m q p vq hv 0 0 0 0 (by omega) oneSigned_zero⟩

theorem C06_to_utc (m : Mode) (p : TP) (hv : p.Valid m) :
    ∃ q, toUtc m p = some q ∧ q.inst m = p.inst m ∧ q.tz = ⟨0, 0⟩ ∧ q.date.rep = p.date.rep ∧ q.Valid m := by
  obtain ⟨q, e, a, b, c, d, _⟩ := toTimeZone_spec m p ⟨0, 0⟩ hv utc_valid
  exact ⟨q, e, a, b, c, d⟩

/-- `TimeZone(hours, minutes)` accepts exactly the legal offsets: −99 ≤ h ≤ 99, |m| ≤ 59, and the
    minutes never contradict the hours' sign. -/
theorem C06_tz_constructor (m : Mode) (h mi : Int) :
    mkTZ m h mi = if (⟨h, mi⟩ : TZ).Valid then some ⟨h, mi⟩ else none := by
  unfold mkTZ
  rw [minutesInHour_eq]
  dsimp only
  by_cases hv : (⟨h, mi⟩ : TZ).Valid
  · rw [if_pos hv]
    unfold TZ.Valid at hv
    dsimp only at hv
    rw [if_neg (by omega), if_neg (by omega)]
  · rw [if_neg hv]
    unfold TZ.Valid at hv
    dsimp only at hv
    split
    · rfl
    · rw [if_pos (by omega)]

/-- The sign / absolute-value accessors the dumper prints determine the offset: both parts carry
    the printed sign (so `-00:30` is minus thirty minutes, not plus). -/
theorem C06_sign_abs (z : TZ) (hz : z.Valid) :
    z.h = tzSign z * tzHourAbs z ∧ z.mi = tzSign z * tzMinuteAbs z ∧
    0 ≤ tzHourAbs z ∧ tzHourAbs z ≤ 99 ∧ 0 ≤ tzMinuteAbs z ∧ tzMinuteAbs z ≤ 59 := by
  unfold TZ.Valid at hz
  unfold tzSign tzHourAbs tzMinuteAbs
  split <;> omega

example : (⟨0, -30⟩ : TZ).Valid ∧ (⟨-99, -59⟩ : TZ).Valid ∧ ¬ (⟨1, -30⟩ : TZ).Valid := by decide
example : toTimeZone .greg ⟨.week 2021 1 1, 0, 10, 0, ⟨5, 45⟩⟩ ⟨-99, -59⟩ =
    some ⟨.week 2020 53 3, 14, 26, 0, ⟨-99, -59⟩⟩ := by decide +kernel
example : mkTZ .greg 0 (-30) = some ⟨0, -30⟩ ∧ mkTZ .greg 1 (-30) = none ∧ mkTZ .greg 100 0 = none := by
  decide

end IsoDT.Props.C06
