/-
  C04 (continued) — differences of time points compose along the timeline.

  Corollaries of `subTP_spec` / `cmp_spec`: the difference is uniquely determined by the two instants
  (whatever the representations and offsets), vanishes exactly for equal instants, carries the sign
  of the comparison, and differences add up (`(a - b) + (b - c)` has the length of `a - c`).
-/
import IsoDT.Props.C04

namespace IsoDT.Props.C04
open IsoDT IsoDT.Model IsoDT.Lemmas
open IsoDT.Spec (Date TZ TP)

theorem shape_unique (d h mi s d' h' mi' s' : Int)
    (e : 86400 * d + 3600 * h + 60 * mi + s = 86400 * d' + 3600 * h' + 60 * mi' + s')
    (r : -24 < h ∧ h < 24 ∧ -60 < mi ∧ mi < 60 ∧ -60 < s ∧ s < 60)
    (r' : -24 < h' ∧ h' < 24 ∧ -60 < mi' ∧ mi' < 60 ∧ -60 < s' ∧ s' < 60)
    (g : (0 ≤ d ∧ 0 ≤ h ∧ 0 ≤ mi ∧ 0 ≤ s) ∨ (d ≤ 0 ∧ h ≤ 0 ∧ mi ≤ 0 ∧ s ≤ 0))
    (g' : (0 ≤ d' ∧ 0 ≤ h' ∧ 0 ≤ mi' ∧ 0 ≤ s') ∨ (d' ≤ 0 ∧ h' ≤ 0 ∧ mi' ≤ 0 ∧ s' ≤ 0)) :
    d = d' ∧ h = h' ∧ mi = mi' ∧ s = s' :=
  dhms_unique d h mi s d' h' mi' s' e ⟨r, g⟩ ⟨r', g'⟩

/-- The difference depends on the two INSTANTS only: any other spellings of the same two instants
    (other representation, other offset, 24:00) give the field-for-field same duration. -/
theorem C04_depends_on_instants_only (m : Mode) (a b a' b' : TP)
    (ha : a.Valid m) (hb : b.Valid m) (ha' : a'.Valid m) (hb' : b'.Valid m)
    (ea : a.inst m = a'.inst m) (eb : b.inst m = b'.inst m) :
    subTP m a b = subTP m a' b' := by
  obtain ⟨d, h, mi, s, e, l, r, g⟩ := subTP_spec m a' b' ha' hb'
  rw [e]
  exact subTP_unique m a b ha hb d h mi s (by omega) ⟨r, g⟩

/-- `a - b` is the empty duration exactly when the instants coincide, i.e. exactly when `a == b`. -/
theorem C04_zero_iff_equal (m : Mode) (a b : TP) (ha : a.Valid m) (hb : b.Valid m) :
    (subTP m a b = some (.units 0 0 0 0 0 0) ↔ a.inst m = b.inst m) ∧
    (subTP m a b = some (.units 0 0 0 0 0 0) ↔ cmp m a b = some 0) := by
  obtain ⟨d, h, mi, s, e, l, r, g⟩ := subTP_spec m a b ha hb
  have k : subTP m a b = some (.units 0 0 0 0 0 0) ↔ a.inst m = b.inst m := by
    constructor
    · intro z
      cases e.symm.trans z
      omega
    · intro z
      exact subTP_unique m a b ha hb 0 0 0 0 (by omega) oneSigned_zero
  refine ⟨k, ?_⟩
  rw [k, cmp_spec m a b ha hb, Option.some.injEq, sgn_zero_iff]
  omega

/-- The sign of every field of `a - b` follows the comparison: no field is negative when `a >= b`,
    none is positive when `a <= b`. -/
theorem C04_sign_follows_cmp (m : Mode) (a b : TP) (ha : a.Valid m) (hb : b.Valid m) :
    ∃ d h mi s, subTP m a b = some (.units 0 0 d h mi s) ∧
      (b.inst m ≤ a.inst m → 0 ≤ d ∧ 0 ≤ h ∧ 0 ≤ mi ∧ 0 ≤ s) ∧
      (a.inst m ≤ b.inst m → d ≤ 0 ∧ h ≤ 0 ∧ mi ≤ 0 ∧ s ≤ 0) := by
  obtain ⟨d, h, mi, s, e, l, r, g⟩ := subTP_spec m a b ha hb
  exact ⟨d, h, mi, s, e, by omega⟩

/-- Differences add up along the timeline: `(a - b) + (b - c)` has exactly the length of `a - c`,
    for any three valid points in any representations and offsets. -/
theorem C04_chasles (m : Mode) (a b c : TP) (ha : a.Valid m) (hb : b.Valid m) (hc : c.Valid m) :
    ∃ x y z, subTP m a b = some x ∧ subTP m b c = some y ∧ subTP m a c = some z ∧
      z.exactSeconds m = x.exactSeconds m + y.exactSeconds m := by
  obtain ⟨d1, h1, m1, s1, e1, l1, _⟩ := subTP_spec m a b ha hb
  obtain ⟨d2, h2, m2, s2, e2, l2, _⟩ := subTP_spec m b c hb hc
  obtain ⟨d3, h3, m3, s3, e3, l3, _⟩ := subTP_spec m a c ha hc
  refine ⟨_, _, _, e1, e2, e3, ?_⟩
  rw [exactSeconds_units, exactSeconds_units, exactSeconds_units, l1, l2, l3]
  omega

example : subTP .greg ⟨.week 2020 53 7, 0, 0, 0, ⟨5, 30⟩⟩ ⟨.ord 1999 1, 12, 0, 0, ⟨0, 0⟩⟩ =
    subTP .greg ⟨.cal 2021 1 2, 18, 30, 0, ⟨0, 0⟩⟩ ⟨.cal 1999 1 1, 13, 0, 0, ⟨1, 0⟩⟩ := by decide +kernel
example : subTP .d360 ⟨.cal 2000 2 30, 24, 0, 0, ⟨0, 0⟩⟩ ⟨.cal 2000 3 1, 1, 0, 0, ⟨1, 0⟩⟩ =
    some (.units 0 0 0 0 0 0) := by decide +kernel

end IsoDT.Props.C04
