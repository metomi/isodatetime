/-
  C10 — durations survive a round trip through text: the date-time-like ALTERNATIVE spelling in its
  reduced, ordinal and date-only forms, with zones, inner signs, and the rule for a leading sign.

  `Model.DurTextAlt.parseAltDur` is the fallback of `DurationParser.parse` for EVERY text (the
  regenerated time-point templates, `TimePoint.__init__(is_duration=True)`, the `result_map`);
  `parseA` is `DurationParser.parse` (sign factor, designator regexes, fallback).  `Props/C10` covers
  the designator forms and the four COMPLETE alternative forms with whole seconds in the model
  `Model/DurText`; the two models agree there (`C10_alt_complete`).  For every listed date form × time
  form × zone form and all field values that fit the widths, the fallback returns exactly the spelled
  components and ZERO for the omitted ones — the duration the designator spelling of the same digits
  denotes; the zone is parsed and ignored; week dates and truncated forms are refused.
-/
import IsoDT.Lemmas.DurTextAltForms
import IsoDT.Lemmas.DurTextAltBounds

namespace IsoDT.Props.C10
open IsoDT IsoDT.Model IsoDT.Text IsoDT.Gen
open IsoDT.Model.DurText (toText renderW)
open IsoDT.Model.DurTextAlt IsoDT.Lemmas.DurTextAlt
open IsoDT.Lemmas.DurText (Digs ascii_append ascii_cons ascii_digs)
open IsoDT.Props.C07 (zoneText)
open _root_.IsoDT.Gen.Templates (parser_2_all)

/-- **C10 (alternative spelling, every `date T time zone` form)**: for every COMPLETE date form of the
    live table (calendar, ordinal, week; basic, extended; with or without sign and two expanded year
    digits), every time form of the same format without a decimal fraction (`hh`, `hhmm` / `hh:mm`,
    `hhmmss` / `hh:mm:ss`), every zone form of that format or none, and ALL field values that fit the
    group widths — month 00..99, day 00..99, ordinal day 000..999, hour 00..99, minute and second 00..99,
    nothing is bounds-checked — the fallback returns the duration with exactly the spelled components
    (`durOfVals`: years `±(10000·X + 100·CC + YY)`, months, days or ordinal days, hours, minutes,
    seconds; an omitted minute / second is ZERO).  The zone is parsed and then IGNORED; the text is
    refused exactly when the date is a week date or the zone minutes are 60 or more. -/
theorem C10_alt_forms (m : Mode)
    (de : Entry) (hde : de ∈ parser_2_all.dateEntries) (hdc : de.typ = .complete)
    (te : Entry) (hte : te ∈ parser_2_all.timeEntries) (htt : te.typ ≠ .truncated) (htf : te.fmt = de.fmt)
    (hnd : hasGroup te.tmpl .hourDec = false ∧ hasGroup te.tmpl .minuteDec = false ∧
      hasGroup te.tmpl .secondDec = false)
    (zo : Option ZEntry) (hzo : ∀ ze, zo = some ze → ze ∈ parser_2_all.zoneEntries ∧ ze.fmt = de.fmt)
    (v : Vals) (hv : v.Fit 2) :
    parseAltDur m (trender de.tmpl (envOf de.tmpl v) ++
        'T' :: (trender te.tmpl (envOf te.tmpl v) ++ zoneText zo v)) =
      if zoneAccepted zo v = true ∧ hasGroup de.tmpl .weekOfYear = false then
        .ok (durOfVals de.tmpl te.tmpl v)
      else .err :=
  parseAltDur_rendered m de hde hdc te hte htt htf hnd zo hzo v hv

/-- **C10 (alternative spelling, every date-only form)**: likewise for a date alone, complete or REDUCED
    (`CC`, `CCYY`, `CCYY-MM`, `CCYYMMDD`, `CCYY-MM-DD`, `CCYYDDD`, `CCYY-DDD` and their signed
    variants; the week forms are refused): months, days and every time component are ZERO unless
    spelled (`durOfVals _ []`), never "missing". -/
theorem C10_alt_forms_date (m : Mode) (de : Entry)
    (hmem : de ∈ dateOrder parser_2_all (dateTypes false [])) (v : Vals) (hv : v.Fit 2) :
    parseAltDur m (trender de.tmpl (envOf de.tmpl v)) =
      if hasGroup de.tmpl .weekOfYear = false then .ok (durOfVals de.tmpl [] v) else .err :=
  parseAltDur_date m de hmem v hv

-- non-vacuity: `-000004-03` (signed, two expanded digits, reduced) is years -4, months 3
example :
    (⟨.basic, .reduced, ['+', 'X', 'C', 'C', 'Y', 'Y', '-', 'M', 'M'],
        [.sign .yearSign, .digits .expandedYear 2, .digits .century 2, .digits .yearOfCentury 2, .lit '-',
         .digits .monthOfYear 2]⟩ : Entry) ∈ dateOrder parser_2_all (dateTypes false []) ∧
    Vals.Fit 2 { yearNeg := true, yy := 4, month := 3 } ∧
    parseAltDur .greg "-000004-03".toList = .ok (.units (-4) 3 0 0 0 0) := by
  refine ⟨by decide +kernel, by decide, by decide +kernel⟩

/-- **C10_alt_reduced (year only)**: `PYYYY` is `PyY` — months, days, hours, minutes, seconds ZERO. -/
theorem C10_alt_reduced_year (m : Mode) (y : Nat) (hy : y < 10000) :
    AltSpelling m (renderW 4 y) (.units y 0 0 0 0 0) :=
  altSpelling_of m _ y 0 0 0 0 0
    (renderW_eq 4 y ▸ AltShape.digits _ (digs_renderNat 4 y) (by rw [renderNat_length]; decide))
    (by decide) (by decide) (by decide) (alt_year m y hy)

example : AltSpelling .greg "0004".toList (.units 4 0 0 0 0 0) ∧ toText (.units 4 0 0 0 0 0) = "P4Y".toList :=
  ⟨(C10_alt_reduced_year .greg 4 (by decide)).cast (by decide +kernel), by decide +kernel⟩

/-- **C10_alt_reduced (century only)**: `PCC` is `P(100·CC)Y`: a two-digit alternative text is read as a
    century (`P20` = `P2000Y`). -/
theorem C10_alt_reduced_century (m : Mode) (c : Nat) (hc : c < 100) :
    AltSpelling m (renderW 2 c) (.units (100 * c) 0 0 0 0 0) := by
  have := altSpelling_of m (renderW 2 c) (100 * c) 0 0 0 0 0
    (renderW_eq 2 c ▸ AltShape.digits _ (digs_renderNat 2 c) (by rw [renderNat_length]; decide))
    (by decide) (by decide) (by decide) (by rw [Int.natCast_mul]; exact alt_century m c hc)
  rwa [Int.natCast_mul] at this

example : AltSpelling .d360 "20".toList (.units 2000 0 0 0 0 0) :=
  C10_alt_reduced_century .d360 20 (by decide)

/-- **C10_alt_reduced (year-month)**: `PYYYY-MM` is `PyYmoM` with days 0 (not "missing"), for every
    month 00–99. -/
theorem C10_alt_reduced_year_month (m : Mode) (y mo : Nat) (hy : y < 10000) (hmo : mo < 100) :
    AltSpelling m (renderW 4 y ++ '-' :: renderW 2 mo) (.units y mo 0 0 0 0) :=
  altSpelling_of m _ y mo 0 0 0 0
    (renderW_eq 4 y ▸ renderW_eq 2 mo ▸ AltShape.hyphen _ _ (digs_renderNat 4 y)
      (by rw [renderNat_length]; decide) (ascii_renderNat 2 mo))
    (by decide) (by decide) (by decide) (alt_year_month m y mo hy hmo)

example : AltSpelling .greg "0004-03".toList (.units 4 3 0 0 0 0) ∧
    toText (.units 4 3 0 0 0 0) = "P4Y3M".toList ∧
    AltSpelling .greg "0004-00".toList (.units 4 0 0 0 0 0) ∧
    AltSpelling .greg "0004-13".toList (.units 4 13 0 0 0 0) :=
  ⟨(C10_alt_reduced_year_month .greg 4 3 (by decide) (by decide)).cast (by decide +kernel), by decide +kernel,
   (C10_alt_reduced_year_month .greg 4 0 (by decide) (by decide)).cast (by decide +kernel),
   (C10_alt_reduced_year_month .greg 4 13 (by decide) (by decide)).cast (by decide +kernel)⟩

/-- **C10_alt_reduced (date alone)**: `PYYYY-MM-DD` / `PYYYYMMDD` is `PyYmoMdD`, `PYYYY-DDD` /
    `PYYYYDDD` is `PyYdddD` (months ZERO); hours, minutes, seconds ZERO — for month 00–99, day 00–99,
    ordinal day 000–999 (month 00 / 13, day 00 / 32, ordinal 000 / 367 are all legal here). -/
theorem C10_alt_reduced_date (m : Mode) (sp : DateSp) (y mo d ddd : Nat)
    (hy : y < 10000) (hmo : mo < 100) (hd : d < 100) (hddd : ddd < 1000) :
    AltSpelling m (sp.text y mo d ddd) (.units y (sp.months mo) (sp.days d ddd) 0 0 0) := by
  have hs := sp.altShape y mo d ddd [] (Or.inl rfl) (fun _ h => nomatch h)
  rw [List.append_nil] at hs
  exact altSpelling_of m _ y (sp.months mo) (sp.days d ddd) 0 0 0 hs (by decide) (by decide) (by decide)
    (alt_date m sp y mo d ddd hy hmo hd hddd)

example : AltSpelling .greg "0004-03-02".toList (.units 4 3 2 0 0 0) ∧
    AltSpelling .greg "00040302".toList (.units 4 3 2 0 0 0) ∧
    AltSpelling .greg "0004-123".toList (.units 4 0 123 0 0 0) ∧
    AltSpelling .greg "0004123".toList (.units 4 0 123 0 0 0) ∧
    AltSpelling .d360 "0004-00-32".toList (.units 4 0 32 0 0 0) ∧
    AltSpelling .d360 "0004-367".toList (.units 4 0 367 0 0 0) :=
  ⟨(C10_alt_reduced_date .greg .xc 4 3 2 0 (by decide) (by decide) (by decide) (by decide)).cast (by decide +kernel),
   (C10_alt_reduced_date .greg .bc 4 3 2 0 (by decide) (by decide) (by decide) (by decide)).cast (by decide +kernel),
   (C10_alt_reduced_date .greg .xo 4 0 0 123 (by decide) (by decide) (by decide) (by decide)).cast (by decide +kernel),
   (C10_alt_reduced_date .greg .bo 4 0 0 123 (by decide) (by decide) (by decide) (by decide)).cast (by decide +kernel),
   (C10_alt_reduced_date .d360 .xc 4 0 32 0 (by decide) (by decide) (by decide) (by decide)).cast (by decide +kernel),
   (C10_alt_reduced_date .d360 .xo 4 0 0 367 (by decide) (by decide) (by decide) (by decide)).cast (by decide +kernel)⟩

/-- **C10_alt (date, time, zone)**: every complete date spelling followed by `T` and `hh`, `hh:mm` /
    `hhmm` or `hh:mm:ss` / `hhmmss`, and by no zone, `Z`, `±hh`, `±hh:mm` / `±hhmm` whose minutes are
    below 60: the duration has exactly the written components, the omitted minutes / seconds are ZERO,
    and the zone is IGNORED (`P0004-03-02T05+01:00` is `P4Y3M2DT5H`, like `P0004-03-02T05Z`). -/
theorem C10_alt_date_time_zone (m : Mode) (sp : DateSp) (t : TimeSp) (z : ZoneSp) (y mo d ddd h mi s : Nat)
    (hy : y < 10000) (hmo : mo < 100) (hd : d < 100) (hddd : ddd < 1000) (hh : h < 100) (hmi : mi < 100)
    (hs : s < 100) (hz : z.Fit) (hok : z.ok = true) :
    AltSpelling m (sp.text y mo d ddd ++ 'T' :: (t.text sp.ext h mi s ++ z.text sp.ext))
      (.units y (sp.months mo) (sp.days d ddd) h (t.minutes mi) (t.seconds s)) := by
  have hp := alt_date_time_zone m sp t z y mo d ddd h mi s hy hmo hd hddd hh hmi hs hz
  rw [hok, if_pos rfl] at hp
  exact altSpelling_of m _ y (sp.months mo) (sp.days d ddd) h (t.minutes mi) (t.seconds s)
    (sp.altShape_time t z y mo d ddd h mi s) hh (by cases t <;> first | exact hmi | exact Nat.zero_lt_succ _)
    (by cases t <;> first | exact hs | exact Nat.zero_lt_succ _) hp

/-- With zone minutes of 60 or more the same text is refused (`TimeZone(...)` checks its bounds even
    though the zone is not used). -/
theorem C10_alt_date_time_bad_zone (m : Mode) (sp : DateSp) (t : TimeSp) (z : ZoneSp) (y mo d ddd h mi s : Nat)
    (hy : y < 10000) (hmo : mo < 100) (hd : d < 100) (hddd : ddd < 1000) (hh : h < 100) (hmi : mi < 100)
    (hs : s < 100) (hz : z.Fit) (hok : z.ok = false) :
    parseA m ('P' :: (sp.text y mo d ddd ++ 'T' :: (t.text sp.ext h mi s ++ z.text sp.ext))) = .err := by
  have hp := alt_date_time_zone m sp t z y mo d ddd h mi s hy hmo hd hddd hh hmi hs hz
  rw [hok, if_neg (by decide)] at hp
  rw [(parseA_of_alt m _ (sp.altShape_time t z y mo d ddd h mi s)).1, hp]
  rfl

/-- **C10_alt_reduced (date + hour)**: `PYYYY-MM-DDThh` (and the basic / ordinal spellings) is
    `PyYmoMdDThH`: minutes and seconds ZERO; hour 00–99 (24, 25 are legal here). -/
theorem C10_alt_reduced_date_hour (m : Mode) (sp : DateSp) (y mo d ddd h : Nat)
    (hy : y < 10000) (hmo : mo < 100) (hd : d < 100) (hddd : ddd < 1000) (hh : h < 100) :
    AltSpelling m (sp.text y mo d ddd ++ 'T' :: renderW 2 h)
      (.units y (sp.months mo) (sp.days d ddd) h 0 0) := by
  have := C10_alt_date_time_zone m sp .h .none y mo d ddd h 0 0 hy hmo hd hddd hh (by decide) (by decide)
    trivial rfl
  simpa [TimeSp.text, ZoneSp.text, TimeSp.minutes, TimeSp.seconds] using this

/-- **C10_alt_reduced (date + hour:minute)**: `PYYYY-MM-DDThh:mm` / `PYYYYMMDDThhmm` (and the ordinal
    spellings) is `PyYmoMdDThHmiM`: seconds ZERO; minute 00–99 (60 is legal here). -/
theorem C10_alt_reduced_date_hour_minute (m : Mode) (sp : DateSp) (y mo d ddd h mi : Nat)
    (hy : y < 10000) (hmo : mo < 100) (hd : d < 100) (hddd : ddd < 1000) (hh : h < 100) (hmi : mi < 100) :
    AltSpelling m (sp.text y mo d ddd ++ 'T' :: TimeSp.text sp.ext .hm h mi 0)
      (.units y (sp.months mo) (sp.days d ddd) h mi 0) := by
  have := C10_alt_date_time_zone m sp .hm .none y mo d ddd h mi 0 hy hmo hd hddd hh hmi (by decide)
    trivial rfl
  simpa [ZoneSp.text, TimeSp.minutes, TimeSp.seconds] using this

example : AltSpelling .greg "0004-03-02T05".toList (.units 4 3 2 5 0 0) ∧
    AltSpelling .greg "00040302T05".toList (.units 4 3 2 5 0 0) ∧
    AltSpelling .greg "0004-062T25".toList (.units 4 0 62 25 0 0) ∧
    AltSpelling .greg "0004-03-02T05:06".toList (.units 4 3 2 5 6 0) ∧
    AltSpelling .greg "00040302T0560".toList (.units 4 3 2 5 60 0) ∧
    toText (.units 4 3 2 5 6 0) = "P4Y3M2DT5H6M".toList :=
  ⟨(C10_alt_reduced_date_hour .greg .xc 4 3 2 0 5 (by decide) (by decide) (by decide) (by decide)
     (by decide)).cast (by decide +kernel),
   (C10_alt_reduced_date_hour .greg .bc 4 3 2 0 5 (by decide) (by decide) (by decide) (by decide)
     (by decide)).cast (by decide +kernel),
   (C10_alt_reduced_date_hour .greg .xo 4 0 0 62 25 (by decide) (by decide) (by decide) (by decide)
     (by decide)).cast (by decide +kernel),
   (C10_alt_reduced_date_hour_minute .greg .xc 4 3 2 0 5 6 (by decide) (by decide) (by decide) (by decide)
     (by decide) (by decide)).cast (by decide +kernel),
   (C10_alt_reduced_date_hour_minute .greg .bc 4 3 2 0 5 60 (by decide) (by decide) (by decide) (by decide)
     (by decide) (by decide)).cast (by decide +kernel),
   by decide +kernel⟩

-- the zone is ignored: `P0004-03-02T05:06-01:00` = `P0004-03-02T05:06` = P4Y3M2DT5H6M; minutes 60: refused
example : AltSpelling .greg "0004-03-02T05:06-01:00".toList (.units 4 3 2 5 6 0) ∧
    AltSpelling .greg "00040302T05Z".toList (.units 4 3 2 5 0 0) ∧
    parseA .greg "P0004-03-02T05:06+01:60".toList = .err :=
  ⟨(C10_alt_date_time_zone .greg .xc .hm (.hhmm true 1 0) 4 3 2 0 5 6 0 (by decide) (by decide) (by decide)
     (by decide) (by decide) (by decide) (by decide) ⟨by decide, by decide⟩ rfl).cast (by decide +kernel),
   (C10_alt_date_time_zone .greg .bc .h .utc 4 3 2 0 5 0 0 (by decide) (by decide) (by decide)
     (by decide) (by decide) (by decide) (by decide) trivial rfl).cast (by decide +kernel),
   (by decide +kernel : 'P' :: (DateSp.xc.text 4 3 2 0 ++ 'T' :: (TimeSp.hm.text true 5 6 0 ++
       (ZoneSp.hhmm false 1 60).text true)) = "P0004-03-02T05:06+01:60".toList) ▸
     C10_alt_date_time_bad_zone .greg .xc .hm (.hhmm false 1 60) 4 3 2 0 5 6 0 (by decide) (by decide) (by decide)
       (by decide) (by decide) (by decide) (by decide) ⟨by decide, by decide⟩ rfl⟩

/-- The complete forms with whole seconds of `Props/C10` (`C10_alt`, `C10_alt_canonical`) are the
    instance `hh:mm:ss` / `hhmmss`, no zone: the two models agree there. -/
theorem C10_alt_complete (m : Mode) (sp : DateSp) (y mo d ddd h mi s : Nat)
    (hy : y < 10000) (hmo : mo < 100) (hd : d < 100) (hddd : ddd < 1000) (hh : h < 100) (hmi : mi < 100)
    (hs : s < 100) :
    AltSpelling m (sp.text y mo d ddd ++ 'T' :: TimeSp.text sp.ext .hms h mi s)
      (.units y (sp.months mo) (sp.days d ddd) h mi s) := by
  have := C10_alt_date_time_zone m sp .hms .none y mo d ddd h mi s hy hmo hd hddd hh hmi hs trivial rfl
  simpa [ZoneSp.text, TimeSp.minutes, TimeSp.seconds] using this

example (m : Mode) (Y M D h mi s : Nat) (hY : Y < 10000) (hM : M < 100) (hD : D < 100)
    (hh : h < 100) (hmi : mi < 100) (hs : s < 100) :
    parseA m ('P' :: IsoDT.Lemmas.DurText.altXC (renderW 4 Y) (renderW 2 M) (renderW 2 D) (renderW 2 h)
      (renderW 2 mi) (renderW 2 s)) = .ok (.units Y M D h mi s) ∧
    DurText.parse m ('P' :: IsoDT.Lemmas.DurText.altXC (renderW 4 Y) (renderW 2 M) (renderW 2 D) (renderW 2 h)
      (renderW 2 mi) (renderW 2 s)) = .ok (.units Y M D h mi s) :=
  ⟨(C10_alt_complete m .xc Y M D 0 h mi s hY hM hD (by decide) hh hmi hs).alt,
   (C10_alt_canonical m Y M D h mi s hY hM hD hh hmi hs).1⟩

/-- **C10_alt_reduced**: the family statements in one — year only; year-month; date (calendar or
    ordinal, extended or basic); date + hour; date + hour:minute.  Each alternative text denotes exactly
    the duration with the written components and ZERO for the omitted ones, which is also what its
    designator spelling `str()` denotes; with a leading `-` or `+` each is refused. -/
theorem C10_alt_reduced (m : Mode) (sp : DateSp) (y mo d ddd h mi : Nat)
    (hy : y < 10000) (hmo : mo < 100) (hd : d < 100) (hddd : ddd < 1000) (hh : h < 100) (hmi : mi < 100) :
    AltSpelling m (renderW 4 y) (.units y 0 0 0 0 0) ∧
    AltSpelling m (renderW 4 y ++ '-' :: renderW 2 mo) (.units y mo 0 0 0 0) ∧
    AltSpelling m (sp.text y mo d ddd) (.units y (sp.months mo) (sp.days d ddd) 0 0 0) ∧
    AltSpelling m (sp.text y mo d ddd ++ 'T' :: renderW 2 h) (.units y (sp.months mo) (sp.days d ddd) h 0 0) ∧
    AltSpelling m (sp.text y mo d ddd ++ 'T' :: TimeSp.text sp.ext .hm h mi 0)
      (.units y (sp.months mo) (sp.days d ddd) h mi 0) :=
  ⟨C10_alt_reduced_year m y hy, C10_alt_reduced_year_month m y mo hy hmo,
   C10_alt_reduced_date m sp y mo d ddd hy hmo hd hddd,
   C10_alt_reduced_date_hour m sp y mo d ddd h hy hmo hd hddd hh,
   C10_alt_reduced_date_hour_minute m sp y mo d ddd h mi hy hmo hd hddd hh hmi⟩

example : AltSpelling .d366 (DateSp.bo.text 4 0 0 366 ++ 'T' :: TimeSp.text false .hm 24 0 0)
    (.units 4 0 366 24 0 0) ∧ DateSp.bo.text 4 0 0 366 ++ 'T' :: TimeSp.text false .hm 24 0 0 = "0004366T2400".toList :=
  ⟨(C10_alt_reduced .d366 .bo 4 0 0 366 24 0 (by decide) (by decide) (by decide) (by decide) (by decide)
    (by decide)).2.2.2.2, by decide +kernel⟩

/-- **C10_alt_roundtrip**: for EVERY text the fallback accepts with whole components — no assumption on
    its shape — the result `D` is a unit-form duration whose months, days, hours, minutes, seconds are
    non-negative numbers, the last three below 100 (`parseAltDur_ok_bounds`); and if `D` is single-signed
    (always, unless an inner `-` made the years negative next to a positive component), then `str(D)` —
    always the designator form — parses back to the very same `D`, through `parseA` and through
    `DurText.parse` (`C10_roundtrip`; the binary64 side condition holds since the time units are below
    100), `D == D` and `str` is a fixpoint. -/
theorem C10_alt_roundtrip (m : Mode) (rest : List Char) (D : Dur) (h : parseAltDur m rest = .ok D)
    (hs : SingleSigned D) :
    parseA m (toText D) = .ok D ∧ DurText.parse m (toText D) = .ok D ∧ normal D = D ∧
    Dur.eq m D D = true ∧ TimeExact D := by
  obtain ⟨y, mo, d, hh, mi, sec, rfl, _, _, h1, h2, h3, h4, h5, h6⟩ := parseAltDur_ok_bounds m rest D h
  have hx : TimeExact (.units y mo d hh mi sec) :=
    timeExact_of_lt _ _ _ _ _ _ (by omega) (by omega) (by omega)
  have hn := normal_units y mo d hh mi sec
  have r1 := parseA_str m _ hs hx
  have r2 := C10_roundtrip m _ hs hx
  rw [hn] at r1 r2
  exact ⟨r1, r2.1, hn, r2.2.1, hx⟩

/-- **No `None` component**: the time point the fallback builds is never truncated and always has its
    year and hour, for EVERY text — so the `Duration(**result_map)` it feeds never gets `years=None` or
    `hours=None`; months / days are either given or left at the constructor's default 0 (`days=None`
    of `PYYYY-MM` becomes 0: `C10_alt_reduced_year_month`), minutes / seconds likewise. -/
theorem C10_alt_no_missing_component (m : Mode) (s : List Char) (p : XTP) (h : parseAltTP m s = some p) :
    p.truncated = false ∧ (∃ y, p.year = some y) ∧ (∃ hh, p.hour = some hh) := by
  obtain ⟨info, a, hi, ha, hc⟩ := parseAltTP_some m s p h
  -- nothing is marked truncated: the date groups have their century, no group is a truncation marker
  obtain ⟨t1, ⟨e, _, hcc, hfd⟩, t3⟩ := getInfo_fits m s info hi
  have hat : a.truncated = false := by
    rw [(assemble_some _ _ _ _ ha).2.2.2.2.2.2, t1, Env.has_fits _ _ hfd,
      show (groupFields e.tmpl).contains _ = _ from hcc]
    rcases t3 with he | ⟨te, hok, hft⟩
    · rw [he]; rfl
    · rw [Env.has_fits _ _ hft,
        show (groupFields te.tmpl).contains .truncated = false from
          hasGroup_unclassed _ _ hok _ rfl rfl rfl (by decide)]
      rfl
  -- so the constructor demands the year and puts 0 for a missing hour
  obtain ⟨hy, tz, _, rfl⟩ := ctorDur_some m a p hc
  refine ⟨hat, Option.isSome_iff_exists.mp (hy hat), Option.isSome_iff_exists.mp ?_⟩
  show (if !a.truncated && a.hour.isNone then some 0 else a.hour).isSome = true
  rw [hat]
  cases a.hour <;> rfl

example : (parseAltTP .greg "0004-03".toList).map (fun p => (p.truncated, p.year, p.month, p.day, p.hour)) =
    some (false, some 4, some 3, none, some 0) := by decide +kernel

/-- When is the result single-signed?  Exactly when the years are not negative, or nothing but the years
    is set. -/
theorem C10_alt_singleSigned_iff (m : Mode) (rest : List Char) (y mo d hh mi sec : Int)
    (h : parseAltDur m rest = .ok (.units y mo d hh mi sec)) :
    SingleSigned (.units y mo d hh mi sec) ↔ (0 ≤ y ∨ (mo = 0 ∧ d = 0 ∧ hh = 0 ∧ mi = 0 ∧ sec = 0)) := by
  obtain ⟨y', mo', d', hh', mi', sec', e, g1, g2, g3, _, g4, _, g5, _⟩ := parseAltDur_ok_bounds m rest _ h
  cases e
  -- all components but the years are ≥ 0, so "all ≤ 0" means they are 0
  constructor
  · rintro (⟨h0, _⟩ | ⟨_, h1, h2, h3, h4, h5⟩)
    · exact Or.inl h0
    · exact Or.inr ⟨Int.le_antisymm h1 g1, Int.le_antisymm h2 g2, Int.le_antisymm h3 g3, Int.le_antisymm h4 g4,
        Int.le_antisymm h5 g5⟩
  · rintro (h0 | ⟨rfl, rfl, rfl, rfl, rfl⟩)
    · exact Or.inl ⟨h0, g1, g2, g3, g4, g5⟩
    · rcases Int.le_total 0 y with h0 | h0
      · exact Or.inl ⟨h0, g1, g2, g3, g4, g5⟩
      · exact Or.inr ⟨h0, g1, g2, g3, g4, g5⟩

example : parseAltDur .greg "0004-03".toList = .ok (.units 4 3 0 0 0 0) ∧
    toText (.units 4 3 0 0 0 0) = "P4Y3M".toList ∧
    parseA .greg "P4Y3M".toList = .ok (.units 4 3 0 0 0 0) ∧ normal (.units 4 3 0 0 0 0) = .units 4 3 0 0 0 0 := by
  refine ⟨by decide +kernel, by decide +kernel, by decide +kernel, by decide⟩

/-- The single-signedness hypothesis is needed: an inner minus sign (expanded-year form) gives a
    MIXED-sign duration — years negative, months and days positive — whose `str()` (`P-4Y3M2D`) no
    parser path accepts.  `P-000004-03-02` is outside C10's "well-formed duration strings", but the
    code accepts it. -/
theorem C10_alt_roundtrip_counter_inner_sign :
    parseA .greg "P-000004-03-02".toList = .ok (.units (-4) 3 2 0 0 0) ∧
    ¬ SingleSigned (.units (-4) 3 2 0 0 0) ∧
    toText (.units (-4) 3 2 0 0 0) = "P-4Y3M2D".toList ∧
    parseA .greg "P-4Y3M2D".toList = .err := by
  refine ⟨by decide +kernel, ?_, by decide +kernel, by decide +kernel⟩
  intro h
  rcases h with ⟨h, _⟩ | ⟨_, h, _⟩ <;> exact absurd h (by decide)

/-- **C10_alt_refused (week dates)**: every week-date spelling (`P0000-W01-1`, `P0000W011`, `P0000-W01`,
    `P0000W01`; any year, week 00–99, weekday 0–9) is refused by `DurationParser.parse`, with or without
    a leading `-`. -/
theorem C10_alt_refused_week (m : Mode) (sp : WeekSp) (y w k : Nat) (hy : y < 10000) (hw : w < 100) (hk : k < 10) :
    parseA m ('P' :: sp.text y w k) = .err ∧ parseA m ('-' :: 'P' :: sp.text y w k) = .err := by
  have hp := alt_week m sp y w k hy hw hk
  have d4 := digs_renderNat 4 y
  have l4 : 2 ≤ (renderNat 4 y).length := by rw [renderNat_length]; decide
  -- extended: the digits of the year, then `-W…`; basic: `W` follows the digits, and more follows it
  have key : parseA m ('P' :: sp.text y w k) = (parseAltDur m (sp.text y w k)).toAR ∧
      parseA m ('-' :: 'P' :: sp.text y w k) = .err ∧ parseA m ('+' :: 'P' :: sp.text y w k) = .err := by
    cases sp <;> simp only [WeekSp.text, renderW_eq]
    · exact parseA_of_alt m _ (AltShape.hyphen _ _ d4 l4 (ascii_cons (by decide)
        (ascii_append (ascii_renderNat 2 w) (ascii_cons (by decide) (ascii_renderNat 1 k)))))
    · exact parseA_of_alt_W m _ _ d4 l4 rfl (ascii_append (ascii_renderNat 2 w) (ascii_renderNat 1 k))
    · exact parseA_of_alt m _ (AltShape.hyphen _ _ d4 l4 (ascii_cons (by decide) (ascii_renderNat 2 w)))
    · exact parseA_of_alt_W m _ _ d4 l4 rfl (ascii_renderNat 2 w)
  rw [hp] at key
  exact ⟨key.1, key.2.1⟩

example : parseA .greg "P0000-W01-1".toList = .err ∧ parseA .greg "P0000W011".toList = .err :=
  ⟨(by decide +kernel : 'P' :: WeekSp.xw.text 0 1 1 = "P0000-W01-1".toList) ▸
     (C10_alt_refused_week .greg .xw 0 1 1 (by decide) (by decide) (by decide)).1,
   (by decide +kernel : 'P' :: WeekSp.bw.text 0 1 1 = "P0000W011".toList) ▸
     (C10_alt_refused_week .greg .bw 0 1 1 (by decide) (by decide) (by decide)).1⟩

/-- A complete week date in front of a time is refused as well (any time form, any zone): instance of
    `C10_alt_forms`. -/
theorem C10_alt_refused_week_time (m : Mode)
    (de : Entry) (hde : de ∈ parser_2_all.dateEntries) (hdc : de.typ = .complete)
    (hw : hasGroup de.tmpl .weekOfYear = true)
    (te : Entry) (hte : te ∈ parser_2_all.timeEntries) (htt : te.typ ≠ .truncated) (htf : te.fmt = de.fmt)
    (hnd : hasGroup te.tmpl .hourDec = false ∧ hasGroup te.tmpl .minuteDec = false ∧
      hasGroup te.tmpl .secondDec = false)
    (zo : Option ZEntry) (hzo : ∀ ze, zo = some ze → ze ∈ parser_2_all.zoneEntries ∧ ze.fmt = de.fmt)
    (v : Vals) (hv : v.Fit 2) :
    parseAltDur m (trender de.tmpl (envOf de.tmpl v) ++
        'T' :: (trender te.tmpl (envOf te.tmpl v) ++ zoneText zo v)) = .err := by
  rw [C10_alt_forms m de hde hdc te hte htt htf hnd zo hzo v hv, hw]
  simp

example : parseA .greg "P0000-W01-1T05:06".toList = .err ∧ parseA .greg "P0000W011T05".toList = .err := by
  refine ⟨by decide +kernel, by decide +kernel⟩

/-- **C10_alt_refused (truncated forms)**: `allow_truncated=False` — no truncated date form of the table
    is ever tried.  Every truncated date form except `-YYMM` spells only texts that no complete or
    reduced form matches (decided over the regenerated table by the shape check `refusedShape`). -/
theorem C10_alt_truncated_shapes : ∀ e ∈ parser_2_all.dateEntries, e.typ = .truncated →
    e.expr ≠ ['-', 'Y', 'Y', 'M', 'M'] → refusedShape e.tmpl = true := by
  decide +kernel

/-- So every text of a truncated date form other than `-YYMM` (`P04-03-02`, `P040302`, `P04123`, `P-04`,
    `P--0302`, `P---02`, `P-123`, `P04W011`, `P-W011`, …: any digits), alone or in front of `T…`, is
    refused by the fallback. -/
theorem C10_alt_refused_truncated (m : Mode) (e : Entry) (he : e ∈ parser_2_all.dateEntries)
    (ht : e.typ = .truncated) (hx : e.expr ≠ ['-', 'Y', 'Y', 'M', 'M']) (env : Env)
    (hf : fits e.tmpl env = true) :
    parseAltDur m (trender e.tmpl env) = .err ∧
      ∀ tail, 'T' ∉ tail → parseAltDur m (trender e.tmpl env ++ 'T' :: tail) = .err :=
  parseAltDur_refused_shape m e.tmpl (C10_alt_truncated_shapes e he ht hx) env hf

/-- So is the empty date (`PT05`). -/
theorem C10_alt_refused_empty_date (m : Mode) (tail : List Char) (h : 'T' ∉ tail) :
    parseAltDur m ('T' :: tail) = .err := by
  have := (parseAltDur_refused_shape m [] (by decide +kernel) [] rfl).2 tail h
  simpa [trender] using this

example : parseA .greg "P04-03-02".toList = .err ∧ parseA .greg "P040302".toList = .err ∧
    parseA .greg "P04123".toList = .err ∧ parseA .greg "P-04".toList = .err ∧
    parseA .greg "P--0302".toList = .err ∧ parseA .greg "P---02".toList = .err ∧
    parseA .greg "P-123".toList = .err ∧ parseA .greg "P04-03-02T05".toList = .err ∧
    parseA .greg "PT05".toList = .err ∧ parseA .greg "P0004-03-02T-06".toList = .err ∧
    parseA .greg "P0004-03T05".toList = .err ∧ parseA .greg "P0004T05".toList = .err := by
  refine ⟨by decide +kernel, by decide +kernel, by decide +kernel, by decide +kernel, by decide +kernel,
    by decide +kernel, by decide +kernel, by decide +kernel, by decide +kernel, by decide +kernel,
    by decide +kernel, by decide +kernel⟩

/-- The truncated form `-YYMM` is NOT refused: with two expanded year digits `-YYMM` is also
    `±XCC` (sign, two expanded digits, century), so `P-0403` is minus 40300 YEARS (and `P-0004` is
    minus 400 years, `P+0004` plus 400 years): an accidental, enormous duration. -/
theorem C10_alt_signed_century (m : Mode) (neg : Bool) (x c : Nat) (hx : x < 100) (hc : c < 100) :
    parseAltDur m (sgnChar neg :: (renderW 2 x ++ renderW 2 c)) =
      .ok (.units ((if neg then -1 else 1) * (10000 * x + 100 * c)) 0 0 0 0 0) := by
  have hv : ({ yearNeg := neg, x := x, cc := c } : Vals).Fit 2 := by
    simp only [Vals.Fit]
    exact ⟨hx, hc, by decide⟩
  have key := C10_alt_forms_date m
    ⟨.basic, .reduced, ['+', 'X', 'C', 'C'], [.sign .yearSign, .digits .expandedYear 2, .digits .century 2]⟩
    (by decide +kernel) { yearNeg := neg, x := x, cc := c } hv
  -- the text is what the form `±XCC` spells, and its year is `±(10000·X + 100·CC)`
  rw [renderW_eq, renderW_eq, ← List.append_nil (renderNat 2 c)]
  refine key.trans (congrArg (fun n => AltR.ok (.units n 0 0 0 0 0)) ?_)
  cases neg
  · show ((10000 * x + 100 * c + 0 : Nat) : Int) = 1 * (10000 * x + 100 * c)
    omega
  · show -((10000 * x + 100 * c + 0 : Nat) : Int) = -1 * (10000 * x + 100 * c)
    omega

theorem C10_alt_truncated_collision :
    parseA .greg "P-0403".toList = .ok (.units (-40300) 0 0 0 0 0) ∧
    parseA .greg "P-0004".toList = .ok (.units (-400) 0 0 0 0 0) ∧
    parseA .greg "P+0004".toList = .ok (.units 400 0 0 0 0 0) ∧
    toText (.units (-40300) 0 0 0 0 0) = "-P40300Y".toList := by
  refine ⟨by decide +kernel, by decide +kernel, by decide +kernel, by decide +kernel⟩

/-- **Zones and inner signs are NOT refused** (the rest of `C10_alt_refused`, stated as what the code
    returns): a zone is parsed, bounds-checked and ignored (`C10_alt_date_time_zone`,
    `C10_alt_date_time_bad_zone`); an inner sign in front of SIX year digits is the sign of an expanded
    year and negates the YEARS only (`C10_alt_forms` / `C10_alt_forms_date`: `yearOf`). -/
theorem C10_alt_zone_and_inner_sign_witnesses :
    parseA .greg "P0004-03-02T05Z".toList = .ok (.units 4 3 2 5 0 0) ∧
    parseA .greg "P0004-03-02T05+01".toList = .ok (.units 4 3 2 5 0 0) ∧
    parseA .greg "P00040302T0506-0100".toList = .ok (.units 4 3 2 5 6 0) ∧
    parseA .greg "P0004-03-02T05:06:07+99:99".toList = .err ∧
    parseA .greg "P+000004-03-02".toList = .ok (.units 4 3 2 0 0 0) ∧
    parseA .greg "P-000004-03-02".toList = .ok (.units (-4) 3 2 0 0 0) ∧
    parseA .greg "P-000004".toList = .ok (.units (-4) 0 0 0 0 0) ∧
    parseA .greg "P-0000-00-01T00".toList = .err ∧ parseA .greg "P+0000-00-01T00".toList = .err := by
  refine ⟨by decide +kernel, by decide +kernel, by decide +kernel, by decide +kernel, by decide +kernel,
    by decide +kernel, by decide +kernel, by decide +kernel, by decide +kernel⟩

/-- **C10_alt_refused**: week dates and truncated forms are refused (zones and inner signs are not: see
    above what they do). -/
theorem C10_alt_refused (m : Mode) (wsp : WeekSp) (y w k : Nat) (hy : y < 10000) (hw : w < 100) (hk : k < 10)
    (e : Entry) (he : e ∈ parser_2_all.dateEntries) (ht : e.typ = .truncated)
    (hx : e.expr ≠ ['-', 'Y', 'Y', 'M', 'M']) (env : Env) (hf : fits e.tmpl env = true) :
    parseA m ('P' :: wsp.text y w k) = .err ∧ parseA m ('-' :: 'P' :: wsp.text y w k) = .err ∧
    parseAltDur m (trender e.tmpl env) = .err ∧
    (∀ tail, 'T' ∉ tail → parseAltDur m (trender e.tmpl env ++ 'T' :: tail) = .err) :=
  ⟨(C10_alt_refused_week m wsp y w k hy hw hk).1, (C10_alt_refused_week m wsp y w k hy hw hk).2,
   (C10_alt_refused_truncated m e he ht hx env hf).1, (C10_alt_refused_truncated m e he ht hx env hf).2⟩

-- non-vacuity: `YY-MM-DD` is a truncated entry other than `-YYMM`, and `04-03-02` fits it
example :
    (⟨.extended, .truncated, ['Y', 'Y', '-', 'M', 'M', '-', 'D', 'D'],
        [.digits .yearOfCentury 2, .lit '-', .digits .monthOfYear 2, .lit '-', .digits .dayOfMonth 2]⟩ : Entry) ∈
      parser_2_all.dateEntries ∧
    fits [.digits .yearOfCentury 2, .lit '-', .digits .monthOfYear 2, .lit '-', .digits .dayOfMonth 2]
      [(.yearOfCentury, ['0', '4']), (.monthOfYear, ['0', '3']), (.dayOfMonth, ['0', '2'])] = true ∧
    trender [.digits .yearOfCentury 2, .lit '-', .digits .monthOfYear 2, .lit '-', .digits .dayOfMonth 2]
      [(.yearOfCentury, ['0', '4']), (.monthOfYear, ['0', '3']), (.dayOfMonth, ['0', '2'])] = "04-03-02".toList := by
  refine ⟨by decide +kernel, by decide +kernel, by decide +kernel⟩

/-- **C10_alt_sign (minus)**: `DurationParser.parse("-P…")` negates designator forms (`C10_designators`),
    but for every text that only the fallback could read — no designator regex matches `P…` — a leading
    `-` makes the parser skip the fallback ("don't allow our negative extension") and raise: there is no
    negative alternative spelling. -/
theorem C10_alt_sign_minus (m : Mode) (s : List Char) (hasc : ∀ c ∈ s, c.toNat < 128)
    (hnone : DurText.firstMatch durRegexes ('P' :: s) = none) :
    parseA m ('-' :: 'P' :: s) = .err ∧ parseA m ('P' :: s) = (parseAltDur m s).toAR :=
  ⟨(parseA_of_none m s hasc hnone).2.1, (parseA_of_none m s hasc hnone).1⟩

/-- **C10_alt_sign (plus)**: a leading `+` is refused for EVERY text — designator or alternative: the
    regexes are anchored at `P` and the fallback needs `expression.startswith("P")`. -/
theorem C10_alt_sign_plus (m : Mode) (s : List Char) (hasc : ∀ c ∈ s, c.toNat < 128) :
    parseA m ('+' :: s) = .err :=
  parseA_plus m s hasc

/-- **C10_alt_sign**: both rules in one. -/
theorem C10_alt_sign (m : Mode) (s : List Char) (hasc : ∀ c ∈ s, c.toNat < 128)
    (hnone : DurText.firstMatch durRegexes ('P' :: s) = none) :
    parseA m ('P' :: s) = (parseAltDur m s).toAR ∧ parseA m ('-' :: 'P' :: s) = .err ∧
    parseA m ('+' :: 'P' :: s) = .err :=
  parseA_of_none m s hasc hnone

/-- The witnesses: `-P0000-00-01T00` and `+P0000-00-01T00` are refused, `P0000-00-01T00` is one day;
    the designator form takes the minus (`-P1D`), not the plus. -/
theorem C10_alt_sign_witnesses :
    parseA .greg "-P0000-00-01T00".toList = .err ∧
    parseA .greg "+P0000-00-01T00".toList = .err ∧
    parseA .greg "P0000-00-01T00".toList = .ok (.units 0 0 1 0 0 0) ∧
    parseA .greg "-P1D".toList = .ok (.units 0 0 (-1) 0 0 0) ∧
    parseA .greg "+P1D".toList = .err ∧
    DurText.firstMatch durRegexes "P0000-00-01T00".toList = none := by
  refine ⟨by decide +kernel, by decide +kernel, by decide +kernel, by decide +kernel, by decide +kernel,
    by decide +kernel⟩

example : (∀ c ∈ "0000-00-01T00".toList, c.toNat < 128) ∧
    parseA .d360 "-P0000-00-01T00".toList = .err :=
  ⟨by decide, (C10_alt_sign_minus .d360 "0000-00-01T00".toList (by decide) (by decide +kernel)).1⟩

end IsoDT.Props.C10
