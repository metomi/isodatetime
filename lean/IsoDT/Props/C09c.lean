/-
  C09 (truncated constructor) — impossible dates are refused when a TRUNCATED point is built through the
  constructor: `TimePoint(truncated=True, [truncated_property=..., year=<short year>], month_of_year=…, …,
  time_zone_minute=…)` with integral arguments, any subset given, any integers, all four calendar modes.

  `Model.mkTruncTP` mirrors `TimePoint.__init__` + `_check_bounds` for `truncated=True` (checked against the
  Python by the driver op `mktrunc`); `Model.truncProps` is `get_truncated_properties()`.  The accepted
  argument sets are exactly `Lemmas.TruncAcceptable` (`Lemmas/ConstructTrunc`), and every accepted date
  exists in some full year Y ≥ 0 — with a stored short year, one whose last two digits / last digit are the
  reported year_of_century / year_of_decade.  The converse is FALSE of the code: it checks against the short
  year itself (year 0..99 resp. 0..9), not against every year with those digits
  (`C09_trunc_short_year_overstrict`).
-/
import IsoDT.Lemmas.ConstructTrunc

namespace IsoDT.Props.C09
open IsoDT IsoDT.Model IsoDT.Lemmas IsoDT.Lemmas.ConstructTrunc
open IsoDT.Spec (TZ)

/-- **The truncated object holds exactly what it was given** (nothing is defaulted, the year is stored
    unreduced), with a legal zone that is "unknown" exactly when neither zone argument is given. -/
theorem C09_trunc_keeps (m : Mode) (a : TruncArgs) (f : TruncFields) (h : mkTruncTP m a = some f) :
    f.tprop = a.tprop ∧ f.year = a.year ∧ f.month = a.month ∧ f.dom = a.dom ∧ f.doy = a.doy ∧
    f.week = a.week ∧ f.dow = a.dow ∧ f.hh = a.hh ∧ f.mi = a.mi ∧ f.ss = a.ss ∧
    (f.tzUnknown = true ↔ a.tzh = none ∧ a.tzm = none) ∧
    mkTZOpt m a.tzh a.tzm = some f.tz ∧ f.tz.Valid ∧ (f.tzUnknown = true → f.tz = ⟨0, 0⟩) := by
  obtain ⟨_, tz, hz, rfl⟩ := mkTruncTP_some m a f h
  refine ⟨rfl, rfl, rfl, rfl, rfl, rfl, rfl, rfl, rfl, rfl, ?_, hz, mkTZOpt_valid m _ _ tz hz, ?_⟩
  · simp [fieldsOf]
  · intro hu
    have : a.tzh = none ∧ a.tzm = none := by simpa [fieldsOf] using hu
    rw [this.1, this.2] at hz
    exact (Option.some.inj hz).symm

example : mkTruncTP .greg ⟨.yearOfCentury, some 150, some 2, some 28, none, none, none, some 5, none, none, none, some 30⟩ =
    some ⟨.yearOfCentury, some 150, some 2, some 28, none, none, none, some 5, none, none, false, ⟨0, 30⟩⟩ := by
  decide +kernel

/-- **No impossible field is admitted**: whatever keyword arguments are given (any subset, any integers,
    with or without a year), if the truncated constructor accepts them then every field the object holds
    is legal for the mode: month 1..12; day of month 1..(longest month) and, with a month, within that
    month's leap-year length; day of year within the leap-year length; ISO week 1..(most weeks a year of
    the mode has); weekday 1..7; hour 0..24; minute and second below 60; hour 24 only with minute and
    second 0 or absent; zone parts in range and of one sign; at most one date notation. -/
theorem C09_trunc_accept_sound (m : Mode) (a : TruncArgs) (f : TruncFields) (h : mkTruncTP m a = some f) :
    (∀ mo, f.month = some mo → 1 ≤ mo ∧ mo ≤ 12) ∧
    (∀ d, f.dom = some d → 1 ≤ d ∧ d ≤ maxDom m) ∧
    (∀ mo d, f.month = some mo → f.dom = some d → d ≤ Spec.monthLenB m true mo) ∧
    (∀ n, f.doy = some n → 1 ≤ n ∧ n ≤ Spec.yearLenB m true) ∧
    (∀ w, f.week = some w → 1 ≤ w ∧ w ≤ maxWeeks m) ∧
    (∀ d, f.dow = some d → 1 ≤ d ∧ d ≤ 7) ∧
    (∀ x, f.hh = some x → 0 ≤ x ∧ x ≤ 24) ∧
    (∀ x, f.mi = some x → 0 ≤ x ∧ x < 60) ∧
    (∀ x, f.ss = some x → 0 ≤ x ∧ x < 60) ∧
    (f.hh = some 24 → (∀ x, f.mi = some x → x = 0) ∧ (∀ x, f.ss = some x → x = 0)) ∧
    f.tz.Valid ∧ oneRep a = true := by
  obtain ⟨⟨_, hone, b1, b2, b3, b4, b5, b6, b7⟩, tz, hz, rfl⟩ := mkTruncTP_some m a f h
  have b7' : OptIn a.mi 0 59 ∧ OptIn a.ss 0 59 := by
    split at b7
    · exact ⟨b7.1.mono (by omega), b7.2.mono (by omega)⟩
    · exact b7
  simp only [fieldsOf]
  refine ⟨OptIn_iff.mp b1, OptIn_iff.mp (b2.mono (maxDomOf_le m _ _ b1)), ?_,
    OptIn_iff.mp (b3.mono (maxDoyOf_le m _)), OptIn_iff.mp (b4.mono (maxWeekOf_le m _)),
    OptIn_iff.mp b5, OptIn_iff.mp b6, ?_, ?_, ?_, mkTZOpt_valid m _ _ tz hz, hone⟩
  · intro mo d e1 e2
    rw [e1] at b1 b2
    exact (OptIn_iff.mp (b2.mono (maxDomOf_le_leap m _ mo b1.1 b1.2)) d e2).2
  · intro x e; have := OptIn_iff.mp b7'.1 x e; omega
  · intro x e; have := OptIn_iff.mp b7'.2 x e; omega
  · intro c
    rw [if_pos c] at b7
    exact ⟨fun x e => by have := OptIn_iff.mp b7.1 x e; omega,
      fun x e => by have := OptIn_iff.mp b7.2 x e; omega⟩

/-- Non-vacuity: accepted sets exist with every field given, at the limits (no year: 29 February, hour 24). -/
example : (mkTruncTP .greg ⟨.none, none, some 2, some 29, none, none, none, some 24, some 0, some 0, some (-1), some (-30)⟩).isSome = true ∧
    (mkTruncTP .greg ⟨.none, none, none, none, some 366, none, none, none, some 59, some 59, none, none⟩).isSome = true ∧
    (mkTruncTP .greg ⟨.none, none, none, none, none, some 53, some 7, none, none, none, none, none⟩).isSome = true := by
  decide +kernel

/-- **With a stored year the date is a real date of THAT year** (the short year is used as the year:
    `year_of_century=1` is checked as the year 1): month and day form a valid calendar date, the day of
    year a valid ordinal date, the week (and weekday) a valid ISO week (date) of year `y` — in the mode's
    calendar, for any `y`. -/
theorem C09_trunc_year_sound (m : Mode) (a : TruncArgs) (f : TruncFields) (h : mkTruncTP m a = some f)
    (y : Int) (hy : f.year = some y) :
    (∀ mo d, f.month = some mo → f.dom = some d → Spec.ValidCal m y mo d) ∧
    (∀ d, f.month = none → f.dom = some d → Spec.ValidCal m y 1 d) ∧
    (∀ n, f.doy = some n → Spec.ValidOrd m y n) ∧
    (∀ w, f.week = some w → 1 ≤ w ∧ w ≤ Spec.weeksInYear m y) ∧
    (∀ w d, f.week = some w → f.dow = some d → Spec.ValidWeek m y w d) := by
  obtain ⟨⟨_, _, b1, b2, b3, b4, b5, _, _⟩, tz, _, rfl⟩ := mkTruncTP_some m a f h
  simp only [fieldsOf] at hy ⊢
  rw [hy] at b2 b3 b4
  refine ⟨?_, ?_, OptIn_iff.mp b3, OptIn_iff.mp b4, ?_⟩
  · intro mo d e1 e2
    rw [e1] at b1; rw [e1, e2] at b2
    exact ⟨b1.1, b1.2, b2.1, b2.2⟩
  · intro d e1 e2
    rw [e1, e2] at b2
    exact ⟨by omega, by omega, b2.1, by rw [monthLen_jan]; exact b2.2⟩
  · intro w d e1 e2
    rw [e1] at b4; rw [e2] at b5
    exact ⟨b4.1, b4.2, b5.1, b5.2⟩

example : (mkTruncTP .greg ⟨.yearOfCentury, some 4, some 2, some 29, none, none, none, none, none, none, none, none⟩).isSome = true ∧
    Spec.ValidCal .greg 4 2 29 := by decide +kernel

/-- **What `get_truncated_properties()` reports for the year**: nothing without a `truncated_property`;
    `year % 100` (in 0..99) as year_of_century, `year % 10` (in 0..9) as year_of_decade, first in the
    dict; the method raises exactly when the property is named and no year was given. -/
theorem C09_trunc_reported_year (f : TruncFields) :
    (f.tprop = .none → ∃ l, truncProps f = some l ∧
      ∀ e ∈ l, e.1 ≠ .yearOfCentury ∧ e.1 ≠ .yearOfDecade) ∧
    (∀ y, f.tprop = .yearOfCentury → f.year = some y →
      ∃ l, truncProps f = some ((.yearOfCentury, y % 100) :: l) ∧ 0 ≤ y % 100 ∧ y % 100 < 100) ∧
    (∀ y, f.tprop = .yearOfDecade → f.year = some y →
      ∃ l, truncProps f = some ((.yearOfDecade, y % 10) :: l) ∧ 0 ≤ y % 10 ∧ y % 10 < 10) ∧
    (truncProps f = none ↔ f.tprop ≠ .none ∧ f.year = none) := by
  refine ⟨?_, ?_, ?_, ?_⟩
  · intro ht
    have e0 : truncYearEntry f = some [] := by simp only [truncYearEntry, ht]
    unfold truncProps; rw [e0]
    refine ⟨_, rfl, ?_⟩
    intro e he
    simp only [List.nil_append, List.mem_append] at he
    have key : ∀ (k : TruncKey) (v : Option Int), e ∈ truncEntry k v → e.1 = k := by
      intro k v hm
      cases v with
      | none => simp [truncEntry] at hm
      | some x => simp only [truncEntry, List.mem_singleton] at hm; rw [hm]
    rcases he with ((((((he | he) | he) | he) | he) | he) | he) | he <;>
      (have := key _ _ he; rw [this]; exact ⟨by decide, by decide⟩)
  · intro y ht hy
    have e0 : truncYearEntry f = some [(.yearOfCentury, y % 100)] := by simp only [truncYearEntry, ht, hy]
    unfold truncProps; rw [e0]
    exact ⟨_, rfl, by omega, by omega⟩
  · intro y ht hy
    have e0 : truncYearEntry f = some [(.yearOfDecade, y % 10)] := by simp only [truncYearEntry, ht, hy]
    unfold truncProps; rw [e0]
    exact ⟨_, rfl, by omega, by omega⟩
  · unfold truncProps truncYearEntry
    cases f.tprop <;> cases f.year <;> simp

example : truncProps ⟨.yearOfCentury, some (-1), some 2, none, none, none, none, none, none, none, true, ⟨0, 0⟩⟩ =
    some [(.yearOfCentury, 99), (.monthOfYear, 2)] := by decide +kernel
example : truncProps ⟨.yearOfDecade, none, some 2, none, none, none, none, none, none, none, true, ⟨0, 0⟩⟩ = none := by
  decide +kernel

/-- **A short year accepted with a date can be completed to a real date**: whenever the constructor
    accepts a stored year `y` (year_of_century 0..99, year_of_decade 0..9 — or ANY integer, the constructor
    does not check) there EXISTS a full year `Y ≥ 0` with `Y % 100 = y % 100` and `Y % 10 = y % 10` — the
    very values `get_truncated_properties()` reports as year_of_century / year_of_decade — in which the
    month+day is a valid calendar date, the day of year a valid ordinal date, the ISO week (date) a valid
    week (date).  For `0 ≤ y` the witness is `y` itself (`C09_trunc_year_sound`); negative years use the
    2800-year periodicity of every mode's calendar. -/
theorem C09_trunc_short_year_possible (m : Mode) (a : TruncArgs) (f : TruncFields) (h : mkTruncTP m a = some f)
    (y : Int) (hy : f.year = some y) :
    ∃ Y : Int, 0 ≤ Y ∧ Y % 100 = y % 100 ∧ Y % 10 = y % 10 ∧
      (∀ mo d, f.month = some mo → f.dom = some d → Spec.ValidCal m Y mo d) ∧
      (∀ d, f.month = none → f.dom = some d → Spec.ValidCal m Y 1 d) ∧
      (∀ n, f.doy = some n → Spec.ValidOrd m Y n) ∧
      (∀ w, f.week = some w → 1 ≤ w ∧ w ≤ Spec.weeksInYear m Y) ∧
      (∀ w d, f.week = some w → f.dow = some d → Spec.ValidWeek m Y w d) := by
  obtain ⟨Y, p0, p1, p2, pm, py, pw⟩ := nonneg_twin m y
  refine ⟨Y, p0, p1, p2, ?_⟩
  simp only [Spec.ValidCal, Spec.ValidOrd, Spec.ValidWeek, pm, py, pw]
  exact C09_trunc_year_sound m a f h y hy

/-- For a non-negative stored year the witness is that year itself. -/
theorem C09_trunc_short_year_possible_self (m : Mode) (a : TruncArgs) (f : TruncFields)
    (h : mkTruncTP m a = some f) (y : Int) (hy : f.year = some y) (h0 : 0 ≤ y) :
    ∃ Y : Int, Y = y ∧ 0 ≤ Y ∧
      (∀ mo d, f.month = some mo → f.dom = some d → Spec.ValidCal m Y mo d) ∧
      (∀ n, f.doy = some n → Spec.ValidOrd m Y n) ∧
      (∀ w d, f.week = some w → f.dow = some d → Spec.ValidWeek m Y w d) := by
  obtain ⟨s1, _, s3, _, s5⟩ := C09_trunc_year_sound m a f h y hy
  exact ⟨y, rfl, h0, s1, s3, s5⟩

example : (mkTruncTP .greg ⟨.yearOfCentury, some (-4), none, none, some 366, none, none, none, none, none, none, none⟩).isSome = true ∧
    (-4 : Int) % 100 = 96 ∧ Spec.ValidOrd .greg 96 366 := by decide +kernel

/-- **Without a year every accepted date notation exists in some year** `Y ≥ 0` of the mode: the month+day
    (a leap year: 29 February is accepted), a lone day of month (in January), the day of year (a leap
    year: day 366 in the Gregorian and 366-day calendars), the ISO week (a year with the mode's maximal
    number of weeks). -/
theorem C09_trunc_no_year_possible (m : Mode) (a : TruncArgs) (f : TruncFields) (h : mkTruncTP m a = some f)
    (hy : f.year = none) :
    (∀ mo d, f.month = some mo → f.dom = some d → ∃ Y : Int, 0 ≤ Y ∧ Spec.ValidCal m Y mo d) ∧
    (∀ d, f.month = none → f.dom = some d → ∃ Y : Int, 0 ≤ Y ∧ Spec.ValidCal m Y 1 d) ∧
    (∀ n, f.doy = some n → ∃ Y : Int, 0 ≤ Y ∧ Spec.ValidOrd m Y n) ∧
    (∀ w, f.week = some w → ∃ Y : Int, 0 ≤ Y ∧ 1 ≤ w ∧ w ≤ Spec.weeksInYear m Y) ∧
    (∀ w d, f.week = some w → f.dow = some d → ∃ Y : Int, 0 ≤ Y ∧ Spec.ValidWeek m Y w d) := by
  obtain ⟨⟨_, _, b1, b2, b3, b4, b5, _, _⟩, tz, _, rfl⟩ := mkTruncTP_some m a f h
  simp only [fieldsOf] at hy ⊢
  rw [hy] at b2 b3 b4
  have hl := longWeekYear_spec m
  refine ⟨?_, ?_, ?_, ?_, ?_⟩
  · intro mo d e1 e2
    rw [e1] at b1; rw [e1, e2] at b2
    exact ⟨4, by omega, b1.1, b1.2, b2.1, by rw [monthLen_four]; exact b2.2⟩
  · intro d e1 e2
    rw [e1, e2] at b2
    exact ⟨4, by omega, by omega, by omega, b2.1, by rw [monthLen_jan]; exact b2.2⟩
  · intro n e
    rw [e] at b3
    exact ⟨4, by omega, b3.1, by rw [yearLen_four]; exact b3.2⟩
  · intro w e
    rw [e] at b4
    exact ⟨longWeekYear m, hl.1, b4.1, by rw [hl.2]; exact b4.2⟩
  · intro w d e1 e2
    rw [e1] at b4; rw [e2] at b5
    exact ⟨longWeekYear m, hl.1, b4.1, by rw [hl.2]; exact b4.2, b5.1, b5.2⟩

example : (mkTruncTP .d366 ⟨.none, none, none, none, some 366, none, none, none, none, none, none, none⟩).isSome = true ∧
    (mkTruncTP .d365 ⟨.none, none, none, none, none, some 53, some 1, none, none, none, none, none⟩).isSome = true ∧
    Spec.ValidWeek .d365 3 53 1 := by decide +kernel

/-- **Exactly the in-range argument sets are accepted** (the converse, as far as it is true of the code):
    the constructor accepts iff `Lemmas.TruncAcceptable` — a legal zone, at most one date notation, every
    given field within its limit, where the limits come from the stored year when there is one (used as
    a full year, whatever `truncated_property` says) and otherwise from a leap year / the mode's maxima —
    and then the object is `fieldsOf a tz`. -/
theorem C09_trunc_accept_complete (m : Mode) (a : TruncArgs) :
    ((mkTruncTP m a).isSome = true ↔ TruncAcceptable m a) ∧
    (TruncAcceptable m a → ∃ tz, mkTZOpt m a.tzh a.tzm = some tz ∧ mkTruncTP m a = some (fieldsOf a tz)) := by
  refine ⟨⟨fun h => ?_, fun h => ?_⟩, mkTruncTP_of_acceptable m a⟩
  · obtain ⟨f, hf⟩ := Option.isSome_iff_exists.mp h
    exact (mkTruncTP_some m a f hf).1
  · obtain ⟨tz, _, e⟩ := mkTruncTP_of_acceptable m a h
    rw [e]; rfl

theorem mkTruncTP_isSome_iff (m : Mode) (a : TruncArgs) :
    (mkTruncTP m a).isSome = true ↔ TruncAcceptable m a := (C09_trunc_accept_complete m a).1

theorem mkTruncTP_eq_none_iff (m : Mode) (a : TruncArgs) : mkTruncTP m a = none ↔ ¬ TruncAcceptable m a := by
  rw [← mkTruncTP_isSome_iff]; cases mkTruncTP m a <;> simp

example : TruncAcceptable .greg ⟨.yearOfDecade, some 8, some 2, some 29, none, none, none, some 24, none, some 0, some 1, none⟩ := by
  decide +kernel
example : ¬ TruncAcceptable .greg ⟨.yearOfDecade, some 9, some 2, some 29, none, none, none, none, none, none, none, none⟩ := by
  decide +kernel

/-- **Two date notations at once are refused whatever their values** (Python truthiness: a given non-zero
    value; a given zero is refused by the bounds instead — second part), as is an illegal zone. -/
theorem C09_trunc_conflicts (m : Mode) (a : TruncArgs) :
    ((truthy a.month || truthy a.dom) = true → (truthy a.week || truthy a.dow) = true → mkTruncTP m a = none) ∧
    ((truthy a.month || truthy a.dom) = true → a.doy.isSome = true → mkTruncTP m a = none) ∧
    ((truthy a.week || truthy a.dow) = true → a.doy.isSome = true → mkTruncTP m a = none) ∧
    (oneRep a = false → mkTruncTP m a = none) ∧
    (mkTZOpt m a.tzh a.tzm = none → mkTruncTP m a = none) := by
  have hcf : conflict a = true → mkTruncTP m a = none := by
    intro hc
    rw [mkTruncTP_eq]
    cases mkTZOpt m a.tzh a.tzm <;> simp only [hc, ↓reduceIte]
  refine ⟨fun h1 h2 => hcf ?_, fun h1 h2 => hcf ?_, fun h1 h2 => hcf ?_, fun h => ?_, fun h => ?_⟩
  · unfold conflict; rw [h1, h2]; rfl
  · unfold conflict; rw [h1, h2]; simp
  · unfold conflict; rw [h1, h2]; simp
  · cases hm : mkTruncTP m a with
    | none => rfl
    | some f =>
      have := (mkTruncTP_some m a f hm).1.2.1
      rw [h] at this; cases this
  · rw [mkTruncTP_eq, h]

example : mkTruncTP .greg ⟨.none, none, some 1, none, none, some 1, none, none, none, none, none, none⟩ = none ∧
    mkTruncTP .greg ⟨.none, none, none, some 1, some 1, none, none, none, none, none, none, none⟩ = none ∧
    mkTruncTP .greg ⟨.none, none, none, none, some 1, none, some 1, none, none, none, none, none⟩ = none ∧
    mkTruncTP .greg ⟨.none, none, some 0, none, some 1, none, none, none, none, none, none, none⟩ = none ∧
    mkTruncTP .greg ⟨.none, none, none, none, none, none, none, some 1, none, none, some 1, some (-1)⟩ = none := by
  decide +kernel

/-! ## The boundary cases of the statement, in the modes where they differ -/

/-- Short-year calendar dates: 01-02-29 refused, 04-02-29 and 00-02-29 accepted in the Gregorian calendar;
    29 February always refused with 365 days, always accepted with 366, the 30th always accepted and the
    31st refused with 360. -/
theorem C09_trunc_witness_feb29 :
    mkTruncTP .greg ⟨.yearOfCentury, some 1, some 2, some 29, none, none, none, none, none, none, none, none⟩ = none ∧
    (mkTruncTP .greg ⟨.yearOfCentury, some 4, some 2, some 29, none, none, none, none, none, none, none, none⟩).isSome = true ∧
    (mkTruncTP .greg ⟨.yearOfCentury, some 0, some 2, some 29, none, none, none, none, none, none, none, none⟩).isSome = true ∧
    mkTruncTP .greg ⟨.yearOfCentury, some 4, some 2, some 30, none, none, none, none, none, none, none, none⟩ = none ∧
    mkTruncTP .d365 ⟨.yearOfCentury, some 4, some 2, some 29, none, none, none, none, none, none, none, none⟩ = none ∧
    (mkTruncTP .d366 ⟨.yearOfCentury, some 1, some 2, some 29, none, none, none, none, none, none, none, none⟩).isSome = true ∧
    (mkTruncTP .d360 ⟨.yearOfCentury, some 1, some 2, some 30, none, none, none, none, none, none, none, none⟩).isSome = true ∧
    mkTruncTP .d360 ⟨.yearOfCentury, some 1, some 1, some 31, none, none, none, none, none, none, none, none⟩ = none ∧
    mkTruncTP .d360 ⟨.none, none, none, some 31, none, none, none, none, none, none, none, none⟩ = none ∧
    (mkTruncTP .greg ⟨.none, none, none, some 31, none, none, none, none, none, none, none, none⟩).isSome = true := by
  simp only [mkTruncTP_eq_none_iff, mkTruncTP_isSome_iff]
  decide +kernel

/-- Short-year ordinal dates: 99-366 refused, 00-366 and 96-366 accepted (Gregorian); day 366 never with
    365 days, always with 366; day 361 never with 360; day 0 never. -/
theorem C09_trunc_witness_doy :
    mkTruncTP .greg ⟨.yearOfCentury, some 99, none, none, some 366, none, none, none, none, none, none, none⟩ = none ∧
    (mkTruncTP .greg ⟨.yearOfCentury, some 0, none, none, some 366, none, none, none, none, none, none, none⟩).isSome = true ∧
    (mkTruncTP .greg ⟨.yearOfCentury, some 96, none, none, some 366, none, none, none, none, none, none, none⟩).isSome = true ∧
    (mkTruncTP .greg ⟨.yearOfCentury, some 99, none, none, some 365, none, none, none, none, none, none, none⟩).isSome = true ∧
    mkTruncTP .greg ⟨.yearOfCentury, some 0, none, none, some 367, none, none, none, none, none, none, none⟩ = none ∧
    mkTruncTP .d365 ⟨.yearOfCentury, some 0, none, none, some 366, none, none, none, none, none, none, none⟩ = none ∧
    (mkTruncTP .d366 ⟨.yearOfCentury, some 99, none, none, some 366, none, none, none, none, none, none, none⟩).isSome = true ∧
    mkTruncTP .d360 ⟨.yearOfCentury, some 0, none, none, some 361, none, none, none, none, none, none, none⟩ = none ∧
    (mkTruncTP .d360 ⟨.none, none, none, none, some 360, none, none, none, none, none, none, none⟩).isSome = true ∧
    mkTruncTP .greg ⟨.none, none, none, none, some 0, none, none, none, none, none, none, none⟩ = none := by
  simp only [mkTruncTP_eq_none_iff, mkTruncTP_isSome_iff]
  decide +kernel

/-- Short-year weeks: W53 refused for a 52-week short year (year 1), accepted for a 53-week one (year 4 —
    year 3 with 365 days), W54 never; with 360 days W52 only in a 52-week year (year 2, not year 1) and
    W53 never, not even without a year. -/
theorem C09_trunc_witness_week :
    mkTruncTP .greg ⟨.yearOfCentury, some 1, none, none, none, some 53, none, none, none, none, none, none⟩ = none ∧
    (mkTruncTP .greg ⟨.yearOfCentury, some 4, none, none, none, some 53, none, none, none, none, none, none⟩).isSome = true ∧
    mkTruncTP .greg ⟨.none, none, none, none, none, some 54, none, none, none, none, none, none⟩ = none ∧
    mkTruncTP .d365 ⟨.yearOfDecade, some 4, none, none, none, some 53, none, none, none, none, none, none⟩ = none ∧
    (mkTruncTP .d365 ⟨.yearOfDecade, some 3, none, none, none, some 53, none, none, none, none, none, none⟩).isSome = true ∧
    (mkTruncTP .d366 ⟨.yearOfDecade, some 0, none, none, none, some 53, none, none, none, none, none, none⟩).isSome = true ∧
    mkTruncTP .d366 ⟨.yearOfDecade, some 1, none, none, none, some 53, none, none, none, none, none, none⟩ = none ∧
    mkTruncTP .d360 ⟨.yearOfDecade, some 1, none, none, none, some 52, none, none, none, none, none, none⟩ = none ∧
    (mkTruncTP .d360 ⟨.yearOfDecade, some 2, none, none, none, some 52, none, none, none, none, none, none⟩).isSome = true ∧
    mkTruncTP .d360 ⟨.none, none, none, none, none, some 53, none, none, none, none, none, none⟩ = none ∧
    mkTruncTP .greg ⟨.none, none, none, none, none, some 1, some 8, none, none, none, none, none⟩ = none := by
  simp only [mkTruncTP_eq_none_iff, mkTruncTP_isSome_iff]
  decide +kernel

/-- Time of day: hour 24 with minute 1 (or second 1, also without a minute) refused, 24, 24:00, 24:00:00
    accepted, hour 25 / minute 60 / second 60 refused (a lone minute or second too), month 13 refused. -/
theorem C09_trunc_witness_time :
    mkTruncTP .greg ⟨.none, none, none, none, none, none, none, some 24, some 1, none, none, none⟩ = none ∧
    mkTruncTP .greg ⟨.none, none, none, none, none, none, none, some 24, none, some 1, none, none⟩ = none ∧
    (mkTruncTP .greg ⟨.none, none, none, none, none, none, none, some 24, none, none, none, none⟩).isSome = true ∧
    (mkTruncTP .greg ⟨.none, none, none, none, none, none, none, some 24, some 0, some 0, none, none⟩).isSome = true ∧
    mkTruncTP .greg ⟨.none, none, none, none, none, none, none, some 25, none, none, none, none⟩ = none ∧
    mkTruncTP .greg ⟨.none, none, none, none, none, none, none, none, some 60, none, none, none⟩ = none ∧
    mkTruncTP .greg ⟨.none, none, none, none, none, none, none, none, none, some 60, none, none⟩ = none ∧
    (mkTruncTP .greg ⟨.none, none, none, none, none, none, none, none, some 59, some 59, none, none⟩).isSome = true ∧
    mkTruncTP .greg ⟨.none, none, some 13, none, none, none, none, none, none, none, none, none⟩ = none ∧
    (mkTruncTP .greg ⟨.none, none, none, none, none, none, none, none, none, none, none, none⟩).isSome = true := by
  simp only [mkTruncTP_eq_none_iff, mkTruncTP_isSome_iff]
  decide +kernel

/-- **The converse of `C09_trunc_short_year_possible` is FALSE of the code** (counter-witnesses): the bounds
    are those of the short year read as a full year (year_of_decade 2 = the year 2, year_of_century 3 = the
    year 3), so dates that exist in SOME year with that last digit / those last two digits are refused:
    29 February and day 366 for year_of_decade 2 or 6 (2012, 2016 are leap years), week 53 for
    year_of_decade 5 (2015 has 53 weeks) and for year_of_century 3 (1903 has 53 weeks). -/
theorem C09_trunc_short_year_overstrict :
    (mkTruncTP .greg ⟨.yearOfDecade, some 2, some 2, some 29, none, none, none, none, none, none, none, none⟩ = none ∧
      (2012 : Int) % 10 = 2 ∧ Spec.ValidCal .greg 2012 2 29) ∧
    (mkTruncTP .greg ⟨.yearOfDecade, some 6, none, none, some 366, none, none, none, none, none, none, none⟩ = none ∧
      (2016 : Int) % 10 = 6 ∧ Spec.ValidOrd .greg 2016 366) ∧
    (mkTruncTP .greg ⟨.yearOfDecade, some 5, none, none, none, some 53, none, none, none, none, none, none⟩ = none ∧
      (2015 : Int) % 10 = 5 ∧ Spec.ValidWeek .greg 2015 53 1) ∧
    (mkTruncTP .greg ⟨.yearOfCentury, some 3, none, none, none, some 53, none, none, none, none, none, none⟩ = none ∧
      (1903 : Int) % 100 = 3 ∧ Spec.ValidWeek .greg 1903 53 1) := by
  simp only [mkTruncTP_eq_none_iff]
  decide +kernel

end IsoDT.Props.C09
