/-
  C13 (month/year intervals) — recurrence queries agree with iteration, in the direction of
  iteration, for intervals with months and/or years.

  `NomRec m r d` (`Lemmas/RecNominal.lean`) collects what the constructor guarantees of a recurrence
  whose interval `d` is `NominalNonneg` (unit form, every component `≥ 0`, years or months non-zero);
  the `C13_nominal_built_*` theorems show that start/duration and duration/end notation build one, and
  the queries are proved for every `NomRec` — every mode, representation and offset, 24:00 anchors
  included.  `nthAdd` / `nthSub` (`Lemmas/RecNominalQuery.lean`) are the anchor plus / minus `d`, `i`
  times, each step ONE `TimePoint.__add__` / `__sub__` on the previous point.

  Because a bounded recurrence derives its far bound by one multiplied addition (finding F5), the
  statements are relative to the iteration as it is: "member" means yielded by `__iter__`
  (`r[i]`, `iter m r fuel`), not a member of an idealised `n`-point series.
-/
import IsoDT.Props.C12b
import IsoDT.Props.C13b
import IsoDT.Lemmas.RecNominalQuery

namespace IsoDT.Props.C13
open IsoDT IsoDT.Model IsoDT.Lemmas IsoDT.Props.C12
open IsoDT.Spec (Date TZ TP)

/-- `R/start/d`. -/
theorem C13_nominal_built_start_duration_unbounded (m : Mode) (s : TP) (d : Dur) (hs : s.Valid m)
    (hd : NominalNonneg d) :
    ∃ r, mkRec m none (some s) (some d) none = some r ∧ NomRec m r d ∧
      r.start = some s ∧ r.end_ = none :=
  ⟨_, mkRec_fmt3_unbounded_nominal m s d hd, nomRec_fmt3_unbounded m s d hs hd, rfl, rfl⟩

/-- `Rn/start/d`, `n ≥ 2`: the end bound is ONE multiplied addition. -/
theorem C13_nominal_built_start_duration (m : Mode) (n : Nat) (s : TP) (d : Dur) (hn : 2 ≤ n)
    (hs : s.Valid m) (hd : NominalNonneg d) :
    ∃ e r, addDur m s (d.mul ((n : Int) - 1)) = some e ∧ e.Strict m ∧ s.inst m < e.inst m ∧
      mkRec m (some (n : Int)) (some s) (some d) none = some r ∧ NomRec m r d ∧
      r.start = some s ∧ r.end_ = some e := by
  obtain ⟨e, he, hr, se, lt, _, _⟩ := mkRec_fmt3_bounded_nominal m n s d (by omega) hs hd
  exact ⟨e, _, he, se, lt, hr, nomRec_bounded m n s e d 3 (by omega) hs se.1 hd, rfl, rfl⟩

/-- `R/d/end`: no start point; iteration runs backwards from the end. -/
theorem C13_nominal_built_duration_end_unbounded (m : Mode) (e : TP) (d : Dur) (he : e.Valid m)
    (hd : NominalNonneg d) :
    ∃ r, mkRec m none none (some d) (some e) = some r ∧ NomRec m r d ∧
      r.start = none ∧ r.end_ = some e :=
  ⟨_, mkRec_fmt4_unbounded_nominal m e d hd, nomRec_fmt4_unbounded m e d he hd, rfl, rfl⟩

/-- `Rn/d/end`, `n ≥ 2`: the start is ONE multiplied subtraction; iteration runs FORWARDS from it. -/
theorem C13_nominal_built_duration_end (m : Mode) (n : Nat) (e : TP) (d : Dur) (hn : 2 ≤ n)
    (he : e.Valid m) (hd : NominalNonneg d) :
    ∃ s r, subDur m e (d.mul ((n : Int) - 1)) = some s ∧ s.Strict m ∧ s.inst m < e.inst m ∧
      mkRec m (some (n : Int)) none (some d) (some e) = some r ∧ NomRec m r d ∧
      r.start = some s ∧ r.end_ = some e := by
  obtain ⟨s, hs', hr, ss, lt, _, _⟩ := mkRec_fmt4_bounded_nominal m n e d (by omega) he hd
  exact ⟨s, _, hs', ss, lt, hr, nomRec_bounded m n s e d 4 (by omega) ss.1 he hd, rfl, rfl⟩

/-- **get_next from the `k`-th iterated point** of a recurrence that has a start point (so
    `__iter__` runs forwards: start/duration notation, and duration/end with `n ≥ 2`) and a
    month/year interval `d`.  If `r[k] = p` then `p + d` is defined and strictly later, and
    * `get_next(p) = r[k+1]` — the next iterated point, or `None` when there is none;
    * it is `p + d` when the recurrence is unbounded or `p + d` is not after the end bound;
    * it is `None` when `p + d` is after the end bound (the next nominal step leaves the bounds);
    * and when it is `None`, `p` is the last point of every run of `__iter__` that reaches it. -/
theorem C13_next_nominal (m : Mode) (r : Rec) (d : Dur) (hr : NomRec m r d) (s : TP)
    (hs : r.start = some s) (k : Nat) (p : TP) (h : getItem m r k = some p) :
    ∃ q, addDur m p d = some q ∧ q.Strict m ∧ q.date.rep = p.date.rep ∧ q.tz = p.tz ∧
      p.inst m < q.inst m ∧
      getNext m r p = getItem m r (k + 1) ∧
      (r.end_ = none → getNext m r p = some q) ∧
      (∀ e, r.end_ = some e → q.inst m ≤ e.inst m → getNext m r p = some q) ∧
      (∀ e, r.end_ = some e → e.inst m < q.inst m → getNext m r p = none) ∧
      (getNext m r p = none → ∀ fuel, k < fuel →
        (iter m r fuel).length = k + 1 ∧ (iter m r fuel).getLast? = some p) := by
  have hx := hr.stepRec
  obtain ⟨hnk, hbp, hv, _⟩ := getItem_fwd_some m r d _ hx s hs k p h
  have hsp := ((inBounds_iff m r hx.startValid hx.endValid p hv).mp hbp).1 s hs
  obtain ⟨q, e, sq, rq, tq, lt⟩ := hx.fwd.step p hv
  have hpq : p.inst m < q.inst m := Int.lt_of_lt_of_le (Int.lt_add_of_pos_right _ (by decide)) lt
  have hn : getNext m r p = if inBounds m r q = true then some q else none := by
    rw [getNext_eq m r d hx.dur hx.multi p, e, Option.filter_some]
  have hbq := inBounds_iff_end m r hx.startValid hx.endValid s hs q sq.1
    (Int.le_trans hsp (Int.le_of_lt hpq))
  have hsucc : getItem m r (k + 1) = getNext m r p := by
    rw [getItem_fwd m r d _ hx s hs (k + 1), nthAdd_succ, hnk, Option.bind_some,
      getNext_eq m r d hx.dur hx.multi p]
  refine ⟨q, e, sq, rq, tq, hpq, hsucc.symm, ?_, ?_, ?_, ?_⟩
  · intro hen; rw [hn, if_pos (hbq.mpr fun e h => by rw [hen] at h; cases h)]
  · intro e' he' hle
    rw [hn, if_pos (hbq.mpr fun e h => by rw [he'] at h; cases h; exact hle)]
  · intro e' he' hgt
    rw [hn, if_neg fun c => Int.not_le.mpr hgt (hbq.mp c e' he')]
  · intro hnone fuel hk
    rw [← hsucc] at hnone
    have hle := iter_length_le_of_getItem_none m r (k + 1) hnone fuel
    have hk' : (iter m r fuel)[k]? = some p := (getItem_eq_getElem? m r k fuel hk).symm.trans h
    have hlt : k < (iter m r fuel).length := (List.getElem?_eq_some_iff.mp hk').1
    have hlen : (iter m r fuel).length = k + 1 := by omega
    refine ⟨hlen, ?_⟩
    rw [List.getLast?_eq_getElem?, hlen]
    exact hk'

/-- `R3/2001-01-31T00Z/P1M` (bound 28 Mar; points 31 Jan, 28 Feb, 28 Mar): from `r[1]` = 28 Feb the
    next is `r[2]` = 28 Mar; from `r[2]` the step to 28 Apr leaves the bounds: `None`, and `r[3]`
    does not exist. -/
example : ∃ r, mkRec .greg (some 3) (some ⟨.cal 2001 1 31, 0, 0, 0, ⟨0, 0⟩⟩) (some (.units 0 1 0 0 0 0)) none = some r ∧
    getItem .greg r 1 = some ⟨.cal 2001 2 28, 0, 0, 0, ⟨0, 0⟩⟩ ∧
    getNext .greg r ⟨.cal 2001 2 28, 0, 0, 0, ⟨0, 0⟩⟩ = some ⟨.cal 2001 3 28, 0, 0, 0, ⟨0, 0⟩⟩ ∧
    getItem .greg r 2 = some ⟨.cal 2001 3 28, 0, 0, 0, ⟨0, 0⟩⟩ ∧
    getNext .greg r ⟨.cal 2001 3 28, 0, 0, 0, ⟨0, 0⟩⟩ = none ∧ getItem .greg r 3 = none :=
  ⟨⟨some 3, some ⟨.cal 2001 1 31, 0, 0, 0, ⟨0, 0⟩⟩, some (.units 0 1 0 0 0 0),
      some ⟨.cal 2001 3 28, 0, 0, 0, ⟨0, 0⟩⟩, none, 3⟩,
    by decide +kernel, by decide +kernel, by decide +kernel, by decide +kernel, by decide +kernel,
    by decide +kernel⟩
example := C13_next_nominal .greg ⟨some 3, some ⟨.cal 2001 1 31, 0, 0, 0, ⟨0, 0⟩⟩, some (.units 0 1 0 0 0 0),
    some ⟨.cal 2001 3 28, 0, 0, 0, ⟨0, 0⟩⟩, none, 3⟩ (.units 0 1 0 0 0 0)
  (nomRec_bounded .greg 3 _ _ _ 3 (by decide) (by decide) (by decide) (by decide))
  ⟨.cal 2001 1 31, 0, 0, 0, ⟨0, 0⟩⟩ rfl 2 ⟨.cal 2001 3 28, 0, 0, 0, ⟨0, 0⟩⟩ (by decide +kernel)

/-- **get_prev from the `k`-th iterated point** of `R/d/end` with a month/year interval (no start
    point: `__iter__` runs backwards from the end, and never ends).  If `r[k] = p` then
    `get_prev(p) = p − d = r[k+1]`, strictly earlier. -/
theorem C13_prev_nominal (m : Mode) (r : Rec) (d : Dur) (hr : NomRec m r d) (e : TP)
    (hs : r.start = none) (he : r.end_ = some e) (k : Nat) (p : TP) (h : getItem m r k = some p) :
    ∃ q, subDur m p d = some q ∧ q.Strict m ∧ q.date.rep = p.date.rep ∧ q.tz = p.tz ∧
      q.inst m < p.inst m ∧ getPrev m r p = some q ∧ getItem m r (k + 1) = some q := by
  have hx := hr.stepRec
  obtain ⟨p', hp', hnk, hv, _⟩ := getItem_rev m r d _ hx e hs he k
  rw [h] at hp'; cases hp'
  have hpe : p.inst m ≤ e.inst m :=
    ((inBounds_iff m r hx.startValid hx.endValid p hv).mp
      (iter_mem_inBounds m r (k + 1) p (List.mem_of_getElem? h))).2 e he
  obtain ⟨q, eq', sq, rq, tq, lt⟩ := hx.bwd.step p hv
  have hqp : q.inst m < p.inst m := by
    have := Int.lt_of_lt_of_le (Int.lt_add_of_pos_right _ (by decide)) lt
    exact Int.lt_of_neg_lt_neg this
  have hbq : inBounds m r q = true := by
    rw [inBounds_iff m r hx.startValid hx.endValid q sq.1]
    refine ⟨fun s' h' => (by rw [hs] at h'; cases h'), fun e' h' => ?_⟩
    rw [he] at h'; cases h'
    exact Int.le_trans (Int.le_of_lt hqp) hpe
  have hq : getPrev m r p = some q := by
    rw [getPrev_eq m r d hx.dur hx.multi p]
    show (addDur m p (d.mul (-1))).filter _ = _
    rw [eq', Option.filter_some, if_pos hbq]
  obtain ⟨q', hq', hn', _⟩ := getItem_rev m r d _ hx e hs he (k + 1)
  rw [nthSub_succ, hnk, Option.bind_some] at hn'
  rw [show subDur m p d = some q from eq'] at hn'
  cases hn'
  exact ⟨q, eq', sq, rq, tq, hqp, hq, hq'⟩

/-- `R/P1M/2001-03-31T00Z`: 31 Mar, 28 Feb, 28 Jan, … backwards. -/
example : ∃ r, mkRec .greg none none (some (.units 0 1 0 0 0 0)) (some ⟨.cal 2001 3 31, 0, 0, 0, ⟨0, 0⟩⟩) = some r ∧
    getItem .greg r 1 = some ⟨.cal 2001 2 28, 0, 0, 0, ⟨0, 0⟩⟩ ∧
    getPrev .greg r ⟨.cal 2001 2 28, 0, 0, 0, ⟨0, 0⟩⟩ = some ⟨.cal 2001 1 28, 0, 0, 0, ⟨0, 0⟩⟩ ∧
    getItem .greg r 2 = some ⟨.cal 2001 1 28, 0, 0, 0, ⟨0, 0⟩⟩ :=
  ⟨⟨none, none, some (.units 0 1 0 0 0 0), some ⟨.cal 2001 3 31, 0, 0, 0, ⟨0, 0⟩⟩, none, 4⟩,
    by decide +kernel, by decide +kernel, by decide +kernel, by decide +kernel⟩
example := C13_prev_nominal .greg ⟨none, none, some (.units 0 1 0 0 0 0), some ⟨.cal 2001 3 31, 0, 0, 0, ⟨0, 0⟩⟩,
    none, 4⟩ (.units 0 1 0 0 0 0) (nomRec_fmt4_unbounded .greg _ _ (by decide) (by decide))
  ⟨.cal 2001 3 31, 0, 0, 0, ⟨0, 0⟩⟩ rfl rfl 1 ⟨.cal 2001 2 28, 0, 0, 0, ⟨0, 0⟩⟩ (by decide +kernel)

/-- AGAINST the direction of iteration the neighbour need not be a member (the property claims
    the direction of iteration only): `R/2000-12-31T00Z/P1M` yields 31 Dec, 31 Jan, 28 Feb, 28 Mar;
    get_prev(28 Feb) is 28 Jan — within the bounds, returned, and not an iterated point; and
    `R/2001-01-31T00Z/P1M` (31 Jan, 28 Feb, …) has get_prev(28 Feb) = `None` (28 Jan is before the
    start) although 28 Feb has a predecessor. -/
theorem C13_prev_against_direction_nominal :
    (∃ r, mkRec .greg none (some ⟨.cal 2000 12 31, 0, 0, 0, ⟨0, 0⟩⟩) (some (.units 0 1 0 0 0 0)) none = some r ∧
      iter .greg r 3 = [⟨.cal 2000 12 31, 0, 0, 0, ⟨0, 0⟩⟩, ⟨.cal 2001 1 31, 0, 0, 0, ⟨0, 0⟩⟩,
        ⟨.cal 2001 2 28, 0, 0, 0, ⟨0, 0⟩⟩] ∧
      getPrev .greg r ⟨.cal 2001 2 28, 0, 0, 0, ⟨0, 0⟩⟩ = some ⟨.cal 2001 1 28, 0, 0, 0, ⟨0, 0⟩⟩ ∧
      getIsValid .greg r ⟨.cal 2001 1 28, 0, 0, 0, ⟨0, 0⟩⟩ 10 = false) ∧
    (∃ r, mkRec .greg none (some ⟨.cal 2001 1 31, 0, 0, 0, ⟨0, 0⟩⟩) (some (.units 0 1 0 0 0 0)) none = some r ∧
      getItem .greg r 1 = some ⟨.cal 2001 2 28, 0, 0, 0, ⟨0, 0⟩⟩ ∧
      getPrev .greg r ⟨.cal 2001 2 28, 0, 0, 0, ⟨0, 0⟩⟩ = none) :=
  ⟨⟨⟨none, some ⟨.cal 2000 12 31, 0, 0, 0, ⟨0, 0⟩⟩, some (.units 0 1 0 0 0 0), none, none, 3⟩,
      by decide +kernel, by decide +kernel, by decide +kernel, by decide +kernel⟩,
    ⟨⟨none, some ⟨.cal 2001 1 31, 0, 0, 0, ⟨0, 0⟩⟩, some (.units 0 1 0 0 0 0), none, none, 3⟩,
      by decide +kernel, by decide +kernel, by decide +kernel⟩⟩

/-- **`r[i]`**, a recurrence with a start point and a month/year interval: `start + d`, `i` times
    (each step one `__add__` on the previous point — `nthAdd`), always defined, valid, in the
    start's representation and offset, at least `i` days after the start; `r[i]` is that point if
    the recurrence is unbounded or the point is not after the end bound, and an `IndexError`
    (`none`) otherwise. -/
theorem C13_getitem_nominal (m : Mode) (r : Rec) (d : Dur) (hr : NomRec m r d) (s : TP)
    (hs : r.start = some s) (i : Nat) :
    ∃ q, nthAdd m d i s = some q ∧ q.Valid m ∧ (1 ≤ i → q.Strict m) ∧ q.date.rep = s.date.rep ∧
      q.tz = s.tz ∧ s.inst m + 86400 * (i : Int) ≤ q.inst m ∧
      nthAdd m d 0 s = some s ∧ nthAdd m d (i + 1) s = addDur m q d ∧
      (r.end_ = none → getItem m r i = some q) ∧
      (∀ e, r.end_ = some e → getItem m r i = if q.inst m ≤ e.inst m then some q else none) ∧
      (∀ fuel, i < fuel → getItem m r i = (iter m r fuel)[i]?) := by
  have hx := hr.stepRec
  obtain ⟨q, e0, v, st, rr, tt, lb⟩ := nthAdd_spec m d _ _ hx.fwd i s (hr.startValid s hs)
  have hg := getItem_fwd m r d _ hx s hs i
  rw [e0, Option.filter_some] at hg
  have hbq := inBounds_iff_end m r hx.startValid hx.endValid s hs q v
    (Int.le_trans (Int.le_add_of_nonneg_right (Int.mul_nonneg (by decide) (Int.natCast_nonneg i))) lb)
  refine ⟨q, e0, v, st, rr, tt, lb, rfl, by rw [nthAdd_succ, e0, Option.bind_some], ?_, ?_,
    fun fuel hf => C13_getitem_is_iter m r i fuel hf⟩
  · intro hen; rw [hg, if_pos (hbq.mpr fun e h => by rw [hen] at h; cases h)]
  · intro e he
    rw [hg]
    by_cases c : q.inst m ≤ e.inst m
    · rw [if_pos c, if_pos (hbq.mpr fun e' h => by rw [he] at h; cases h; exact c)]
    · rw [if_neg c, if_neg fun cb => c (hbq.mp cb e he)]

/-- `R4/2000-02-29T00Z/P1Y` (bound 2003-02-28): `r[3]` is the start + P1Y three times = 2003-02-28;
    `r[4]` would be 2004-02-28, after the bound. -/
example : ∃ r, mkRec .greg (some 4) (some ⟨.cal 2000 2 29, 0, 0, 0, ⟨0, 0⟩⟩) (some (.units 1 0 0 0 0 0)) none = some r ∧
    nthAdd .greg (.units 1 0 0 0 0 0) 3 ⟨.cal 2000 2 29, 0, 0, 0, ⟨0, 0⟩⟩ = some ⟨.cal 2003 2 28, 0, 0, 0, ⟨0, 0⟩⟩ ∧
    getItem .greg r 3 = some ⟨.cal 2003 2 28, 0, 0, 0, ⟨0, 0⟩⟩ ∧
    nthAdd .greg (.units 1 0 0 0 0 0) 4 ⟨.cal 2000 2 29, 0, 0, 0, ⟨0, 0⟩⟩ = some ⟨.cal 2004 2 28, 0, 0, 0, ⟨0, 0⟩⟩ ∧
    getItem .greg r 4 = none :=
  ⟨⟨some 4, some ⟨.cal 2000 2 29, 0, 0, 0, ⟨0, 0⟩⟩, some (.units 1 0 0 0 0 0),
      some ⟨.cal 2003 2 28, 0, 0, 0, ⟨0, 0⟩⟩, none, 3⟩,
    by decide +kernel, by decide +kernel, by decide +kernel, by decide +kernel, by decide +kernel⟩
example := C13_getitem_nominal .greg ⟨some 4, some ⟨.cal 2000 2 29, 0, 0, 0, ⟨0, 0⟩⟩, some (.units 1 0 0 0 0 0),
    some ⟨.cal 2003 2 28, 0, 0, 0, ⟨0, 0⟩⟩, none, 3⟩ (.units 1 0 0 0 0 0)
  (nomRec_bounded .greg 4 _ _ _ 3 (by decide) (by decide) (by decide) (by decide))
  ⟨.cal 2000 2 29, 0, 0, 0, ⟨0, 0⟩⟩ rfl 3

/-- **`r[i]`**, `R/d/end` with a month/year interval: `end − d`, `i` times, always defined —
    valid, in the end's representation and offset, at least `i` days before the end. -/
theorem C13_getitem_nominal_rev (m : Mode) (r : Rec) (d : Dur) (hr : NomRec m r d) (e : TP)
    (hs : r.start = none) (he : r.end_ = some e) (i : Nat) :
    ∃ q, getItem m r i = some q ∧ nthSub m d i e = some q ∧ q.Valid m ∧ (1 ≤ i → q.Strict m) ∧
      q.date.rep = e.date.rep ∧ q.tz = e.tz ∧ q.inst m + 86400 * (i : Int) ≤ e.inst m ∧
      nthSub m d 0 e = some e ∧ nthSub m d (i + 1) e = subDur m q d ∧
      (∀ fuel, i < fuel → getItem m r i = (iter m r fuel)[i]?) := by
  obtain ⟨q, h1, h2, v, st, rr, tt, ub⟩ := getItem_rev m r d _ hr.stepRec e hs he i
  exact ⟨q, h1, h2, v, st, rr, tt, ub, rfl, by rw [nthSub_succ, h2, Option.bind_some],
    fun fuel hf => C13_getitem_is_iter m r i fuel hf⟩

example := C13_getitem_nominal_rev .greg ⟨none, none, some (.units 0 1 0 0 0 0), some ⟨.cal 2001 3 31, 0, 0, 0, ⟨0, 0⟩⟩,
    none, 4⟩ (.units 0 1 0 0 0 0) (nomRec_fmt4_unbounded .greg _ _ (by decide) (by decide))
  ⟨.cal 2001 3 31, 0, 0, 0, ⟨0, 0⟩⟩ rfl rfl 3
example : getItem .greg ⟨none, none, some (.units 0 1 0 0 0 0), some ⟨.cal 2001 3 31, 0, 0, 0, ⟨0, 0⟩⟩, none, 4⟩ 3 =
    some ⟨.cal 2000 12 28, 0, 0, 0, ⟨0, 0⟩⟩ := by decide +kernel

/-! ### get_next / get_prev, stated for what the constructor builds (all inputs) -/

/-- **get_next along `R/start/d`** (month/year interval, every valid start): every `r[k]` exists,
    and `get_next(r[k]) = r[k] + d = r[k+1]`, strictly later — the series never ends. -/
theorem C13_next_nominal_start_duration_unbounded (m : Mode) (s : TP) (d : Dur) (hs : s.Valid m)
    (hd : NominalNonneg d) (k : Nat) :
    ∃ r p q, mkRec m none (some s) (some d) none = some r ∧ getItem m r k = some p ∧
      addDur m p d = some q ∧ getNext m r p = some q ∧ getItem m r (k + 1) = some q ∧
      p.inst m < q.inst m := by
  obtain ⟨r, hr, hx, hst, hen⟩ := C13_nominal_built_start_duration_unbounded m s d hs hd
  obtain ⟨p, _, _, _, _, _, _, _, _, hg, _⟩ := C13_getitem_nominal m r d hx s hst k
  have hp := hg hen
  obtain ⟨q, e, _, _, _, lt, hsucc, h1, _⟩ := C13_next_nominal m r d hx s hst k p hp
  exact ⟨r, p, q, hr, hp, e, h1 hen, by rw [← hsucc]; exact h1 hen, lt⟩

example := C13_next_nominal_start_duration_unbounded .greg ⟨.cal 2000 2 29, 6, 0, 0, ⟨-5, 0⟩⟩ (.units 1 0 0 0 0 0)
  (by decide) (by decide) 4

/-- **get_next along `Rn/start/d`**, `n ≥ 2` (month/year interval): with `e = start + (n−1)·d` the
    derived bound, from `r[k] = p`: `get_next(p) = r[k+1]`; it is `p + d` when `p + d ≤ e`, and
    `None` when `p + d` is after `e` — then `r[k]` is the last point and `r[k+1]` does not exist. -/
theorem C13_next_nominal_start_duration (m : Mode) (n : Nat) (s : TP) (d : Dur) (hn : 2 ≤ n)
    (hs : s.Valid m) (hd : NominalNonneg d) (k : Nat) (p : TP) :
    ∃ e r, addDur m s (d.mul ((n : Int) - 1)) = some e ∧
      mkRec m (some (n : Int)) (some s) (some d) none = some r ∧
      (getItem m r k = some p → ∃ q, addDur m p d = some q ∧ p.inst m < q.inst m ∧
        getNext m r p = getItem m r (k + 1) ∧
        (q.inst m ≤ e.inst m → getNext m r p = some q) ∧
        (e.inst m < q.inst m → getNext m r p = none ∧ getItem m r (k + 1) = none)) := by
  obtain ⟨e, r, he, _, _, hr, hx, hst, hen⟩ := C13_nominal_built_start_duration m n s d hn hs hd
  refine ⟨e, r, he, hr, ?_⟩
  intro hp
  obtain ⟨q, eq', _, _, _, lt, hsucc, _, h2, h3, _⟩ := C13_next_nominal m r d hx s hst k p hp
  exact ⟨q, eq', lt, hsucc, h2 e hen, fun h => ⟨h3 e hen h, by rw [← hsucc]; exact h3 e hen h⟩⟩

example := C13_next_nominal_start_duration .greg 3 ⟨.cal 2001 1 31, 0, 0, 0, ⟨0, 0⟩⟩ (.units 0 1 0 0 0 0)
  (by decide) (by decide) (by decide) 2 ⟨.cal 2001 3 28, 0, 0, 0, ⟨0, 0⟩⟩

/-- **get_next along `Rn/d/end`**, `n ≥ 2` (month/year interval): the start `s' = end − (n−1)·d` is
    derived and `__iter__` runs forwards from it, so the direction of iteration is get_next here
    too: from `r[k] = p`, `get_next(p) = r[k+1]`, which is `p + d` when that is not after the end
    and `None` otherwise. -/
theorem C13_next_nominal_duration_end (m : Mode) (n : Nat) (e : TP) (d : Dur) (hn : 2 ≤ n)
    (he : e.Valid m) (hd : NominalNonneg d) (k : Nat) (p : TP) :
    ∃ s' r, subDur m e (d.mul ((n : Int) - 1)) = some s' ∧
      mkRec m (some (n : Int)) none (some d) (some e) = some r ∧
      (getItem m r k = some p → ∃ q, addDur m p d = some q ∧ p.inst m < q.inst m ∧
        getNext m r p = getItem m r (k + 1) ∧
        (q.inst m ≤ e.inst m → getNext m r p = some q) ∧
        (e.inst m < q.inst m → getNext m r p = none ∧ getItem m r (k + 1) = none)) := by
  obtain ⟨s', r, hs', _, _, hr, hx, hst, hen⟩ := C13_nominal_built_duration_end m n e d hn he hd
  refine ⟨s', r, hs', hr, ?_⟩
  intro hp
  obtain ⟨q, eq', _, _, _, lt, hsucc, _, h2, h3, _⟩ := C13_next_nominal m r d hx s' hst k p hp
  exact ⟨q, eq', lt, hsucc, h2 e hen, fun h => ⟨h3 e hen h, by rw [← hsucc]; exact h3 e hen h⟩⟩

example := C13_next_nominal_duration_end .greg 3 ⟨.cal 2001 5 31, 0, 0, 0, ⟨0, 0⟩⟩ (.units 0 1 0 0 0 0)
  (by decide) (by decide) (by decide) 2 ⟨.cal 2001 5 30, 0, 0, 0, ⟨0, 0⟩⟩
/-- `R3/P1M/2001-05-31T00Z` yields 30 Mar, 30 Apr, 30 May: from the last, 30 Jun is after the end. -/
example : ∃ r, mkRec .greg (some 3) none (some (.units 0 1 0 0 0 0)) (some ⟨.cal 2001 5 31, 0, 0, 0, ⟨0, 0⟩⟩) = some r ∧
    getItem .greg r 2 = some ⟨.cal 2001 5 30, 0, 0, 0, ⟨0, 0⟩⟩ ∧
    getNext .greg r ⟨.cal 2001 5 30, 0, 0, 0, ⟨0, 0⟩⟩ = none :=
  ⟨⟨some 3, some ⟨.cal 2001 3 30, 0, 0, 0, ⟨0, 0⟩⟩, some (.units 0 1 0 0 0 0),
      some ⟨.cal 2001 5 31, 0, 0, 0, ⟨0, 0⟩⟩, none, 4⟩, by decide +kernel, by decide +kernel, by decide +kernel⟩

/-- **get_prev along `R/d/end`** (month/year interval, every valid end): every `r[k]` exists and
    `get_prev(r[k]) = r[k] − d = r[k+1]`, strictly earlier. -/
theorem C13_prev_nominal_duration_end_unbounded (m : Mode) (e : TP) (d : Dur) (he : e.Valid m)
    (hd : NominalNonneg d) (k : Nat) :
    ∃ r p q, mkRec m none none (some d) (some e) = some r ∧ getItem m r k = some p ∧
      subDur m p d = some q ∧ getPrev m r p = some q ∧ getItem m r (k + 1) = some q ∧
      q.inst m < p.inst m := by
  obtain ⟨r, hr, hx, hst, hen⟩ := C13_nominal_built_duration_end_unbounded m e d he hd
  obtain ⟨p, hp, _⟩ := C13_getitem_nominal_rev m r d hx e hst hen k
  obtain ⟨q, eq', _, _, _, lt, h1, h2⟩ := C13_prev_nominal m r d hx e hst hen k p hp
  exact ⟨r, p, q, hr, hp, eq', h1, h2, lt⟩

example := C13_prev_nominal_duration_end_unbounded .greg ⟨.ord 2004 366, 12, 0, 0, ⟨0, 0⟩⟩ (.units 1 0 0 0 0 0)
  (by decide) (by decide) 5

/-- **get_is_valid**, a recurrence with a start point and a month/year interval (bounded or not).
    For ANY fuel (number of points the scan may visit) the answer is membership of the visited
    points by instant — whatever representation or offset the probe is written in; the early exit
    of the unbounded case loses nothing because the iteration is strictly increasing.
    With any fuel greater than `⌊(p − start)/86400⌋` (the `i`-th point is at least `i` days after
    the start) that is membership of the WHOLE iteration — some `r[i]` is at the probe's instant
    — and any larger fuel gives the same answer. -/
theorem C13_is_valid_nominal (m : Mode) (r : Rec) (d : Dur) (hr : NomRec m r d) (s : TP)
    (hs : r.start = some s) (p : TP) (hp : p.Valid m) (fuel : Nat) :
    (getIsValid m r p fuel = true ↔ ∃ q ∈ iter m r fuel, q.inst m = p.inst m) ∧
    ((p.inst m - s.inst m) / 86400 < (fuel : Int) →
      (getIsValid m r p fuel = true ↔ ∃ i q, getItem m r i = some q ∧ q.inst m = p.inst m) ∧
      (∀ fuel', fuel ≤ fuel' → getIsValid m r p fuel' = getIsValid m r p fuel)) := by
  have hx := hr.stepRec
  refine ⟨getIsValid_iff_iterated m r d _ hx p hp fuel, fun hf =>
    getIsValid_stable m r d _ hx p hp fuel fun i q hi hqe => ?_⟩
  -- `r[i]` is at least `i` days after the start
  have lb := (getItem_fwd_some m r d _ hx s hs i q hi).2.2.2.2.2
  exact index_lt_of_gap 86400 (by decide) _ i fuel hf (by omega)

/-- `R/2001-01-31T00Z/P1M`; the probe 2001-03-28T00Z written as an ordinal date at offset +02:00 is a
    member (`r[2]`), 2001-03-31T00Z is not; `⌊(p − start)/1 day⌋` = 56 resp. 59. -/
example := C13_is_valid_nominal .greg ⟨none, some ⟨.cal 2001 1 31, 0, 0, 0, ⟨0, 0⟩⟩, some (.units 0 1 0 0 0 0),
    none, none, 3⟩ (.units 0 1 0 0 0 0) (nomRec_fmt3_unbounded .greg _ _ (by decide) (by decide))
  ⟨.cal 2001 1 31, 0, 0, 0, ⟨0, 0⟩⟩ rfl ⟨.ord 2001 87, 2, 0, 0, ⟨2, 0⟩⟩ (by decide) 57
example : getIsValid .greg ⟨none, some ⟨.cal 2001 1 31, 0, 0, 0, ⟨0, 0⟩⟩, some (.units 0 1 0 0 0 0), none, none, 3⟩
      ⟨.ord 2001 87, 2, 0, 0, ⟨2, 0⟩⟩ 57 = true ∧
    getIsValid .greg ⟨none, some ⟨.cal 2001 1 31, 0, 0, 0, ⟨0, 0⟩⟩, some (.units 0 1 0 0 0 0), none, none, 3⟩
      ⟨.cal 2001 3 31, 0, 0, 0, ⟨0, 0⟩⟩ 60 = false ∧
    ((⟨.ord 2001 87, 2, 0, 0, ⟨2, 0⟩⟩ : TP).inst .greg - (⟨.cal 2001 1 31, 0, 0, 0, ⟨0, 0⟩⟩ : TP).inst .greg) / 86400
      = 56 := by decide +kernel

/-- **get_is_valid**, `R/d/end` with a month/year interval (iteration runs backwards from the
    end): for any fuel, membership of the visited points by instant; with any fuel greater than
    `⌊(end − p)/86400⌋`, membership of the whole iteration, and more fuel changes nothing. -/
theorem C13_is_valid_nominal_rev (m : Mode) (r : Rec) (d : Dur) (hr : NomRec m r d) (e : TP)
    (hs : r.start = none) (he : r.end_ = some e) (p : TP) (hp : p.Valid m) (fuel : Nat) :
    (getIsValid m r p fuel = true ↔ ∃ q ∈ iter m r fuel, q.inst m = p.inst m) ∧
    ((e.inst m - p.inst m) / 86400 < (fuel : Int) →
      (getIsValid m r p fuel = true ↔ ∃ i q, getItem m r i = some q ∧ q.inst m = p.inst m) ∧
      (∀ fuel', fuel ≤ fuel' → getIsValid m r p fuel' = getIsValid m r p fuel)) := by
  have hx := hr.stepRec
  refine ⟨getIsValid_iff_iterated m r d _ hx p hp fuel, fun hf =>
    getIsValid_stable m r d _ hx p hp fuel fun i q hi hqe => ?_⟩
  -- `r[i]` is at least `i` days before the end
  obtain ⟨q', h1, _, _, _, _, _, ub⟩ := getItem_rev m r d _ hx e hs he i
  rw [hi] at h1; cases h1
  exact index_lt_of_gap 86400 (by decide) _ i fuel hf (by omega)

example := C13_is_valid_nominal_rev .greg ⟨none, none, some (.units 0 1 0 0 0 0), some ⟨.cal 2001 3 31, 0, 0, 0, ⟨0, 0⟩⟩,
    none, 4⟩ (.units 0 1 0 0 0 0) (nomRec_fmt4_unbounded .greg _ _ (by decide) (by decide))
  ⟨.cal 2001 3 31, 0, 0, 0, ⟨0, 0⟩⟩ rfl rfl ⟨.week 2001 4 7, 0, 0, 0, ⟨0, 0⟩⟩ (by decide) 63
example : getIsValid .greg ⟨none, none, some (.units 0 1 0 0 0 0), some ⟨.cal 2001 3 31, 0, 0, 0, ⟨0, 0⟩⟩, none, 4⟩
      ⟨.week 2001 4 7, 0, 0, 0, ⟨0, 0⟩⟩ 63 = true ∧
    getIsValid .greg ⟨none, none, some (.units 0 1 0 0 0 0), some ⟨.cal 2001 3 31, 0, 0, 0, ⟨0, 0⟩⟩, none, 4⟩
      ⟨.cal 2001 1 31, 0, 0, 0, ⟨0, 0⟩⟩ 63 = false := by decide +kernel

/-- **get_first_after**, a recurrence with a start point `s` and a month/year interval (the
    branch that walks the iteration with get_next), for a valid probe `p`:
    * `p` before the start: the start; `p` after the end bound: `None` (any fuel);
    * `p` within the bounds, with at least `⌊(p − s)/86400⌋ + 1` loop steps allowed
      (`p < s + fuel days`): a result `q` is an iterated point (`q = r[j]`), strictly later than
      `p`, every earlier iterated point is not later than `p`, and so every iterated point
      strictly later than `p` is at or after `q` — the earliest later member; the result is
      `None` exactly when no iterated point is strictly later than `p`;
    * and any larger fuel gives the same result. -/
theorem C13_first_after_nominal (m : Mode) (r : Rec) (d : Dur) (hr : NomRec m r d) (s : TP)
    (hs : r.start = some s) (p : TP) (hp : p.Valid m) (fuel : Nat) :
    (p.inst m < s.inst m → getFirstAfter m r p fuel = some s) ∧
    (∀ e, r.end_ = some e → s.inst m ≤ e.inst m → e.inst m < p.inst m →
      getFirstAfter m r p fuel = none) ∧
    (inBounds m r p = true → p.inst m < s.inst m + 86400 * (fuel : Int) →
      (∀ q, getFirstAfter m r p fuel = some q →
        ∃ j, getItem m r j = some q ∧ p.inst m < q.inst m ∧
          (∀ (i : Nat) (q' : TP), i < j → getItem m r i = some q' → q'.inst m ≤ p.inst m) ∧
          (∀ (i : Nat) (q' : TP), getItem m r i = some q' → p.inst m < q'.inst m →
            q.inst m ≤ q'.inst m)) ∧
      (getFirstAfter m r p fuel = none ↔
        ∀ (i : Nat) (q' : TP), getItem m r i = some q' → q'.inst m ≤ p.inst m) ∧
      (∀ fuel', fuel ≤ fuel' → getFirstAfter m r p fuel' = getFirstAfter m r p fuel)) := by
  have hx := hr.stepRec
  obtain ⟨o1, o2⟩ := C13_first_after_outside m r s hs (hr.startValid s hs) p hp fuel
  refine ⟨o1, fun e he hse hgt => o2 e he (hr.endValid e he) hse hgt, fun hb hf => ?_⟩
  have mono := getItem_fwd_lt m r d _ hx s hs
  -- the two readings of the result, for every sufficient fuel
  have key : ∀ f : Nat, p.inst m < s.inst m + 86400 * (f : Int) →
      (∀ q, getFirstAfter m r p f = some q →
        ∃ j, getItem m r j = some q ∧ p.inst m < q.inst m ∧
          (∀ (i : Nat) (q' : TP), i < j → getItem m r i = some q' → q'.inst m ≤ p.inst m) ∧
          (∀ (i : Nat) (q' : TP), getItem m r i = some q' → p.inst m < q'.inst m →
            q.inst m ≤ q'.inst m)) ∧
      (getFirstAfter m r p f = none ↔
        ∀ (i : Nat) (q' : TP), getItem m r i = some q' → q'.inst m ≤ p.inst m) := by
    intro f hf'
    rw [getFirstAfter_eq_find m r d _ hx (nominal_not_exact d hr.nom) s hs p hp hb f hf']
    obtain ⟨f1, f2⟩ := find?_later_incr m (p.inst m) _ (iter_fwd_spec m r d _ hx s hs (f + 1)).2.2.pairwise
    have toIter : ∀ (i : Nat) (q' : TP), i < f + 1 → getItem m r i = some q' →
        (iter m r (f + 1))[i]? = some q' := fun i q' hi h => by
      rw [← getItem_eq_getElem? m r i (f + 1) hi]; exact h
    refine ⟨fun q hq => ?_, fun hnone i q' hq' => ?_, fun hall => ?_⟩
    · obtain ⟨j, h1, h2, h3⟩ := f1 q hq
      obtain ⟨hj, hgj⟩ := getItem_of_getElem? m r (f + 1) j q h1
      have before : ∀ (i : Nat) (q' : TP), i < j → getItem m r i = some q' → q'.inst m ≤ p.inst m :=
        fun i q' hij hq' => h3 i q' hij (toIter i q' (Nat.lt_trans hij hj) hq')
      refine ⟨j, hgj, h2, before, fun i q' hq' hlt => ?_⟩
      rcases Nat.lt_trichotomy i j with c | c | c
      · exact absurd (before i q' c hq') (Int.not_le.mpr hlt)
      · subst c; rw [hgj] at hq'; cases hq'; exact Int.le_refl _
      · exact Int.le_of_lt (mono j i c q q' hgj hq')
    · have hall := f2 hnone
      by_cases c : i < f + 1
      · exact hall q' (List.mem_of_getElem? (toIter i q' c hq'))
      · -- `r[f]` exists (since a later `r[i]` does), is at least `f` days after the start, yet `≤ p`
        cases hgf : getItem m r f with
        | none =>
          have := iter_length_le_of_getItem_none m r f hgf (i + 1)
          have := (List.getElem?_eq_some_iff.mp hq').1
          omega
        | some qf =>
          have lb := (getItem_fwd_some m r d _ hx s hs f qf hgf).2.2.2.2.2
          have := hall qf (List.mem_of_getElem? (toIter f qf (Nat.lt_succ_self f) hgf))
          omega
    · rw [List.find?_eq_none]
      intro x hx'
      obtain ⟨i, _, hi⟩ := (mem_iter_iff_getItem m r (f + 1) x).mp hx'
      exact decide_eq_false (Int.not_lt.mpr (hall i x hi)) ▸ Bool.false_ne_true
  obtain ⟨k1, k2⟩ := key fuel hf
  refine ⟨k1, k2, fun fuel' hle => ?_⟩
  -- both results are the first later member, and `r[·]` is strictly increasing
  obtain ⟨k1', k2'⟩ := key fuel' (by omega)
  cases h1 : getFirstAfter m r p fuel with
  | none => exact k2'.mpr (k2.mp h1)
  | some q =>
    obtain ⟨j, g1, g2, g3, g4⟩ := k1 q h1
    cases h2 : getFirstAfter m r p fuel' with
    | none => exact absurd ((k2'.mp h2) j q g1) (Int.not_le.mpr g2)
    | some q2 =>
      obtain ⟨j2, g1', g2', g3', _⟩ := k1' q2 h2
      rcases Nat.lt_trichotomy j j2 with c | c | c
      · exact absurd (g3' j q c g1) (Int.not_le.mpr g2)
      · subst c; rw [g1] at g1'; exact g1'.symm ▸ rfl
      · exact absurd (g3 j2 q2 c g1') (Int.not_le.mpr g2')

/-- `R3/2001-01-31T00Z/P1M` (31 Jan, 28 Feb, 28 Mar; bound 28 Mar).  A probe on a member
    (28 Feb, written as an ordinal date) gives the next member; a probe on the last member gives
    `None`; a probe between members gives the next one. -/
example : ∃ r, mkRec .greg (some 3) (some ⟨.cal 2001 1 31, 0, 0, 0, ⟨0, 0⟩⟩) (some (.units 0 1 0 0 0 0)) none = some r ∧
    getFirstAfter .greg r ⟨.ord 2001 59, 0, 0, 0, ⟨0, 0⟩⟩ 29 = some ⟨.cal 2001 3 28, 0, 0, 0, ⟨0, 0⟩⟩ ∧
    getFirstAfter .greg r ⟨.cal 2001 3 28, 0, 0, 0, ⟨0, 0⟩⟩ 57 = none ∧
    getFirstAfter .greg r ⟨.cal 2001 2 1, 12, 0, 0, ⟨0, 0⟩⟩ 2 = some ⟨.cal 2001 2 28, 0, 0, 0, ⟨0, 0⟩⟩ ∧
    inBounds .greg r ⟨.ord 2001 59, 0, 0, 0, ⟨0, 0⟩⟩ = true :=
  ⟨⟨some 3, some ⟨.cal 2001 1 31, 0, 0, 0, ⟨0, 0⟩⟩, some (.units 0 1 0 0 0 0),
      some ⟨.cal 2001 3 28, 0, 0, 0, ⟨0, 0⟩⟩, none, 3⟩,
    by decide +kernel, by decide +kernel, by decide +kernel, by decide +kernel, by decide +kernel⟩
example := (C13_first_after_nominal .greg ⟨some 3, some ⟨.cal 2001 1 31, 0, 0, 0, ⟨0, 0⟩⟩, some (.units 0 1 0 0 0 0),
    some ⟨.cal 2001 3 28, 0, 0, 0, ⟨0, 0⟩⟩, none, 3⟩ (.units 0 1 0 0 0 0)
  (nomRec_bounded .greg 3 _ _ _ 3 (by decide) (by decide) (by decide) (by decide))
  ⟨.cal 2001 1 31, 0, 0, 0, ⟨0, 0⟩⟩ rfl ⟨.ord 2001 59, 0, 0, 0, ⟨0, 0⟩⟩ (by decide) 29).2.2
  (by decide +kernel) (by decide +kernel)

/-- The fuel bound matters: with too few loop steps the loop returns its current point, which is
    not later than the probe (Python's loop is unbounded; the model's fuel must cover it). -/
example : getFirstAfter .greg ⟨none, some ⟨.cal 2001 1 31, 0, 0, 0, ⟨0, 0⟩⟩, some (.units 0 1 0 0 0 0), none, none, 3⟩
      ⟨.cal 2001 6 1, 0, 0, 0, ⟨0, 0⟩⟩ 2 = some ⟨.cal 2001 3 28, 0, 0, 0, ⟨0, 0⟩⟩ ∧
    getFirstAfter .greg ⟨none, some ⟨.cal 2001 1 31, 0, 0, 0, ⟨0, 0⟩⟩, some (.units 0 1 0 0 0 0), none, none, 3⟩
      ⟨.cal 2001 6 1, 0, 0, 0, ⟨0, 0⟩⟩ 122 = some ⟨.cal 2001 6 28, 0, 0, 0, ⟨0, 0⟩⟩ := by decide +kernel

end IsoDT.Props.C13
