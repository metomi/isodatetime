/-
  C19 — The command line prints exactly what the library computes.

  `Model.Cli.plan` is the dispatch of `main.main` over what `argparse` returns; a `Plan` names the
  library-level operation (`DateTimeOperator.process_time_point_str`, `diff_time_point_strs`,
  `format_duration_str`, `iter_recurrence_str`) and its operands.  The check executes the plan
  through the library API and compares with the real command's output, so the theorems below
  (about the plan) transfer to what is printed.  `argparse`, `now`, and the `datetime`/`time`
  fallbacks are outside the model; which outcomes the whole command can have, tracebacks included, is
  the subject of `Props/C19b`.
-/
import IsoDT.Model.Cli

namespace IsoDT.Props.C19
open IsoDT.Model.Cli

/-- **A date-time argument with any number of offsets** is shifted by those offsets *in the order
    given* and printed in the print format if there is one, otherwise in the notation it was
    written in (`printFormat = none`). -/
theorem C19_shift (a : Args) (i : Str) (hv : a.version = false) (hi : a.items = [i])
    (hr : i.head? ≠ some 'R') (ht : a.asTotal = none) :
    plan a = .shiftPrint (some i) (readOffsets a.offsets1) a.printFormat := by
  unfold plan; simp [hv, hi, hr, ht]

/-- No argument: the current time (or `now`), same treatment. -/
theorem C19_now (a : Args) (hv : a.version = false) (hi : a.items = []) :
    plan a = .shiftPrint none (readOffsets a.offsets1) a.printFormat := by
  unfold plan; simp [hv, hi]

/-- **Two date-times** print the signed duration between the first (shifted by `--offset1`s) and
    the second (shifted by `--offset2`s); `--as-total` reports that same duration in the unit. -/
theorem C19_diff (a : Args) (i1 i2 : Str) (rest : List Str) (hv : a.version = false)
    (hi : a.items = i1 :: i2 :: rest) :
    plan a = .diff i1 i2 (readOffsets a.offsets1) (readOffsets a.offsets2)
      a.printFormat a.asTotal := by
  unfold plan; simp [hv, hi]

/-- **A recurrence argument** prints its first `N` points. -/
theorem C19_recurrence (a : Args) (i : Str) (hv : a.version = false) (hi : a.items = [i])
    (hr : i.head? = some 'R') : plan a = .recurrence i a.printFormat a.maxResults := by
  unfold plan; simp [hv, hi, hr]

/-- `--max=N` for `N ≥ 1` prints exactly `min N (number of points)` points, in order. -/
theorem C19_max (n : Nat) (hn : 1 ≤ n) (avail : Option Nat) :
    printedCount (n : Int) avail = match avail with | none => n | some k => min n k := by
  unfold printedCount
  by_cases h1 : (n : Int) ≤ 1
  · have : n = 1 := by omega
    subst this; cases avail <;> simp
  · simp only [h1, ↓reduceIte, Int.toNat_natCast]; rfl

theorem C19_as_total (a : Args) (i u : Str) (hv : a.version = false) (hi : a.items = [i])
    (hr : i.head? ≠ some 'R') (ht : a.asTotal = some u) : plan a = .asTotal i u := by
  unfold plan; simp [hv, hi, hr, ht]

/-- Offsets are applied in the order given; empty ones are skipped; each is unescaped, then split
    into sign and duration text. -/
theorem C19_offsets_in_order (l : List Str) :
    readOffsets l = ((l.map unescape).filter (· ≠ [])).map readOffset := rfl

/-- An offset's leading `-` means subtraction of the duration that follows, `+` or nothing means
    addition. -/
theorem C19_offset_sign (d : Str) (hd : d.head? ≠ some '-' ∧ d.head? ≠ some '+') :
    readOffset ('-' :: d) = ⟨true, d⟩ ∧ readOffset ('+' :: d) = ⟨false, d⟩ ∧ readOffset d = ⟨false, d⟩ := by
  refine ⟨rfl, rfl, ?_⟩
  cases d with
  | nil => rfl
  | cons c rest =>
    simp only [List.head?_cons, ne_eq, Option.some.injEq] at hd
    unfold readOffset
    split
    · rename_i h; cases h; exact absurd rfl hd.1
    · rename_i h; cases h; exact absurd rfl hd.2
    · rfl

/-- **`-P…` spellings**: an argument starting with `-P` is protected from `argparse` by a
    backslash and restored afterwards: the offset the library sees is the argument as typed
    (for arguments that contain no backslash themselves). -/
theorem C19_escape_roundtrip (s : Str) (h : '\\' ∉ s) : unescape (escapeArg s) = s := by
  have hf : unescape s = s := by
    unfold unescape
    rw [List.filter_eq_self]
    intro c hc
    exact decide_eq_true fun e => h (e ▸ hc)
  unfold escapeArg
  split
  · exact hf
  · exact hf

theorem C19_escape_only_dashP (s : Str) : escapeArg s = s ∨ (∃ r, s = '-' :: 'P' :: r ∧ escapeArg s = '\\' :: s) := by
  unfold escapeArg
  split
  · rename_i r; exact Or.inr ⟨r, rfl, rfl⟩
  · exact Or.inl rfl

/-- **`--calendar`, `--utc`, `--ref` and the environment variables select what they say**: the
    option wins over the environment variable, which wins over the default. -/
theorem C19_options (a : Args) (envCal envRef : Option Str) :
    (ctxOf a envCal envRef).utc = a.utc ∧ (ctxOf a envCal envRef).parseFormat = a.parseFormat ∧
    (∀ c, a.calendar = some c → c ≠ [] → (ctxOf a envCal envRef).calendar = some c) ∧
    (a.calendar = none → (ctxOf a envCal envRef).calendar = envCal) ∧
    (∀ r, a.ref = some r → (ctxOf a envCal envRef).ref = some r) ∧
    (a.ref = none → (ctxOf a envCal envRef).ref = envRef) := by
  refine ⟨rfl, rfl, ?_, ?_, ?_, ?_⟩
  · intro c hc hne
    simp only [ctxOf, hc]
    have : c.isEmpty = false := by
      cases c with
      | nil => exact absurd rfl hne
      | cons _ _ => rfl
    simp [this]
  · intro hc; simp only [ctxOf, hc]
  · intro r hr; simp only [ctxOf, hr]
  · intro hr; simp only [ctxOf, hr]

theorem C19_version (a : Args) (hv : a.version = true) : plan a = .version := by
  unfold plan; simp [hv]

example : plan ⟨["2000".toList], none, none, 10, ["\\-P1D".toList, "PT1H".toList], [], none, none, none, false, false⟩ =
    .shiftPrint (some "2000".toList) [⟨true, "P1D".toList⟩, ⟨false, "PT1H".toList⟩] none := by decide +kernel
example : escapeArgs ["-P1D".toList, "-1".toList, "2000".toList] =
    ["\\-P1D".toList, "-1".toList, "2000".toList] := by decide +kernel

end IsoDT.Props.C19
