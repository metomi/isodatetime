/-
  C04 — Subtracting time points inverts addition.
-/
import IsoDT.Lemmas.Cmp
import IsoDT.Lemmas.Dur

namespace IsoDT.Props.C04
open IsoDT IsoDT.Model IsoDT.Lemmas
open IsoDT.Spec (Date TZ TP)

/-- **C04**: `a - b` is a days/hours/minutes/seconds duration whose length is the signed
    distance between the instants, with `|h| < 24`, `|m| < 60`, `|s| < 60` and one sign
    throughout — for any two valid points in any representations and offsets, any distance. -/
theorem C04_length_and_shape (m : Mode) (a b : TP) (ha : a.Valid m) (hb : b.Valid m) :
    ∃ dd hh mm ss, subTP m a b = some (.units 0 0 dd hh mm ss) ∧
      (Dur.units 0 0 dd hh mm ss).exactSeconds m = a.inst m - b.inst m ∧
      (-24 < hh ∧ hh < 24 ∧ -60 < mm ∧ mm < 60 ∧ -60 < ss ∧ ss < 60) ∧
      ((0 ≤ dd ∧ 0 ≤ hh ∧ 0 ≤ mm ∧ 0 ≤ ss) ∨ (dd ≤ 0 ∧ hh ≤ 0 ∧ mm ≤ 0 ∧ ss ≤ 0)) := by
  obtain ⟨dd, hh, mm, ss, e, hl, hr, hs⟩ := subTP_spec m a b ha hb
  exact ⟨dd, hh, mm, ss, e, (exactSeconds_units m 0 0 dd hh mm ss).trans hl, hr, hs⟩

/-- `(a - b) == -(b - a)`, even as field-for-field equal durations. -/
theorem C04_antisymmetric (m : Mode) (a b : TP) (ha : a.Valid m) (hb : b.Valid m) :
    subTP m a b = (subTP m b a).map Dur.neg := by
  obtain ⟨d, h, mi, s, e, l, r, g⟩ := subTP_spec m b a hb ha
  obtain ⟨l', p'⟩ := dhms_neg d h mi s _ l ⟨r, g⟩
  rw [e]
  exact subTP_unique m a b ha hb _ _ _ _ (l'.trans (Int.neg_sub _ _)) p'

/-- `b + (a - b) == a`: adding the difference back lands on the same instant (and therefore
    compares equal, C02). -/
theorem C04_add_back (m : Mode) (a b : TP) (ha : a.Valid m) (hb : b.Valid m) :
    ∃ d q, subTP m a b = some d ∧ addDur m b d = some q ∧ q.inst m = a.inst m ∧ cmp m q a = some 0 := by
  obtain ⟨dd, hh, mm, ss, e, hl, _⟩ := subTP_spec m a b ha hb
  obtain ⟨q, eq', g⟩ := addDur_exact_units m b dd hh mm ss hb
  have hi : q.inst m = a.inst m := by rw [g.inst]; omega
  exact ⟨_, q, e, eq', hi, cmp_of_inst_eq m q a g.strict.1 ha hi⟩

/-- `(p + d) - p == d` for every exact `d`: same length (exact durations are equal by length,
    C11). -/
theorem C04_add_then_sub (m : Mode) (p : TP) (d h mi s : Int) (hp : p.Valid m) :
    ∃ q r, addDur m p (.units 0 0 d h mi s) = some q ∧ subTP m q p = some r ∧
      r.exactSeconds m = (Dur.units 0 0 d h mi s).exactSeconds m := by
  obtain ⟨q, e, g⟩ := addDur_exact_units m p d h mi s hp
  obtain ⟨dd, hh, mm, ss, e', hl, _⟩ := subTP_spec m q p g.strict.1 hp
  refine ⟨q, _, e, e', ?_⟩
  rw [exactSeconds_units, exactSeconds_units, hl, g.inst]
  omega

/-- The closed-form leap-year count `__sub__` relies on is exact for every pair of years,
    including across year 0. -/
theorem C04_year_range (m : Mode) (s e : Int) :
    daysInYearRange m s e = if s ≤ e then Spec.dby m (e + 1) - Spec.dby m s else 0 :=
  daysInYearRange_eq m s e

example : subTP .greg ⟨.week 2020 53 7, 0, 0, 0, ⟨5, 30⟩⟩ ⟨.ord 1999 1, 12, 0, 0, ⟨0, 0⟩⟩ =
    some (.units 0 0 8037 6 30 0) := by decide +kernel
example : subTP .greg ⟨.cal (-1) 12 31, 23, 59, 59, ⟨0, 0⟩⟩ ⟨.cal 1 1 1, 0, 0, 0, ⟨0, 0⟩⟩ =
    some (.units 0 0 (-366) 0 0 (-1)) := by decide +kernel

end IsoDT.Props.C04
