/-
  C03 (algorithms) — the calendar ALGORITHMS of the Python source are the hand-written model.

  `Gen.Algo.*` is regenerated from the AST of `metomi/isodatetime/data.py` (and `timezone.py`) by
  `harness/gen_algo.py` on every check run, one Lean definition per Python function, loops included
  (`for` = structural recursion over the iterated list, `while` = well-founded recursion, `raise` /
  falling off the end = `none`).  `Model.*` is the hand-written model every other theorem of this
  project is about.  Each theorem below says: the regenerated function and the model function agree
  for every calendar mode and EVERY integer argument (no bound on years, no validity assumption),
  so an edit of the Python that changes what one of these functions computes breaks its theorem
  here (the differential test of the harness remains as the second tie).

  Where the model is shaped differently the statement says how:
    * the model walks the indexed month table (`walkFwd`, `posOf`, `walkRev`), the Python walks the
      day list `iter_months_days` returns — equal for all integers (`Lemmas/DayList`; the closed forms
      of the generated loops are in `Lemmas/Algo`);
    * `Model.weekStartCal` / `ordWeekStart` / `weeksInYear` are total where the Python could in
      principle return `None`: the theorems say the Python value is `some` of the model's, always;
    * `Model.daysInMonth` is meant for months 1..12 only (it gives 0 otherwise, Python wraps
      negative indices / raises IndexError): equality on 1..12, the exact behaviour outside as
      `C03_algo__get_days_in_month_all`, and a witness that the two differ there.
-/
import IsoDT.Lemmas.Algo

namespace IsoDT.Props.C03algo
open IsoDT IsoDT.Model IsoDT.Lemmas IsoDT.Lemmas.AlgoEq

theorem C03_algo_get_is_leap_year (m : Mode) (y : Int) :
    Gen.Algo.get_is_leap_year m y = isLeapYear y := by
  unfold Gen.Algo.get_is_leap_year isLeapYear
  rw [leap_for1]
example : Gen.Algo.get_is_leap_year .d360 1900 = false ∧ Gen.Algo.get_is_leap_year .greg (-400) = true := by decide

theorem C03_algo__get_days_in_year (m : Mode) (y : Int) :
    Gen.Algo._get_days_in_year m y = daysInYear m y := by
  unfold Gen.Algo._get_days_in_year daysInYear calOf
  rw [C03_algo_get_is_leap_year]
theorem C03_algo_get_days_in_year (m : Mode) (y : Int) :
    Gen.Algo.get_days_in_year m y = daysInYear m y :=
  C03_algo__get_days_in_year m y
example : Gen.Algo.get_days_in_year .greg 2100 = 365 ∧ Gen.Algo.get_days_in_year .d366 2100 = 366 := by decide

/-- Includes the `while` loop (`Model.firstMult`) and the loop over the leap-year factors. -/
theorem C03_algo__get_days_in_year_range (m : Mode) (s e : Int) :
    Gen.Algo._get_days_in_year_range m s e = daysInYearRange m s e := by
  unfold Gen.Algo._get_days_in_year_range daysInYearRange calOf
  simp only [range_for1, C03_algo_get_days_in_year]
theorem C03_algo_get_days_in_year_range (m : Mode) (s e : Int) :
    Gen.Algo.get_days_in_year_range m s e = daysInYearRange m s e := C03_algo__get_days_in_year_range m s e
example : Gen.Algo.get_days_in_year_range .greg 1996 2004 = 3288 := by decide +kernel

theorem C03_algo__get_days_since_1_ad (m : Mode) (y : Int) :
    Gen.Algo._get_days_since_1_ad m y = daysSince1AD m y := by
  unfold Gen.Algo._get_days_since_1_ad daysSince1AD
  simp only [C03_algo_get_days_in_year, C03_algo_get_days_in_year_range]
  -- robust against re-ordering of the tests in the Python: compare leaf by leaf
  repeat' split
  all_goals first
    | rfl
    | (exfalso; omega)
theorem C03_algo_get_days_since_1_ad (m : Mode) (y : Int) :
    Gen.Algo.get_days_since_1_ad m y = daysSince1AD m y := C03_algo__get_days_since_1_ad m y
/-- ... and what that is: the days of years `1..y`. -/
theorem C03_algo_get_days_since_1_ad_closed (m : Mode) (y : Int) :
    Gen.Algo.get_days_since_1_ad m y = if 1 ≤ y then Spec.dby m (y + 1) - Spec.dby m 1 else 0 := by
  rw [C03_algo_get_days_since_1_ad]; unfold daysSince1AD
  by_cases h1 : y = 1
  · subst h1; simp only [↓reduceIte, daysInYear_eq, dby_succ]; omega
  · by_cases h2 : y < 1
    · have : ¬ 1 ≤ y := by omega
      simp only [h1, h2, this, ↓reduceIte]
    · have : 1 ≤ y := by omega
      simp only [h1, h2, this, ↓reduceIte, daysInYearRange_eq]
example : Gen.Algo.get_days_since_1_ad .greg 400 = 146097 ∧ Gen.Algo.get_days_since_1_ad .greg 0 = 0 := by
  rw [C03_algo_get_days_since_1_ad_closed, C03_algo_get_days_since_1_ad_closed]; decide

/-- Every integer month: the table entry for 1..12, Python's negative-index wrap-around for -11..0
    (month 0 is December, -11 is January), `IndexError` (none) otherwise. -/
theorem C03_algo__get_days_in_month_all (m : Mode) (mo : Int) (ya : Gen.Algo.YearArg) :
    Gen.Algo._get_days_in_month m mo ya = monthIndexed m (yearArgLeap ya) mo := by
  have hT := pyIndex_table m true mo
  have hF := pyIndex_table m false mo
  unfold table calOf at hT hF
  simp only [↓reduceIte, Bool.false_eq_true] at hT hF
  unfold Gen.Algo._get_days_in_month
  cases ya with
  | none => simp only [hF, yearArgLeap]
  | leap => simp only [hT, yearArgLeap]
  | int y =>
    simp only [yearArgLeap, C03_algo_get_is_leap_year]
    cases isLeapYear y <;> simp [hT, hF]
/-- `get_days_in_month(month, year)` for a month in 1..12 (`year` an int). -/
theorem C03_algo__get_days_in_month (m : Mode) (mo y : Int) (h1 : 1 ≤ mo) (h2 : mo ≤ 12) :
    Gen.Algo._get_days_in_month m mo (.int y) = some (daysInMonth m y mo) := by
  rw [C03_algo__get_days_in_month_all]; simp [monthIndexed, h1, h2, yearArgLeap, daysInMonth]
/-- `year="leap"` / `year=None`. -/
theorem C03_algo__get_days_in_month_flag (m : Mode) (mo : Int) (h1 : 1 ≤ mo) (h2 : mo ≤ 12) :
    Gen.Algo._get_days_in_month m mo .leap = some (daysInMonthB m true mo) ∧
    Gen.Algo._get_days_in_month m mo .none = some (daysInMonthB m false mo) := by
  rw [C03_algo__get_days_in_month_all, C03_algo__get_days_in_month_all]; simp [monthIndexed, h1, h2, yearArgLeap]
theorem C03_algo_get_days_in_month (m : Mode) (mo y : Int) (h1 : 1 ≤ mo) (h2 : mo ≤ 12) :
    Gen.Algo.get_days_in_month m mo (.int y) = some (daysInMonth m y mo) :=
  C03_algo__get_days_in_month m mo y h1 h2
/-- Outside 1..12 the model (0) is NOT what the Python does: month 0 is silently December. -/
theorem C03_algo__get_days_in_month_outside_witness :
    Gen.Algo._get_days_in_month .greg 0 (.int 2001) = some 31 ∧ daysInMonth .greg 2001 0 = 0 ∧
    Gen.Algo._get_days_in_month .greg 13 (.int 2001) = none := by decide
example : Gen.Algo._get_days_in_month .greg 2 (.int 2000) = some 29 := by decide

/-! ## `iter_months_days` (every combination of start month / start day / direction) -/

theorem C03_algo__iter_months_days (m : Mode) (lp : Bool) (mo d : Option Int) (rev : Bool) :
    Gen.Algo._iter_months_days m lp mo d rev = iterMonthsDays m lp mo d rev := by
  unfold Gen.Algo._iter_months_days iterMonthsDays
  by_cases h0 : d ≠ none ∧ mo = none
  · simp only [h0, and_self, ↓reduceIte, ne_eq, not_false_eq_true]
  · simp only [h0, ↓reduceIte, imd_for1, imd_for3, imd_for5, imd_for7, pySliceFrom_eq, List.nil_append]
    have hs : (if lp = true then (Gen.calOfMode m).indexedLeap else (Gen.calOfMode m).indexed) = indexed m lp := rfl
    rw [hs]
    cases rev <;> cases mo <;> simp <;> (cases d <;> rfl)
theorem C03_algo_iter_months_days (m : Mode) (y : Int) (mo d : Option Int) (rev : Bool) :
    Gen.Algo.iter_months_days m y mo d rev = iterMonthsDaysY m y mo d rev := by
  unfold Gen.Algo.iter_months_days iterMonthsDaysY
  simp only [C03_algo_get_is_leap_year, C03_algo__iter_months_days]
example : Gen.Algo.iter_months_days .greg 2000 (some 2) (some 28) false =
    some ([(2, 28), (2, 29)] ++ (iterMonthsDays .greg true (some 3) none false).getD []) := by
  rw [C03_algo_iter_months_days]; decide +kernel
example : Gen.Algo._iter_months_days .d360 false none (some 3) true = none := by decide

theorem iter_months_days_fwd (m : Mode) (y : Int) :
    Gen.Algo.iter_months_days m y none none false = some (dayList m (isLeapYear y)) := by
  rw [C03_algo_iter_months_days]; exact iterMonthsDays_fwd m _

/-- The Python's last loop always returns: the result is never `None`. -/
theorem C03_algo__get_calendar_date_week_date_start (m : Mode) (y : Int) :
    Gen.Algo._get_calendar_date_week_date_start m y = some (weekStartCal m y) := by
  unfold Gen.Algo._get_calendar_date_week_date_start weekStartCal calOf
  simp only [gen_weekRefCal, gen_weekRefOrd, C03_algo_get_days_in_year_range, C03_algo_iter_months_days,
    iterMonthsDaysY, iterMonthsDays_rev, wstart_for1, scanCount_eq, nthDay_guard]
  have hw := daysInWeek_eq m
  unfold calOf at hw
  simp only [hw]
  by_cases h0 : y = 2000
  · simp [h0]
  · by_cases hy : y > 2000
    · simp only [h0, hy, ↓reduceIte]
      exact wstart_tail m y _ _ (by omega) (by omega)
    · have hy' : 2000 > y := by omega
      simp only [h0, hy, hy', ↓reduceIte]
      exact wstart_tail m y _ _ (by omega) (by omega)
theorem C03_algo_get_calendar_date_week_date_start (m : Mode) (y : Int) :
    Gen.Algo.get_calendar_date_week_date_start m y = some (weekStartCal m y) :=
  C03_algo__get_calendar_date_week_date_start m y
example : Gen.Algo.get_calendar_date_week_date_start .greg 2002 = some (2001, 12, 31) := by
  rw [C03_algo_get_calendar_date_week_date_start,
    weekStartCal_eq_of .greg 2002 (2001, 12, 31) (by decide) (by decide)]

theorem C03_algo__get_ordinal_date_week_date_start (m : Mode) (y : Int) :
    Gen.Algo._get_ordinal_date_week_date_start m y = some (ordWeekStart m y) := by
  unfold Gen.Algo._get_ordinal_date_week_date_start
  rw [C03_algo_get_calendar_date_week_date_start]
  obtain ⟨hv, _⟩ := weekStartCal_spec m y
  have hp := posOf_valid m _ _ _ hv
  rw [ordWeekStart_eq]
  generalize weekStartCal m y = s at *
  obtain ⟨sy, smo, sd⟩ := s
  simp only at hp ⊢
  rw [posOf_eq_dayPos] at hp
  simp only [iter_months_days_fwd, owstart_for1, scanElem_eq, ↓reduceIte, hp]
  simp
theorem C03_algo_get_ordinal_date_week_date_start (m : Mode) (y : Int) :
    Gen.Algo.get_ordinal_date_week_date_start m y = some (ordWeekStart m y) :=
  C03_algo__get_ordinal_date_week_date_start m y
example : Gen.Algo.get_ordinal_date_week_date_start .greg 2002 = some (2001, 365) := by
  rw [C03_algo_get_ordinal_date_week_date_start, ordWeekStart_eq,
    weekStartCal_eq_of .greg 2002 (2001, 12, 31) (by decide) (by decide)]
  decide

theorem wiy_for1 (m : Mode) (k : Int → Option Int) (n : Nat) (a acc : Int) :
    Gen.Algo._get_weeks_in_year.for1 m k (rangeUp a n) acc = k (acc + sumYears m a (a + n)) := by
  induction n generalizing a acc with
  | zero =>
    rw [sumYears]
    simp [rangeUp, Gen.Algo._get_weeks_in_year.for1]
  | succ n ih =>
    rw [sumYears]
    have h : a < a + ((n + 1 : Nat) : Int) := by omega
    have e : a + 1 + (n : Int) = a + ((n + 1 : Nat) : Int) := by omega
    simp only [rangeUp, Gen.Algo._get_weeks_in_year.for1, ih, C03_algo_get_days_in_year, h, ↓reduceIte, e]
    congr 1; omega

theorem C03_algo__get_weeks_in_year (m : Mode) (y : Int) :
    Gen.Algo._get_weeks_in_year m y = some (weeksInYear m y) := by
  unfold Gen.Algo._get_weeks_in_year weeksInYear calOf
  simp only [C03_algo_get_ordinal_date_week_date_start, pyRange_eq]
  generalize ordWeekStart m y = s
  generalize ordWeekStart m (y + 1) = n
  obtain ⟨sy, sd⟩ := s
  obtain ⟨ny, nd⟩ := n
  simp only [upTo, wiy_for1]
  by_cases h : sy ≤ ny
  · have e : sy + ((ny - sy).toNat : Int) = ny := by omega
    rw [e]
  · have e : (ny - sy).toNat = 0 := by omega
    rw [e]
    have e1 : sumYears m sy ny = 0 := by rw [sumYears]; simp; omega
    have e2 : sumYears m sy (sy + ((0 : Nat) : Int)) = 0 := by rw [sumYears]; simp
    rw [e1, e2]
theorem C03_algo_get_weeks_in_year (m : Mode) (y : Int) :
    Gen.Algo.get_weeks_in_year m y = some (weeksInYear m y) := C03_algo__get_weeks_in_year m y
example : Gen.Algo.get_weeks_in_year .greg 2004 = some 53 := by
  rw [C03_algo_get_weeks_in_year, weeksInYear_eq]; decide

/-! ## the six conversions (every integer argument, valid or not: same result, same failures) -/

theorem C03_algo_get_calendar_date_from_ordinal_date (m : Mode) (y doy : Int) :
    Gen.Algo.get_calendar_date_from_ordinal_date m y doy = calFromOrd m y doy := by
  unfold Gen.Algo.get_calendar_date_from_ordinal_date calFromOrd
  simp only [iter_months_days_fwd, o2c_for1, scanCount_eq, walkFwd_eq_nthDay]
  by_cases h : 0 < doy ∧ doy ≤ 0 + ((dayList m (isLeapYear y)).length : Int)
  · simp only [h, and_self, ↓reduceIte, Int.sub_zero]
  · simp only [h, ↓reduceIte]
    rw [nthDay_none _ _ (by omega)]
    rfl

theorem C03_algo_get_ordinal_date_from_calendar_date (m : Mode) (y mo d : Int) :
    Gen.Algo.get_ordinal_date_from_calendar_date m y mo d = ordFromCal m y mo d := by
  unfold Gen.Algo.get_ordinal_date_from_calendar_date ordFromCal
  simp only [iter_months_days_fwd, c2o_for1, scanElem_eq, ↓reduceIte, posOf_eq_dayPos]
  cases dayPos (dayList m (isLeapYear y)) mo d <;> simp

theorem C03_algo_get_calendar_date_from_week_date (m : Mode) (y w d : Int) :
    Gen.Algo.get_calendar_date_from_week_date m y w d = calFromWeek m y w d := by
  unfold Gen.Algo.get_calendar_date_from_week_date calFromWeek calOf
  rw [C03_algo_get_calendar_date_week_date_start]
  obtain ⟨so, hp, hso1, hso2, _, hpart⟩ := start_lists m _ _ _ (weekStartCal_spec m y).1
  generalize weekStartCal m y = s at *
  obtain ⟨sy, sm, sd⟩ := s
  simp only at hp hso2 hpart ⊢
  simp only [C03_algo_iter_months_days, iterMonthsDaysY, hpart, iterMonthsDays_fwd, w2c_for1, w2c_for2, w2c_for3,
    scanCount_eq, posOf_eq_dayPos, hp, calFromOrd, walkFwd_eq_nthDay]
  generalize (w - 1) * (Gen.calOfMode m).daysInWeek + d - 1 = n
  have hl0 := dayList_length m sy
  have hl1 := dayList_length m y
  have hl2 := dayList_length m (y + 1)
  have hP : ((List.drop so.toNat (dayList m (isLeapYear sy))).length : Int) = daysInYear m sy - so := by
    rw [List.length_drop]; omega
  have hso : ((so.toNat : Nat) : Int) = so := by omega
  simp only [hP]
  rw [← hl0, ← hl1]
  generalize hL0 : dayList m (isLeapYear sy) = L0 at *
  generalize hL1 : dayList m (isLeapYear y) = L1 at *
  generalize hL2 : dayList m (isLeapYear (y + 1)) = L2 at *
  -- from here on only `n`, `so` and the three lengths matter
  clear hl0 hl1 hl2 hP hL0 hL1 hL2
  simp only [nthDay_guard, Int.zero_add, Int.sub_zero]
  by_cases h0 : n = 0
  · rw [if_pos h0, if_pos h0]
  rw [if_neg h0, if_neg h0]
  by_cases hneg : n < 0
  · -- before the week-year start: every loop runs to its end
    rw [if_neg (by omega), if_pos hneg, nthDay_none L2 _ (by omega), nthDay_none L2 _ (by omega)]
    split
    · rw [if_neg (by omega)]; rfl
    · rfl
  rw [if_neg hneg]
  by_cases ht : so + n ≤ L0.length
  · rw [if_pos (by omega), if_pos ht, nthDay_drop _ _ _ (by omega), hso]
  · rw [if_neg (by omega), if_neg ht]
    split
    · by_cases ht1 : so + n - L0.length ≤ L1.length
      · rw [if_pos (by omega), if_pos ht1]; congr 2; omega
      · rw [if_neg (by omega), if_neg ht1]; congr 2; omega
    · congr 2; omega

theorem c2w_core (m : Mode) (y mo d : Int) (s : Int × Int × Int) (wy : Int)
    (hv : Spec.ValidCal m s.1 s.2.1 s.2.2) :
    (match Gen.Algo.iter_months_days m s.1 (some s.2.1) (some s.2.2) false with
      | none => none
      | some t4 =>
        Gen.Algo.get_week_date_from_calendar_date.for1 m y mo d s.1 wy
          (fun tot => Gen.Algo.get_week_date_from_calendar_date.for2 m y mo d wy (fun _ => none)
            [s.1 + 1, s.1 + 2] tot) t4 (-1)) = weekFromCalAt m y mo d s wy := by
  obtain ⟨sy, sm, sd⟩ := s
  simp only at hv ⊢
  obtain ⟨so, hp, hso1, hso2, hpart, _⟩ := start_lists m sy sm sd hv
  have hl0 := dayList_length m sy
  have hl1 := dayList_length m (sy + 1)
  unfold weekFromCalAt daysFromStart calOf
  simp only [C03_algo_iter_months_days, iterMonthsDaysY, hpart, iterMonthsDays_fwd, c2w_for1, c2w_for3,
    Gen.Algo.get_week_date_from_calendar_date.for2, posOf_eq_dayPos, hp]
  have hP : ((List.drop (so - 1).toNat (dayList m (isLeapYear sy))).length : Int) = daysInYear m sy - so + 1 := by
    rw [List.length_drop]; omega
  have hso : (((so - 1).toNat : Nat) : Int) = so - 1 := by omega
  -- the start's year is `y`, `y - 1`, `y - 2` or none of them: the date is looked for in the rest of
  -- year `sy`, then in all of `sy + 1`, then in all of `sy + 2`, the count running on
  by_cases c0 : sy = y
  · subst c0
    have c1 : ¬ (sy + 1 = sy) := by omega
    have c2 : ¬ (sy + 2 = sy) := by omega
    simp only [scanElem_eq, c1, c2, ↓reduceIte, dayPos_drop]
    cases hd : dayPos (dayList m (isLeapYear sy)) mo d with
    | none => simp only
    | some od =>
      simp only [hso]
      by_cases c : so - 1 < od
      · have c' : ¬ (od - so < 0) := by omega
        have e : -1 + (od - (so - 1)) = od - so := by omega
        simp only [c, c', ↓reduceIte, e, weekOfCount]
      · have c' : od - so < 0 := by omega
        simp only [c, c', ↓reduceIte]
  · by_cases c1 : sy + 1 = y
    · subst c1
      have c2 : ¬ (sy + 2 = sy + 1) := by omega
      simp only [scanElem_eq, c0, c2, ↓reduceIte, hP]
      cases hd : dayPos (dayList m (isLeapYear (sy + 1))) mo d with
      | none => simp only
      | some od =>
        obtain ⟨ho1, ho2, _⟩ := dayPos_some hd
        have c' : ¬ (daysInYear m sy - so + od < 0) := by omega
        have e : -1 + (daysInYear m sy - so + 1) + od = daysInYear m sy - so + od := by omega
        simp only [c', ↓reduceIte, e, weekOfCount]
    · by_cases c2 : sy + 2 = y
      · subst c2
        simp only [scanElem_eq, c0, c1, ↓reduceIte, hP]
        cases hd : dayPos (dayList m (isLeapYear (sy + 2))) mo d with
        | none => simp only
        | some od =>
          obtain ⟨ho1, ho2, _⟩ := dayPos_some hd
          have c' : ¬ (daysInYear m sy - so + daysInYear m (sy + 1) + od < 0) := by omega
          have e : -1 + (daysInYear m sy - so + 1) + ((dayList m (isLeapYear (sy + 1))).length : Int) + od =
              daysInYear m sy - so + daysInYear m (sy + 1) + od := by omega
          simp only [c', ↓reduceIte, e, weekOfCount]
      · simp only [scanElem_eq, c0, c1, c2, ↓reduceIte]
        cases dayPos (dayList m (isLeapYear y)) mo d <;> rfl

theorem C03_algo_get_week_date_from_calendar_date (m : Mode) (y mo d : Int) :
    Gen.Algo.get_week_date_from_calendar_date m y mo d = weekFromCal m y mo d := by
  unfold Gen.Algo.get_week_date_from_calendar_date weekFromCal
  simp only [C03_algo_get_calendar_date_week_date_start, tupLe3_eq, tupLt3_eq, Bool.and_eq_true]
  have v0 := (weekStartCal_spec m (y - 1)).1
  have v1 := (weekStartCal_spec m y).1
  have v2 := (weekStartCal_spec m (y + 1)).1
  generalize weekStartCal m (y - 1) = prev at *
  generalize weekStartCal m y = this at *
  generalize weekStartCal m (y + 1) = next at *
  by_cases k1 : lexLe prev (y, mo, d) = true ∧ lexLt (y, mo, d) this = true
  · simp only [k1, and_self, ↓reduceIte]
    exact c2w_core m y mo d prev (y - 1) v0
  · simp only [k1, ↓reduceIte]
    by_cases k2 : lexLe this (y, mo, d) = true ∧ lexLt (y, mo, d) next = true
    · simp only [k2, and_self, ↓reduceIte]
      exact c2w_core m y mo d this y v1
    · simp only [k2, ↓reduceIte]
      exact c2w_core m y mo d next (y + 1) v2

theorem C03_algo_get_ordinal_date_from_week_date (m : Mode) (y w d : Int) :
    Gen.Algo.get_ordinal_date_from_week_date m y w d = ordFromWeek m y w d := by
  unfold Gen.Algo.get_ordinal_date_from_week_date ordFromWeek
  rw [C03_algo_get_calendar_date_from_week_date]
  cases calFromWeek m y w d with
  | none => rfl
  | some r => obtain ⟨a, b, c⟩ := r; exact C03_algo_get_ordinal_date_from_calendar_date m a b c

theorem C03_algo_get_week_date_from_ordinal_date (m : Mode) (y doy : Int) :
    Gen.Algo.get_week_date_from_ordinal_date m y doy = weekFromOrd m y doy := by
  unfold Gen.Algo.get_week_date_from_ordinal_date weekFromOrd
  rw [C03_algo_get_calendar_date_from_ordinal_date]
  cases calFromOrd m y doy with
  | none => rfl
  | some r => obtain ⟨a, b, c⟩ := r; exact C03_algo_get_week_date_from_calendar_date m a b c

example : Gen.Algo.get_calendar_date_from_ordinal_date .greg 2000 60 = some (2000, 2, 29) ∧
    Gen.Algo.get_calendar_date_from_ordinal_date .greg 2001 366 = none ∧
    Gen.Algo.get_ordinal_date_from_calendar_date .d360 (-1) 2 30 = some (-1, 60) ∧
    Gen.Algo.get_week_date_from_calendar_date .greg 1999 1 3 = some (1998, 53, 7) ∧
    Gen.Algo.get_calendar_date_from_week_date .greg 1998 54 1 = some (1999, 1, 4) ∧
    Gen.Algo.get_week_date_from_ordinal_date .greg 2002 365 = some (2003, 1, 2) := by
  -- the week-year starts involved, from the Spec (the code's own route runs the `while` loop)
  have s1998 := weekStartCal_eq_of .greg 1998 (1997, 12, 29) (by decide) (by decide)
  have hc : calFromOrd .greg 2002 365 = some (2002, 12, 31) := by decide
  refine ⟨?_, ?_, ?_, ?_, ?_, ?_⟩
  · rw [C03_algo_get_calendar_date_from_ordinal_date]; decide
  · rw [C03_algo_get_calendar_date_from_ordinal_date]; decide
  · rw [C03_algo_get_ordinal_date_from_calendar_date]; decide
  · rw [C03_algo_get_week_date_from_calendar_date]
    exact weekFromCal_eq_of .greg 1999 1 3 1998 53 7 (by decide) (by decide) (by decide)
  · rw [C03_algo_get_calendar_date_from_week_date]
    simp only [calFromWeek, s1998]; decide
  · rw [C03_algo_get_week_date_from_ordinal_date]
    simp only [weekFromOrd, hc]
    exact weekFromCal_eq_of .greg 2002 12 31 2003 1 2 (by decide) (by decide) (by decide)

/-- Consequence: everything `C03` proves about the model's conversions holds of the regenerated code,
    e.g. converting a valid date to any representation succeeds and keeps the day. -/
theorem C03_algo_week_from_calendar_valid (m : Mode) (y mo d : Int) (h : Spec.ValidCal m y mo d) :
    ∃ wy w wd, Gen.Algo.get_week_date_from_calendar_date m y mo d = some (wy, w, wd) ∧
      Spec.ValidWeek m wy w wd ∧ Spec.dayNumWeek m wy w wd = Spec.dayNumCal m y mo d := by
  rw [C03_algo_get_week_date_from_calendar_date]; exact weekFromCal_spec m y mo d h
example : Spec.ValidCal .greg 2000 2 29 := by decide

/-! ## `timezone.get_local_time_zone` (the operating system's zone data as arguments) -/

/-- `daylight` is Python's `time.daylight` (an int used for its truth value); the result is never a
    `ZeroDivisionError` (`% (sign * 60)`). -/
theorem C03_algo_get_local_time_zone (timezone altzone daylight isdst : Int) :
    Gen.Algo.get_local_time_zone timezone altzone daylight isdst =
      some (localTZ timezone altzone (daylight != 0) isdst) := by
  unfold Gen.Algo.get_local_time_zone localTZ splitOffset localOffsetSeconds Gen.Algo.pyMod
  have hc : (isdst = 1 ∧ (daylight != 0) = true) ↔ (isdst = 1 ∧ daylight ≠ 0) := by simp
  simp only [hc]
  generalize (if isdst = 1 ∧ daylight ≠ 0 then -altzone else -timezone) = off
  have e1 : ∀ a : Int, a.fdiv 3600 = a / 3600 := fun a => Int.fdiv_eq_ediv_of_nonneg a (by omega)
  have e2 : ∀ a : Int, a.fdiv 60 = a / 60 := fun a => Int.fdiv_eq_ediv_of_nonneg a (by omega)
  by_cases h2 : off < 0 <;> simp [h2, e1, e2]
example : Gen.Algo.get_local_time_zone 12600 9000 1 1 = some (-2, -30) := by decide

end IsoDT.Props.C03algo
