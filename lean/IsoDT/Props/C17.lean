/-
  C17 — strftime matches POSIX for the supported directives and strptime inverts it.

  Model: `Model/Strftime.lean` (`TimePointDumper.strftime`, `TimePointParser.strptime`) over the
  translation tables regenerated from parser_spec.py (`Gen.Strftime`).
  Specification: part 1 of `Lemmas/Strftime.lean` (`Spec.Posix`): `posix c items` is the POSIX text of a
  format on the civil date-time `c`; `IsCivil m p c` says `c` is the civil date-time of `p`;
  `parseFmt fmt = some items` says `fmt` is a format over the supported directives and literal text.
-/
import IsoDT.Lemmas.Strftime

namespace IsoDT.Props.C17
open IsoDT IsoDT.Model IsoDT.Model.Strf IsoDT.Lemmas IsoDT.Lemmas.Strf
open IsoDT.Spec (Date TZ TP)
open IsoDT.Spec.Posix
open IsoDT.Gen.Strftime (Fld Fmt Pat Cls Piece)

/-- Every valid point has a civil date-time (so the theorems below are about something). -/
theorem C17_civil_exists (m : Mode) (p : TP) (hv : p.Valid m) : ∃ c, IsCivil m p c := by
  obtain ⟨r, _, hrv, hrr, hn⟩ := convert_spec m 0 (by omega) p.date hv.1
  obtain ⟨y, mo, d, rfl⟩ := rep0_cal r hrr
  exact ⟨⟨y, mo, d, p.date.dayNum m - Spec.dby m y + 1, p.hh, p.mi, p.ss, 60 * p.tz.h + p.tz.mi,
    p.inst m - epochInst m⟩, hrv, hn, rfl, rfl, rfl, rfl, rfl, rfl⟩

/-- General form: the year needs to lie in 0000–9999 only if the format prints it. -/
theorem C17_strftime_general (m : Mode) (p : TP) (hv : p.Valid m) (c : Civil) (hc : IsCivil m p c)
    (fmt : List Char) (items : List FItem) (hf : parseFmt fmt = some items)
    (hy : SField.year ∈ fieldsOf items → 0 ≤ c.year ∧ c.year ≤ 9999) :
    strftime m p fmt = .ok (posix c items) := by
  obtain ⟨ht, hpc⟩ := translate_scan fmt items hf
  unfold strftime
  rw [ht]
  simp only [dump_ctx m p hv c hc]
  rw [if_neg, if_neg]
  · exact congrArg Except.ok (render_items m p hv c hc items hy)
  · simpa using hpc
  · intro ⟨hcen, hnot⟩
    apply hnot
    apply hy
    apply century_mem
    simpa using hcen

/-- **C17 (strftime)**: for every valid point `p` — calendar, ordinal or week representation, any
    UTC offset, any of the four calendar modes — whose civil year lies in 0000–9999, and every format
    string over the eleven supported directives and literal text, `p.strftime(fmt)` is the text POSIX
    `strftime` gives for the civil date-time of `p`: `%Y` is the *calendar* year also for week dates,
    `%j` the day of that year, `%z` carries the sign of the offset also when its hour part is zero,
    `%s` is the Unix time of the instant.  (24:00:00 is printed as hour 24 of the stored day.) -/
theorem C17_strftime (m : Mode) (p : TP) (hv : p.Valid m) (c : Civil) (hc : IsCivil m p c)
    (hy : 0 ≤ c.year ∧ c.year ≤ 9999) (fmt : List Char) (items : List FItem)
    (hf : parseFmt fmt = some items) :
    strftime m p fmt = .ok (posix c items) :=
  C17_strftime_general m p hv c hc fmt items hf (fun _ => hy)

/-- Outside 0000–9999 a format that prints the year is refused (`TimePointDumperBoundsError`), never
    rendered with a truncated year. -/
theorem C17_strftime_bounds (m : Mode) (p : TP) (hv : p.Valid m) (c : Civil) (hc : IsCivil m p c)
    (hy : ¬ (0 ≤ c.year ∧ c.year ≤ 9999)) (fmt : List Char) (items : List FItem)
    (hf : parseFmt fmt = some items) (hyear : Piece.fld .century ∈ piecesOfItems items) :
    strftime m p fmt = .error .bounds := by
  obtain ⟨ht, _⟩ := translate_scan fmt items hf
  unfold strftime
  rw [ht]
  simp only [dump_ctx m p hv c hc]
  rw [if_pos]
  exact ⟨by simpa using hyear, hy⟩

/-- **C17 (`%s`)**: `%s` prints the whole number of seconds from 1970-01-01T00:00:00Z to the instant
    of `p`, in decimal, for every valid point (no restriction on the year). -/
theorem C17_unix (m : Mode) (p : TP) (hv : p.Valid m) :
    strftime m p ['%', 's'] = .ok (decimalInt (p.inst m - unixEpoch.inst m)) := by
  obtain ⟨c, hc⟩ := C17_civil_exists m p hv
  have h := C17_strftime_general m p hv c hc ['%', 's'] [.conv .s] (by decide) (by simp [fieldsOf, Dir.fields])
  rw [h, unixEpoch_inst]
  simp [posix, itemText, field, hc.unix_eq]

/-- **C17 (unsupported)**: a format in which `%` is followed by any other letter, digit or underscore
    is refused with `StrftimeSyntaxError` (a `ValueError`) by both `strftime` and `strptime`, whatever
    else it contains and whatever the point or the text. -/
theorem C17_unsupported (fmt : List Char) (c : Char) (hmem : Item.dir c ∈ scan fmt)
    (hc : Dir.ofChar c = none) (m : Mode) (p : TP) (cfg : PCfg) (loc : TZ) (data : List Char) :
    strftime m p fmt = .error .syntax ∧ strptime m cfg loc data fmt = .error .syntax := by
  have ht : translate (scan fmt) = .error .syntax := translate_unsupported (scan fmt) c hmem hc
  unfold strftime strptime
  rw [ht]
  exact ⟨rfl, rfl⟩

/-- **C17 (strptime inverts strftime)**: let `fmt` be a format over the supported directives and
    literal text that *determines* date, time and zone (`Determined`: no field named twice; either
    `%s` is the only conversion, or year, hour, minute, second, zone and exactly one of month + day /
    day-of-year are named — in any order, with any literal text, adjacent numeric conversions
    included).  Then for every valid point `p` with a civil year in 0000–9999, in any representation,
    offset and mode, whatever the parser's assumed zone and the process-local zone `loc`:
    `strftime` succeeds, and `strptime` on its output with the same format returns a valid point at the
    *same instant* — with `p`'s own offset and clock fields, except for `%s`, which comes back in the
    local zone. -/
theorem C17_strptime (m : Mode) (p : TP) (hv : p.Valid m) (c : Civil) (hc : IsCivil m p c)
    (hy : 0 ≤ c.year ∧ c.year ≤ 9999) (fmt : List Char) (items : List FItem)
    (hf : parseFmt fmt = some items) (hd : Determined items) (cfg : PCfg) (loc : TZ) (hloc : loc.Valid) :
    ∃ text q, strftime m p fmt = .ok text ∧ strptime m cfg loc text fmt = .ok q ∧
      q.inst m = p.inst m ∧ q.Valid m ∧
      (fieldsOf items = [.unix] → q.tz = loc) ∧
      (fieldsOf items ≠ [.unix] → q.tz = p.tz ∧ q.hh = p.hh ∧ q.mi = p.mi ∧ q.ss = p.ss) := by
  obtain ⟨ht, _⟩ := translate_scan fmt items hf
  have hnd := nodup_fldsOf_items items hd.1
  have hmatch := match_rendered (ctxOf p c) (piecesOfItems items) (fits_all m p hv c hc) hnd
  rw [render_items m p hv c hc items (fun _ => hy)] at hmatch
  have hstrp : ∀ q, assemble m cfg loc (bindingsOf (ctxOf p c) (piecesOfItems items)) = .ok q →
      strptime m cfg loc (posix c items) fmt = .ok q := by
    intro q hq
    unfold strptime
    rw [ht]
    simp only [hasDup_false _ hnd, Bool.false_eq_true, ↓reduceIte, hmatch, hq]
  refine ⟨posix c items, ?_⟩
  have hstrf := C17_strftime m p hv c hc hy fmt items hf
  rcases hd.2 with hu | hfull
  · obtain ⟨q, hq, hi, hs, htz⟩ := assemble_unix m p c hc.unix_eq cfg loc hloc items hu
    exact ⟨q, hstrf, hstrp q hq, hi, hs.1, fun _ => htz, fun hne => absurd hu hne⟩
  · obtain ⟨q, hq, hi, hqv, hsame⟩ := assemble_full m p hv c hc hy cfg loc items hfull
    refine ⟨q, hstrf, hstrp q hq, hi, hqv, ?_, fun _ => hsame⟩
    intro hu
    exact absurd (hu ▸ List.mem_singleton_self _) hfull.1

/-- **C17 (defaults)**: whenever `strptime` accepts a text under a format (without `%s`) over the
    supported directives, every part the format does not name takes its default: hour, minute,
    second 0; month and day 1 (a calendar date, unless the day of the year is named, which gives an
    ordinal date); the year — the start of the era — 0; and the zone is the parser's assumed zone
    (`assumed_time_zone`, else UTC when `default_to_unknown_time_zone`, else the local zone).  The
    result is always a valid point. -/
theorem C17_defaults (m : Mode) (cfg : PCfg) (loc : TZ) (data fmt : List Char) (items : List FItem) (q : TP)
    (hf : parseFmt fmt = some items) (hnu : SField.unix ∉ fieldsOf items)
    (hq : strptime m cfg loc data fmt = .ok q) :
    (SField.hour ∉ fieldsOf items → q.hh = 0) ∧
    (SField.minute ∉ fieldsOf items → q.mi = 0) ∧
    (SField.second ∉ fieldsOf items → q.ss = 0) ∧
    (SField.zone ∉ fieldsOf items → q.tz = cfg.defaultZone loc) ∧
    (SField.yday ∉ fieldsOf items → ∃ y mo d, q.date = .cal y mo d ∧
      (SField.year ∉ fieldsOf items → y = 0) ∧ (SField.month ∉ fieldsOf items → mo = 1) ∧
      (SField.day ∉ fieldsOf items → d = 1)) ∧
    (SField.yday ∈ fieldsOf items → ∃ y n, q.date = .ord y n ∧ (SField.year ∉ fieldsOf items → y = 0)) ∧
    q.Valid m := by
  obtain ⟨_, b, hm, hq⟩ := strptime_ok m cfg loc data fmt items q hf hq
  have hkeys := keys_of_match _ _ _ hm
  have habs : ∀ f, sf f ∉ fieldsOf items → b.lookup f = none := fun f hf' =>
    lookup_absent b f (by rw [hkeys, mem_fldsOf_items]; exact hf')
  have hnum : ∀ f, sf f ∉ fieldsOf items → numOf b f = none := fun f hf' => by
    unfold numOf; rw [habs f hf']; rfl
  unfold assemble at hq
  rw [habs .unix hnu] at hq
  simp only at hq
  obtain ⟨e1, e2, e3, e4, e5, e6⟩ := mkPoint_inv _ _ _ _ _ _ _ _ _ _ _ hq
  refine ⟨fun h => by rw [e1, hnum .hourOfDay h]; rfl, fun h => by rw [e2, hnum .minuteOfHour h]; rfl,
    fun h => by rw [e3, hnum .secondOfMinute h]; rfl, ?_, ?_, ?_, e6⟩
  · intro h
    rw [e4, any_zone_false b items hkeys h hnu]
    simp
  · intro h
    rw [hnum .dayOfYear h] at e5
    refine ⟨_, _, _, e5, ?_, ?_, ?_⟩
    · intro hy; rw [hnum .century hy, hnum .yearOfCentury hy]; rfl
    · intro hmo; rw [hnum .monthOfYear hmo]; rfl
    · intro hdd; rw [hnum .dayOfMonth hdd]; rfl
  · intro h
    obtain ⟨v, hv⟩ := lookup_present b .dayOfYear (by rw [hkeys, mem_fldsOf_items]; exact h)
    have hn : numOf b .dayOfYear = some (parseNat v : Int) := by unfold numOf; rw [hv]; rfl
    rw [hn] at e5
    refine ⟨_, _, e5, ?_⟩
    intro hy; rw [hnum .century hy, hnum .yearOfCentury hy]; rfl

/-- `%s` *together with* `%z` is outside `Determined`, and there the round trip can fail: the `%s`
    translator overwrites the captured offset with the local zone's, but the captured sign is still
    applied to it.  (Harness: recorded as finding F14 when registered.) -/
theorem C17_unix_with_zone_counterexample :
    strftime .greg ⟨.cal 2000 1 1, 0, 0, 0, ⟨-1, 0⟩⟩ "%s %z".toList = .ok "946688400 -0100".toList ∧
    strptime .greg ⟨none, false⟩ ⟨5, 30⟩ "946688400 -0100".toList "%s %z".toList =
      .ok ⟨.cal 2000 1 1, 6, 30, 0, ⟨-5, -30⟩⟩ ∧
    TP.inst .greg ⟨.cal 2000 1 1, 6, 30, 0, ⟨-5, -30⟩⟩ ≠ TP.inst .greg ⟨.cal 2000 1 1, 0, 0, 0, ⟨-1, 0⟩⟩ := by
  decide +kernel

example : parseFmt "%Y-%m-%dT%H:%M:%S%z %j %s".toList =
    some [.conv .Y, .lit '-', .conv .m, .lit '-', .conv .d, .lit 'T', .conv .H, .lit ':', .conv .M, .lit ':',
      .conv .S, .conv .z, .lit ' ', .conv .j, .lit ' ', .conv .s] := by decide +kernel
example : parseFmt "%y".toList = none ∧ parseFmt "100%".toList = none ∧ parseFmt "%%".toList = none := by decide +kernel
/-- The repaired defect F6: a week date whose week-year differs from the calendar year. -/
example : strftime .greg ⟨.week 1970 53 5, 0, 1, 0, ⟨0, 0⟩⟩ "%Y %j".toList = .ok "1971 001".toList := by
  decide +kernel
/-- A negative offset with zero hours, a pre-1970 instant. -/
example : strftime .greg ⟨.cal 1969 12 31, 23, 30, 0, ⟨0, -30⟩⟩ "%z %s".toList = .ok "-0030 0".toList ∧
    strftime .greg ⟨.ord 1969 365, 23, 0, 0, ⟨0, 0⟩⟩ "%s".toList = .ok "-3600".toList := by
  decide +kernel
example : strftime .greg ⟨.cal 10000 1 1, 0, 0, 0, ⟨0, 0⟩⟩ "%F".toList = .error .bounds ∧
    strftime .greg ⟨.cal 10000 1 1, 0, 0, 0, ⟨0, 0⟩⟩ "%m".toList = .ok "01".toList := by decide +kernel
example : strftime .greg ⟨.cal 2000 1 1, 0, 0, 0, ⟨0, 0⟩⟩ "%Y%Q".toList = .error .syntax := by decide +kernel

example : Determined [.conv .Y, .lit '-', .conv .m, .lit '-', .conv .d, .lit 'T', .conv .H, .lit ':', .conv .M,
    .lit ':', .conv .S, .conv .z] ∧ Determined [.conv .z, .conv .X, .conv .j, .conv .Y] ∧
    Determined [.lit 'e', .conv .s, .lit '.'] ∧ ¬ Determined [.conv .F, .conv .X] ∧
    ¬ Determined [.conv .F, .conv .j, .conv .X, .conv .z] ∧ ¬ Determined [.conv .s, .conv .z] := by decide +kernel
/-- Round trip through adjacent numeric conversions, week date at 24:00 with a negative half-hour offset. -/
example : strftime .greg ⟨.week 2004 53 5, 24, 0, 0, ⟨0, -30⟩⟩ "%z%Y%j%H%M%S".toList =
      .ok "-00302004366240000".toList ∧
    strptime .greg ⟨some ⟨1, 0⟩, false⟩ ⟨5, 30⟩ "-00302004366240000".toList "%z%Y%j%H%M%S".toList =
      .ok ⟨.ord 2004 366, 24, 0, 0, ⟨0, -30⟩⟩ := by decide +kernel
/-- The repaired defect F7: a pre-1970 Unix time comes back, in the local zone. -/
example : strptime .greg ⟨none, false⟩ ⟨-3, -30⟩ "-3600".toList "%s".toList =
    .ok ⟨.cal 1969 12 31, 19, 30, 0, ⟨-3, -30⟩⟩ := by decide +kernel
/-- Defaults: only a month. -/
example : strptime .greg ⟨some ⟨5, 30⟩, false⟩ ⟨0, 0⟩ "03".toList "%m".toList =
    .ok ⟨.cal 0 3 1, 0, 0, 0, ⟨5, 30⟩⟩ := by decide +kernel
example : strptime .greg ⟨none, false⟩ ⟨0, 0⟩ "20032002".toList "%Y%Y".toList = .error .conversion ∧
    strptime .greg ⟨none, false⟩ ⟨0, 0⟩ "2003-02-29".toList "%F".toList = .error .badInput ∧
    strptime .greg ⟨none, false⟩ ⟨0, 0⟩ "2003".toList "%Y%E".toList = .error .syntax := by decide +kernel

end IsoDT.Props.C17
