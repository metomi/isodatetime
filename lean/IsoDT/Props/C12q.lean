/-
  C12 (fractional points and intervals) — A recurrence iterates exactly the series it denotes, as
  an ALGORITHM over exact rationals.

  `Model.RecurrenceQ` is `TimeRecurrence` on points whose hour / minute / second slots may carry a
  fraction and may be `None` (decimal-second / decimal-minute / decimal-hour forms, `Model.TPQ`)
  and on intervals with fractional hours / minutes / seconds (`Model.DurationQ`).  The statements of
  `Props/C12.lean` are proved here for every exact interval of positive length — ANY positive
  rational, `PT0,25S` or `1/1000000 s` alike: there is no smallest interval and no tolerance
  anywhere, membership of the bounds is exact comparison of rational instants —, every legal anchor
  in any precision form, all four calendar modes, every repetition count; `C12_rat_extends_int`: on
  whole-second points and whole-number intervals the rational model is the integer model of
  `Props/C12.lean`.  `Props/C13q.lean` builds on this file.

  What this does NOT say: anything about binary rounding in the real float computation.  Python's
  slots are binary64; where every input and intermediate value is a dyadic fraction of moderate
  size the float run IS the rational run (checked differentially), and then these theorems are
  about the code's actual answers; for e.g. `PT0,1S` the float run accumulates rounding noise that
  exact arithmetic does not have.
-/
import IsoDT.Lemmas.RecurrenceQ
import IsoDT.Lemmas.RecurrenceQInt

namespace IsoDT.Props.C12q
open IsoDT IsoDT.Model IsoDT.Lemmas IsoDT.Lemmas.DQ
open IsoDT.Spec (Date TZ TP)

theorem seriesQ_strict_mono (m : Mode) (p0 : TPQ) (l : List TPQ) (i0 step : Rat)
    (hs : SeriesOKQ m p0 l i0 step) (i j : Nat) (hij : i < j) (hj : j < l.length) :
    (0 < step → (l[i]'(by omega)).inst m < (l[j]).inst m) ∧
    (step < 0 → (l[i]'(by omega)).inst m > (l[j]).inst m) := by
  rw [(seriesOKQ_get hs i (by omega)).1, (seriesOKQ_get hs j hj).1]
  have hlt : (i : Rat) < (j : Rat) := Rat.natCast_lt_natCast.2 hij
  refine ⟨fun hp => Rat.add_lt_add_left.2 (Rat.mul_lt_mul_of_pos_right hlt hp), fun hn => ?_⟩
  have hp : 0 < -step := by have := Rat.neg_lt_neg hn; rwa [Rat.neg_zero] at this
  have := Rat.mul_lt_mul_of_pos_right hlt hp
  rw [Rat.mul_neg, Rat.mul_neg, Rat.neg_lt_neg_iff] at this
  exact Rat.add_lt_add_left.2 this

/-- **start/duration, `n ≥ 2` repetitions, exact interval of any positive length**: iteration
    yields exactly `n` points, at the rational instants `inst(start) + k·len(d)`, `k = 0 … n−1`,
    each a legal point in the start's representation, offset and precision form, the first being
    the start itself. -/
theorem C12_rat_start_duration_bounded (m : Mode) (n : Nat) (s : TPQ) (d : DurationQ) (hn : 2 ≤ n)
    (hs : s.Valid m) (hex : d.isExact = true) (hpos : 0 < d.exactSeconds m) (fuel : Nat) (hf : n ≤ fuel) :
    ∃ r, mkRecQ m (some (n : Int)) (some s) (some d) none = some r ∧
      (iterQ m r fuel).length = n ∧ (iterQ m r fuel).head? = some s ∧
      SeriesOKQ m s (iterQ m r fuel) (s.inst m) (d.exactSeconds m) := by
  obtain ⟨e, hr, hx, g⟩ := mkRecQ_fmt3_bounded hn hs hex hpos
  have hlen := iterQ_length_count hx rfl rfl (Nat.le_of_succ_le hn) g.inst fuel hf
  exact ⟨_, hr, hlen, iterQ_head? hx rfl fuel (by rw [hlen]; exact Nat.lt_of_lt_of_le Nat.zero_lt_two hn),
    (iterQ_series hx fuel).1 s rfl⟩

/-- The same read point by point: for every `k < n` the `k`-th iterated point exists, is at the
    rational instant `inst(start) + k·len(d)`, and is a legal point in the start's UTC offset, date
    representation and precision form. -/
theorem C12_rat_start_duration_bounded_pointwise (m : Mode) (n : Nat) (s : TPQ) (d : DurationQ) (hn : 2 ≤ n)
    (hs : s.Valid m) (hex : d.isExact = true) (hpos : 0 < d.exactSeconds m) (fuel : Nat) (hf : n ≤ fuel) :
    ∃ r, mkRecQ m (some (n : Int)) (some s) (some d) none = some r ∧ (iterQ m r fuel).length = n ∧
      ∀ k : Nat, k < n → ∃ p, (iterQ m r fuel)[k]? = some p ∧
        p.inst m = s.inst m + (k : Rat) * d.exactSeconds m ∧ p.Valid m ∧ p.tz = s.tz ∧
        p.date.rep = s.date.rep ∧ p.mi.isSome = s.mi.isSome ∧ p.ss.isSome = s.ss.isSome := by
  obtain ⟨r, hr, hlen, _, hser⟩ := C12_rat_start_duration_bounded m n s d hn hs hex hpos fuel hf
  refine ⟨r, hr, hlen, fun k hk => ?_⟩
  obtain ⟨p, e1, e2, e3, e4⟩ := seriesQ_getElem? hser k (by omega)
  exact ⟨p, e1, e2, e3, e4.2.1, e4.1, e4.2.2.1, e4.2.2.2⟩

/-- **start/duration, unbounded**: the first `fuel` points are at `inst(start) + k·len(d)`. -/
theorem C12_rat_start_duration_unbounded (m : Mode) (s : TPQ) (d : DurationQ) (hs : s.Valid m)
    (hex : d.isExact = true) (hpos : 0 < d.exactSeconds m) (fuel : Nat) :
    ∃ r, mkRecQ m none (some s) (some d) none = some r ∧ (iterQ m r fuel).length = fuel ∧
      SeriesOKQ m s (iterQ m r fuel) (s.inst m) (d.exactSeconds m) := by
  obtain ⟨hr, hx⟩ := mkRecQ_fmt3_unbounded hs hex hpos
  exact ⟨_, hr, iterQ_length_unbounded hx rfl rfl fuel, (iterQ_series hx fuel).1 s rfl⟩

/-- **duration/end, `n ≥ 2` repetitions**: exactly `n` strictly increasing points at
    `inst(end) − (n−1)·len(d), …, inst(end) − len(d), inst(end)`: the last one is at the given end. -/
theorem C12_rat_duration_end_bounded (m : Mode) (n : Nat) (e : TPQ) (d : DurationQ) (hn : 2 ≤ n)
    (he : e.Valid m) (hex : d.isExact = true) (hpos : 0 < d.exactSeconds m) (fuel : Nat) (hf : n ≤ fuel) :
    ∃ r, mkRecQ m (some (n : Int)) none (some d) (some e) = some r ∧ (iterQ m r fuel).length = n ∧
      SeriesOKQ m e (iterQ m r fuel) (e.inst m - ((n - 1 : Nat) : Rat) * d.exactSeconds m)
        (d.exactSeconds m) := by
  obtain ⟨s, hr, hx, g⟩ := mkRecQ_fmt4_bounded hn he hex hpos
  -- iteration runs forwards from the derived start
  have hlen := iterQ_length_count hx rfl rfl (Nat.le_of_succ_le hn)
    (by rw [g.inst, Rat.add_assoc, Rat.neg_add_cancel, Rat.add_zero]) fuel hf
  have hser := (iterQ_series hx fuel).1 s rfl
  rw [g.inst, ← Rat.sub_eq_add_neg] at hser
  exact ⟨_, hr, hlen, seriesOKQ_form (sameFormQ_of_good g) hser⟩

/-- **duration/end, unbounded**: iteration runs backwards `end, end−d, end−2d, …`. -/
theorem C12_rat_duration_end_unbounded (m : Mode) (e : TPQ) (d : DurationQ) (he : e.Valid m)
    (hex : d.isExact = true) (hpos : 0 < d.exactSeconds m) (fuel : Nat) :
    ∃ r, mkRecQ m none none (some d) (some e) = some r ∧ (iterQ m r fuel).length = fuel ∧
      SeriesOKQ m e (iterQ m r fuel) (e.inst m) (-(d.exactSeconds m)) := by
  obtain ⟨hr, hx⟩ := mkRecQ_fmt4_unbounded he hex hpos
  exact ⟨_, hr, iterQ_length_rev hx rfl rfl fuel, (iterQ_series hx fuel).2 e rfl rfl⟩

/-- **start/second-point notation**: the interval is the exact (rational) difference of the two
    points — whatever precision forms, representations and offsets they are written in — and the
    recurrence iterates like the start/duration recurrence with that interval: the first `fuel`
    points `start, start+(second−start), …` (unbounded), exactly `n` of them (bounded). -/
theorem C12_rat_start_second (m : Mode) (s e2 : TPQ) (hs : s.Valid m) (he : e2.Valid m)
    (hlt : s.inst m < e2.inst m) (fuel : Nat) :
    (∃ r, mkRecQ m none (some s) none (some e2) = some r ∧ (iterQ m r fuel).length = fuel ∧
      SeriesOKQ m s (iterQ m r fuel) (s.inst m) (e2.inst m - s.inst m)) ∧
    (∀ n : Nat, 2 ≤ n → n ≤ fuel → ∃ r, mkRecQ m (some (n : Int)) (some s) none (some e2) = some r ∧
      (iterQ m r fuel).length = n ∧
      SeriesOKQ m s (iterQ m r fuel) (s.inst m) (e2.inst m - s.inst m)) := by
  obtain ⟨d, ⟨hr0, hx0⟩, hb⟩ := mkRecQ_fmt1 hs he hlt
  refine ⟨⟨_, hr0, iterQ_length_unbounded hx0 rfl rfl fuel, (iterQ_series hx0 fuel).1 s rfl⟩,
    fun n hn hf => ?_⟩
  obtain ⟨e, hr, hx, g⟩ := hb n hn
  exact ⟨_, hr, iterQ_length_count hx rfl rfl (Nat.le_of_succ_le hn) g.inst fuel hf,
    (iterQ_series hx fuel).1 s rfl⟩

theorem iterQ_single (m : Mode) (s : TPQ) (fmt : Nat) (fuel : Nat) (hf : 1 ≤ fuel) :
    iterQ m ⟨some 1, some s, none, some s, none, fmt⟩ fuel = [s] := by
  -- `_cmp` answers 0 on identical operands before looking at them: `s` need not be legal
  have hb : inBoundsQ m ⟨some 1, some s, none, some s, none, fmt⟩ s = true := by
    simp [inBoundsQ, tpLtQ, tpGtQ, cmpQ]
  unfold iterQ
  have : ¬ fuel = 0 := by omega
  simp [this, hb]

theorem mkRecQ_single (m : Mode) (reps : Option Int) (a : TPQ) (d : DurationQ) (hex : d.isExact = true)
    (hnn : 0 ≤ d.exactSeconds m) (hreps : ∀ n, reps = some n → 1 ≤ n)
    (hone : reps = some 1 ∨ d.exactSeconds m = 0) :
    mkRecQ m reps (some a) (some d) none = some ⟨some 1, some a, none, some a, none, 3⟩ ∧
    mkRecQ m reps none (some d) (some a) = some ⟨some 1, some a, none, some a, none, 4⟩ := by
  rw [exactSeconds_eq] at hnn hone
  have c2 := ltQ_zero_false m d hex hnn
  have c3 : reps = some 1 ∨ isZeroDurQ m d = true := hone.imp_right (isZeroDurQ_iff m d hex).2
  constructor <;>
    (cases reps with
     | none => unfold mkRecQ; simp only [c2, c3, Bool.false_eq_true, ↓reduceIte]
     | some n =>
       have c1 : ¬ n ≤ 0 := by have := hreps n rfl; omega
       unfold mkRecQ; simp only [c1, decide_false, c2, c3, Bool.false_eq_true, ↓reduceIte])

/-- **One repetition or a zero-length interval yields exactly the anchor** (start/duration
    notation): the recurrence is stored as a one-point recurrence without interval, whatever the
    start is. -/
theorem C12_rat_single (m : Mode) (reps : Option Int) (s : TPQ) (d : DurationQ) (hex : d.isExact = true)
    (hnn : 0 ≤ d.exactSeconds m) (hreps : ∀ n, reps = some n → 1 ≤ n)
    (hone : reps = some 1 ∨ d.exactSeconds m = 0) (fuel : Nat) (hf : 1 ≤ fuel) :
    mkRecQ m reps (some s) (some d) none = some ⟨some 1, some s, none, some s, none, 3⟩ ∧
    iterQ m ⟨some 1, some s, none, some s, none, 3⟩ fuel = [s] :=
  ⟨(mkRecQ_single m reps s d hex hnn hreps hone).1, iterQ_single m s 3 fuel hf⟩

/-- The same in duration/end notation: a zero-length interval (or one repetition) yields the end. -/
theorem C12_rat_zero_length_end (m : Mode) (reps : Option Int) (e : TPQ) (d : DurationQ)
    (hex : d.isExact = true) (hnn : 0 ≤ d.exactSeconds m) (hreps : ∀ n, reps = some n → 1 ≤ n)
    (hone : reps = some 1 ∨ d.exactSeconds m = 0) (fuel : Nat) (hf : 1 ≤ fuel) :
    mkRecQ m reps none (some d) (some e) = some ⟨some 1, some e, none, some e, none, 4⟩ ∧
    iterQ m ⟨some 1, some e, none, some e, none, 4⟩ fuel = [e] :=
  ⟨(mkRecQ_single m reps e d hex hnn hreps hone).2, iterQ_single m e 4 fuel hf⟩

/-- Start/second-point notation with the second point AT the start's instant (in whatever
    spelling): one repetition, the start. -/
theorem C12_rat_second_at_start (m : Mode) (reps : Option Int) (s e2 : TPQ) (hs : s.Valid m) (he : e2.Valid m)
    (heq : s.inst m = e2.inst m) (hreps : ∀ n, reps = some n → 2 ≤ n) (fuel : Nat) (hf : 1 ≤ fuel) :
    mkRecQ m reps (some s) none (some e2) = some ⟨some 1, some s, none, some e2, some e2, 1⟩ ∧
    (iterQ m ⟨some 1, some s, none, some e2, some e2, 1⟩ fuel = [s]) := by
  have c1 : tpEqQ m s e2 = true := (tpEqQ_iff m s e2 hs he).mpr heq
  constructor
  · cases reps with
    | none => unfold mkRecQ; simp only [Bool.false_eq_true, ↓reduceIte, reduceCtorEq, c1]
    | some n =>
      have h2 := hreps n rfl
      have k1 : ¬ n ≤ 0 := by omega
      have k2 : ¬ (n = 1) := by omega
      unfold mkRecQ
      simp only [k1, decide_false, Bool.false_eq_true, ↓reduceIte, Option.some.injEq, k2, c1]
  · have hb : inBoundsQ m ⟨some 1, some s, none, some e2, some e2, 1⟩ s = true :=
      (inBoundsQ_iff hs (of_some_eq hs) (of_some_eq he)).2
        ⟨of_some_eq Rat.le_refl, of_some_eq (by rw [heq]; exact Rat.le_refl)⟩
    unfold iterQ
    have : ¬ fuel = 0 := by omega
    simp [this, hb]

/-- **A negative-length exact interval is refused** (`BadInputError`), in both notations that take
    an interval, whatever the repetition count and the anchor — however small the negative length. -/
theorem C12_rat_negative_refused (m : Mode) (reps : Option Int) (p : TPQ) (d : DurationQ)
    (hex : d.isExact = true) (hneg : d.exactSeconds m < 0) :
    mkRecQ m reps (some p) (some d) none = none ∧ mkRecQ m reps none (some d) (some p) = none := by
  rw [exactSeconds_eq] at hneg
  have hl := (ltQ_zero_iff m d hex).mpr hneg
  constructor <;> (unfold mkRecQ; cases reps <;> simp [hl])

/-- **A second point before the start is refused** (start/second-point notation, more than one
    repetition) — however small the distance. -/
theorem C12_rat_second_before_start (m : Mode) (reps : Option Int) (s e2 : TPQ) (hs : s.Valid m)
    (he : e2.Valid m) (hlt : e2.inst m < s.inst m) (hreps : reps ≠ some 1) :
    mkRecQ m reps (some s) none (some e2) = none := by
  have c1 : tpEqQ m s e2 = false :=
    Bool.eq_false_iff.2 fun h => Rat.ne_of_gt hlt ((tpEqQ_iff m s e2 hs he).1 h)
  have c2 : tpLtQ m e2 s = true := (tpLtQ_iff m e2 s he hs).mpr hlt
  unfold mkRecQ
  cases reps with
  | none => simp [c1, c2]
  | some n =>
    by_cases k : n ≤ 0
    · simp [k]
    · have k2 : ¬ n = 1 := fun h => hreps (by rw [h])
      simp [k, k2, c1, c2]

/-- **The bounds of `Rn/start/d`** (`n ≥ 2`, exact `d` of positive length): a legal point `p`, in any
    spelling, is in bounds exactly when `inst(start) ≤ inst(p) ≤ inst(start) + (n−1)·len(d)` as
    rational numbers. -/
theorem C12_rat_in_bounds_exact (m : Mode) (n : Nat) (s : TPQ) (d : DurationQ) (hn : 2 ≤ n)
    (hs : s.Valid m) (hex : d.isExact = true) (hpos : 0 < d.exactSeconds m) (p : TPQ) (hp : p.Valid m) :
    ∃ r, mkRecQ m (some (n : Int)) (some s) (some d) none = some r ∧
      (inBoundsQ m r p = true ↔
        s.inst m ≤ p.inst m ∧ p.inst m ≤ s.inst m + ((n - 1 : Nat) : Rat) * d.exactSeconds m) := by
  obtain ⟨e, hr, hx, g⟩ := mkRecQ_fmt3_bounded hn hs hex hpos
  refine ⟨_, hr, ?_⟩
  rw [inBoundsQ_iff hp hx.startValid hx.endValid, ← g.inst]
  exact ⟨fun h => ⟨h.1 s rfl, h.2 e rfl⟩, fun h => ⟨of_some_eq h.1, of_some_eq h.2⟩⟩

/-- **No tolerance**: a legal point at distance `ε > 0` — ANY positive rational, `1/1000 s` or
    less — past the last point `start + (n−1)·d`, or before the start, is NOT in bounds, no
    iterated point is at its instant, it is not among the iterated points and `get_is_valid`
    rejects it. -/
theorem C12_rat_no_tolerance (m : Mode) (n : Nat) (s : TPQ) (d : DurationQ) (hn : 2 ≤ n)
    (hs : s.Valid m) (hex : d.isExact = true) (hpos : 0 < d.exactSeconds m) (fuel : Nat)
    (p : TPQ) (hp : p.Valid m) (ε : Rat) (hε : 0 < ε)
    (hpi : p.inst m = s.inst m + ((n - 1 : Nat) : Rat) * d.exactSeconds m + ε ∨ p.inst m = s.inst m - ε) :
    ∃ r, mkRecQ m (some (n : Int)) (some s) (some d) none = some r ∧ inBoundsQ m r p = false ∧
      (∀ q ∈ iterQ m r fuel, q.inst m ≠ p.inst m) ∧ p ∉ iterQ m r fuel ∧ getIsValidQ m r p fuel = false := by
  obtain ⟨e, hr, hx, g⟩ := mkRecQ_fmt3_bounded hn hs hex hpos
  have hout : inBoundsQ m ⟨some (n : Int), some s, some d, some e, none, 3⟩ p = false := by
    refine Bool.eq_false_iff.2 fun h => ?_
    obtain ⟨h1, h2⟩ := (inBoundsQ_iff hp hx.startValid hx.endValid).1 h
    rcases hpi with hpi | hpi
    · exact Rat.not_le.2 (lt_add_pos _ hε) (g.inst ▸ hpi ▸ h2 e rfl)
    · exact Rat.not_le.2 (lt_add_pos _ hε) (Rat.le_sub_iff.1 (hpi ▸ h1 s rfl))
  have hne := iterQ_inst_ne_of_out hx hp hout fuel
  refine ⟨_, hr, hout, hne, fun hmem => hne p hmem rfl, ?_⟩
  rw [getIsValidQ, hout]; rfl

/-- **On whole-second points and whole-number intervals the rational model IS the integer model**
    of `Props/C12.lean` / `Model.Recurrence`: the constructor builds the embedded recurrence (or
    fails alike), and iteration, bounds, neighbours, indexing and membership give the embedded
    answers.  So the theorems of `Props/C12.lean`, `C13*.lean` are the instances of this model at
    `TPQ.ofTP` / `DurationQ.ofDur`. -/
theorem C12_rat_extends_int (m : Mode) :
    (∀ (reps : Option Int) (start : Option TP) (dur : Option Dur) (end_ : Option TP),
      mkRecQ m reps (start.map TPQ.ofTP) (dur.map DurationQ.ofDur) (end_.map TPQ.ofTP) =
        (mkRec m reps start dur end_).map RecQ.ofRec) ∧
    (∀ (r : Rec) (fuel : Nat), iterQ m (RecQ.ofRec r) fuel = (iter m r fuel).map TPQ.ofTP) ∧
    (∀ (r : Rec) (p : TP), inBoundsQ m (RecQ.ofRec r) (TPQ.ofTP p) = inBounds m r p) ∧
    (∀ (r : Rec) (p : TP), getNextQ m (RecQ.ofRec r) (TPQ.ofTP p) = (getNext m r p).map TPQ.ofTP) ∧
    (∀ (r : Rec) (p : TP), getPrevQ m (RecQ.ofRec r) (TPQ.ofTP p) = (getPrev m r p).map TPQ.ofTP) ∧
    (∀ (r : Rec) (i : Nat), getItemQ m (RecQ.ofRec r) i = (getItem m r i).map TPQ.ofTP) ∧
    (∀ (r : Rec) (p : TP) (fuel : Nat), getIsValidQ m (RecQ.ofRec r) (TPQ.ofTP p) fuel = getIsValid m r p fuel) :=
  ⟨mkRecQ_ofRec m, iterQ_ofRec m, inBoundsQ_ofRec m, getNextQ_ofRec m, getPrevQ_ofRec m, getItemQ_ofRec m,
    getIsValidQ_ofRec m⟩

/-- Constructor and iteration chained: the same list of points under `TPQ.ofTP`. -/
theorem C12_rat_extends_int_points (m : Mode) (reps : Option Int) (start : Option TP) (dur : Option Dur)
    (end_ : Option TP) (r : Rec) (h : mkRec m reps start dur end_ = some r) (fuel : Nat) :
    ∃ rq, mkRecQ m reps (start.map TPQ.ofTP) (dur.map DurationQ.ofDur) (end_.map TPQ.ofTP) = some rq ∧
      iterQ m rq fuel = (iter m r fuel).map TPQ.ofTP :=
  ⟨RecQ.ofRec r, by rw [mkRecQ_ofRec, h]; rfl, iterQ_ofRec m r fuel⟩

-- the example of `Props/C12.lean`: R3/2002-05-04T23:00:00Z/PT1H
example : mkRec .greg (some 3) (some ⟨.cal 2002 5 4, 23, 0, 0, ⟨0, 0⟩⟩) (some (.units 0 0 0 1 0 0)) none =
      some ⟨some 3, some ⟨.cal 2002 5 4, 23, 0, 0, ⟨0, 0⟩⟩, some (.units 0 0 0 1 0 0),
        some ⟨.cal 2002 5 5, 1, 0, 0, ⟨0, 0⟩⟩, none, 3⟩ ∧
    iterQ .greg (RecQ.ofRec ⟨some 3, some ⟨.cal 2002 5 4, 23, 0, 0, ⟨0, 0⟩⟩, some (.units 0 0 0 1 0 0),
        some ⟨.cal 2002 5 5, 1, 0, 0, ⟨0, 0⟩⟩, none, 3⟩) 10 =
      [TPQ.ofTP ⟨.cal 2002 5 4, 23, 0, 0, ⟨0, 0⟩⟩, TPQ.ofTP ⟨.cal 2002 5 5, 0, 0, 0, ⟨0, 0⟩⟩,
       TPQ.ofTP ⟨.cal 2002 5 5, 1, 0, 0, ⟨0, 0⟩⟩] := by
  refine ⟨by decide +kernel, ?_⟩
  -- evaluated in the whole-second model
  rw [iterQ_ofRec]
  refine congrArg (List.map TPQ.ofTP)
    (?_ : _ = [⟨.cal 2002 5 4, 23, 0, 0, ⟨0, 0⟩⟩, ⟨.cal 2002 5 5, 0, 0, 0, ⟨0, 0⟩⟩, ⟨.cal 2002 5 5, 1, 0, 0, ⟨0, 0⟩⟩])
  decide +kernel

-- R3/2020-01-01T00:00:00Z/PT0,25S: offsets 0, 1/4, 1/2
example : (⟨.cal 2020 1 1, 0, some 0, some 0, ⟨0, 0⟩⟩ : TPQ).Valid .greg ∧
    (DurationQ.units 0 0 0 0 0 (1/4)).isExact = true ∧
    (0 : Rat) < (DurationQ.units 0 0 0 0 0 (1/4)).exactSeconds .greg := by decide +kernel

example : mkRecQ .greg (some 3) (some ⟨.cal 2020 1 1, 0, some 0, some 0, ⟨0, 0⟩⟩)
      (some (.units 0 0 0 0 0 (1/4))) none =
    some ⟨some 3, some ⟨.cal 2020 1 1, 0, some 0, some 0, ⟨0, 0⟩⟩, some (.units 0 0 0 0 0 (1/4)),
      some ⟨.cal 2020 1 1, 0, some 0, some (1/2), ⟨0, 0⟩⟩, none, 3⟩ := by decide +kernel

example : iterQ .greg ⟨some 3, some ⟨.cal 2020 1 1, 0, some 0, some 0, ⟨0, 0⟩⟩, some (.units 0 0 0 0 0 (1/4)),
      some ⟨.cal 2020 1 1, 0, some 0, some (1/2), ⟨0, 0⟩⟩, none, 3⟩ 10 =
    [⟨.cal 2020 1 1, 0, some 0, some 0, ⟨0, 0⟩⟩, ⟨.cal 2020 1 1, 0, some 0, some (1/4), ⟨0, 0⟩⟩,
     ⟨.cal 2020 1 1, 0, some 0, some (1/2), ⟨0, 0⟩⟩] := by decide +kernel

example : ((iterQ .greg ⟨some 3, some ⟨.cal 2020 1 1, 0, some 0, some 0, ⟨0, 0⟩⟩,
      some (.units 0 0 0 0 0 (1/4)), some ⟨.cal 2020 1 1, 0, some 0, some (1/2), ⟨0, 0⟩⟩, none, 3⟩ 10).map
      fun p => p.inst .greg - TPQ.inst .greg ⟨.cal 2020 1 1, 0, some 0, some 0, ⟨0, 0⟩⟩) = [0, 1/4, 1/2] := by
  decide +kernel

-- a point 1/1000 s past the end (00:00:00.501) is out of bounds; the end itself is in bounds
example : inBoundsQ .greg ⟨some 3, some ⟨.cal 2020 1 1, 0, some 0, some 0, ⟨0, 0⟩⟩,
      some (.units 0 0 0 0 0 (1/4)), some ⟨.cal 2020 1 1, 0, some 0, some (1/2), ⟨0, 0⟩⟩, none, 3⟩
      ⟨.cal 2020 1 1, 0, some 0, some (501/1000), ⟨0, 0⟩⟩ = false ∧
    inBoundsQ .greg ⟨some 3, some ⟨.cal 2020 1 1, 0, some 0, some 0, ⟨0, 0⟩⟩,
      some (.units 0 0 0 0 0 (1/4)), some ⟨.cal 2020 1 1, 0, some 0, some (1/2), ⟨0, 0⟩⟩, none, 3⟩
      ⟨.cal 2020 1 1, 0, some 0, some (1/2), ⟨0, 0⟩⟩ = true ∧
    (⟨.cal 2020 1 1, 0, some 0, some (501/1000), ⟨0, 0⟩⟩ : TPQ).Valid .greg ∧
    TPQ.inst .greg ⟨.cal 2020 1 1, 0, some 0, some (501/1000), ⟨0, 0⟩⟩ =
      TPQ.inst .greg ⟨.cal 2020 1 1, 0, some 0, some 0, ⟨0, 0⟩⟩ + ((3 - 1 : Nat) : Rat) * (1/4) + 1/1000 := by
  decide +kernel

-- decimal-hour anchor 12.5h (week date, +05:30), interval PT0,25H, four points ending at 13.25h
example : (⟨.week 2020 1 3, 25/2, none, none, ⟨5, 30⟩⟩ : TPQ).Valid .greg ∧
    mkRecQ .greg (some 4) (some ⟨.week 2020 1 3, 25/2, none, none, ⟨5, 30⟩⟩) (some (.units 0 0 0 (1/4) 0 0)) none =
      some ⟨some 4, some ⟨.week 2020 1 3, 25/2, none, none, ⟨5, 30⟩⟩, some (.units 0 0 0 (1/4) 0 0),
        some ⟨.week 2020 1 3, 53/4, none, none, ⟨5, 30⟩⟩, none, 3⟩ ∧
    iterQ .greg ⟨some 4, some ⟨.week 2020 1 3, 25/2, none, none, ⟨5, 30⟩⟩, some (.units 0 0 0 (1/4) 0 0),
        some ⟨.week 2020 1 3, 53/4, none, none, ⟨5, 30⟩⟩, none, 3⟩ 10 =
      [⟨.week 2020 1 3, 25/2, none, none, ⟨5, 30⟩⟩, ⟨.week 2020 1 3, 51/4, none, none, ⟨5, 30⟩⟩,
       ⟨.week 2020 1 3, 13, none, none, ⟨5, 30⟩⟩, ⟨.week 2020 1 3, 53/4, none, none, ⟨5, 30⟩⟩] := by
  decide +kernel

-- duration/end, 360-day calendar, PT0,5S across the year boundary: 3 points ending at the end
example : mkRecQ .d360 (some 3) none (some (.units 0 0 0 0 0 (1/2))) (some ⟨.cal 2001 1 1, 0, some 0, some (1/4), ⟨0, 0⟩⟩) =
      some ⟨some 3, some ⟨.cal 2000 12 30, 23, some 59, some (237/4), ⟨0, 0⟩⟩, some (.units 0 0 0 0 0 (1/2)),
        some ⟨.cal 2001 1 1, 0, some 0, some (1/4), ⟨0, 0⟩⟩, none, 4⟩ ∧
    iterQ .d360 ⟨some 3, some ⟨.cal 2000 12 30, 23, some 59, some (237/4), ⟨0, 0⟩⟩, some (.units 0 0 0 0 0 (1/2)),
        some ⟨.cal 2001 1 1, 0, some 0, some (1/4), ⟨0, 0⟩⟩, none, 4⟩ 10 =
      [⟨.cal 2000 12 30, 23, some 59, some (237/4), ⟨0, 0⟩⟩, ⟨.cal 2000 12 30, 23, some 59, some (239/4), ⟨0, 0⟩⟩,
       ⟨.cal 2001 1 1, 0, some 0, some (1/4), ⟨0, 0⟩⟩] := by decide +kernel

-- start/second point in different precision forms and offsets: 12.5h Z and 13:45.5 +01:00, interval 15 min 30 s
example : mkRecQ .greg none (some ⟨.cal 2000 1 1, 25/2, none, none, ⟨0, 0⟩⟩) none
      (some ⟨.ord 2000 1, 13, some (91/2), none, ⟨1, 0⟩⟩) =
    some ⟨none, some ⟨.cal 2000 1 1, 25/2, none, none, ⟨0, 0⟩⟩, some (.units 0 0 0 0 15 30), none,
      some ⟨.ord 2000 1, 13, some (91/2), none, ⟨1, 0⟩⟩, 1⟩ := by decide +kernel

-- zero length and negative length
example : mkRecQ .greg (some 5) (some ⟨.cal 2020 1 1, 0, some 0, some (1/8), ⟨0, 0⟩⟩)
      (some (.units 0 0 0 1 0 (-3600))) none =
    some ⟨some 1, some ⟨.cal 2020 1 1, 0, some 0, some (1/8), ⟨0, 0⟩⟩, none,
      some ⟨.cal 2020 1 1, 0, some 0, some (1/8), ⟨0, 0⟩⟩, none, 3⟩ := by decide +kernel
example : mkRecQ .greg (some 5) (some ⟨.cal 2020 1 1, 0, some 0, some (1/8), ⟨0, 0⟩⟩)
      (some (.units 0 0 0 0 0 (-1/1000))) none = none := by decide +kernel

end IsoDT.Props.C12q
