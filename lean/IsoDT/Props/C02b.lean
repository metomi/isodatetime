/-
  C02 (continued) — the comparison is antisymmetric, a congruence for `==`, and blind to how an
  operand is spelled.

  Corollaries of `cmp_spec` and `toTimeZone_spec`.
-/
import IsoDT.Props.C02

namespace IsoDT.Props.C02
open IsoDT IsoDT.Model IsoDT.Lemmas
open IsoDT.Spec (Date TZ TP)

/-- Swapping the operands negates the comparison: `b ? a` is `-(a ? b)`. -/
theorem C02_cmp_antisymm (m : Mode) (a b : TP) (ha : a.Valid m) (hb : b.Valid m) :
    cmp m b a = (cmp m a b).map (fun c => -c) := by
  rw [cmp_spec m b a hb ha, cmp_spec m a b ha hb, Option.map_some, ← sgn_neg]
  congr 2; omega

/-- `==` is a congruence for the comparison: equal operands may replace each other on either
    side of any comparison. -/
theorem C02_cmp_congr (m : Mode) (a a' b b' : TP) (ha : a.Valid m) (ha' : a'.Valid m)
    (hb : b.Valid m) (hb' : b'.Valid m) (ea : eq m a a') (eb : eq m b b') :
    cmp m a b = cmp m a' b' := by
  have i1 := ((C02_operators m a a' ha ha').2.1).mp ea
  have i2 := ((C02_operators m b b' hb hb').2.1).mp eb
  rw [cmp_spec m a b ha hb, cmp_spec m a' b' ha' hb', i1, i2]

/-- Re-zoning either operand to any legal offsets never changes a comparison. -/
theorem C02_cmp_rezone_invariant (m : Mode) (a b : TP) (z1 z2 : TZ) (ha : a.Valid m) (hb : b.Valid m)
    (hz1 : z1.Valid) (hz2 : z2.Valid) :
    ∃ a' b', toTimeZone m a z1 = some a' ∧ toTimeZone m b z2 = some b' ∧ cmp m a' b' = cmp m a b := by
  obtain ⟨a', e1, i1, _, _, v1, _⟩ := toTimeZone_spec m a z1 ha hz1
  obtain ⟨b', e2, i2, _, _, v2, _⟩ := toTimeZone_spec m b z2 hb hz2
  refine ⟨a', b', e1, e2, ?_⟩
  rw [cmp_spec m a' b' v1 v2, cmp_spec m a b ha hb, i1, i2]

example : cmp .greg ⟨.week 2020 53 7, 24, 0, 0, ⟨5, 30⟩⟩ ⟨.cal 2021 1 3, 18, 30, 0, ⟨0, 0⟩⟩ = some 0 ∧
    cmp .greg ⟨.ord 2021 3, 18, 29, 59, ⟨0, 0⟩⟩ ⟨.week 2020 53 7, 24, 0, 0, ⟨5, 30⟩⟩ = some (-1) := by
  decide +kernel

end IsoDT.Props.C02
