/-
  C19 (evaluating model) — The command line prints exactly what the library computes.

  `Model.Cli2.cliEval env args` is what `main(argv)` prints (or how it fails) for ISO 8601 input,
  composed from the value models of the library (point parser with dump_as_parsed, strptime for the
  two built-in ISO-like formats, duration parser and `str`, point
  arithmetic, recurrences, dumper, strftime).  The driver op `clieval` runs it; it was compared with
  the real `metomi.isodatetime.main.main(argv)` in-process on generated command lines.  The
  theorems below are about that function:

    C19_eval_shift        one date-time + offsets: the line is the (print | as-parsed) format of
                          the left fold of `+` over the signed offsets, starting at the parsed point
    C19_eval_as_written   no offsets, no print format: a complete date form + whole-unit time form
                          (+ zone form), in any of the parser's notations, prints back letter for
                          letter (through C07c's dump_as_parsed round trip)
    C19_eval_diff         two date-times: the line is `str(D)` for the signed D with first + D at
                          the instant of second (C04/C02); `--as-total=U` prints `repr(seconds / U)`
    C19_eval_as_total     a duration + `--as-total=U`
    C19_eval_recurrence   a recurrence: the first N points in order, each through the print format
                          (`C19_eval_recurrence_format`)
    C19_eval_errors_*     every component failure is the command's failure: exit with a message
    C19_eval_outcomes     no other outcome: printed lines | exit-with-message | outside the model |
                          exactly two traceback paths of the Python that exists (both witnessed)
    C19_eval_never_arith  no point operation ever fails (`ExitClass.arith` is unreachable)
    C19_eval_no_traceback_partial_known_calendar
                          with a known calendar and a print format (or no recurrence): no traceback

  Domain of the model: see the header of `Model/Cli2.lean`.  The local time zone and Python's
  `repr(float)` are parameters (`Env.localTZ`, `Env.floatRepr`).
-/
import IsoDT.Lemmas.Cli2
import IsoDT.Props.C19
import IsoDT.Props.C10
import IsoDT.Props.C07c

namespace IsoDT.Props.C19b
open IsoDT IsoDT.Model IsoDT.Model.Cli IsoDT.Model.Cli2 IsoDT.Lemmas IsoDT.Lemmas.Cli2
open IsoDT.Spec (Date TZ TP)
open IsoDT.Props.C19

theorem not_stdin_of_single (a : Args) (i : Str) (hi : a.items = [i]) (hd : i ≠ ['-']) : a.items ≠ [['-']] := by
  rw [hi]; intro h; exact hd (List.cons.inj h).1

/-- **C19_eval_shift.**  A date-time argument `i` (not `now`, not a recurrence) with any number of
    offsets: let `P` be what `date_parse` reads (`P.tp` the point, `P.fmt` the notation it was
    written in) and `ds` the signed durations of the offsets in the order given.  Then
    `q = P.tp + ds₁ + ds₂ + …` exists, is a real date-time in the zone of `P.tp`, and the command
    prints exactly one line: `q` in the print format if one is given, otherwise in `P.fmt` —
    "printed shifted by those offsets in the same notation it was written in unless a print format
    is given".  (`formatPoint` is `date_format`: `%` formats through strftime, others through the
    dumper.) -/
theorem C19_eval_shift (env : Env) (a : Args) (i : Str) (st : Setup) (P : Parsed) (ds : List Dur)
    (hv : a.version = false) (hi : a.items = [i]) (hdash : i ≠ ['-']) (hr : i.head? ≠ some 'R')
    (ht : a.asTotal = none) (hst : setup env a = .ok st) (hl : env.localTZ.Valid)
    (hp : dateParse st i = .ok P) (hd : offsetDurs st.mode (readOffsets a.offsets1) = .ok ds) :
    ∃ q, addAll st.mode P.tp ds = .ok q ∧ q.Valid st.mode ∧ q.tz = P.tp.tz ∧
      cliEval env a =
        (formatPoint st.mode P.ned q ((given a.printFormat).getD P.fmt)).map fun s => [s] := by
  have hloc := setup_loc hst hl
  have hpv := (dateParse_fine st i hloc).ok hp
  obtain ⟨q, hq, hqv, hqt⟩ := addAll_valid st.mode ds P.tp hpv
  refine ⟨q, hq, hqv, hqt, ?_⟩
  rw [cliEval_eq env a st hv (not_stdin_of_single a i hi hdash) hst, C19_shift a i hv hi hr ht]
  simp only [evalPlan, shiftPrint, hp, applyOffsets_eq st.mode _ P.tp hpv, hd, Except.bind, hq]

/-- The offsets really are read as C19 says: in order, empty ones skipped, `\` protection removed,
    a leading `-` negating the duration that follows. -/
theorem C19_eval_offset_meaning (m : Mode) (o : Offset) (d : Dur) (hp : plain o.duration = true)
    (h : DurText.parse m o.duration = .ok d) :
    offsetDur m o = .ok (if o.negative then d.mul (-1) else d) := by
  unfold offsetDur
  simp [hp, h]

/-- `date_diff` and `date_diff_format` on valid points: there is a signed duration `D` of days,
    hours, minutes and seconds, as long as the signed distance from `p1` to `p2`, such that the sign
    and the non-negative duration the operator handles spell `str(D)` (`"-" + str(-D)` is `str(D)`
    for a negative `D`, C10). -/
theorem dateDiff_signed (m : Mode) (p1 p2 : TP) (h1 : p1.Valid m) (h2 : p2.Valid m) :
    ∃ neg A dd hh mm ss, dateDiff m p1 p2 = .ok (neg, A) ∧
      signText neg ++ DurText.toText A = DurText.toText (.units 0 0 dd hh mm ss) ∧
      86400 * dd + 3600 * hh + 60 * mm + ss = p2.inst m - p1.inst m ∧
      C10.SingleSigned (.units 0 0 dd hh mm ss) ∧ C10.TimeExact (.units 0 0 dd hh mm ss) := by
  obtain ⟨neg, dd, hh, mm, ss, hdd, ⟨b1, b2, b3, b4, b5, b6, b7⟩, hlen, hneg⟩ := dateDiff_spec m p1 p2 h1 h2
  have hex := C10.timeExact_of_lt 0 0 dd hh mm ss (by omega) (by omega) (by omega)
  cases neg with
  | false => exact ⟨false, _, dd, hh, mm, ss, hdd, rfl, hlen, .inl ⟨Int.le_refl 0, Int.le_refl 0, b1, b2, b4, b6⟩, hex⟩
  | true =>
    have hlt := hneg rfl
    simp only [↓reduceIte] at hlen
    have n1 := Int.neg_nonpos_of_nonneg b1
    have n2 := Int.neg_nonpos_of_nonneg b2
    have n4 := Int.neg_nonpos_of_nonneg b4
    have n6 := Int.neg_nonpos_of_nonneg b6
    refine ⟨true, _, -dd, -hh, -mm, -ss, hdd, ?_, by omega, .inr ⟨Int.le_refl 0, Int.le_refl 0, n1, n2, n4, n6⟩,
      by simpa only [C10.TimeExact, Int.natAbs_neg] using hex⟩
    -- `"-" + str(A)` is `str(-A)`: `-A` is not empty and has no positive slot
    have hnz : (Dur.units 0 0 (-dd) (-hh) (-mm) (-ss)).nonzero = true := by
      simp only [Dur.nonzero, Bool.or_eq_true, bne_iff_ne, ne_eq]
      omega
    have hfn : DurText.fullyNegLoop (DurText.comps (.units 0 0 (-dd) (-hh) (-mm) (-ss))) false = true := by
      rw [DurText.fnl_nonpos]
      · simp only [DurText.comps, Bool.false_or, List.any_cons, List.any_nil, Bool.or_false, Bool.or_eq_true,
          decide_eq_true_eq]
        omega
      · simp only [DurText.comps, List.forall_mem_cons]
        exact ⟨Int.le_refl 0, Int.le_refl 0, n1, n2, n4, n6, fun _ h => nomatch h⟩
    rw [C10.C10_str_negative _ hnz hfn]
    simp only [signText, ↓reduceIte, List.singleton_append, Dur.abs, Int.natAbs_neg, Int.natAbs_zero,
      Int.natAbs_of_nonneg b1, Int.natAbs_of_nonneg b2, Int.natAbs_of_nonneg b4, Int.natAbs_of_nonneg b6]
    rfl

/-- **C19_eval_diff.**  Two date-time arguments (the first shifted by the `--offset1`s, the second
    by the `--offset2`s, giving `q1`, `q2`), no print format: there is a signed duration `D` of
    days, hours, minutes and seconds with

      * `q1 + D` lands on the instant of `q2` and compares equal to it (C04, C02), and `D`'s length
        in seconds is the signed distance between the instants;
      * without `--as-total` the command prints exactly `str(D)`;
      * with `--as-total=U` (U one of `s m h S M H`, distance below 2^53 s) it prints
        `repr(seconds(D) / unitSeconds(U))` (`Env.floatRepr`, Python's float formatting). -/
theorem C19_eval_diff (env : Env) (a : Args) (i1 i2 : Str) (rest : List Str) (st : Setup)
    (P1 P2 : Parsed) (ds1 ds2 : List Dur)
    (hv : a.version = false) (hi : a.items = i1 :: i2 :: rest) (hst : setup env a = .ok st)
    (hl : env.localTZ.Valid) (hp1 : dateParse st i1 = .ok P1) (hp2 : dateParse st i2 = .ok P2)
    (hd1 : offsetDurs st.mode (readOffsets a.offsets1) = .ok ds1)
    (hd2 : offsetDurs st.mode (readOffsets a.offsets2) = .ok ds2) (hpf : given a.printFormat = none) :
    ∃ q1 q2 D, addAll st.mode P1.tp ds1 = .ok q1 ∧ addAll st.mode P2.tp ds2 = .ok q2 ∧
      q1.Valid st.mode ∧ q2.Valid st.mode ∧
      (∃ r, addDur st.mode q1 D = some r ∧ r.inst st.mode = q2.inst st.mode ∧ cmp st.mode r q2 = some 0) ∧
      D.isExact = true ∧ D.exactSeconds st.mode = q2.inst st.mode - q1.inst st.mode ∧
      (given a.asTotal = none → cliEval env a = .ok [DurText.toText D]) ∧
      (∀ u k, given a.asTotal = some u → plain u = true → unitDivisor u = some k →
        (q2.inst st.mode - q1.inst st.mode).natAbs < 2 ^ 53 →
        cliEval env a = .ok [env.floatRepr (q2.inst st.mode - q1.inst st.mode) k]) := by
  have hss := setup_spec env a st hst
  have hloc := setup_loc hst hl
  have hpv1 := (dateParse_fine st i1 hloc).ok hp1
  have hpv2 := (dateParse_fine st i2 hloc).ok hp2
  obtain ⟨q1, hq1, hv1, _⟩ := addAll_valid st.mode ds1 P1.tp hpv1
  obtain ⟨q2, hq2, hv2, _⟩ := addAll_valid st.mode ds2 P2.tp hpv2
  obtain ⟨neg, A, dd, hh, mm, ss, hdd, htext, hlen, hsg, hex⟩ := dateDiff_signed st.mode q1 q2 hv1 hv2
  have hne : a.items ≠ [['-']] := by rw [hi]; intro h; cases h
  have hsec : (Dur.units 0 0 dd hh mm ss).exactSeconds st.mode = q2.inst st.mode - q1.inst st.mode := by
    simp only [Dur.exactSeconds, secondsInDay_eq, secondsInHour_eq, secondsInMinute_eq]
    omega
  have hcli : cliEval env a =
      (match given a.asTotal with
       | some u => formatDurationStr st (DurText.toText (.units 0 0 dd hh mm ss)) u
       | none => .ok (DurText.toText (.units 0 0 dd hh mm ss))).map fun s => [s] := by
    rw [cliEval_eq env a st hv hne hst, C19_diff a i1 i2 rest hv hi]
    simp only [evalPlan, diffPrint, hp1, hp2, applyOffsets_eq st.mode _ _ hpv1, hd1,
      applyOffsets_eq st.mode _ _ hpv2, hd2, Except.bind, hq1, hq2, hdd, hpf, htext]
    cases given a.asTotal <;> rfl
  refine ⟨q1, q2, _, hq1, hq2, hv1, hv2, addDur_lands st.mode q1 q2 hv1 hv2 dd hh mm ss hlen, rfl, hsec, ?_, ?_⟩
  · intro hnone
    rw [hcli, hnone]; rfl
  · intro u k hu hpu hk hsmall
    -- str(D) parses back to D (C10), so the total is D's length in seconds
    obtain ⟨hparse, _⟩ := C10.C10_roundtrip st.mode _ hsg hex
    have hpl := toText_plain (.units 0 0 dd hh mm ss)
    rw [hpl.2.symm, C10.normal_units] at hparse
    have hs : (Dur.units 0 0 dd hh mm ss).seconds st.mode = q2.inst st.mode - q1.inst st.mode := hsec
    rw [hcli, hu]
    simp only [formatDurationStr_ok st _ u _ hpl.1 hpu hparse (by rw [hs]; exact hsmall), hk, Except.map,
      totalText, hs, hss.2.2.2.2.1]

/-- **C19_eval_as_total.**  A single duration argument with `--as-total=U`: the duration parser's
    value `d` of the argument (backslashes removed) is printed as `seconds(d) / unitSeconds(U)`:
    a week-form duration in seconds is a Python `int`, everything else `repr` of a float; a unit
    other than `s m h S M H` is refused with a message. -/
theorem C19_eval_as_total (env : Env) (a : Args) (i u : Str) (st : Setup) (d : Dur)
    (hv : a.version = false) (hi : a.items = [i]) (hdash : i ≠ ['-']) (hr : i.head? ≠ some 'R')
    (ht : a.asTotal = some u) (hu : u ≠ []) (hst : setup env a = .ok st)
    (hpi : plain i = true) (hpu : plain u = true) (hparse : DurText.parse st.mode (unescape i) = .ok d)
    (hsmall : (d.seconds st.mode).natAbs < 2 ^ 53) :
    cliEval env a =
      (match unitDivisor u with
       | some k => .ok [totalText st d k]
       | none => .error (.exit .unit)) ∧
    (∀ w, d = .weeks w → totalText st d 1 = DurText.intText (d.seconds st.mode)) ∧
    (∀ k, (∀ w, d ≠ .weeks w) ∨ k ≠ 1 → totalText st d k = env.floatRepr (d.seconds st.mode) k) := by
  refine ⟨?_, ?_, ?_⟩
  · rw [cliEval_eq env a st hv (not_stdin_of_single a i hi hdash) hst, C19_as_total a i u hv hi hr ht]
    have hue : u.isEmpty = false := by
      cases u with
      | nil => exact absurd rfl hu
      | cons _ _ => rfl
    simp only [evalPlan, hue, Bool.false_eq_true, ↓reduceIte,
      formatDurationStr_ok st i u d hpi hpu hparse hsmall]
    cases unitDivisor u <;> rfl
  · intro w hw; subst hw; rfl
  · intro k hk
    have hf := (setup_spec env a st hst).2.2.2.2.1
    unfold totalText
    split
    · rename_i w
      rcases hk with hk | hk
      · exact absurd rfl (hk w)
      · exact absurd rfl hk
    · rw [hf]

/-- **C19_eval_recurrence.**  A recurrence argument that `TimeRecurrenceParser` reads as `R`: with
    `n` = `--max` (at least 1), the command prints the first `n` points of `R` (fewer if it has
    fewer) in iteration order — the same points, in the same order, as the first `n` of any longer
    run — one per line, each through the print format if given and `str()` otherwise; a point that
    cannot be printed is the command's failure. -/
theorem C19_eval_recurrence (env : Env) (a : Args) (i : Str) (st : Setup) (R : ParsedRec)
    (hv : a.version = false) (hi : a.items = [i]) (hr : i.head? = some 'R')
    (hst : setup env a = .ok st) (hR : parseRec st i = .ok R) :
    let n := printedCount a.maxResults none
    let pts := iter st.mode R.r n
    cliEval env a = mapRes (formatRecPoint st.mode R.ned a.printFormat) pts ∧
    pts.length ≤ n ∧ (∀ k, pts = (iter st.mode R.r (n + k)).take n) ∧
    (∀ lines, cliEval env a = .ok lines → lines.length = pts.length ∧
      ∀ (j : Nat) (h1 : j < pts.length) (h2 : j < lines.length),
        formatRecPoint st.mode R.ned a.printFormat pts[j] = .ok lines[j]) := by
  intro n pts
  have hdash : i ≠ ['-'] := by intro e; subst e; simp at hr
  have hcli : cliEval env a = mapRes (formatRecPoint st.mode R.ned a.printFormat) pts := by
    rw [cliEval_eq env a st hv (not_stdin_of_single a i hi hdash) hst, C19_recurrence a i hv hi hr]
    simp only [evalPlan, recPrint, hR]
    rfl
  refine ⟨hcli, iter_length_le_fuel _ _ _, fun k => iter_take _ _ _ k, ?_⟩
  intro lines hl
  rw [hcli] at hl
  exact mapRes_ok _ _ _ hl

/-- How the print format applies to a recurrence point. -/
theorem C19_eval_recurrence_format (m : Mode) (ned : Nat) (pf : Option Str) (p : TP) :
    (∀ f, given pf = some f → formatRecPoint m ned pf p = formatPoint m ned p f) ∧
    (given pf = none → formatRecPoint m ned pf p = strPoint m ned p) := by
  refine ⟨fun f h => ?_, fun h => ?_⟩ <;> simp [formatRecPoint, h]

/-- **C19_eval_errors (items).**  An item that cannot be read is the command's failure, and that
    failure is benign: an exit with a message (or an input outside the model) — never a traceback.
    Covers the single date-time shape; `C19_eval_errors_diff` the two-item shape. -/
theorem C19_eval_errors_item (env : Env) (a : Args) (i : Str) (st : Setup) (f : Fail)
    (hv : a.version = false) (hi : a.items = [i]) (hdash : i ≠ ['-']) (hr : i.head? ≠ some 'R')
    (ht : a.asTotal = none) (hst : setup env a = .ok st) (hl : env.localTZ.Valid)
    (hp : dateParse st i = .error f) : cliEval env a = .error f ∧ Benign f := by
  have hloc := setup_loc hst hl
  refine ⟨?_, (dateParse_fine st i hloc).error hp⟩
  rw [cliEval_eq env a st hv (not_stdin_of_single a i hi hdash) hst, C19_shift a i hv hi hr ht]
  simp only [evalPlan, shiftPrint, hp]
  rfl

/-- What "cannot be read" means for an ISO 8601 text: neither built-in strptime format applies and
    the ISO 8601 parser refuses it; the command then exits with the parser's message. -/
theorem C19_eval_errors_point (st : Setup) (s : Str) (hp : plain s = true) (hr : s ≠ "ref".toList)
    (hn : s ≠ "now".toList) (h1 : tryStrp st s fmtExt = none) (h2 : tryStrp st s fmtBasic = none)
    (h3 : Text.parse st.textCfg s true = none) : dateParse st s = .error (.exit .point) := by
  rw [dateParse_plain st s hp hr hn, parseAny_none st s h1 h2, parseIso, h3]
  rfl

/-- **C19_eval_errors (offsets).**  A malformed offset anywhere in the list (those before it being
    durations) ends the command with "bad offset value". -/
theorem C19_eval_errors_offset (env : Env) (a : Args) (i : Str) (st : Setup) (P : Parsed)
    (pre post : List Offset) (o : Offset) (ds : List Dur)
    (hv : a.version = false) (hi : a.items = [i]) (hdash : i ≠ ['-']) (hr : i.head? ≠ some 'R')
    (ht : a.asTotal = none) (hst : setup env a = .ok st) (hl : env.localTZ.Valid)
    (hp : dateParse st i = .ok P) (hoffs : readOffsets a.offsets1 = pre ++ o :: post)
    (hpre : offsetDurs st.mode pre = .ok ds) (hplain : plain o.duration = true)
    (hbad : DurText.parse st.mode o.duration = .syntaxErr ∨ DurText.parse st.mode o.duration = .valueErr) :
    cliEval env a = .error (.exit .offset) := by
  have hloc := setup_loc hst hl
  rw [cliEval_eq env a st hv (not_stdin_of_single a i hi hdash) hst, C19_shift a i hv hi hr ht]
  simp only [evalPlan, shiftPrint, hp, hoffs, applyOffsets_eq st.mode _ P.tp ((dateParse_fine st i hloc).ok hp),
    offsetDurs_bad st.mode pre o post _ (offsetDur_bad st.mode o hplain hbad) ds hpre]
  rfl

/-- **C19_eval_errors (two items).**  With two items, the first failure in the order
    item 1, item 2, offsets of item 1, offsets of item 2 is the command's failure. -/
theorem C19_eval_errors_diff (env : Env) (a : Args) (i1 i2 : Str) (rest : List Str) (st : Setup)
    (hv : a.version = false) (hi : a.items = i1 :: i2 :: rest) (hst : setup env a = .ok st) :
    (∀ f, dateParse st i1 = .error f → cliEval env a = .error f) ∧
    (∀ P1 f, dateParse st i1 = .ok P1 → dateParse st i2 = .error f → cliEval env a = .error f) ∧
    (∀ P1 P2 f, dateParse st i1 = .ok P1 → dateParse st i2 = .ok P2 →
      applyOffsets st.mode P1.tp (readOffsets a.offsets1) = .error f → cliEval env a = .error f) ∧
    (∀ P1 P2 q1 f, dateParse st i1 = .ok P1 → dateParse st i2 = .ok P2 →
      applyOffsets st.mode P1.tp (readOffsets a.offsets1) = .ok q1 →
      applyOffsets st.mode P2.tp (readOffsets a.offsets2) = .error f → cliEval env a = .error f) := by
  have hne : a.items ≠ [['-']] := by rw [hi]; intro h; cases h
  have e := cliEval_eq env a st hv hne hst
  rw [C19_diff a i1 i2 rest hv hi] at e
  refine ⟨?_, ?_, ?_, ?_⟩
  · intro f h1; rw [e]; simp only [evalPlan, diffPrint, h1]; rfl
  · intro P1 f h1 h2; rw [e]; simp only [evalPlan, diffPrint, h1, h2]; rfl
  · intro P1 P2 f h1 h2 h3; rw [e]; simp only [evalPlan, diffPrint, h1, h2, h3]; rfl
  · intro P1 P2 q1 f h1 h2 h3 h4; rw [e]; simp only [evalPlan, diffPrint, h1, h2, h3, h4]; rfl

/-- **C19_eval_errors (recurrence).**  A recurrence text that cannot be read (no regex matches, an
    end point / interval that is not one, a constructor refusal) is the command's failure, with a
    message. -/
theorem C19_eval_errors_recurrence (env : Env) (a : Args) (i : Str) (st : Setup) (f : Fail)
    (hv : a.version = false) (hi : a.items = [i]) (hr : i.head? = some 'R')
    (hst : setup env a = .ok st) (hR : parseRec st i = .error f) :
    cliEval env a = .error f ∧ Benign f := by
  have hdash : i ≠ ['-'] := by intro e; subst e; simp at hr
  refine ⟨?_, parseRec_benign st i f hR⟩
  rw [cliEval_eq env a st hv (not_stdin_of_single a i hi hdash) hst, C19_recurrence a i hv hi hr]
  simp only [evalPlan, recPrint, hR]

/-- **C19_eval_errors (unit).**  An `--as-total` unit other than `s m h S M H` is refused with a
    message (after the duration was read; `argparse` already restricts the option's values). -/
theorem C19_eval_errors_unit (st : Setup) (text unit : Str) (d : Dur) (hp : plain text = true)
    (hpu : plain unit = true) (hparse : DurText.parse st.mode (unescape text) = .ok d)
    (hsmall : (d.seconds st.mode).natAbs < 2 ^ 53) (hu : unitDivisor unit = none) :
    formatDurationStr st text unit = .error (.exit .unit) := by
  rw [formatDurationStr_ok st text unit d hp hpu hparse hsmall, hu]

/-- **C19_eval_outcomes: there is no other outcome.**  `cliEval` is a total function, so every
    invocation has an outcome; if it is not a list of printed lines it is one of: a benign failure
    (exit with a message, or outside the model), the `KeyError` of an unknown calendar name, or the
    `OverflowError` of `str()` on a recurrence point without a print format.  The last two are
    tracebacks of the Python that exists — "never a traceback" is FALSE of the code; see the
    witnesses below. -/
theorem C19_eval_outcomes (env : Env) (a : Args) (hl : env.localTZ.Valid) :
    (∃ lines, cliEval env a = .ok lines) ∨
    (∃ f, cliEval env a = .error f ∧ Benign f) ∨
    (cliEval env a = .error (.traceback .keyError) ∧
      resolveMode (ctxOf a env.envCalendar env.envRef).calendar = .error (.traceback .keyError)) ∨
    (cliEval env a = .error (.traceback .overflowError) ∧ given a.printFormat = none ∧
      ∃ i, plan a = .recurrence i a.printFormat a.maxResults) := by
  cases h : cliEval env a with
  | ok lines => exact .inl ⟨lines, rfl⟩
  | error f =>
    rcases cliEval_error_cases env a f hl h with h' | ⟨h1, h2⟩ | ⟨h1, h2⟩
    · exact .inr (.inl ⟨f, rfl, h'⟩)
    · subst h1; exact .inr (.inr (.inl ⟨rfl, h2⟩))
    · subst h1; exact .inr (.inr (.inr ⟨rfl, h2⟩))

/-- **No point operation ever fails**: conversion to UTC, adding offsets, comparing and
    subtracting are total on the points the command reads (C01, C02, C04), so the command never
    ends in `ExitClass.arith`. -/
theorem C19_eval_never_arith (env : Env) (a : Args) (hl : env.localTZ.Valid) :
    cliEval env a ≠ .error (.exit .arith) := by
  intro h
  rcases cliEval_error_cases env a _ hl h with h' | ⟨h1, _⟩ | ⟨h1, _⟩
  · exact h'
  · cases h1
  · cases h1

/-- With a recognised calendar name (or none) and a print format, or for any argument that is not
    a recurrence, the command never ends in a traceback. -/
theorem C19_eval_no_traceback_partial_known_calendar (env : Env) (a : Args) (hl : env.localTZ.Valid)
    (t : TbClass) (m : Mode) (hcal : resolveMode (ctxOf a env.envCalendar env.envRef).calendar = .ok m)
    (hrec : given a.printFormat ≠ none ∨ ∀ i, plan a ≠ .recurrence i a.printFormat a.maxResults) :
    cliEval env a ≠ .error (.traceback t) := by
  intro h
  rcases cliEval_error_cases env a _ hl h with h' | ⟨_, h2⟩ | ⟨_, h2, i, h3⟩
  · exact h'
  · rw [hcal] at h2; cases h2
  · rcases hrec with h4 | h4
    · exact h4 h2
    · exact h4 i h3

section asWritten
open IsoDT.Text IsoDT.Props.C07
open _root_.IsoDT.Gen.Templates (parserTables dumper_0 dumper_2 timeDesignator)

theorem defaultTables_ned : defaultTables.ned = 2 := by rw [defaultTables_eq]; rfl

theorem entries_plainSp :
    (∀ de ∈ defaultTables.dateEntries, plainSp de.expr = true) ∧
    (∀ te ∈ defaultTables.timeEntries, plainSp te.expr = true) ∧
    (∀ ze ∈ defaultTables.zoneEntries, plainSp ze.expr = true) := by decide +kernel

theorem fmtOf_plainSp (de te : Entry) (zo : Option ZEntry) (hde : de ∈ defaultTables.dateEntries)
    (hte : te ∈ defaultTables.timeEntries) (hzo : ∀ ze, zo = some ze → ze ∈ defaultTables.zoneEntries) :
    plainSp (fmtOf de (some te) zo) = true := by
  have hz : plainSp (zexprO zo) = true := by
    cases zo with
    | none => rfl
    | some ze => exact entries_plainSp.2.2 ze (hzo ze rfl)
  have hd := entries_plainSp.1 de hde
  have ht := entries_plainSp.2.1 te hte
  unfold plainSp at hd ht hz ⊢
  simp only [fmtOf, List.all_append, List.all_cons, hd, ht, hz]
  decide

theorem dumpTablesFor_2_0 : dumpTablesFor 2 = some dumper_2 ∧ dumpTablesFor 0 = some dumper_0 := ⟨by rfl, by rfl⟩

theorem dumper_2_mem : dumper_2 ∈ Gen.Templates.dumpTables := .tail _ (.head _)

/-- The command's dumper (2 expanded year digits) and the dumper for none differ in their date rules
    only (`Custom.time_rules_same`, `Custom.zone_rules_same`), and those compile the complete date
    expressions without expanded year digits alike. -/
theorem date_compile_agree : ∀ de ∈ defaultTables.dateEntries, de.typ = .complete →
    hasGroup de.tmpl .expandedYear = false →
      timeDesignator ∉ de.expr ∧
      compile dumper_2.date (de.expr.map .raw) = compile dumper_0.date (de.expr.map .raw) := by
  decide +kernel

/-- For a date form WITHOUT expanded year digits the point carries 0 expanded digits, and `str` would
    use the dumper for 0 digits: the command's dumper compiles the as-parsed expression text to the
    same printf expression. -/
theorem getExpr_dumper_2_0 (de : Entry) (hde : de ∈ defaultTables.dateEntries) (hdc : de.typ = .complete)
    (hg : hasGroup de.tmpl .expandedYear = false) (te : Entry) (zo : Option ZEntry) :
    getExpr dumper_2 (fmtOf de (some te) zo) = getExpr dumper_0 (fmtOf de (some te) zo) := by
  obtain ⟨hT, hc⟩ := date_compile_agree de hde hdc hg
  refine getExpr_congr _ _ _ (Custom.time_rules_same _ dumper_2_mem) (Custom.zone_rules_same _ dumper_2_mem) ?_
  rw [fmtOf, splitOnChar_head _ _ _ hT]
  exact hc

theorem dumpExpr_ned (m : Mode) (d d' : DumpTables) (p : XTP) (e : Expr)
    (h : e.props.contains .expandedYearDigits = false) : dumpExpr m d p e = dumpExpr m d' p e := by
  have : ∀ q, Custom.finishStep m d q e = Custom.finishStep m d' q e := by
    intro q
    unfold Custom.finishStep
    have h' : ¬ DProp.expandedYearDigits ∈ e.props := by simpa using h
    simp [h']
  simp only [Custom.dumpExpr_steps, this]

/-- The command's dumper prints an as-parsed format of its parser as the dumper `str` would use for
    the parsed point does (the one for the point's own number of expanded year digits): they are the
    same dumper, or the form has no expanded year and the two compile and print it alike. -/
theorem dump_dumper_2 (m : Mode) (de : Entry) (hde : de ∈ defaultTables.dateEntries) (hdc : de.typ = .complete)
    (te : Entry) (zo : Option ZEntry) (dt : DumpTables) (e : Expr)
    (hdt : dumpTablesFor (nedOf defaultTables de.tmpl) = some dt)
    (he : getExpr dt (fmtOf de (some te) zo) = some e)
    (hpct : (fmtOf de (some te) zo).contains '%' = false)
    (hprops : e.props.contains .expandedYearDigits = hasGroup de.tmpl .expandedYear) (x : XTP) :
    dump m dumper_2 x (fmtOf de (some te) zo) = dumpExpr m dt x e := by
  unfold dump
  rw [hpct]
  cases hg : hasGroup de.tmpl .expandedYear with
  | true =>
    obtain rfl : dumper_2 = dt := by
      simp only [nedOf, hg, ↓reduceIte, defaultTables_ned, dumpTablesFor_2_0.1] at hdt
      exact Option.some.inj hdt
    rw [he]
    rfl
  | false =>
    obtain rfl : dumper_0 = dt := by
      simp only [nedOf, hg, Bool.false_eq_true, ↓reduceIte, dumpTablesFor_2_0.2] at hdt
      exact Option.some.inj hdt
    rw [getExpr_dumper_2_0 de hde hdc hg te zo, he]
    exact dumpExpr_ned m dumper_2 dumper_0 x e (by rw [hprops, hg])

/-- **C19_eval_as_written — "in the same notation it was written in", to the letter.**
    Take any complete date form `de` of the command's parser (calendar, ordinal or week date; basic
    or extended; with or without a signed expanded year), any non-truncated time form `te` of the
    same format without a decimal fraction (`hh`, `hhmm`, `hhmmss` / `hh:mm`, `hh:mm:ss`), any zone
    form `zo` of that format or none, and any values `v` that fit the widths and form a real
    date-time of the selected calendar mode; let `s` be the text these forms spell for `v` (no `-` on
    an all-zero year or zone).  If `s` is not one of the two notations the built-in strptime formats
    read (`tryStrp … = none`; those are printed through strftime instead), then
    `isodatetime s` — no offsets, no print format, no `--utc` — prints exactly `s`. -/
theorem C19_eval_as_written (env : Cli2.Env) (a : Cli.Args) (st : Setup) (s : Str)
    (de : Entry) (hde : de ∈ defaultTables.dateEntries) (hdc : de.typ = .complete)
    (te : Entry) (hte : te ∈ defaultTables.timeEntries) (htt : te.typ ≠ .truncated) (htf : te.fmt = de.fmt)
    (hnd : ∀ f, isDecFld f = true → hasGroup te.tmpl f = false)
    (zo : Option ZEntry) (hzo : ∀ ze, zo = some ze → ze ∈ defaultTables.zoneEntries ∧ ze.fmt = de.fmt)
    (v : Vals) (hvf : v.Fit 2) (tz : TZ)
    (hz : mkTZ st.mode ((zoneOf st.textCfg.zone (zo.map (·.tmpl)) v).hour.getD 0)
      ((zoneOf st.textCfg.zone (zo.map (·.tmpl)) v).minute.getD 0) = some tz)
    (hvalid : (dateOf de.tmpl v).Valid st.mode ∧ TimeValid te.tmpl v)
    (hy0 : v.yearNeg = true → yearOf de.tmpl v ≠ 0) (hz0 : v.tzNeg = true → zoneZero (ztmplO zo) v = false)
    (hs : s = formText de te zo v)
    (hv : a.version = false) (hi : a.items = [s]) (hoffs : readOffsets a.offsets1 = [])
    (hpf : given a.printFormat = none) (ht : a.asTotal = none) (hutc : a.utc = false)
    (hst : setup env a = .ok st) (hl : env.localTZ.Valid)
    (hplain : plain s = true) (hR : s.head? ≠ some 'R') (hdash : s ≠ ['-'])
    (href : s ≠ "ref".toList) (hnow : s ≠ "now".toList)
    (h1 : tryStrp st s fmtExt = none) (h2 : tryStrp st s fmtBasic = none) :
    cliEval env a = .ok [s] := by
  have hss := setup_spec env a st hst
  have hutc' : st.utc = false := by rw [hss.2.1]; exact hutc
  have hpt : st.textCfg.pt ∈ parserTables := defaultTables_mem
  have hned : st.textCfg.pt.ned = 2 := defaultTables_ned
  have hx0 : st.textCfg.pt.ned = 0 → hasGroup de.tmpl .expandedYear = false := by
    intro h; rw [hned] at h; cases h
  have hvf' : v.Fit st.textCfg.pt.ned := by rw [hned]; exact hvf
  obtain ⟨x, hparse, hxeq, _⟩ :=
    C07_as_parsed st.textCfg hpt de hde hdc hx0 te hte htt htf hnd zo hzo v hvf' tz hz hvalid
  obtain ⟨x', hparse', hstr⟩ :=
    C07_as_parsed_same st.textCfg hpt de hde hdc hx0 te hte htt htf hnd zo hzo v hvf' tz hz hvalid hy0 hz0
  obtain rfl : x = x' := Option.some.inj (hparse.symm.trans hparse')
  rw [← hs] at hstr hparse
  -- the parsed point is a whole-second point in one representation
  have hdec : ∀ f d, isDecFld f = true → decOf te.tmpl f d = none := by
    intro f d hf; unfold decOf; rw [hnd f hf]; rfl
  obtain ⟨a0, ha0⟩ := Text.parse_ctor st.textCfg s true x hparse
  obtain ⟨tp, htp⟩ := Text.ctor_toTP st.textCfg.mode a0 x ha0 (by rw [hxeq]; rfl)
    (by rw [hxeq]; exact hdec _ _ rfl) (by rw [hxeq]; exact hdec _ _ rfl) (by rw [hxeq]; exact hdec _ _ rfl)
  have hcanon : Canon x := by
    have hc := dateShape_cases de.tmpl ((decodeFacts _ hpt).dates de hde (by rw [hdc]; decide)).2.2
    simp only [datePattern, Prod.mk.injEq] at hc
    rw [hxeq]
    unfold Canon pointOf fieldOf
    rcases hc with ⟨c1, c2, c3, c4, c5⟩ | ⟨c1, c2, c3, c4, c5⟩ | ⟨c1, c2, c3, c4, c5⟩ |
      ⟨c1, c2, c3, c4, c5⟩ | ⟨c1, c2, c3, c4, c5⟩ | ⟨c1, c2, c3, c4, c5⟩ <;> simp [c1, c2, c3, c4, c5]
  have hfmt : x.dumpFmt = some (formExpr de te zo) := by rw [hxeq]
  have hxned : x.ned = nedOf st.textCfg.pt de.tmpl := by rw [hxeq]; rfl
  -- what `date_parse` returns
  have hparsed : dateParse st s = .ok ⟨tp, x.ned, formExpr de te zo⟩ := by
    rw [dateParse_plain st s hplain href hnow, parseAny_none st s h1 h2]
    simp only [parseIso, hparse, htp, hfmt, Option.getD_some, Except.bind, utcIf, hutc', Bool.false_eq_true,
      ↓reduceIte]
  -- the command prints the point in its as-parsed format
  obtain ⟨q, hq, _, _, hcli⟩ := C19_eval_shift env a s st _ [] hv hi hdash hR ht hst hl hparsed
    (by rw [hoffs]; rfl)
  simp only [addAll, Except.ok.injEq] at hq
  subst hq
  rw [hcli, hpf]
  simp only [Option.getD_none]
  -- … which is what `str` of the parsed point prints
  obtain ⟨hsh, hex⟩ := asParsed_time st.textCfg.pt hpt de hde hdc te hte htt htf zo hzo
  obtain ⟨dt, e, hdt, he, hpct, hne, _, hprops, _⟩ := exprCheck_spec st.textCfg.pt de (some te) zo hex
  have hff : fmtOf de (some te) zo = formExpr de te zo := rfl
  have hpl := fmtOf_plainSp de te zo hde hte (fun ze h => (hzo ze h).1)
  have hstr' : Text.str st.mode x = Text.dumpExpr st.mode dt x e :=
    str_dumpFmt st.mode x dt _ e (by rw [hxned]; exact hdt) hfmt hne hpct he
  have hd : Text.dumpExpr st.mode dt x e = .ok s := by rw [← hstr']; exact hstr
  have hgoal : formatPoint st.mode x.ned tp (formExpr de te zo) = .ok s := by
    unfold formatPoint
    rw [← hff]
    simp only [hpl, Bool.not_true, Bool.false_eq_true, ↓reduceIte, hpct, dumpTablesFor_2_0.1]
    rw [ofTP_of_toTP x tp htp hcanon, core, dump_meta,
      dump_dumper_2 st.mode de hde hdc te zo dt e hdt he hpct (hprops .expandedYear (by decide)) x, hd]
  rw [hgoal]
  rfl

end asWritten

/-! ## Non-vacuity, and witnesses of what the Python that exists does -/

/-- An environment: no variables set, local zone +05:30, `repr` replaced by a marker. -/
def exEnv : Env := ⟨none, none, ⟨5, 30⟩, fun n k => DurText.intText n ++ '/' :: DurText.intText k⟩
def exArgs (items : List String) : Args :=
  ⟨items.map String.toList, none, none, 10, [], [], none, none, none, false, false⟩
def exSetup (m : Mode) (utc : Bool) : Setup := ⟨m, utc, ⟨5, 30⟩, none, exEnv.floatRepr⟩

example : exEnv.localTZ.Valid := by decide

-- C19_eval_shift: hypotheses at a concrete value, and the line
example : ∃ st, setup exEnv (exArgs ["2000-02-28T12:00Z"]) = .ok st ∧ st.mode = .greg ∧ st.utc = false ∧
    st.loc = ⟨5, 30⟩ := ⟨exSetup .greg false, by rfl, rfl, rfl, rfl⟩
example : dateParse (exSetup .greg false) "2000-02-28T12:00Z".toList =
    .ok ⟨⟨.cal 2000 2 28, 12, 0, 0, ⟨0, 0⟩⟩, 0, "CCYY-MM-DDThh:mmZ".toList⟩ := by decide +kernel
example : offsetDurs .greg (readOffsets ["P2D".toList, "\\-PT1H".toList]) =
    .ok [.units 0 0 2 0 0 0, .units 0 0 0 (-1) 0 0] := by decide +kernel
example : cliEval exEnv { exArgs ["2000-02-28T12:00Z"] with offsets1 := ["P2D".toList, "\\-PT1H".toList] } =
    .ok ["2000-03-01T11:00Z".toList] := by decide +kernel
example : cliEval exEnv { exArgs ["2000-W09-1T12+01"] with offsets1 := ["P1M".toList], utc := true } =
    .ok ["2000-W13-2T11+00".toList] := by decide +kernel
def exArgs360 : Args :=
  { exArgs ["2000-02-28T12:00"] with
    offsets1 := ["P2D".toList]
    printFormat := some "CCYY-DDDThh:mm+hh:mm".toList
    calendar := some "360day".toList }
example : cliEval exEnv exArgs360 = .ok ["2000-060T12:00+05:30".toList] := by decide +kernel

-- C19_eval_diff
example : cliEval exEnv (exArgs ["2000-03-01T00Z", "2000-02-28T12:30Z"]) = .ok ["-P1DT11H30M".toList] := by
  decide +kernel
example : cliEval exEnv { exArgs ["2000", "2001"] with asTotal := some "h".toList } = .ok ["31622400/3600".toList] := by
  decide +kernel

-- C19_eval_as_total
example : cliEval exEnv { exArgs ["P1W"] with asTotal := some "s".toList } = .ok ["604800".toList] := by
  decide +kernel
example : cliEval exEnv { exArgs ["\\-PT90M"] with asTotal := some "M".toList } = .ok ["-5400/60".toList] := by
  decide +kernel

-- C19_eval_recurrence
example : cliEval exEnv { exArgs ["R/2000-01-31T00Z/P1M"] with maxResults := 3 } =
    .ok ["2000-01-31T00:00:00Z".toList, "2000-02-29T00:00:00Z".toList, "2000-03-29T00:00:00Z".toList] := by
  decide +kernel
example : cliEval exEnv { exArgs ["R2/P1D/2000-03-01"] with printFormat := some "CCYYMMDD".toList } =
    .ok ["20000229".toList, "20000301".toList] := by decide +kernel

-- C19_eval_errors
example : cliEval exEnv (exArgs ["2000-02-30"]) = .error (.exit .point) := by decide +kernel
example : cliEval exEnv { exArgs ["2000"] with offsets1 := ["P1D".toList, "1H".toList] } =
    .error (.exit .offset) := by decide +kernel
example : cliEval exEnv (exArgs ["R0/2000/P1D"]) = .error (.exit .recurrence) := by decide +kernel
example : cliEval exEnv { exArgs ["+009999"] with offsets1 := ["P1Y".toList], printFormat := some "CCYY".toList } =
    .error (.exit .dump) := by decide +kernel

/-- **"Never a traceback" is false of the code (1)**: a recurrence that walks below year 0 without
    a print format — `isodatetime R/P1Y/0001` — ends in an uncaught `OverflowError` (the third
    point is year -1, which `str()` cannot write without expanded year digits). -/
theorem C19_traceback_witness_overflow :
    cliEval exEnv (exArgs ["R/P1Y/0001"]) = .error (.traceback .overflowError) := by decide +kernel

/-- **"Never a traceback" is false of the code (2)**: `ISODATETIMECALENDAR=bogus isodatetime 2000`
    ends in an uncaught `KeyError` (`Calendar.set_mode` indexes its mode table with the name). -/
theorem C19_traceback_witness_calendar :
    cliEval { exEnv with envCalendar := some "bogus".toList } (exArgs ["2000"]) =
      .error (.traceback .keyError) := by decide +kernel

/-- **Regression (formerly a misread)**: the basic ordinal date-time without a zone,
    `isodatetime -u 2004031T204619` — day 031 of 2004 — used to be read by the `time.strptime`
    fallback of the built-in format `%Y%m%dT%H%M%S` as 2004-03-1 and printed as `20040301T204619`.
    Since the repair (`DateTimeOperator.strptime` falls back only on `StrftimeSyntaxError`) the
    built-in formats refuse it, the ISO 8601 parser reads it, and it is printed as written. -/
theorem C19_ordinal_basic_regression :
    cliEval exEnv { exArgs ["2004031T204619"] with utc := true } = .ok ["2004031T204619".toList] ∧
    dateParse (exSetup .greg true) "2004031T204619".toList =
      .ok ⟨⟨.ord 2004 31, 20, 46, 19, ⟨0, 0⟩⟩, 0, "CCYYDDDThhmmss".toList⟩ ∧
    cliEval exEnv { exArgs ["2004031T204619"] with utc := true, offsets1 := ["P1D".toList] } =
      .ok ["2004032T204619".toList] := by decide +kernel

/-- **Regression**: the reduced basic time `CCYYMMDDThhmm` without a zone, `isodatetime
    20000228T1234` (formerly read as 12:03:04 UTC and printed `20000228T120304`), and the ordinal
    `CCYYDDDThhmm`, `isodatetime 2004101T0101` (formerly `20041001T010001`), print as written, in
    the local zone. -/
theorem C19_reduced_basic_regression :
    cliEval exEnv (exArgs ["20000228T1234"]) = .ok ["20000228T1234".toList] ∧
    dateParse (exSetup .greg false) "20000228T1234".toList =
      .ok ⟨⟨.cal 2000 2 28, 12, 34, 0, ⟨5, 30⟩⟩, 0, "CCYYMMDDThhmm".toList⟩ ∧
    cliEval exEnv (exArgs ["2004101T0101"]) = .ok ["2004101T0101".toList] ∧
    dateParse (exSetup .greg false) "2004101T0101".toList =
      .ok ⟨⟨.ord 2004 101, 1, 1, 0, ⟨5, 30⟩⟩, 0, "CCYYDDDThhmm".toList⟩ := by decide +kernel

/-- The built-in strptime formats still read what they are for (and only that): the full
    extended and basic date-times, kept in their `%` notation; un-padded fields and a lower-case
    `t` (formerly accepted through the fallback) are now refused by every reader. -/
example : dateParse (exSetup .greg false) "2000-02-28T12:34:56".toList =
    .ok ⟨⟨.cal 2000 2 28, 12, 34, 56, ⟨5, 30⟩⟩, 0, "%Y-%m-%dT%H:%M:%S".toList⟩ := by decide +kernel
example : cliEval exEnv (exArgs ["2000-1-1T0:0:0"]) = .error (.exit .point) ∧
    cliEval exEnv (exArgs ["2000-01-01t00:00:00"]) = .error (.exit .point) := by decide +kernel

section
open IsoDT.Text IsoDT.Props.C07 IsoDT.Gen.Templates

def wDate : Entry := ⟨.basic, .complete, "CCYYDDD".toList, t2⟩
def wTime : Entry := ⟨.basic, .complete, "hhmmss".toList, t46⟩
def wVals : Vals := { cc := 20, yy := 4, doy := 31, hour := 20, minute := 46, second := 19 }

example : wDate ∈ defaultTables.dateEntries ∧ wTime ∈ defaultTables.timeEntries ∧
    formText wDate wTime none wVals = "2004031T204619".toList := by decide +kernel

/-- The hypotheses of `C19_eval_as_written` hold for `isodatetime 2004031T204619` (local zone
    +05:30, Gregorian mode): basic ordinal date form, `hhmmss`, no zone. -/
example : cliEval exEnv (exArgs ["2004031T204619"]) = .ok ["2004031T204619".toList] :=
  C19_eval_as_written exEnv (exArgs ["2004031T204619"]) (exSetup .greg false) "2004031T204619".toList
    wDate (by decide +kernel) rfl wTime (by decide +kernel) (by decide) rfl
    (fun f hf => by cases f <;> first | exact absurd hf (by decide) | decide +kernel)
    none (fun ze h => by cases h) wVals (by decide) ⟨5, 30⟩ (by decide +kernel) (by decide +kernel)
    (fun h => absurd h (by decide)) (fun h => absurd h (by decide)) (by decide +kernel)
    rfl rfl (by decide) (by decide) rfl rfl (by rfl) (by decide) (by decide) (by decide) (by decide)
    (by decide) (by decide) (by decide +kernel) (by decide +kernel)
end

end IsoDT.Props.C19b
