/-
  C06 (text side, all literal-zone spellings) — "dumping with a format that spells out a literal zone
  (Z, or a numeric ±hh, ±hhmm, ±hh:mm) … carries exactly the requested offset".

  `Props/C06b` proves this for the literal `±hh:mm` in the three standard extended formats and a dumper
  without expanded digits.  Here: every spelling — `±hh:mm` (extended), `±hhmm` (basic), `±hh` (both;
  whole-hour offsets) and `Z` — in every complete basic or extended format (calendar, ordinal or week
  date, whatever the point's own representation; optionally `+X` and a decimal part), every legal
  offset −99:59 … +99:59 including zero hours with negative minutes (`-00:30`, `-0030`), every
  regenerated dumper table.

  `_get_expression_and_properties` cuts the zone off the time at its sign (`Z`: at the end), asks
  `get_time_zone` — the default `TimePointParser()` — what offset the text spells, and runs the zone
  substitution rules over the literal (only a leading `+` is replaced, by the point's zone sign);
  `_dump_expression_with_properties` re-zones the point to that offset before printing.  The model
  mirrors this (`Text.getExpr`, `getTimeZone`, `dumpExpr`); the theorems below are about the model's
  functions and are instances of the custom-format theorems of `Props/C08c`.
-/
import IsoDT.Props.C06b
import IsoDT.Props.C08c

namespace IsoDT.Props.C06
open IsoDT IsoDT.Model IsoDT.Lemmas IsoDT.Text IsoDT.Text.Custom
open IsoDT.Spec (Date TZ TP)
open _root_.IsoDT.Gen.Templates (dumpTables parserTables dumper_0 dumper_2 dumper_3)

/-- **`get_time_zone`, all spellings**: the dumper reads a literal `±hh:mm`, `±hhmm` or `±hh` spelling a
    legal offset (the hours-only spelling: an offset of whole hours) as exactly that offset — also
    `-00:30` and `-0030`, zero hours with negative minutes, where the sign lives on the minutes alone. -/
theorem C06_literal_zone_read_all (ext : Bool) (s : ZStyle) (z : TZ) (hz : z.Valid)
    (hs : s = .h → z.mi = 0) :
    getTimeZone (zsign z :: zoneDigits ext s z) = some (z.h, z.mi) := getTimeZone_litZone ext s z hz hs

/-- `Z` is UTC (the dumper does not even ask `get_time_zone` for it, but the answer is the same). -/
theorem C06_literal_zone_read_Z : getTimeZone ['Z'] = some (0, 0) := by decide +kernel

example : zsign ⟨0, -30⟩ :: zoneDigits false .hm ⟨0, -30⟩ = "-0030".toList ∧
    getTimeZone (zsign ⟨0, -30⟩ :: zoneDigits false .hm ⟨0, -30⟩) = some (0, -30) :=
  ⟨by decide +kernel, C06_literal_zone_read_all false .hm ⟨0, -30⟩ (by decide) (by decide)⟩
example : zsign ⟨0, -30⟩ :: zoneDigits true .hm ⟨0, -30⟩ = "-00:30".toList ∧
    getTimeZone (zsign ⟨0, -30⟩ :: zoneDigits true .hm ⟨0, -30⟩) = some (0, -30) :=
  ⟨by decide +kernel, C06_literal_zone_read_all true .hm ⟨0, -30⟩ (by decide) (by decide)⟩
example : zsign ⟨-5, 0⟩ :: zoneDigits true .h ⟨-5, 0⟩ = "-05".toList ∧
    getTimeZone (zsign ⟨-5, 0⟩ :: zoneDigits true .h ⟨-5, 0⟩) = some (-5, 0) :=
  ⟨by decide +kernel, C06_literal_zone_read_all true .h ⟨-5, 0⟩ (by decide) (by decide)⟩
example : zsign ⟨99, 59⟩ :: zoneDigits false .hm ⟨99, 59⟩ = "+9959".toList ∧
    getTimeZone (zsign ⟨99, 59⟩ :: zoneDigits false .hm ⟨99, 59⟩) = some (99, 59) :=
  ⟨by decide +kernel, C06_literal_zone_read_all false .hm ⟨99, 59⟩ (by decide) (by decide)⟩

/-- The zone expression spells a zone out: `Z` or a literal numeric offset (not a placeholder). -/
def LiteralZone : ZSpec → Prop
  | .utc => True
  | .lit _ _ => True
  | .own _ => False

def requested : ZSpec → TZ
  | .lit _ z => z
  | _ => ⟨0, 0⟩

theorem target_requested (zs : ZSpec) (h : LiteralZone zs) (p : TP) : zs.target p = requested zs := by
  cases zs with
  | utc => rfl
  | own s => exact absurd h (by simp [LiteralZone])
  | lit s z => rfl

/-- What the dumper extracts from such a format: the literal zone as `custom_time_zone`, the zone text
    kept in the expression with only a leading `+` turned into the zone-sign directive. -/
theorem C06_literal_zone_extracted (dt : DumpTables) (hdt : dt ∈ dumpTables) (f : CFmt) (hf : f.WF dt.ned)
    (hl : LiteralZone f.zone) :
    ∃ e, getExpr dt f.text = some e ∧ e.customTZ = some ((requested f.zone).h, (requested f.zone).mi) := by
  refine ⟨_, getExpr_custom dt hdt f hf, ?_⟩
  cases hzs : f.zone with
  | utc => simp [CFmt.expr, customC, hzs, requested]
  | own s => rw [hzs] at hl; exact absurd hl (by simp [LiteralZone])
  | lit s z => simp [CFmt.expr, customC, hzs, requested]

/-- **C06 (dump with a literal zone, all spellings)**: for every valid whole-second point `p` (any
    representation, calendar mode, offset; 24:00:00 included), every regenerated dumper table and every
    complete format whose zone is `Z` or a literal `±hh:mm` / `±hhmm` / `±hh` (any legal offset; whole
    hours for `±hh`), the dump succeeds whenever the year of the RE-ZONED point `q` is within the
    format's digits and prints `q` — date and time fields of `q` in the format's representation,
    followed by `Z` resp. the sign and digits of the literal offset. -/
theorem C06_dump_literal_zone_all (m : Mode) (dt : DumpTables) (hdt : dt ∈ dumpTables) (n : Nat) (f : CFmt)
    (hf : f.WF dt.ned) (p q : TP) (hv : p.Valid m) (hq : f.target m p = some q)
    (hy : YearInRange (f.yd dt.ned) (dateYear q.date)) :
    dump m dt (XTP.ofTP n p) f.text = .ok (customText dt.ned f q) :=
  C08.C08_custom_dump m dt hdt n f hf p q hv hq hy

/-- … and is the dumper's bounds error when re-zoning carries the year out of the format's digits. -/
theorem C06_dump_literal_zone_all_bounds (m : Mode) (dt : DumpTables) (hdt : dt ∈ dumpTables) (n : Nat)
    (f : CFmt) (hf : f.WF dt.ned) (p q : TP) (hv : p.Valid m) (hq : f.target m p = some q)
    (hy : ¬ YearInRange (f.yd dt.ned) (dateYear q.date)) :
    dump m dt (XTP.ofTP n p) f.text = .error .err :=
  C08.C08_custom_dump_bounds m dt hdt n f hf p q hv hq hy

/-- **C06 (literal-zone dump, round trip, all spellings)**: under the hypotheses of
    `C06_dump_literal_zone_all`, the printed text, read by any parser that knows the notation (extended
    allowed for an extended format, the dumper's expanded digits for a `+X` format; any
    `allow_truncated`, any default zone; same calendar mode), is the re-zoned point `q` field for field
    (with a `0` fraction if the format has a decimal part); `q` is the same instant as `p`, carries
    EXACTLY the requested offset — `+00:00` for `Z`, the literal offset otherwise, `-00:30` as zero
    hours and minus thirty minutes — is in the format's date representation and is valid. -/
theorem C06_dump_literal_zone_all_roundtrip (m : Mode) (dt : DumpTables) (hdt : dt ∈ dumpTables) (n : Nat)
    (f : CFmt) (hf : f.WF dt.ned) (hl : LiteralZone f.zone) (cfg : Cfg) (hpt : cfg.pt ∈ parserTables)
    (hm : cfg.mode = m) (hb : f.ext = true → cfg.pt.basicOnly = false)
    (hx : f.expanded = true → cfg.pt.ned = dt.ned) (p : TP) (hv : p.Valid m)
    (q : TP) (hq : f.target m p = some q) (hy : YearInRange (f.yd dt.ned) (dateYear q.date)) :
    ∃ text, dump m dt (XTP.ofTP n p) f.text = .ok text ∧ text = customText dt.ned f q ∧
      parse cfg text false = some (readBack (f.yd dt.ned) f.frac q) ∧
      q.inst m = p.inst m ∧ q.tz = requested f.zone ∧ q.date.rep = f.kind.k ∧ q.Valid m := by
  obtain ⟨text, h1, h2, h3, h4, h5, h6, h7⟩ :=
    C08.C08_custom_roundtrip m dt hdt n f hf cfg hpt hm hb hx p hv
      (by intro h; rw [h] at hl; exact absurd hl (by simp [LiteralZone])) q hq hy
  exact ⟨text, h1, h2, h3, h4, by rw [h5, target_requested f.zone hl], h6, h7⟩

/-- The re-zoned point exists for every valid point and legal literal zone (C06 + C03). -/
theorem C06_dump_literal_zone_all_target (m : Mode) (f : CFmt) (ned : Nat) (hf : f.WF ned)
    (hl : LiteralZone f.zone) (p : TP) (hv : p.Valid m) :
    ∃ q, f.target m p = some q ∧ q.Valid m ∧ q.date.rep = f.kind.k ∧ q.tz = requested f.zone ∧
      q.inst m = p.inst m := by
  obtain ⟨q, h1, h2, h3, h4, h5⟩ := C08.C08_custom_target m f ned hf p hv
  exact ⟨q, h1, h2, h3, by rw [h4, target_requested f.zone hl], h5⟩

/-! ## `Props/C06b` is the special case `±hh:mm`, extended, own representation, no expanded digits -/

def kindOf : Date → DateKind
  | .cal .. => .cal
  | .ord .. => .ord
  | .week .. => .week

theorem C06b_format_is_custom (d : Date) (z : TZ) :
    litFormat d z = (CFmt.mk false (kindOf d) true .none (.lit .hm z)).text :=
  litFormat_custom d (kindOf d) (by cases d <;> rfl) z

/-- `-0030` (zero hours, negative minutes) in the standard basic calendar format, across the leap day. -/
example : ∃ text,
    dump .greg dumper_0 (XTP.ofTP 0 ⟨.cal 2000 3 1, 0, 10, 0, ⟨0, 0⟩⟩) "CCYYMMDDThhmmss-0030".toList = .ok text ∧
    text = "20000229T234000-0030".toList ∧
    parse ⟨Gen.Templates.parser_0_all, false, .unknown, .greg⟩ text false =
      some (XTP.ofTP 0 ⟨.cal 2000 2 29, 23, 40, 0, ⟨0, -30⟩⟩) ∧
    (⟨.cal 2000 2 29, 23, 40, 0, ⟨0, -30⟩⟩ : TP).inst .greg = (⟨.cal 2000 3 1, 0, 10, 0, ⟨0, 0⟩⟩ : TP).inst .greg ∧
    (⟨.cal 2000 2 29, 23, 40, 0, ⟨0, -30⟩⟩ : TP).tz = ⟨0, -30⟩ := by
  obtain ⟨text, h1, h2, h3, h4, h5, _⟩ :=
    C06_dump_literal_zone_all_roundtrip .greg dumper_0 (by simp [dumpTables]) 0
      ⟨false, .cal, false, .none, .lit .hm ⟨0, -30⟩⟩ (by decide) trivial
      ⟨Gen.Templates.parser_0_all, false, .unknown, .greg⟩ (.head _) rfl (by decide) (by decide)
      ⟨.cal 2000 3 1, 0, 10, 0, ⟨0, 0⟩⟩ (by decide +kernel)
      ⟨.cal 2000 2 29, 23, 40, 0, ⟨0, -30⟩⟩ (by decide +kernel) (by decide +kernel)
  exact ⟨text, h1.trans (by rfl), h2.trans (by decide +kernel), h3, h4, h5⟩

/-- `-00:30` in the extended ordinal format on a WEEK-date point, across the year boundary. -/
example : dump .greg dumper_0 (XTP.ofTP 0 ⟨.week 2020 53 5, 0, 10, 0, ⟨0, 0⟩⟩)
      "CCYY-DDDThh:mm:ss-00:30".toList = .ok "2020-366T23:40:00-00:30".toList :=
  (C06_dump_literal_zone_all .greg dumper_0 (by simp [dumpTables]) 0
    ⟨false, .ord, true, .none, .lit .hm ⟨0, -30⟩⟩ (by decide) ⟨.week 2020 53 5, 0, 10, 0, ⟨0, 0⟩⟩
    ⟨.ord 2020 366, 23, 40, 0, ⟨0, -30⟩⟩ (by decide +kernel) (by decide +kernel) (by decide +kernel)).trans
    (by decide +kernel)

/-- `+05` (hours only) in the basic week format. -/
example : dump .greg dumper_0 (XTP.ofTP 0 ⟨.cal 2000 3 1, 0, 10, 0, ⟨0, 0⟩⟩)
      "CCYYWwwDThhmmss+05".toList = .ok "2000W093T051000+05".toList :=
  (C06_dump_literal_zone_all .greg dumper_0 (by simp [dumpTables]) 0
    ⟨false, .week, false, .none, .lit .h ⟨5, 0⟩⟩ (by decide) ⟨.cal 2000 3 1, 0, 10, 0, ⟨0, 0⟩⟩
    ⟨.week 2000 9 3, 5, 10, 0, ⟨5, 0⟩⟩ (by decide +kernel) (by decide +kernel) (by decide +kernel)).trans
    (by decide +kernel)

/-- `Z` on a point at +05:30, 24:00:00: the previous evening in UTC. -/
example : dump .greg dumper_0 (XTP.ofTP 0 ⟨.ord 2001 1, 24, 0, 0, ⟨5, 30⟩⟩)
      ("CCYY-MM-DDThh:mm:ss".toList ++ ['Z']) = .ok "2001-01-01T18:30:00Z".toList :=
  (C06_dump_literal_zone_all .greg dumper_0 (by simp [dumpTables]) 0
    ⟨false, .cal, true, .none, .utc⟩ (by decide) ⟨.ord 2001 1, 24, 0, 0, ⟨5, 30⟩⟩
    ⟨.cal 2001 1 1, 18, 30, 0, ⟨0, 0⟩⟩ (by decide +kernel) (by decide +kernel) (by decide +kernel)).trans
    (by decide +kernel)

end IsoDT.Props.C06
