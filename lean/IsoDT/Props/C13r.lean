/-
  C13 (fractional points and intervals) — `get_first_after` on the rational recurrence model, as an
  ALGORITHM over exact rationals (see `Props/C12q.lean` for what that means for the binary64 Python).
  `Model/RecurrenceQFirst.lean` has two versions of the method: `getFirstAfterQ`, the Python of /repo,
  which contains the repair 6ac11ec of finding F22, and `getFirstAfterFloorQ`, the method before that
  repair (`floor(seconds_since)`).

  "get_first_after(p) returns the earliest member strictly later than p, the first member when p
  precedes the series, and None when no later member exists" — proved of `getFirstAfterQ` for
  recurrences that have a start point and an exact interval of ANY positive rational length, and ANY
  legal probe (rational instant; any zone, date representation and precision form), on top of
  `Lemmas.RecurrenceQFirst.core`, the same statement for any stored recurrence whose end point is on
  the grid.  Of `getFirstAfterFloorQ`: the witnesses of F22 (it returns a point `get_is_valid`
  rejects) and agreement with `getFirstAfterQ` on whole seconds.  On embedded whole-second inputs
  `getFirstAfterQ` IS the integer model (`Model.getFirstAfter`, theorems `C13_first_after_*`).
-/
import IsoDT.Props.C13q
import IsoDT.Lemmas.RecurrenceQFirst

namespace IsoDT.Props.C13
open IsoDT IsoDT.Model IsoDT.Lemmas IsoDT.Lemmas.DQ IsoDT.Props.C12q IsoDT.Props.C13q
open IsoDT.Lemmas.RecurrenceQFirst
open IsoDT.Spec (Date TZ TP)

/-- **get_first_after, start/duration notation**, exact interval `d` of length `L > 0` (any
    positive rational), start `s`, `n ≥ 2` repetitions (`N = some n`) or unbounded (`N = none`),
    ANY legal probe `p`:

    1. `p` before the series → the start point;
    2. `p` after the last member `inst s + (n−1)·L` → `None`;
    3. otherwise, with `K = ⌊(inst p − inst s)/L⌋ + 1` (a natural number ≥ 1):
       the member before, `inst s + (K−1)·L`, is at or before `p`;
       (b) `inst s + K·L` is strictly later than `p`;
       (c) every grid instant `inst s + k·L` strictly later than `p` is at or after it — it is the
           EARLIEST such instant;
       (a) when `K` is a member index (`K < n`, or the series is unbounded) the result is the
           point `q` at that instant, `p` moved by exactly `inst s + K·L − inst p` in `p`'s zone,
           representation and precision form (`GoodQ`, what `addDurationQ` produces), and it is
           within the recurrence's bounds;
       and the result is `None` exactly when `K ≥ n`, i.e. when no later member exists. -/
theorem C13_rat_first_after_exact (m : Mode) (N : Option Nat) (hN : ∀ n, N = some n → 2 ≤ n) (s : TPQ)
    (d : DurationQ) (hs : s.Valid m) (hex : d.isExact = true) (hpos : 0 < d.exactSeconds m) (p : TPQ)
    (hp : p.Valid m) (fuel : Nat) :
    ∃ r, mkRecQ m (N.map fun n => (n : Int)) (some s) (some d) none = some r ∧
      (p.inst m < s.inst m → getFirstAfterQ m r p fuel = some s) ∧
      (∀ n, N = some n → s.inst m + ((n - 1 : Nat) : Rat) * d.exactSeconds m < p.inst m →
        getFirstAfterQ m r p fuel = none) ∧
      (s.inst m ≤ p.inst m →
        (∀ n, N = some n → p.inst m ≤ s.inst m + ((n - 1 : Nat) : Rat) * d.exactSeconds m) →
        ∃ K : Nat, (K : Int) = ((p.inst m - s.inst m) / d.exactSeconds m).floor + 1 ∧ 1 ≤ K ∧
          s.inst m + ((K - 1 : Nat) : Rat) * d.exactSeconds m ≤ p.inst m ∧
          p.inst m < s.inst m + (K : Rat) * d.exactSeconds m ∧
          (∀ k : Nat, p.inst m < s.inst m + (k : Rat) * d.exactSeconds m →
            s.inst m + (K : Rat) * d.exactSeconds m ≤ s.inst m + (k : Rat) * d.exactSeconds m) ∧
          ((∀ n, N = some n → K < n) →
            ∃ q, getFirstAfterQ m r p fuel = some q ∧
              q.inst m = s.inst m + (K : Rat) * d.exactSeconds m ∧
              GoodQ m p q (s.inst m + (K : Rat) * d.exactSeconds m - p.inst m) ∧
              inBoundsQ m r q = true) ∧
          (getFirstAfterQ m r p fuel = none ↔ ∃ n, N = some n ∧ n ≤ K)) := by
  cases N with
  | none =>
    obtain ⟨hr, hx⟩ := mkRecQ_fmt3_unbounded hs hex hpos
    exact ⟨_, hr, core hx rfl none (fun n h => nomatch h) (fun _ => rfl) hp fuel⟩
  | some n =>
    obtain ⟨e, hr, hx, g⟩ := mkRecQ_fmt3_bounded (hN n rfl) hs hex hpos
    exact ⟨_, hr, core hx rfl (some n) (fun n' h => Option.some.inj h ▸ ⟨e, rfl, g.inst⟩)
      (fun h => nomatch h) hp fuel⟩

/-- Non-vacuity: `R3/2020-01-01T00:00:00Z/PT1,5S`, probe `00:00:02` written as 01:00:02+01:00 in
    ordinal form. -/
example := C13_rat_first_after_exact .greg (some 3) (fun n h => by cases h; decide +kernel)
  ⟨.cal 2020 1 1, 0, some 0, some 0, ⟨0, 0⟩⟩ (.units 0 0 0 0 0 (3/2)) (by decide +kernel) rfl (by decide +kernel)
  ⟨.ord 2020 1, 1, some 0, some 2, ⟨1, 0⟩⟩ (by decide +kernel) 10

-- the same run of the model: members :00, :01.5, :03; probes :02 (→ :03 in the probe's spelling),
-- :03 = the last member (→ None), 23:59:59 the day before (→ the start), :04 (→ None)
example : getFirstAfterQ .greg ⟨some 3, some ⟨.cal 2020 1 1, 0, some 0, some 0, ⟨0, 0⟩⟩,
      some (.units 0 0 0 0 0 (3/2)), some ⟨.cal 2020 1 1, 0, some 0, some 3, ⟨0, 0⟩⟩, none, 3⟩
      ⟨.ord 2020 1, 1, some 0, some 2, ⟨1, 0⟩⟩ 10 = some ⟨.ord 2020 1, 1, some 0, some 3, ⟨1, 0⟩⟩ ∧
    getFirstAfterQ .greg ⟨some 3, some ⟨.cal 2020 1 1, 0, some 0, some 0, ⟨0, 0⟩⟩,
      some (.units 0 0 0 0 0 (3/2)), some ⟨.cal 2020 1 1, 0, some 0, some 3, ⟨0, 0⟩⟩, none, 3⟩
      ⟨.cal 2020 1 1, 0, some 0, some 3, ⟨0, 0⟩⟩ 10 = none ∧
    getFirstAfterQ .greg ⟨some 3, some ⟨.cal 2020 1 1, 0, some 0, some 0, ⟨0, 0⟩⟩,
      some (.units 0 0 0 0 0 (3/2)), some ⟨.cal 2020 1 1, 0, some 0, some 3, ⟨0, 0⟩⟩, none, 3⟩
      ⟨.cal 2019 12 31, 23, some 59, some 59, ⟨0, 0⟩⟩ 10 = some ⟨.cal 2020 1 1, 0, some 0, some 0, ⟨0, 0⟩⟩ ∧
    getFirstAfterQ .greg ⟨some 3, some ⟨.cal 2020 1 1, 0, some 0, some 0, ⟨0, 0⟩⟩,
      some (.units 0 0 0 0 0 (3/2)), some ⟨.cal 2020 1 1, 0, some 0, some 3, ⟨0, 0⟩⟩, none, 3⟩
      ⟨.cal 2020 1 1, 0, some 0, some 4, ⟨0, 0⟩⟩ 10 = none := by decide +kernel

/-- **get_first_after, start/second-point notation**: the interval is the exact difference
    `L = inst e2 − inst s > 0` of the two points (whatever zones, representations and precision
    forms they are written in); `n ≥ 2` repetitions or unbounded; ANY legal probe.  Clauses as in
    `C13_rat_first_after_exact`. -/
theorem C13_rat_first_after_exact_second_point (m : Mode) (N : Option Nat) (hN : ∀ n, N = some n → 2 ≤ n)
    (s e2 : TPQ) (hs : s.Valid m) (he : e2.Valid m) (hlt : s.inst m < e2.inst m) (p : TPQ) (hp : p.Valid m)
    (fuel : Nat) :
    ∃ r, mkRecQ m (N.map fun n => (n : Int)) (some s) none (some e2) = some r ∧
      (p.inst m < s.inst m → getFirstAfterQ m r p fuel = some s) ∧
      (∀ n, N = some n → s.inst m + ((n - 1 : Nat) : Rat) * (e2.inst m - s.inst m) < p.inst m →
        getFirstAfterQ m r p fuel = none) ∧
      (s.inst m ≤ p.inst m →
        (∀ n, N = some n → p.inst m ≤ s.inst m + ((n - 1 : Nat) : Rat) * (e2.inst m - s.inst m)) →
        ∃ K : Nat, (K : Int) = ((p.inst m - s.inst m) / (e2.inst m - s.inst m)).floor + 1 ∧ 1 ≤ K ∧
          s.inst m + ((K - 1 : Nat) : Rat) * (e2.inst m - s.inst m) ≤ p.inst m ∧
          p.inst m < s.inst m + (K : Rat) * (e2.inst m - s.inst m) ∧
          (∀ k : Nat, p.inst m < s.inst m + (k : Rat) * (e2.inst m - s.inst m) →
            s.inst m + (K : Rat) * (e2.inst m - s.inst m) ≤ s.inst m + (k : Rat) * (e2.inst m - s.inst m)) ∧
          ((∀ n, N = some n → K < n) →
            ∃ q, getFirstAfterQ m r p fuel = some q ∧
              q.inst m = s.inst m + (K : Rat) * (e2.inst m - s.inst m) ∧
              GoodQ m p q (s.inst m + (K : Rat) * (e2.inst m - s.inst m) - p.inst m) ∧
              inBoundsQ m r q = true) ∧
          (getFirstAfterQ m r p fuel = none ↔ ∃ n, N = some n ∧ n ≤ K)) := by
  obtain ⟨d, ⟨hr0, hx0⟩, hb⟩ := mkRecQ_fmt1 hs he hlt
  cases N with
  | none => exact ⟨_, hr0, core hx0 rfl none (fun n h => nomatch h) (fun _ => rfl) hp fuel⟩
  | some n =>
    obtain ⟨e, hr, hx, g⟩ := hb n (hN n rfl)
    exact ⟨_, hr, core hx rfl (some n) (fun n' h => Option.some.inj h ▸ ⟨e, rfl, g.inst⟩)
      (fun h => nomatch h) hp fuel⟩

/-- Non-vacuity: `R/2020-01-01T00:00:00,5Z/2020-01-01T01:00:01,75+01:00` (interval 1.25 s). -/
example := C13_rat_first_after_exact_second_point .greg none (fun n h => by cases h)
  ⟨.cal 2020 1 1, 0, some 0, some (1/2), ⟨0, 0⟩⟩ ⟨.cal 2020 1 1, 1, some 0, some (7/4), ⟨1, 0⟩⟩
  (by decide +kernel) (by decide +kernel) (by decide +kernel) ⟨.cal 2020 1 1, 0, some 0, some 2, ⟨0, 0⟩⟩ (by decide +kernel) 10

-- members :00.5, :01.75, :03, …; the first after :02 is :03
example : (mkRecQ .greg none (some ⟨.cal 2020 1 1, 0, some 0, some (1/2), ⟨0, 0⟩⟩) none
      (some ⟨.cal 2020 1 1, 1, some 0, some (7/4), ⟨1, 0⟩⟩)).bind
      (fun r => getFirstAfterQ .greg r ⟨.cal 2020 1 1, 0, some 0, some 2, ⟨0, 0⟩⟩ 10) =
    some ⟨.cal 2020 1 1, 0, some 0, some 3, ⟨0, 0⟩⟩ := by decide +kernel

/-- **What get_first_after returns is a member**: on any stored recurrence with an exact positive
    interval and a start point that is not after its end point (every constructed one), a result
    `q` of `get_first_after p` is strictly later than `p` and is accepted by `get_is_valid` — as
    soon as the scanned prefix reaches past `q` (`inst q < inst s + fuel'·L`; in the Python the
    scan simply runs until it does, cf. `C13_rat_is_valid_unbounded`). -/
theorem C13_rat_first_after_is_valid (m : Mode) (r : RecQ) (d : DurationQ) (L : Rat) (hr : ExactRecQ m r d L)
    (s : TPQ) (hs : r.start = some s) (hse : ∀ e, r.end_ = some e → s.inst m ≤ e.inst m) (p : TPQ)
    (hp : p.Valid m) (fuel : Nat) (q : TPQ) (h : getFirstAfterQ m r p fuel = some q) (fuel' : Nat)
    (hf : q.inst m < s.inst m + (fuel' : Rat) * L) :
    p.inst m < q.inst m ∧ getIsValidQ m r q fuel' = true := by
  obtain ⟨hqv, hqb, hlt, K, hK⟩ := result_on_grid hr hs hse hp h
  refine ⟨hlt, ?_⟩
  -- `q` is the `K`-th member, and the scanned prefix is longer than `K`
  rw [C13_rat_is_valid_iff_iterated m r d L hr (Or.inl (by rw [hs]; rfl)) q hqv fuel',
    seriesQ_mem_iff ((iterQ_series hr fuel').1 s hs) (q.inst m)]
  refine ⟨K, (iterQ_lt_length hr hs fuel' K).2
    ⟨grid_lt hr.pos K fuel' (by rw [hK]; exact Rat.le_refl) hf, fun e he => ?_⟩, hK⟩
  rw [← hK]
  exact ((inBoundsQ_iff hqv hr.startValid hr.endValid).1 hqb).2 e he

/-- Non-vacuity: `R/2020-01-01T00:00:00Z/PT1,5S`, probe `00:00:02`, result `00:00:03`. -/
example := C13_rat_first_after_is_valid .greg
  ⟨none, some ⟨.cal 2020 1 1, 0, some 0, some 0, ⟨0, 0⟩⟩, some (.units 0 0 0 0 0 (3/2)), none, none, 3⟩
  (.units 0 0 0 0 0 (3/2)) (3/2)
  ⟨rfl, rfl, by decide +kernel, by decide +kernel, by decide +kernel, fun s h => by cases h; decide +kernel, fun e h => by cases h⟩
  ⟨.cal 2020 1 1, 0, some 0, some 0, ⟨0, 0⟩⟩ rfl (fun e h => by cases h)
  ⟨.cal 2020 1 1, 0, some 0, some 2, ⟨0, 0⟩⟩ (by decide +kernel) 10
  ⟨.cal 2020 1 1, 0, some 0, some 3, ⟨0, 0⟩⟩ (by decide +kernel) 10 (by decide +kernel)

/-- **Finding F22, the witnesses** (kernel-evaluated runs of the two models).
    `R/2020-01-01T00:00:00Z/PT1,5S` (members :00, :01.5, :03, …), probe `00:00:02`: the pre-repair
    code (`floor(seconds_since)`) returns `00:00:03,5`, which `get_is_valid` rejects; the repaired
    code returns the member `00:00:03`.  `R/2020-01-01T00:00:00,5Z/PT1S` (members :00.5, :01.5,
    :02.5, …), probe `00:00:02`: pre-repair `00:00:03` (rejected), repaired `00:00:02,5`. -/
theorem C13_first_after_floor_witness :
    (getFirstAfterFloorQ .greg ⟨none, some ⟨.cal 2020 1 1, 0, some 0, some 0, ⟨0, 0⟩⟩,
        some (.units 0 0 0 0 0 (3/2)), none, none, 3⟩ ⟨.cal 2020 1 1, 0, some 0, some 2, ⟨0, 0⟩⟩ 10 =
        some ⟨.cal 2020 1 1, 0, some 0, some (7/2), ⟨0, 0⟩⟩ ∧
      getIsValidQ .greg ⟨none, some ⟨.cal 2020 1 1, 0, some 0, some 0, ⟨0, 0⟩⟩,
        some (.units 0 0 0 0 0 (3/2)), none, none, 3⟩ ⟨.cal 2020 1 1, 0, some 0, some (7/2), ⟨0, 0⟩⟩ 10 = false ∧
      getFirstAfterQ .greg ⟨none, some ⟨.cal 2020 1 1, 0, some 0, some 0, ⟨0, 0⟩⟩,
        some (.units 0 0 0 0 0 (3/2)), none, none, 3⟩ ⟨.cal 2020 1 1, 0, some 0, some 2, ⟨0, 0⟩⟩ 10 =
        some ⟨.cal 2020 1 1, 0, some 0, some 3, ⟨0, 0⟩⟩ ∧
      getIsValidQ .greg ⟨none, some ⟨.cal 2020 1 1, 0, some 0, some 0, ⟨0, 0⟩⟩,
        some (.units 0 0 0 0 0 (3/2)), none, none, 3⟩ ⟨.cal 2020 1 1, 0, some 0, some 3, ⟨0, 0⟩⟩ 10 = true) ∧
    (getFirstAfterFloorQ .greg ⟨none, some ⟨.cal 2020 1 1, 0, some 0, some (1/2), ⟨0, 0⟩⟩,
        some (.units 0 0 0 0 0 1), none, none, 3⟩ ⟨.cal 2020 1 1, 0, some 0, some 2, ⟨0, 0⟩⟩ 10 =
        some ⟨.cal 2020 1 1, 0, some 0, some 3, ⟨0, 0⟩⟩ ∧
      getIsValidQ .greg ⟨none, some ⟨.cal 2020 1 1, 0, some 0, some (1/2), ⟨0, 0⟩⟩,
        some (.units 0 0 0 0 0 1), none, none, 3⟩ ⟨.cal 2020 1 1, 0, some 0, some 3, ⟨0, 0⟩⟩ 10 = false ∧
      getFirstAfterQ .greg ⟨none, some ⟨.cal 2020 1 1, 0, some 0, some (1/2), ⟨0, 0⟩⟩,
        some (.units 0 0 0 0 0 1), none, none, 3⟩ ⟨.cal 2020 1 1, 0, some 0, some 2, ⟨0, 0⟩⟩ 10 =
        some ⟨.cal 2020 1 1, 0, some 0, some (5/2), ⟨0, 0⟩⟩ ∧
      getIsValidQ .greg ⟨none, some ⟨.cal 2020 1 1, 0, some 0, some (1/2), ⟨0, 0⟩⟩,
        some (.units 0 0 0 0 0 1), none, none, 3⟩ ⟨.cal 2020 1 1, 0, some 0, some (5/2), ⟨0, 0⟩⟩ 10 = true) := by
  decide +kernel

-- the two recurrences of the witness are what the constructor stores for these notations
example : mkRecQ .greg none (some ⟨.cal 2020 1 1, 0, some 0, some 0, ⟨0, 0⟩⟩) (some (.units 0 0 0 0 0 (3/2))) none =
      some ⟨none, some ⟨.cal 2020 1 1, 0, some 0, some 0, ⟨0, 0⟩⟩, some (.units 0 0 0 0 0 (3/2)), none, none, 3⟩ ∧
    mkRecQ .greg none (some ⟨.cal 2020 1 1, 0, some 0, some (1/2), ⟨0, 0⟩⟩) (some (.units 0 0 0 0 0 1)) none =
      some ⟨none, some ⟨.cal 2020 1 1, 0, some 0, some (1/2), ⟨0, 0⟩⟩, some (.units 0 0 0 0 0 1), none, none, 3⟩ := by
  decide +kernel

/-- **The repair is conservative**: on a stored recurrence with an exact positive interval, when
    the probe's offset from the start `inst p − inst s` and the interval length `L` are whole
    numbers of seconds, the pre-repair and the repaired `get_first_after` return the same thing
    (`floor` of a whole number is the identity) — for probes inside and outside the bounds. -/
theorem C13_rat_first_after_floor_agrees_on_whole_seconds (m : Mode) (r : RecQ) (d : DurationQ) (L : Rat)
    (hr : ExactRecQ m r d L) (s : TPQ) (hs : r.start = some s) (p : TPQ) (hp : p.Valid m) (fuel : Nat)
    (hx : IsInt (p.inst m - s.inst m)) (hL : IsInt L) :
    getFirstAfterFloorQ m r p fuel = getFirstAfterQ m r p fuel := by
  by_cases hb : inBoundsQ m r p = true
  · have hfl : ((remQ (p.inst m - s.inst m) L).floor : Rat) = remQ (p.inst m - s.inst m) L := by
      unfold remQ
      rw [hx.eq_intCast, hL.eq_intCast, ← Rat.intCast_mul, ← Rat.intCast_sub, Rat.floor_intCast]
    unfold getFirstAfterFloorQ getFirstAfterQ
    rw [closed_form_unfold _ hr hs hp fuel hb, closed_form_unfold _ hr hs hp fuel hb, hfl]
  · have hb' := Bool.eq_false_iff.2 hb
    rw [getFirstAfterFloorQ, getFirstAfterQ, outside _ hs hb' fuel, outside _ hs hb' fuel]

/-- Non-vacuity: `R/2020-01-01T00:00:00,5Z/PT2S` (a fractional start!), probe `00:00:03,5`: the
    offset (3 s) and the interval (2 s) are whole. -/
example := C13_rat_first_after_floor_agrees_on_whole_seconds .greg
  ⟨none, some ⟨.cal 2020 1 1, 0, some 0, some (1/2), ⟨0, 0⟩⟩, some (.units 0 0 0 0 0 2), none, none, 3⟩
  (.units 0 0 0 0 0 2) 2
  ⟨rfl, rfl, by decide +kernel, by decide +kernel, by decide +kernel, fun s h => by cases h; decide +kernel, fun e h => by cases h⟩
  ⟨.cal 2020 1 1, 0, some 0, some (1/2), ⟨0, 0⟩⟩ rfl ⟨.cal 2020 1 1, 0, some 0, some (7/2), ⟨0, 0⟩⟩ (by decide +kernel) 10
  (by decide +kernel) (by decide +kernel)

/-- **The rational model extends the integer model**: on whole-second points (`TPQ.ofTP`) and a
    stored whole-number recurrence (`RecQ.ofRec`: `DurationQ.ofDur` interval) `get_first_after` of
    the rational model is `getFirstAfter` of `Model.Recurrence` — EVERY recurrence (exact, month /
    year, single point, no start point), every probe, every fuel.  So `C13_first_after_exact`,
    `C13_first_after_outside`, `C13_first_after_least` (`Props/C13.lean`, `C13b.lean`) are
    statements about this model too. -/
theorem C13_rat_first_after_extends_int (m : Mode) (r : Rec) (p : TP) (fuel : Nat) :
    getFirstAfterQ m (RecQ.ofRec r) (TPQ.ofTP p) fuel = (getFirstAfter m r p fuel).map TPQ.ofTP := by
  unfold getFirstAfterQ getFirstAfterWithQ getFirstAfter
  have hstart : (RecQ.ofRec r).start = r.start.map TPQ.ofTP := rfl
  have hdur : (RecQ.ofRec r).dur = r.dur.map DurationQ.ofDur := rfl
  rw [hstart, hdur]
  cases hs : r.start with
  | none => rfl
  | some s =>
    simp only [Option.map_some, inBoundsQ_ofRec, tpLtQ_ofTP]
    by_cases hb : inBounds m r p = true
    · rw [if_pos hb, if_pos hb]
      have hloop := firstAfterLoopQ_ofRec m r p fuel (some s)
      simp only [Option.map_some] at hloop
      cases hd : r.dur with
      | none => simp only [Option.map_none]; exact hloop
      | some d =>
        simp only [Option.map_some, ofDur_isExact]
        by_cases hex : d.isExact = true
        · rw [if_pos hex, if_pos hex, subTPQ_ofTP]
          cases hsub : subTP m p s with
          | none => rfl
          | some diff =>
            obtain ⟨dd, hh, mi, ss, rfl⟩ := subTP_units m p s diff hsub
            simp only [Option.map_some, ofDurQ_durQOf_units, ofDur_seconds, pyDivmodQ_intCast]
            by_cases hz : d.seconds m = 0
            · rw [if_pos hz, if_pos hz]; rfl
            · rw [if_neg hz, if_neg hz]
              have hu : ∀ c : Int, DurationQ.units 0 0 0 0 0 (c : Rat) = DurationQ.ofDur (.units 0 0 0 0 0 c) :=
                fun c => by simp only [DurationQ.ofDur, Rat.intCast_zero]
              simp only [hu]
              unfold DurationQ.sub Dur.sub
              rw [ofDur_mul, ofDur_add, addDurationQ_ofTP]
              exact keepInBounds_ofRec m r _
        · rw [if_neg hex, if_neg hex]; exact hloop
    · rw [if_neg hb, if_neg hb]
      cases tpLt m p s <;> rfl

-- the witness of the repaired defect F3 (`Props/C13.lean`), read through the rational model
example : getFirstAfterQ .greg (RecQ.ofRec ⟨some 3, some ⟨.cal 2002 5 4, 23, 0, 0, ⟨0, 0⟩⟩,
      some (.units 0 0 0 1 0 0), some ⟨.cal 2002 5 5, 1, 0, 0, ⟨0, 0⟩⟩, none, 3⟩)
      (TPQ.ofTP ⟨.ord 2002 124, 23, 30, 0, ⟨0, 0⟩⟩) 10 =
    some (TPQ.ofTP ⟨.ord 2002 125, 0, 0, 0, ⟨0, 0⟩⟩) := by
  rw [C13_rat_first_after_extends_int]; decide +kernel

end IsoDT.Props.C13
