/-
  C11 (order, continued) — the ordering operators of `Duration` form a total preorder that is
  compatible with addition and with multiplication by a non-negative integer.

  Everything is a corollary of `C11_order` (the operators compare the rough lengths) together with
  the additivity of the rough length under `Dur.add` / `Dur.mul`.
-/
import IsoDT.Props.C11

namespace IsoDT.Props.C11
open IsoDT IsoDT.Model IsoDT.Lemmas

theorem roughSeconds_add (m : Mode) (a b : Dur) :
    roughSeconds m (Dur.add m a b) = roughSeconds m a + roughSeconds m b := by
  unfold roughSeconds
  rw [add_ym, add_seconds]
  generalize Spec.yearLenB m false = L
  simp only [Int.add_mul]
  omega

theorem roughSeconds_mul (m : Mode) (a : Dur) (n : Int) :
    roughSeconds m (a.mul n) = roughSeconds m a * n := by
  unfold roughSeconds
  rw [mul_ym, exactSeconds_mul]
  generalize Spec.yearLenB m false = L
  simp only [Int.add_mul, Int.mul_assoc, Int.mul_comm n]

/-- `<` is a strict order on rough lengths: irreflexive, asymmetric, transitive; and exactly one of
    `a < b`, "same rough length", `a > b` holds. -/
theorem C11_order_strict (m : Mode) (a b c : Dur) :
    Dur.lt m a a = false ∧
    (Dur.lt m a b = true → Dur.lt m b a = false) ∧
    (Dur.lt m a b = true → Dur.lt m b c = true → Dur.lt m a c = true) ∧
    (Dur.le m a b = true → Dur.le m b c = true → Dur.le m a c = true) ∧
    (Dur.le m a b = true ∨ Dur.le m b a = true) ∧
    (Dur.gt m a b = Dur.lt m b a) ∧ (Dur.ge m a b = Dur.le m b a) := by
  obtain ⟨ab1, ab2, _, _⟩ := C11_order m a b
  obtain ⟨ba1, ba2, _, _⟩ := C11_order m b a
  obtain ⟨bc1, bc2, _, _⟩ := C11_order m b c
  obtain ⟨ac1, ac2, _, _⟩ := C11_order m a c
  obtain ⟨aa1, _, _, _⟩ := C11_order m a a
  rw [← Bool.not_eq_true, ← Bool.not_eq_true, aa1, ab1, ab2, ba1, ba2, bc1, bc2, ac1, ac2]
  exact ⟨by omega, by omega, by omega, by omega, by omega, rfl, rfl⟩

/-- Adding the same duration to both sides preserves the order (both ways), for every calendar
    mode and all durations, nominal ones included. -/
theorem C11_order_add_compat (m : Mode) (a b c : Dur) :
    (Dur.lt m (Dur.add m a c) (Dur.add m b c) = Dur.lt m a b) ∧
    (Dur.le m (Dur.add m a c) (Dur.add m b c) = Dur.le m a b) := by
  obtain ⟨o1, o2, _, _⟩ := C11_order m a b
  obtain ⟨p1, p2, _, _⟩ := C11_order m (Dur.add m a c) (Dur.add m b c)
  rw [roughSeconds_add, roughSeconds_add] at p1 p2
  refine ⟨Bool.eq_iff_iff.mpr ?_, Bool.eq_iff_iff.mpr ?_⟩
  · rw [o1, p1]; omega
  · rw [o2, p2]; omega

/-- Multiplying by a non-negative integer is monotone for `<=`. -/
theorem C11_order_mul_mono (m : Mode) (a b : Dur) (n : Int) (hn : 0 ≤ n)
    (h : Dur.le m a b = true) : Dur.le m (a.mul n) (b.mul n) = true := by
  obtain ⟨_, o2, _, _⟩ := C11_order m a b
  obtain ⟨_, p2, _, _⟩ := C11_order m (a.mul n) (b.mul n)
  rw [roughSeconds_mul, roughSeconds_mul] at p2
  exact p2.mpr (Int.mul_le_mul_of_nonneg_right (o2.mp h) hn)

example : Dur.lt .greg (.units 0 1 0 0 0 0) (.units 0 0 31 0 0 0) = true ∧
    Dur.lt .greg (Dur.add .greg (.units 0 1 0 0 0 0) (.weeks 2))
      (Dur.add .greg (.units 0 0 31 0 0 0) (.weeks 2)) = true := by decide
example : Dur.le .d360 (.weeks 1) (.units 0 0 7 0 0 0) = true ∧
    Dur.le .d360 ((Dur.weeks 1).mul 3) ((Dur.units 0 0 7 0 0 0).mul 3) = true := by decide

end IsoDT.Props.C11
