/-
  C16 — Time points, durations, zones and recurrences are immutable values.

  `Gen.Effects.table` is regenerated from the AST of `metomi/isodatetime/data.py` on every run:
  one effect-IR method (body, certificate, summary) per method of `TimeRecurrence`, `Duration`,
  `TimeZone`, `TimePoint`, plus entry 0 standing for any client code that uses public methods only
  (`dumpers`, the module-level helpers).  The semantics is `Model.Effects.Sem` (flow-insensitive,
  any call depth).

  If every method's certificate checks, every call of any depth keeps the promise of its summary
  (`C16_sem_sound`); hence a public call, or a construction followed by any method, writes to no
  object that existed before it, and by induction over a history of such steps every earlier object
  is unchanged (`C16_history`).  That the regenerated table checks is `C16_gen_ok` (`decide`, kernel
  evaluation): the obligation that breaks when a method starts writing `self`, stops copying, or
  calls a mutator on something that is not its own fresh copy.
-/
import IsoDT.Model.Effects
import IsoDT.Gen.Effects

namespace IsoDT.Props.C16
open IsoDT.Model.Effects

/-- Invariant during the execution of method `m` entered on receiver `recv` in world `σ0`. -/
structure MInv (m : Method) (recv : Nat) (σ0 : World) (s : St) : Prop where
  next : σ0.next ≤ s.w.next
  self : s.env selfVar = some recv
  /-- variables certified fresh hold objects allocated during this call -/
  fresh : ∀ x a, m.isFresh x = true → s.env x = some a → σ0.next ≤ a
  /-- variables certified fresh-or-receiver hold such an object or the receiver -/
  frs : ∀ x a, m.frs.contains x = true → s.env x = some a → σ0.next ≤ a ∨ a = recv
  /-- every write so far is on an object of this call, or on the receiver of a declared mutator -/
  written : ∃ wn, s.w.written = wn ++ σ0.written ∧
    ∀ a, a ∈ wn → σ0.next ≤ a ∨ (m.sum.writesRecv = true ∧ a = recv)
  heap : ∀ a, a < σ0.next → ¬ (m.sum.writesRecv = true ∧ a = recv) → s.w.heap a = σ0.heap a

theorem mine_addr (m : Method) (recv : Nat) (σ0 : World) (s : St) (h : MInv m recv σ0 s)
    (x a : Nat) (hx : m.isMine x = true) (hxa : s.env x = some a) : σ0.next ≤ a ∨ a = recv := by
  simp only [Method.isMine, Bool.or_eq_true, beq_iff_eq] at hx
  rcases hx with (hx | hx) | hx
  · exact Or.inl (h.fresh x a hx hxa)
  · subst hx; rw [h.self] at hxa; cases hxa; exact Or.inr rfl
  · exact h.frs x a hx hxa

theorem set_self (s : St) (x a : Nat) (hx : ¬ x = selfVar) : (s.set x a).env selfVar = s.env selfVar := by
  have : ¬ selfVar = x := fun h => hx h.symm
  simp [St.set, this]

theorem set_same (s : St) (x a : Nat) : (s.set x a).env x = some a := by simp [St.set]

theorem set_other (s : St) (x z a : Nat) (h : ¬ z = x) : (s.set x a).env z = s.env z := by
  simp [St.set, h]

theorem set_forall (s : St) (x a : Nat) (C : Nat → Bool) (P : Nat → Prop)
    (h : ∀ z b, C z = true → s.env z = some b → P b) (hx : C x = true → P a) :
    ∀ z b, C z = true → (s.set x a).env z = some b → P b := by
  intro z b hz hzb
  by_cases hxz : z = x
  · subst hxz; rw [set_same] at hzb; cases hzb; exact hx hz
  · rw [set_other _ _ _ _ hxz] at hzb; exact h z b hz hzb

theorem step_inv (T : Table) (callee) (m : Method) (recv : Nat) (σ0 : World)
    (hcallee : ∀ g a σ σ' r, callee g a σ σ' r → Promise (T g).sum a σ σ' r)
    (st : Stmt) (hok : okStmt T m st = true) (s s' : St)
    (hstep : Step callee st s s') (hinv : MInv m recv σ0 s) : MInv m recv σ0 s' := by
  have hmine := mine_addr m recv σ0 s hinv
  obtain ⟨hn, hs, hf, hfr, hw, hh⟩ := hinv
  cases hstep with
  | new x _ =>
    simp only [okStmt, bne_iff_ne, ne_eq] at hok
    refine ⟨?_, ?_, set_forall _ _ _ _ _ hf fun _ => hn, set_forall _ _ _ _ _ hfr fun _ => Or.inl hn, hw, hh⟩
    · show σ0.next ≤ s.w.next + 1
      omega
    · rw [set_self _ _ _ hok]; exact hs
  | mov x y _ a hya =>
    simp only [okStmt, Bool.and_eq_true, bne_iff_ne, ne_eq, Bool.or_eq_true,
      Bool.not_eq_true'] at hok
    obtain ⟨⟨hx, hfx⟩, hfrx⟩ := hok
    refine ⟨hn, ?_, set_forall _ _ _ _ _ hf ?_, set_forall _ _ _ _ _ hfr ?_, hw, hh⟩
    · rw [set_self _ _ _ hx]; exact hs
    · intro hz
      rcases hfx with h | h
      · rw [hz] at h; cases h
      · exact hf y _ h hya
    · intro hz
      rcases hfrx with h | h
      · rw [hz] at h; cases h
      · exact hmine y _ h hya
  | load x y _ a b hya =>
    simp only [okStmt, Bool.and_eq_true, bne_iff_ne, ne_eq, Bool.not_eq_true'] at hok
    obtain ⟨⟨hx, hfx⟩, hfrx⟩ := hok
    refine ⟨hn, ?_, set_forall _ _ _ _ _ hf ?_, set_forall _ _ _ _ _ hfr ?_, hw, hh⟩
    · rw [set_self _ _ _ hx]; exact hs
    · intro hz; rw [hfx] at hz; cases hz
    · intro hz; rw [hfrx] at hz; cases hz
  | write x _ a v hxa =>
    simp only [okStmt, Bool.or_eq_true, Bool.and_eq_true] at hok
    have haddr : σ0.next ≤ a ∨ (m.sum.writesRecv = true ∧ a = recv) := by
      rcases hok with h | ⟨h1, h2⟩
      · exact Or.inl (hf x a h hxa)
      · rcases hmine x a h1 hxa with h | h
        · exact Or.inl h
        · exact Or.inr ⟨h2, h⟩
    refine ⟨hn, hs, hf, hfr, ?_, ?_⟩
    · obtain ⟨wn, hwn, hall⟩ := hw
      refine ⟨a :: wn, ?_, ?_⟩
      · show a :: s.w.written = a :: wn ++ σ0.written
        rw [hwn]; rfl
      · intro b hb
        simp only [List.mem_cons] at hb
        rcases hb with rfl | hb
        · exact haddr
        · exact hall b hb
    · intro b hb hnr
      show (if b = a then v else s.w.heap b) = σ0.heap b
      have hba : ¬ b = a := by
        intro h; subst h
        rcases haddr with h | h
        · omega
        · exact hnr h
      simp only [hba, if_false]
      exact hh b hb hnr
  | call x g rv args _ a σ' r hra hc =>
    simp only [okStmt, Bool.and_eq_true, bne_iff_ne, ne_eq, Bool.or_eq_true, Bool.not_eq_true',
      beq_iff_eq] at hok
    obtain ⟨⟨⟨hx, hwr⟩, hret⟩, hretfrs⟩ := hok
    obtain ⟨pn, ⟨wn', hwn', hall'⟩, ph, pr⟩ := hcallee g a s.w σ' r hc
    -- where a declared mutator may write: an object of this call, or our receiver if we are one
    have hrecv : (T g).sum.writesRecv = true →
        σ0.next ≤ a ∨ (m.sum.writesRecv = true ∧ a = recv) := by
      intro hg
      rcases hwr with (h | h) | ⟨h1, h2⟩
      · rw [hg] at h; cases h
      · exact Or.inl (hf rv a h hra)
      · rcases hmine rv a h1 hra with h | h
        · exact Or.inl h
        · exact Or.inr ⟨h2, h⟩
    refine ⟨?_, ?_, set_forall _ _ _ _ _ hf ?_, set_forall _ _ _ _ _ hfr ?_, ?_, ?_⟩
    · show σ0.next ≤ σ'.next
      omega
    · rw [set_self _ _ _ hx]; exact hs
    · intro hz
      rcases hret with (h | h) | ⟨h1, h2⟩
      · rw [hz] at h; cases h
      · rw [h] at pr; simp only [retOk] at pr; omega
      · rw [h1] at pr; simp only [retOk] at pr
        rcases pr with pr | pr
        · omega
        · subst pr; exact hf rv _ h2 hra
    · intro hz
      rcases hretfrs with (h | h) | ⟨h1, h2⟩
      · rw [hz] at h; cases h
      · rw [h] at pr; simp only [retOk] at pr; exact Or.inl (by omega)
      · rw [h1] at pr; simp only [retOk] at pr
        rcases pr with pr | pr
        · exact Or.inl (by omega)
        · subst pr; exact hmine rv _ h2 hra
    · obtain ⟨wn, hwn, hall⟩ := hw
      refine ⟨wn' ++ wn, ?_, ?_⟩
      · show σ'.written = wn' ++ wn ++ σ0.written
        rw [hwn', hwn, List.append_assoc]
      · intro b hb
        simp only [List.mem_append] at hb
        rcases hb with hb | hb
        · rcases hall' b hb with h | ⟨h1, h2⟩
          · exact Or.inl (by omega)
          · subst h2; exact hrecv h1
        · exact hall b hb
    · intro b hb hnr
      show σ'.heap b = σ0.heap b
      rw [ph b (by omega) ?_]
      · exact hh b hb hnr
      · intro ⟨h1, h2⟩
        subst h2
        rcases hrecv h1 with h | h
        · omega
        · exact hnr h
  | ret x _ => exact ⟨hn, hs, hf, hfr, hw, hh⟩

theorem steps_inv (T : Table) (callee) (m : Method) (recv : Nat) (σ0 : World)
    (hcallee : ∀ g a σ σ' r, callee g a σ σ' r → Promise (T g).sum a σ σ' r)
    (hok : ∀ st, st ∈ m.body → okStmt T m st = true) (s s' : St)
    (h : Steps callee m.body s s') (hinv : MInv m recv σ0 s) : MInv m recv σ0 s' := by
  induction h with
  | nil => exact hinv
  | cons st s1 s2 s3 hmem hstep _ ih =>
    exact ih (step_inv T callee m recv σ0 hcallee st (hok st hmem) s1 s2 hstep hinv)

/-- **C16 (soundness of the effect discipline)**: if every method's certificate checks, every call
    — of any depth, along any path through the bodies — keeps the promise of its summary. -/
theorem C16_sem_sound (T : Table) (hT : ∀ g, okMethod T (T g) = true) :
    ∀ d g recv σ σ' r, Sem T d g recv σ σ' r → Promise (T g).sum recv σ σ' r := by
  intro d
  induction d with
  | zero => intro g recv σ σ' r h; exact absurd h (by simp [Sem])
  | succ d ih =>
    intro g recv σ σ' r h
    obtain ⟨env0, s', x, ⟨hself, hpar⟩, hsteps, hret, hx, hσ'⟩ := h
    have hok := hT g
    simp only [okMethod, Bool.and_eq_true, List.all_eq_true, Bool.not_eq_true', bne_iff_ne,
      ne_eq] at hok
    obtain ⟨⟨⟨hbody, hselfnf⟩, hparams⟩, _⟩ := hok
    have hinit : MInv (T g) recv σ ⟨env0, σ⟩ := by
      refine ⟨Nat.le_refl _, hself, ?_, ?_, ⟨[], rfl, fun a ha => by cases ha⟩, fun _ _ _ => rfl⟩
      · intro y a hy hya
        have hya' : env0 y = some a := hya
        by_cases hy0 : y = selfVar
        · subst hy0; rw [hselfnf] at hy; cases hy
        · have := hparams y (hpar y hy0 (by rw [hya']; simp))
          rw [this.1.2] at hy; cases hy
      · intro y a hy hya
        have hya' : env0 y = some a := hya
        by_cases hy0 : y = selfVar
        · subst hy0; rw [hself] at hya'; cases hya'; exact Or.inr rfl
        · have := hparams y (hpar y hy0 (by rw [hya']; simp))
          rw [this.2] at hy; cases hy
    have hfin := steps_inv T (Sem T d) (T g) recv σ ih hbody _ _ hsteps hinit
    have hmine := mine_addr (T g) recv σ s' hfin
    obtain ⟨hn, hs, hf, hfr, hw, hh⟩ := hfin
    subst hσ'
    refine ⟨hn, hw, hh, ?_⟩
    have hr := hbody _ hret
    simp only [okStmt] at hr
    cases hk : (T g).sum.ret with
    | fresh => rw [hk] at hr; simp only at hr; simp only [retOk]; exact hf x r hr hx
    | freshOrRecv => rw [hk] at hr; simp only at hr; simp only [retOk]; exact hmine x r hr hx
    | any => simp only [retOk]

/-- A table that passes `allOk` satisfies the hypothesis of `C16_sem_sound`. -/
theorem allOk_all (ms : List Method) (h : allOk ms = true) :
    ∀ g, okMethod (tableOf ms) (tableOf ms g) = true := by
  intro g
  simp only [allOk, List.all_eq_true] at h
  show okMethod (tableOf ms) (ms.getD g Method.empty) = true
  rw [List.getD_eq_getElem?_getD]
  cases hg : ms[g]? with
  | none => rfl
  | some m => exact h m (List.mem_of_getElem? hg)

theorem allOk_pub (ms : List Method) (h : allOk ms = true) (g : Nat)
    (hpub : (tableOf ms g).pub = true) : (tableOf ms g).sum.writesRecv = false := by
  have := allOk_all ms h g
  simp only [okMethod, Bool.and_eq_true, Bool.or_eq_true, Bool.not_eq_true'] at this
  rcases this.2 with h1 | h1
  · rw [hpub] at h1; cases h1
  · exact h1

/-- No object of `σ` has been touched on the way to `σ'`: allocation only grew, every write event
    since is on a younger object, and the objects of `σ` have the state they had. -/
def Untouched (σ σ' : World) : Prop :=
  σ.next ≤ σ'.next ∧
  (∃ wn, σ'.written = wn ++ σ.written ∧ ∀ a, a ∈ wn → σ.next ≤ a) ∧
  (∀ a, a < σ.next → σ'.heap a = σ.heap a)

theorem Untouched.refl (σ : World) : Untouched σ σ :=
  ⟨Nat.le_refl _, ⟨[], rfl, fun a ha => by cases ha⟩, fun _ _ => rfl⟩

theorem Untouched.trans {σ σ1 σ2 : World} (h1 : Untouched σ σ1) (h2 : Untouched σ1 σ2) : Untouched σ σ2 := by
  obtain ⟨n1, ⟨w1, hw1, ha1⟩, e1⟩ := h1
  obtain ⟨n2, ⟨w2, hw2, ha2⟩, e2⟩ := h2
  refine ⟨by omega, ⟨w2 ++ w1, by rw [hw2, hw1, List.append_assoc], ?_⟩, ?_⟩
  · intro a ha
    rcases List.mem_append.1 ha with ha | ha
    · have := ha2 a ha; omega
    · exact ha1 a ha
  · intro a ha
    rw [e2 a (by omega), e1 a ha]

/-- A call that keeps its promise, entered on `σ` or on `σ` with more objects allocated, on a
    receiver that is either not written or younger than `σ`, touches no object of `σ`. -/
theorem untouched_of_promise (sm : Summary) (recv : Nat) (σ σ1 σ' : World) (r : Nat)
    (hn : σ.next ≤ σ1.next) (hw : σ1.written = σ.written) (hh : σ1.heap = σ.heap)
    (hrecv : sm.writesRecv = true → σ.next ≤ recv) (h : Promise sm recv σ1 σ' r) : Untouched σ σ' := by
  obtain ⟨pn, ⟨wn, hwn, hall⟩, ph, _⟩ := h
  refine ⟨by omega, ⟨wn, by rw [hwn, hw], ?_⟩, ?_⟩
  · intro a ha
    rcases hall a ha with h1 | ⟨h1, h2⟩
    · omega
    · subst h2; exact hrecv h1
  · intro a ha
    rw [ph a (by omega) (fun ⟨h1, h2⟩ => by have := hrecv h1; omega), hh]

/-- **C16 (one public operation)**: a public call produces no write event on any object that
    existed before the call, and leaves the state of every such object as it was. -/
theorem C16_public (ms : List Method) (hT : allOk ms = true)
    (g : Nat) (hpub : (tableOf ms g).pub = true)
    (d recv : Nat) (σ σ' : World) (r : Nat) (h : Sem (tableOf ms) d g recv σ σ' r) :
    σ.next ≤ σ'.next ∧
    (∃ wn, σ'.written = wn ++ σ.written ∧ ∀ a, a ∈ wn → σ.next ≤ a) ∧
    (∀ a, a < σ.next → σ'.heap a = σ.heap a) :=
  untouched_of_promise _ recv σ σ σ' r (Nat.le_refl _) rfl rfl
    (fun hwr => by rw [allOk_pub ms hT g hpub] at hwr; cases hwr)
    (C16_sem_sound (tableOf ms) (allOk_all ms hT) d g recv σ σ' r h)

/-- Constructing a value (allocate, then run any method of the table — `__init__` — on the new
    object) does not touch any object that existed before either. -/
theorem C16_construct (ms : List Method) (hT : allOk ms = true)
    (g d : Nat) (σ σ' : World) (r : Nat)
    (h : Sem (tableOf ms) d g σ.next { σ with next := σ.next + 1 } σ' r) :
    σ.next ≤ σ'.next ∧
    (∃ wn, σ'.written = wn ++ σ.written ∧ ∀ a, a ∈ wn → σ.next ≤ a) ∧
    (∀ a, a < σ.next → σ'.heap a = σ.heap a) :=
  untouched_of_promise _ σ.next σ { σ with next := σ.next + 1 } σ' r (Nat.le_succ _) rfl rfl
    (fun _ => Nat.le_refl _) (C16_sem_sound (tableOf ms) (allOk_all ms hT) d g σ.next _ σ' r h)

/-- **C16 (histories)**: after any sequence of public operations and constructions, every object
    that existed at the start has received no write event and has its state unchanged. -/
theorem C16_history (ms : List Method) (hT : allOk ms = true)
    (ops : List Op) (σ σ' : World) (h : Hist (tableOf ms) ops σ σ') :
    σ.next ≤ σ'.next ∧
    (∃ wn, σ'.written = wn ++ σ.written ∧ ∀ a, a ∈ wn → σ.next ≤ a) ∧
    (∀ a, a < σ.next → σ'.heap a = σ.heap a) := by
  induction h with
  | nil σ => exact Untouched.refl σ
  | call g recv d σ σ1 σ2 r rest hpub hsem _ ih =>
    exact Untouched.trans (C16_public ms hT g hpub d recv σ σ1 r hsem) ih
  | construct g d σ σ1 σ2 r rest hsem _ ih =>
    exact Untouched.trans (C16_construct ms hT g d σ σ1 r hsem) ih

theorem hist_split (T : Table) (ops1 ops2 : List Op) (σ σ' : World)
    (h : Hist T (ops1 ++ ops2) σ σ') : ∃ σm, Hist T ops1 σ σm ∧ Hist T ops2 σm σ' := by
  induction ops1 generalizing σ with
  | nil => exact ⟨σ, Hist.nil σ, h⟩
  | cons op rest ih =>
    cases h with
    | call g recv d _ σ1 _ r _ hpub hsem hrest =>
      obtain ⟨σm, h1, h2⟩ := ih σ1 hrest
      exact ⟨σm, Hist.call g recv d σ σ1 σm r rest hpub hsem h1, h2⟩
    | construct g d _ σ1 _ r _ hsem hrest =>
      obtain ⟨σm, h1, h2⟩ := ih σ1 hrest
      exact ⟨σm, Hist.construct g d σ σ1 σm r rest hsem h1, h2⟩

/-- **C16 (every earlier value, re-inspected after every later step)**: split a history anywhere;
    every object that existed at the split point — operands and all previously returned values —
    has the same state at the end, and none of the later write events is on it. -/
theorem C16_history_every_earlier_value (ms : List Method) (hT : allOk ms = true)
    (before after : List Op) (σ σ' : World) (h : Hist (tableOf ms) (before ++ after) σ σ') :
    ∃ σm, Hist (tableOf ms) before σ σm ∧ Hist (tableOf ms) after σm σ' ∧
      (∀ a, a < σm.next → σ'.heap a = σm.heap a) ∧
      (∃ wn, σ'.written = wn ++ σm.written ∧ ∀ a, a ∈ wn → σm.next ≤ a) := by
  obtain ⟨σm, h1, h2⟩ := hist_split (tableOf ms) before after σ σ' h
  obtain ⟨_, hw, hh⟩ := C16_history ms hT after σm σ' h2
  exact ⟨σm, h1, h2, hh, hw⟩

/-! ### Checking the generated table

  The kernel evaluates `List.contains` slowly and arithmetic on literals fast, so the table is
  checked with the certificates `fresh` and `frs` read as bit masks. -/

def maskOf (l : List Nat) : Nat := l.foldr (fun x acc => acc ||| 2 ^ x) 0

theorem testBit_maskOf (l : List Nat) (x : Nat) : (maskOf l).testBit x = l.contains x := by
  induction l with
  | nil => exact Nat.zero_testBit x
  | cons y ys ih =>
    show (maskOf ys ||| 2 ^ y).testBit x = _
    rw [Nat.testBit_or, ih, Nat.testBit_two_pow, List.contains_cons, Bool.or_comm]
    congr 1
    exact decide_eq_decide.2 eq_comm

/-- `okStmt` with the two certificates given as predicates. -/
def okStmtP (T : Table) (fresh frs : Nat → Bool) (sum : Summary) : Stmt → Bool
  | .new x => x != selfVar
  | .mov x y => x != selfVar && (!fresh x || fresh y) && (!frs x || (fresh y || y == selfVar || frs y))
  | .load x _ => x != selfVar && !fresh x && !frs x
  | .write x => fresh x || ((fresh x || x == selfVar || frs x) && sum.writesRecv)
  | .call x g recv _ =>
      x != selfVar &&
      (!(T g).sum.writesRecv || fresh recv || ((fresh recv || recv == selfVar || frs recv) && sum.writesRecv)) &&
      (!fresh x || (T g).sum.ret == .fresh || ((T g).sum.ret == .freshOrRecv && fresh recv)) &&
      (!frs x || (T g).sum.ret == .fresh ||
        ((T g).sum.ret == .freshOrRecv && (fresh recv || recv == selfVar || frs recv)))
  | .ret x =>
      match sum.ret with
      | .fresh => fresh x
      | .freshOrRecv => fresh x || x == selfVar || frs x
      | .any => true

theorem okStmtP_eq (T : Table) (m : Method) (st : Stmt) :
    okStmtP T m.isFresh m.frs.contains m.sum st = okStmt T m st := by
  cases st <;> rfl

def okMethodP (T : Table) (m : Method) (fresh frs : Nat → Bool) : Bool :=
  m.body.all (okStmtP T fresh frs m.sum) && !fresh selfVar &&
  m.params.all (fun p => p != selfVar && !fresh p && !frs p) &&
  (!m.pub || !m.sum.writesRecv)

def allOkMask (ms : List Method) : Bool :=
  ms.all fun m => okMethodP (tableOf ms) m (maskOf m.fresh).testBit (maskOf m.frs).testBit

theorem allOkMask_eq (ms : List Method) : allOkMask ms = allOk ms := by
  unfold allOkMask allOk
  congr 1
  funext m
  have hf : (maskOf m.fresh).testBit = m.isFresh := funext (testBit_maskOf _)
  have hr : (maskOf m.frs).testBit = m.frs.contains := funext (testBit_maskOf _)
  have hs : okStmtP (tableOf ms) m.isFresh m.frs.contains m.sum = okStmt (tableOf ms) m :=
    funext (okStmtP_eq _ _)
  rw [hf, hr, okMethodP, hs]
  rfl

/-- **C16 (the tie to the source)**: the table regenerated from `data.py` checks — every body
    against the summaries of its callees, and no public method writes its receiver. -/
theorem C16_gen_ok : allOk IsoDT.Gen.Effects.table = true := by
  rw [← allOkMask_eq]
  decide +kernel

/-- The three statements above for the methods of `data.py` as they are now. -/
theorem C16_data_py_history (ops : List Op) (σ σ' : World)
    (h : Hist (tableOf IsoDT.Gen.Effects.table) ops σ σ') :
    ∀ a, a < σ.next → σ'.heap a = σ.heap a :=
  (C16_history _ C16_gen_ok ops σ σ' h).2.2

/-! ### Non-vacuity: the semantics is inhabited, and the check does reject mutation. -/

/-- 0: `_copy` (allocates, writes the copy, returns it); 1: `_tick` (private, writes `self`);
    2: `add` (public: copy, tick the copy, return it). -/
def demo : List Method := [
  ⟨"_copy", false, [], [.new 1, .write 1, .ret 1], [1], [], ⟨false, .fresh⟩⟩,
  ⟨"_tick", false, [], [.write 0, .new 1, .ret 1], [1], [], ⟨true, .fresh⟩⟩,
  ⟨"add", true, [1], [.call 2 0 0 [], .call 3 1 2 [], .ret 2], [2, 3], [], ⟨false, .fresh⟩⟩]

example : allOk demo = true := by decide +kernel

theorem sem_two (T : Table) (d g recv : Nat) (σ : World) (env0 : Nat → Option Nat) (s1 s2 : St)
    (st1 st2 : Stmt) (x r : Nat) (hi : InitEnv (T g) recv env0)
    (m1 : st1 ∈ (T g).body) (h1 : Step (Sem T d) st1 ⟨env0, σ⟩ s1)
    (m2 : st2 ∈ (T g).body) (h2 : Step (Sem T d) st2 s1 s2)
    (mr : Stmt.ret x ∈ (T g).body) (hx : s2.env x = some r) : Sem T (d + 1) g recv σ s2.w r :=
  ⟨env0, s2, x, hi, .cons _ _ _ _ m1 h1 (.cons _ _ _ _ m2 h2 (.nil _)), mr, hx, rfl⟩

/-- `add` really runs in the semantics: on receiver 5 with allocation pointer 10 it allocates 10
    (the copy, written twice) and 11, and returns 10. -/
example : ∃ σ', Sem (tableOf demo) 2 2 5 ⟨10, [], fun _ => 0⟩ σ' 10 ∧ σ'.written = [10, 10] := by
  let h0 : Nat → Nat := fun _ => 0
  let w1 : World := ⟨11, [10], fun b => if b = 10 then 1 else h0 b⟩
  let w2 : World := ⟨12, [10, 10], fun b => if b = 10 then 2 else w1.heap b⟩
  let selfOnly (a : Nat) : Nat → Option Nat := fun v => if v = 0 then some a else none
  have hpar : ∀ a, ∀ x, x ≠ selfVar → selfOnly a x ≠ none → x ∈ ([] : List Nat) := by
    intro a x hx hne; simp [selfOnly, selfVar] at hne hx; exact absurd hne hx
  have copy : Sem (tableOf demo) 1 0 5 ⟨10, [], h0⟩ w1 10 :=
    sem_two _ 0 0 5 _ (selfOnly 5) _ _ _ _ 1 10 ⟨rfl, hpar 5⟩
      (by decide) (Step.new 1 _) (by decide) (Step.write 1 _ 10 1 rfl) (by decide) rfl
  have tick : Sem (tableOf demo) 1 1 10 w1 w2 11 :=
    sem_two _ 0 1 10 _ (selfOnly 10) _ _ _ _ 1 11 ⟨rfl, hpar 10⟩
      (by decide) (Step.write 0 _ 10 2 rfl) (by decide) (Step.new 1 _) (by decide) rfl
  refine ⟨w2, sem_two _ 1 2 5 _ (selfOnly 5) _ _ _ _ 2 10 ⟨rfl, ?_⟩
    (by decide) (Step.call 2 0 0 [] _ 5 w1 10 rfl copy) (by decide) (Step.call 3 1 2 [] _ 10 w2 11 rfl tick)
    (by decide) rfl, rfl⟩
  intro x hx hne
  have : x = 1 := by
    simp [selfOnly, selfVar] at hne hx; exact absurd hne hx
  subst this; decide

/-- "modify, then return self": the public method ticks its receiver instead of a copy. -/
def mutant1 : List Method :=
  demo.set 2 ⟨"add", true, [1], [.call 3 1 0 [], .ret 0], [3], [], ⟨true, .freshOrRecv⟩⟩
example : allOk mutant1 = false := by decide +kernel

/-- `_copy` stops copying (returns `self`): `add` then ticks something it cannot certify fresh. -/
def mutant2 : List Method :=
  demo.set 0 ⟨"_copy", false, [], [.ret 0], [], [], ⟨false, .freshOrRecv⟩⟩
example : allOk mutant2 = false := by decide +kernel

/-- writing through a loaded sub-object (`p._time_zone._hours = …`) is never certifiable. -/
def mutant3 : List Method :=
  demo.set 2 ⟨"add", true, [1], [.call 2 0 0 [], .load 3 2, .write 3, .ret 2], [2], [], ⟨false, .fresh⟩⟩
example : allOk mutant3 = false := by decide +kernel

end IsoDT.Props.C16
