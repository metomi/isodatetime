/-
  C05 (rational slots) — month and year arithmetic on time points in ANY time-precision form.

  The Python keeps `_hour_of_day`, `_minute_of_hour`, `_second_of_minute` as floats, the last two
  possibly `None` (decimal seconds / decimal minutes / decimal hours).  `Model.TimePointQ3` runs
  the statements of `add_months`, of the year branch of `__add__` and of the whole
  `__add__(Duration)` on such points, the slots as exact rationals.  The nominal part of a
  duration only ever moves DATE slots, which are integers in every form (`C05_nominal_projection`:
  the date is the one the whole-second model of `Props/C05.lean` gives on the point's date at
  midnight, the time slots are copied); so the calendar rules of `C05_add_months` / `C05_add_years`
  carry over, for all four calendar modes, the three date representations, any offset, every year in
  `Int`, either sign, with slot pattern, offset and representation unchanged.  A mixed duration
  applies its exact part first (`C01_add_exact_rat`), then months, then years.  On whole-second points
  the rational model coincides with the whole-second model (`C05_rat_extends_int`).

  What this does NOT say: anything about binary rounding in the float computation of the exact
  part (see `Props/C01q.lean`).  The nominal part itself does no float arithmetic at all except the
  `_tick_over()` at the end of `add_months`, which on in-range slots subtracts / adds zero
  remainders (`tickTimeQ_ok_id` in exact arithmetic).
-/
import IsoDT.Lemmas.NominalQ
import IsoDT.Props.C05

namespace IsoDT.Props.C05
open IsoDT IsoDT.Model IsoDT.Lemmas
open IsoDT.Spec (Date TZ TP)

theorem midnight_strict (m : Mode) (p : TPQ) (hv : p.Valid m) : p.midnight.Strict m := by
  refine ⟨⟨hv.1, ?_, ?_, ?_, ?_, ?_, ?_, ?_, hv.2.1⟩, ?_⟩ <;> simp [TPQ.midnight]

theorem midnight_eq (p : TPQ) (q : TP) (ht : q.tz = p.tz) (hh : q.hh = 0) (hm : q.mi = 0) (hs : q.ss = 0) :
    q = (p.withDate q.date).midnight := by
  obtain ⟨qd, qh, qm, qs, qt⟩ := q
  simp only at ht hh hm hs
  simp only [TPQ.midnight, TPQ.withDate, ht, hh, hm, hs]

/-- **Projection**: the nominal part of `__add__` never looks at the time slots.  On a legal point
    with `hh < 24` (all that `__add__` hands over after the exact part) `add_months` returns the
    input with its date replaced by the date the whole-second model computes from the input's date
    at midnight; the year branch does so on every point. -/
theorem C05_nominal_projection (m : Mode) (p : TPQ) (n : Int) :
    (p.hms.Ok → p.hh < 24 →
      addMonthsQ m p n = (addMonths m p.midnight n).map fun q => p.withDate q.date) ∧
    addYearsQ m p n = p.withDate (addYears m p.midnight n).date :=
  ⟨addMonthsQ_proj m p n, addYearsQ_proj m p n⟩

/-- **C05 (months) over rationals**: `add_months(n)`, `n ≠ 0`, on a legal point with `hh < 24` in
    any representation and any precision form: the date is exactly the date of the whole-second
    model (`q.midnight` is `addMonths` of `p.midnight`), hence in calendar form the input moved by
    `|n|` single clamping steps (`C05_month_steps`), ordinal and week dates going through their
    calendar form and back; time slots (so also which of them are `None`), offset and
    representation are unchanged and the result is legal. -/
theorem C05_add_months_rat (m : Mode) (p : TPQ) (n : Int) (hn : n ≠ 0) (hp : TPQ.Strict m p) :
    ∃ y mo d q, convert m 0 p.date = some (.cal y mo d) ∧ Spec.ValidCal m y mo d ∧
      addMonthsQ m p n = some q ∧
      addMonths m p.midnight n = some q.midnight ∧
      convert m 0 q.date = some (.cal (specMonthSteps m (decide (n > 0)) n.natAbs (y, mo, d)).1
        (specMonthSteps m (decide (n > 0)) n.natAbs (y, mo, d)).2.1
        (specMonthSteps m (decide (n > 0)) n.natAbs (y, mo, d)).2.2) ∧
      TPQ.Strict m q ∧ q.date.rep = p.date.rep ∧ q.tz = p.tz ∧ q.hh = p.hh ∧ q.mi = p.mi ∧ q.ss = p.ss := by
  obtain ⟨y, mo, d, q0, ec, vc, e0, cv, s0, r0, t0, h0, m0, ss0⟩ :=
    C05_add_months m p.midnight n hn (midnight_strict m p hp.1)
  have hq0 := midnight_eq p q0 t0 h0 m0 ss0
  refine ⟨y, mo, d, p.withDate q0.date, ec, vc, ?_, ?_, cv, ⟨⟨s0.1.1, hp.1.2.1, hp.1.2.2⟩, hp.2⟩, r0,
    rfl, rfl, rfl, rfl⟩
  · rw [addMonthsQ_proj m p n hp.1.2.2 hp.2, e0]; rfl
  · rw [e0, ← hq0]

theorem C05_add_zero_months_rat (m : Mode) (p : TPQ) : addMonthsQ m p 0 = some p := addMonthsQ_zero m p

/-- **C05 (years) over rationals**: adding `n` years to a legal point in any precision form keeps
    month and day (29 Feb → 28 Feb in a common year), the ordinal day (366 → 365) or the ISO week
    and weekday (week 53 → the target year's last week), according to the representation; the date
    is exactly the whole-second model's; time slots, offset and representation are unchanged and
    the result is legal (with `hh < 24` if the input has). -/
theorem C05_add_years_rat (m : Mode) (p : TPQ) (n : Int) (hp : p.Valid m) :
    (addYearsQ m p n).Valid m ∧ (addYearsQ m p n).date.rep = p.date.rep ∧ (addYearsQ m p n).tz = p.tz ∧
    (addYearsQ m p n).hh = p.hh ∧ (addYearsQ m p n).mi = p.mi ∧ (addYearsQ m p n).ss = p.ss ∧
    (addYearsQ m p n).midnight = addYears m p.midnight n ∧
    (addYearsQ m p n).date =
      match p.date with
      | .cal y mo d => .cal (y + n) mo (min d (Spec.monthLen m (y + n) mo))
      | .ord y doy => .ord (y + n) (min doy (Spec.yearLen m (y + n)))
      | .week y w d => .week (y + n) (min w (Spec.weeksInYear m (y + n))) d := by
  obtain ⟨a1, a2, a3, a4, a5, a6, a7⟩ := C05_add_years m p.midnight n (midnight_strict m p hp)
  rw [addYearsQ_proj]
  exact ⟨⟨a1.1.1, hp.2.1, hp.2.2⟩, a2, rfl, rfl, rfl, rfl, (midnight_eq p _ a3 a4 a5 a6).symm, a7⟩

/-- **C05 (order) over rationals**: a mixed duration applies its exact part first, then months,
    then years. -/
theorem C05_order_rat (m : Mode) (p : TPQ) (d : DurNQ) :
    addDurQ m p d =
      (addExactQ m p d.exact).bind fun p1 => (addMonthsQ m p1 d.months).bind fun p2 =>
        some (addYearsQ m p2 d.years) := by
  simp only [addDurQ, Option.bind_eq_bind, Option.pure_def]

theorem addDur_nominal_midnight (m : Mode) (p : TPQ) (y mo : Int) :
    addDur m p.midnight (.units y mo 0 0 0 0) =
      (addMonths m p.midnight mo).bind fun p2 => some (addYears m p2 y) := by
  have e : addUnits m p.midnight 0 0 0 0 = some p.midnight := by
    simp [addUnits, normalise24, stepS, stepM, stepH, stepD, TPQ.midnight, hoursInDay_eq]
  rw [C05_order, e, Option.bind_some]

theorem addMonthsQ_strict (m : Mode) (p : TPQ) (n : Int) (hp : TPQ.Strict m p) :
    ∃ q, addMonthsQ m p n = some q ∧ addMonths m p.midnight n = some q.midnight ∧ TPQ.Strict m q ∧
      q.date.rep = p.date.rep ∧ q.tz = p.tz ∧ q.hh = p.hh ∧ q.mi = p.mi ∧ q.ss = p.ss := by
  by_cases c : n = 0
  · subst c
    exact ⟨p, addMonthsQ_zero m p, addMonths_zero m _, hp, rfl, rfl, rfl, rfl, rfl⟩
  · obtain ⟨_, _, _, q, _, _, e, em, _, h⟩ := C05_add_months_rat m p n c hp
    exact ⟨q, e, em, h⟩

/-- **C05 (validity) over rationals**: `p + d` for any duration (nominal, exact or mixed, either
    sign, fractional hours / minutes / seconds) of a legal point in any precision form is defined;
    it is a legal point with `hh < 24`, in `p`'s representation, offset and precision form; its
    time slots are those after the exact part alone, and its date is the date the whole-second
    model gives for the nominal part applied to the date reached by the exact part. -/
theorem C05_add_valid_rat (m : Mode) (p : TPQ) (d : DurNQ) (hv : p.Valid m) :
    ∃ p1 q, addExactQ m p d.exact = some p1 ∧ addDurQ m p d = some q ∧
      addDur m p1.midnight (.units d.years d.months 0 0 0 0) = some q.midnight ∧
      TPQ.Strict m q ∧ q.date.rep = p.date.rep ∧ q.tz = p.tz ∧
      q.hh = p1.hh ∧ q.mi = p1.mi ∧ q.ss = p1.ss ∧
      q.mi.isSome = p.mi.isSome ∧ q.ss.isSome = p.ss.isSome := by
  obtain ⟨p1, e1, g1⟩ := addExactQ_spec m p d.exact hv
  obtain ⟨p2, e2, em, s2, r2, t2, hh2, mi2, ss2⟩ := addMonthsQ_strict m p1 d.months ⟨g1.valid, g1.lt24⟩
  have hd := addDur_nominal_midnight m p1 d.years d.months
  rw [em, Option.bind_some] at hd
  rw [C05_order_rat, e1, Option.bind_some, e2, Option.bind_some]
  obtain ⟨b1, b2, b3, b4, b5, b6, b7, _⟩ := C05_add_years_rat m p2 d.years s2.1
  exact ⟨p1, _, rfl, rfl, by rw [hd, b7], ⟨b1, by rw [b4]; exact s2.2⟩, by rw [b2, r2, g1.rep],
    by rw [b3, t2, g1.tz], by rw [b4, hh2], by rw [b5, mi2], by rw [b6, ss2],
    by rw [b5, mi2, g1.mi], by rw [b6, ss2, g1.ss]⟩

theorem C05_rat_extends_int_months (m : Mode) (p : TP) (n : Int) :
    addMonthsQ m (TPQ.ofTP p) n = (addMonths m p n).map TPQ.ofTP := addMonthsQ_ofTP m p n

theorem C05_rat_extends_int_years (m : Mode) (p : TP) (n : Int) :
    addYearsQ m (TPQ.ofTP p) n = TPQ.ofTP (addYears m p n) := addYearsQ_ofTP m p n

/-- **C05, whole seconds as an instance**: on a whole-second point and a whole-number `Duration`
    (unit form or week form) the rational model of `__add__` gives the answer of the whole-second
    model `addDur` (same failure, same point), so `C05_add_months`, `C05_add_years`, `C05_order`,
    `C05_add_valid` of `Props/C05.lean` are statements about `addDurQ` too. -/
theorem C05_rat_extends_int (m : Mode) (p : TP) (d : Dur) :
    addDurQ m (TPQ.ofTP p) (d.toNQ m) = (addDur m p d).map TPQ.ofTP := addDurQ_ofTP m p d

/-! ## `add_months` called directly on a 24:00 spelling -/

/-- `add_months(n)`, `n ≠ 0`, on ANY slot values: it is the whole-second `add_months` on the
    point's date at `24·nd` o'clock, `nd` the number of days the closing `_tick_over()` carries
    out of the slots (`1` for a 24:00 spelling) — the carry happens AFTER the month steps and
    their clamp. -/
theorem C05_add_months_24_rat (m : Mode) (p : TPQ) (n : Int) (hn : n ≠ 0) (nd : Int) (t : HMS)
    (ht : tickTimeQ m ⟨p.hh, p.mi, p.ss⟩ = some (nd, t)) :
    addMonthsQ m p n =
      (addMonths m ⟨p.date, (calOf m).hoursInDay * nd, 0, 0, p.tz⟩ n).map
        fun q => ⟨q.date, t.hh, t.mi, t.ss, p.tz⟩ := addMonthsQ_carry m p n hn nd t ht

-- decimal-hour point, 31 March 12.5h + P1M: clamp to 30 April, 12.5h kept, no minute / second slot
example : TPQ.Strict .greg ⟨.cal 2001 3 31, 25/2, none, none, ⟨5, 30⟩⟩ := ⟨by decide +kernel, by decide +kernel⟩
example : addDurQ .greg ⟨.cal 2001 3 31, 25/2, none, none, ⟨5, 30⟩⟩ ⟨0, 1, ⟨0, 0, 0, 0⟩⟩ =
    some ⟨.cal 2001 4 30, 25/2, none, none, ⟨5, 30⟩⟩ := by decide +kernel
-- decimal-minute point on the leap day, + P1Y: 28 Feb
example : addDurQ .greg ⟨.cal 2000 2 29, 23, some (119/2), none, ⟨0, 0⟩⟩ ⟨1, 0, ⟨0, 0, 0, 0⟩⟩ =
    some ⟨.cal 2001 2 28, 23, some (119/2), none, ⟨0, 0⟩⟩ := by decide +kernel
-- decimal-second ordinal point on day 366, - P1Y: day 365
example : subDurQ .greg ⟨.ord 2000 366, 0, some 0, some (1/4), ⟨0, 0⟩⟩ ⟨1, 0, ⟨0, 0, 0, 0⟩⟩ =
    some ⟨.ord 1999 365, 0, some 0, some (1/4), ⟨0, 0⟩⟩ := by decide +kernel
-- week 53 in decimal-hour form, + P1Y: week 52
example : addDurQ .greg ⟨.week 2020 53 7, 1/8, none, none, ⟨-5, -30⟩⟩ ⟨1, 0, ⟨0, 0, 0, 0⟩⟩ =
    some ⟨.week 2021 52 7, 1/8, none, none, ⟨-5, -30⟩⟩ := by decide +kernel
-- an ordinal date goes through its calendar form and back: day 31 (31 Jan) + P1M = 28 Feb = day 59
example : addDurQ .greg ⟨.ord 2001 31, 12, some (1/2), none, ⟨0, 0⟩⟩ ⟨0, 1, ⟨0, 0, 0, 0⟩⟩ =
    some ⟨.ord 2001 59, 12, some (1/2), none, ⟨0, 0⟩⟩ := by decide +kernel
-- the exact part first: 30 Jan 23.5h + P1MT0.5H is 31 Jan 00h + P1M = 28 Feb (months first would
-- give 28 Feb 23.5h + 0.5h = 1 March)
example : addDurQ .greg ⟨.cal 2001 1 30, 47/2, none, none, ⟨0, 0⟩⟩ ⟨0, 1, ⟨0, 1/2, 0, 0⟩⟩ =
    some ⟨.cal 2001 2 28, 0, none, none, ⟨0, 0⟩⟩ := by decide +kernel
-- months before years: 29 Feb 2000 + P1Y1M = 29 March 2001 (years first would give 28 March)
example : addDurQ .greg ⟨.cal 2000 2 29, 0, some 0, some (1/2), ⟨0, 0⟩⟩ ⟨1, 1, ⟨0, 0, 0, 0⟩⟩ =
    some ⟨.cal 2001 3 29, 0, some 0, some (1/2), ⟨0, 0⟩⟩ := by decide +kernel
-- 360-day calendar: every month has 30 days, nothing to clamp
example : addDurQ .d360 ⟨.cal 2001 1 30, 1/2, none, none, ⟨0, 0⟩⟩ ⟨0, 1, ⟨0, 0, 0, 0⟩⟩ =
    some ⟨.cal 2001 2 30, 1/2, none, none, ⟨0, 0⟩⟩ := by decide +kernel
-- `__add__` normalises a 24:00 spelling first: 31 Jan 24h + P1M = 1 Feb 00h + P1M = 1 March
example : addDurQ .greg ⟨.cal 2001 1 31, 24, none, none, ⟨0, 0⟩⟩ ⟨0, 1, ⟨0, 0, 0, 0⟩⟩ =
    some ⟨.cal 2001 3 1, 0, none, none, ⟨0, 0⟩⟩ := by decide +kernel
-- `add_months` called directly clamps first and carries after: 30 Jan 24h, one month on: 28 Feb 24h = 1 March
-- (the same instant, 31 Jan 00h, gives 28 Feb 00h); zero months leave the 24:00 spelling alone
example : addMonthsQ .greg ⟨.cal 2001 1 30, 24, some 0, none, ⟨0, 0⟩⟩ 1 =
    some ⟨.cal 2001 3 1, 0, some 0, none, ⟨0, 0⟩⟩ := by decide +kernel
example : addMonthsQ .greg ⟨.cal 2001 1 31, 0, some 0, none, ⟨0, 0⟩⟩ 1 =
    some ⟨.cal 2001 2 28, 0, some 0, none, ⟨0, 0⟩⟩ := by decide +kernel
example : addMonthsQ .greg ⟨.cal 2001 1 30, 24, some 0, none, ⟨0, 0⟩⟩ 0 =
    some ⟨.cal 2001 1 30, 24, some 0, none, ⟨0, 0⟩⟩ := by decide +kernel
-- instance of the hypothesis of `C05_add_months_24_rat`
example : tickTimeQ .greg ⟨24, some 0, none⟩ = some (1, ⟨0, some 0, none⟩) := by decide +kernel
-- whole-second instance of `C05_rat_extends_int` (week form of the duration)
example : addDurQ .greg (TPQ.ofTP ⟨.cal 2001 3 31, 1, 2, 3, ⟨0, 0⟩⟩) ((Dur.weeks 2).toNQ .greg) =
    some (TPQ.ofTP ⟨.cal 2001 4 14, 1, 2, 3, ⟨0, 0⟩⟩) := by decide +kernel

end IsoDT.Props.C05
