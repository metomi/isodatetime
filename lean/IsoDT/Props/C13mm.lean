/-
  C13 (continued) — the recurrence queries with `min_point` / `max_point`:
  `get_is_valid`, `r[i]`, `get_next`/`get_prev`, `get_first_after` of `Model/RecurrenceMM.lean`.

  The queries are related to the iteration CUT BY THE WINDOW (`Props/C12mm.lean`), with the theorems of
  `Props/C13b.lean` for the recurrence without one: `get_is_valid(p)` true means `p` passes the bounds
  test and equals one of the iterated points (every recurrence), and for an exact interval it is
  membership of the iterated points by instant.  The converse w.r.t. the series fails in the code
  when the start is before `min_point` — nothing is iterated, so nothing is valid
  (`C13_mm_is_valid_start_before_min_witness`).
-/
import IsoDT.Props.C13b
import IsoDT.Props.C12mm

namespace IsoDT.Props.C13
open IsoDT IsoDT.Model IsoDT.Lemmas IsoDT.Props.C12
open IsoDT.Spec (Date TZ TP)

theorem scanValid_true_mem (m : Mode) (r : Rec) (p : TP) : ∀ l : List TP,
    scanValid m r p l = true → ∃ q ∈ l, tpEq m q p = true := by
  intro l
  induction l with
  | nil => intro h; simp [scanValid] at h
  | cons q rest ih =>
    intro h
    unfold scanValid at h
    by_cases c1 : tpEq m q p = true
    · exact ⟨q, List.mem_cons_self, c1⟩
    · rw [if_neg c1] at h
      split at h
      · cases h
      · split at h
        · cases h
        · obtain ⟨x, hx, hxe⟩ := ih h
          exact ⟨x, List.mem_cons_of_mem _ hx, hxe⟩

/-- **`get_is_valid` with a window is sound** — every recurrence, any interval, any amount of
    iteration: if it answers `True` then the probe passes `_get_is_in_bounds` (start, min, max,
    end) and one of the points `__iter__` yields (with the window) compares equal to it.  With
    valid points: the probe's instant is within [min, max] and equals that of an iterated point,
    which is also a point of the unrestricted iteration. -/
theorem C13_mm_is_valid_sound (m : Mode) (r : RecMM) (p : TP) (fuel : Nat)
    (h : getIsValidMM m r p fuel = true) :
    inBoundsMM m r p = true ∧ inBounds m r.base p = true ∧ withinMM m r p = true ∧
    (∃ q ∈ iterMM m r fuel, tpEq m q p = true ∧ q ∈ iter m r.base fuel ∧ withinMM m r q = true) ∧
    (p.Valid m → (∀ a, r.minP = some a → a.Valid m) → (∀ b, r.maxP = some b → b.Valid m) →
      (∀ a, r.minP = some a → a.inst m ≤ p.inst m) ∧ (∀ b, r.maxP = some b → p.inst m ≤ b.inst m) ∧
      ∀ q ∈ iterMM m r fuel, tpEq m q p = true → q.Valid m → q.inst m = p.inst m) := by
  unfold getIsValidMM at h
  cases hb : inBoundsMM m r p with
  | false => rw [hb] at h; simp at h
  | true =>
    rw [hb] at h
    simp only [Bool.not_true, Bool.false_eq_true, ↓reduceIte] at h
    have hb' := hb
    rw [inBoundsMM_eq, Bool.and_eq_true] at hb'
    obtain ⟨q, hq, hqe⟩ := scanValid_true_mem m r.base p _ h
    have hpre := (C12_mm_iter_longest_prefix m r fuel)
    refine ⟨rfl, hb'.1, hb'.2, ⟨q, hq, hqe, hpre.2.2.1.subset hq, (hpre.2.2.2.1 q hq).1⟩, ?_⟩
    intro hp hmin hmax
    have := (withinMM_iff m r p hp hmin hmax).mp hb'.2
    exact ⟨this.1, this.2, fun q _ he hqv => (tpEq_iff m q p hqv hp).mp he⟩

theorem withinMM_congr (m : Mode) (r : RecMM) (p q : TP) (hp : p.Valid m) (hq : q.Valid m)
    (hmin : ∀ a, r.minP = some a → a.Valid m) (hmax : ∀ b, r.maxP = some b → b.Valid m)
    (h : q.inst m = p.inst m) : withinMM m r q = withinMM m r p := by
  have a := withinMM_iff m r p hp hmin hmax
  have b := withinMM_iff m r q hq hmin hmax
  rw [h] at b
  rw [Bool.eq_iff_iff, a, b]

/-- **`get_is_valid` with a window is membership of the iterated points** (exact interval; every
    notation, bounded or not, forwards or backwards; any amount of iteration): true exactly when
    one of the points `__iter__` yields — the unrestricted series cut by [min, max], see
    `C12_mm_iter_longest_prefix` — is at the probe's instant. -/
theorem C13_mm_is_valid_iff_iterated (m : Mode) (r : RecMM) (d : Dur) (L : Int) (hr : ExactRec m r.base d L)
    (hmin : ∀ a, r.minP = some a → a.Valid m) (hmax : ∀ b, r.maxP = some b → b.Valid m)
    (p : TP) (hp : p.Valid m) (fuel : Nat) :
    getIsValidMM m r p fuel = true ↔ ∃ q ∈ iterMM m r fuel, q.inst m = p.inst m := by
  have hx := hr.stepRec
  obtain ⟨hv, hdec, hinc⟩ := iter_monotone m r.base d L hx fuel
  obtain ⟨_, _, hpre, hin, _⟩ := C12_mm_iter_longest_prefix m r fuel
  have hv' : ∀ q ∈ iterMM m r fuel, q.Valid m := fun q hq => hv q (hpre.subset hq)
  refine guarded_scan_iff m r.base p hp _ _ hv' (fun h => (hdec h).sublist hpre.sublist)
    (fun h => (hinc h).sublist hpre.sublist) fun q hq hqe => ?_
  obtain ⟨w1, w2, _⟩ := hin q hq
  rw [inBoundsMM_eq, ← inBounds_congr m r.base hx.startValid hx.endValid p q hp (hv' q hq) hqe,
    ← withinMM_congr m r p q hp (hv' q hq) hmin hmax hqe, w1, w2]
  rfl

/-- Consequence: with a window `get_is_valid` implies `get_is_valid` without it (exact interval). -/
theorem C13_mm_is_valid_implies_unrestricted (m : Mode) (r : RecMM) (d : Dur) (L : Int)
    (hr : ExactRec m r.base d L)
    (hmin : ∀ a, r.minP = some a → a.Valid m) (hmax : ∀ b, r.maxP = some b → b.Valid m)
    (p : TP) (hp : p.Valid m) (fuel : Nat) (h : getIsValidMM m r p fuel = true) :
    getIsValid m r.base p fuel = true := by
  obtain ⟨q, hq, hqe⟩ := (C13_mm_is_valid_iff_iterated m r d L hr hmin hmax p hp fuel).mp h
  exact (C13_is_valid_iff_iterated m r.base d L hr p hp fuel).mpr
    ⟨q, (C12_mm_iter_longest_prefix m r fuel).2.2.1.subset hq, hqe⟩

/-- **The converse fails in the code when the start is before `min_point`**:
    `R5/2002-05-04T23:00Z/PT1H` with `min_point = 2002-05-05T00:00Z`; the probe `01:00Z` is a member of
    the series, is at or after the minimum and passes the bounds test, yet `get_is_valid` is
    `False` — `__iter__` yields nothing because its first point is out of bounds.
    (`get_next` from the start, by contrast, finds the member at the minimum.) -/
theorem C13_mm_is_valid_start_before_min_witness :
    ∃ r, mkRecMM .greg (some 5) (some ⟨.cal 2002 5 4, 23, 0, 0, ⟨0, 0⟩⟩) (some (.units 0 0 0 1 0 0)) none
        (some ⟨.cal 2002 5 5, 0, 0, 0, ⟨0, 0⟩⟩) none = some r ∧
      inBoundsMM .greg r ⟨.cal 2002 5 5, 1, 0, 0, ⟨0, 0⟩⟩ = true ∧
      getIsValid .greg r.base ⟨.cal 2002 5 5, 1, 0, 0, ⟨0, 0⟩⟩ 10 = true ∧
      getIsValidMM .greg r ⟨.cal 2002 5 5, 1, 0, 0, ⟨0, 0⟩⟩ 10 = false ∧
      iterMM .greg r 10 = [] ∧
      getNextMM .greg r ⟨.cal 2002 5 4, 23, 0, 0, ⟨0, 0⟩⟩ = some ⟨.cal 2002 5 5, 0, 0, 0, ⟨0, 0⟩⟩ := by
  refine ⟨⟨⟨some 5, some ⟨.cal 2002 5 4, 23, 0, 0, ⟨0, 0⟩⟩, some (.units 0 0 0 1 0 0),
    some ⟨.cal 2002 5 5, 3, 0, 0, ⟨0, 0⟩⟩, none, 3⟩, some ⟨.cal 2002 5 5, 0, 0, 0, ⟨0, 0⟩⟩, none⟩,
    by decide +kernel, by decide +kernel, by decide +kernel, by decide +kernel, by decide +kernel,
    by decide +kernel⟩

/-- Non-vacuity of `C13_mm_is_valid_iff_iterated`: `R5/2002-05-04T23:00Z/PT1H`, max `01:00Z`. -/
example := C13_mm_is_valid_iff_iterated .greg
    ⟨⟨some 5, some ⟨.cal 2002 5 4, 23, 0, 0, ⟨0, 0⟩⟩, some (.units 0 0 0 1 0 0),
      some ⟨.cal 2002 5 5, 3, 0, 0, ⟨0, 0⟩⟩, none, 3⟩, none, some ⟨.cal 2002 5 5, 1, 0, 0, ⟨0, 0⟩⟩⟩
    (.units 0 0 0 1 0 0) 3600
    ⟨rfl, rfl, by decide, by decide, by decide, fun s h => by cases h; decide, fun e h => by cases h; decide⟩
    (fun a h => by cases h) (fun b h => by cases h; decide)
    ⟨.ord 2002 125, 3, 0, 0, ⟨2, 0⟩⟩ (by decide) 10
example : getIsValidMM .greg
    ⟨⟨some 5, some ⟨.cal 2002 5 4, 23, 0, 0, ⟨0, 0⟩⟩, some (.units 0 0 0 1 0 0),
      some ⟨.cal 2002 5 5, 3, 0, 0, ⟨0, 0⟩⟩, none, 3⟩, none, some ⟨.cal 2002 5 5, 1, 0, 0, ⟨0, 0⟩⟩⟩
    ⟨.ord 2002 125, 3, 0, 0, ⟨2, 0⟩⟩ 10 = true ∧
  getIsValidMM .greg
    ⟨⟨some 5, some ⟨.cal 2002 5 4, 23, 0, 0, ⟨0, 0⟩⟩, some (.units 0 0 0 1 0 0),
      some ⟨.cal 2002 5 5, 3, 0, 0, ⟨0, 0⟩⟩, none, 3⟩, none, some ⟨.cal 2002 5 5, 1, 0, 0, ⟨0, 0⟩⟩⟩
    ⟨.ord 2002 125, 4, 0, 0, ⟨2, 0⟩⟩ 10 = false := by decide +kernel

/-- **`r[i]` with a window** is the `i`-th point of any run of `__iter__` (with the window) that
    visits more than `i` points; `none` = `IndexError`.  Every recurrence, any interval. -/
theorem C13_mm_getitem_is_iter (m : Mode) (r : RecMM) (i fuel : Nat) (h : i < fuel) :
    getItemMM m r i = (iterMM m r fuel)[i]? := by
  unfold getItemMM
  have agree : ∀ j, j ≤ i → (iter m r.base (i + 1))[j]? = (iter m r.base fuel)[j]? := by
    intro j hj
    rw [iter_prefix m r.base j (i + 1) (by omega), iter_prefix m r.base j fuel (by omega)]
  apply Option.ext
  intro p
  rw [iterMM_eq_takeWhile, iterMM_eq_takeWhile, takeWhile_getElem?_iff, takeWhile_getElem?_iff,
    agree i (Nat.le_refl i)]
  constructor
  · rintro ⟨h1, h2⟩
    exact ⟨h1, fun j hj q hq => h2 j hj q (by rw [agree j hj]; exact hq)⟩
  · rintro ⟨h1, h2⟩
    exact ⟨h1, fun j hj q hq => h2 j hj q (by rw [← agree j hj]; exact hq)⟩

/-- Hence `r[i]`, when it exists, is the `i`-th point of the unrestricted iteration and points
    `0..i` of the unrestricted iteration are all within [min, max]. -/
theorem C13_mm_getitem (m : Mode) (r : RecMM) (i : Nat) (p : TP) :
    getItemMM m r i = some p ↔
      getItem m r.base i = some p ∧
        ∀ j, j ≤ i → ∀ q, getItem m r.base j = some q → withinMM m r q = true := by
  unfold getItemMM getItem
  rw [iterMM_eq_takeWhile, takeWhile_getElem?_iff]
  constructor
  · rintro ⟨h1, h2⟩
    exact ⟨h1, fun j hj q hq => h2 j hj q (by rw [iter_prefix m r.base j (i + 1) (by omega)]; exact hq)⟩
  · rintro ⟨h1, h2⟩
    exact ⟨h1, fun j hj q hq => h2 j hj q (by rw [← iter_prefix m r.base j (i + 1) (by omega)]; exact hq)⟩

example : getItemMM .greg
    ⟨⟨some 5, some ⟨.cal 2002 5 4, 23, 0, 0, ⟨0, 0⟩⟩, some (.units 0 0 0 1 0 0),
      some ⟨.cal 2002 5 5, 3, 0, 0, ⟨0, 0⟩⟩, none, 3⟩, none, some ⟨.cal 2002 5 5, 1, 0, 0, ⟨0, 0⟩⟩⟩ 2 =
      some ⟨.cal 2002 5 5, 1, 0, 0, ⟨0, 0⟩⟩ ∧
    getItemMM .greg
    ⟨⟨some 5, some ⟨.cal 2002 5 4, 23, 0, 0, ⟨0, 0⟩⟩, some (.units 0 0 0 1 0 0),
      some ⟨.cal 2002 5 5, 3, 0, 0, ⟨0, 0⟩⟩, none, 3⟩, none, some ⟨.cal 2002 5 5, 1, 0, 0, ⟨0, 0⟩⟩⟩ 3 = none := by
  decide +kernel

/-- **`get_next`/`get_prev` with a window**: the neighbour of the recurrence without the window,
    returned only if it is within [min, max] (every recurrence, any interval). -/
theorem C13_mm_next_prev (m : Mode) (r : RecMM) (p : TP) :
    getNextMM m r p = (getNext m r.base p).filter (withinMM m r) ∧
    getPrevMM m r p = (getPrev m r.base p).filter (withinMM m r) :=
  ⟨getNextMM_eq m r p, getPrevMM_eq m r p⟩

/-- For an exact interval: from any valid point, the point one interval later (earlier), if it is
    within start/end and within [min, max] by instants. -/
theorem C13_mm_next_prev_exact (m : Mode) (r : RecMM) (d : Dur) (L : Int) (hr : ExactRec m r.base d L)
    (hmin : ∀ a, r.minP = some a → a.Valid m) (hmax : ∀ b, r.maxP = some b → b.Valid m)
    (p : TP) (hp : p.Valid m) :
    (∃ q, Good m p q L ∧ getNextMM m r p = if inBoundsMM m r q then some q else none) ∧
    (∃ q, Good m p q (-L) ∧ getPrevMM m r p = if inBoundsMM m r q then some q else none) ∧
    (∀ q, getNextMM m r p = some q →
      (∀ a, r.minP = some a → a.inst m ≤ q.inst m) ∧ (∀ b, r.maxP = some b → q.inst m ≤ b.inst m)) := by
  obtain ⟨⟨q, g, hn, _⟩, ⟨q', g', hn', _⟩⟩ := C13_next_prev m r.base d L hr p hp
  have e1 : getNextMM m r p = if inBoundsMM m r q then some q else none := by
    rw [getNextMM_eq, hn, filter_withinMM]
  refine ⟨⟨q, g, e1⟩, ⟨q', g', by rw [getPrevMM_eq, hn', filter_withinMM]⟩, ?_⟩
  · intro x hx
    rw [e1] at hx
    cases hb : inBoundsMM m r q with
    | false => rw [hb] at hx; simp at hx
    | true =>
      rw [hb] at hx
      simp only [↓reduceIte, Option.some.injEq] at hx
      subst hx
      rw [inBoundsMM_eq, Bool.and_eq_true] at hb
      exact (withinMM_iff m r q g.strict.1 hmin hmax).mp hb.2

/-- The closed-form branch with a window = the closed-form branch without, filtered. -/
theorem getFirstAfterMM_exact_eq (m : Mode) (r : RecMM) (p : TP) (fuel : Nat) (d : Dur)
    (hb : inBoundsMM m r p = true) (hd : r.base.dur = some d) (hex : d.isExact = true) :
    getFirstAfterMM m r p fuel = (getFirstAfter m r.base p fuel).filter (withinMM m r) := by
  have hb' := hb
  rw [inBoundsMM_eq, Bool.and_eq_true] at hb'
  unfold getFirstAfterMM getFirstAfter
  cases hs : r.base.start with
  | none => rfl
  | some s =>
    simp only [hb, hb'.1, ↓reduceIte, hd, hex]
    cases hsub : subTP m p s with
    | none => rfl
    | some diff =>
      simp only
      by_cases hz : d.seconds m = 0
      · simp only [hz, ↓reduceIte, Option.filter_none]
      · simp only [hz, ↓reduceIte]
        cases ha : addDur m p (Dur.sub m d (.units 0 0 0 0 0 (Int.fmod (diff.seconds m) (d.seconds m)))) with
        | none => rfl
        | some q => exact (filter_withinMM m r q).symm

/-- **`get_first_after` for a probe that fails the bounds test** — every recurrence with a start
    point, any interval: the start if the probe is before it, else `None`.  In particular a probe
    between start and end but before `min_point` gets `None`, not the first member ≥ min. -/
theorem C13_mm_first_after_outside (m : Mode) (r : RecMM) (s : TP) (hs : r.base.start = some s) (p : TP)
    (fuel : Nat) (hb : inBoundsMM m r p = false) :
    getFirstAfterMM m r p fuel = if tpLt m p s then some s else none := by
  unfold getFirstAfterMM
  simp only [hs, hb, Bool.false_eq_true, ↓reduceIte]

/-- **`get_first_after` with a window, exact interval** (recurrence with start `s`): for a probe
    that passes the bounds test the result is the earliest member strictly later than the probe,
    `s + (⌊(p − s)/L⌋ + 1)·L`, if that passes the bounds test (start/end AND min/max), else `None`;
    for a probe that fails the bounds test — for whatever reason, including being outside
    [min, max] only — it is the start point if the probe is before the start (whether or not the
    start is within [min, max]) and `None` otherwise. -/
theorem C13_mm_first_after_exact (m : Mode) (r : RecMM) (d : Dur) (L : Int) (hr : ExactRec m r.base d L) (s : TP)
    (hs : r.base.start = some s) (p : TP) (hp : p.Valid m) (fuel : Nat) :
    (inBoundsMM m r p = true →
      ∃ q, Good m p q (L - (p.inst m - s.inst m) % L) ∧
        q.inst m = s.inst m + ((p.inst m - s.inst m) / L + 1) * L ∧ p.inst m < q.inst m ∧
        q.inst m ≤ p.inst m + L ∧
        getFirstAfterMM m r p fuel = (if inBoundsMM m r q then some q else none)) ∧
    (inBoundsMM m r p = false → p.inst m < s.inst m → getFirstAfterMM m r p fuel = some s) ∧
    (inBoundsMM m r p = false → ¬ p.inst m < s.inst m → getFirstAfterMM m r p fuel = none) := by
  have hsv := hr.startValid s hs
  refine ⟨?_, ?_, ?_⟩
  · intro hb
    have hb' := hb
    rw [inBoundsMM_eq, Bool.and_eq_true] at hb'
    obtain ⟨q, g, h1, h2, h3, h4⟩ := (C13_first_after_exact m r.base d L hr s hs p hp fuel).1 hb'.1
    refine ⟨q, g, h1, h2, h3, ?_⟩
    rw [getFirstAfterMM_exact_eq m r p fuel d hb hr.dur hr.exact, h4, filter_withinMM]
  · intro hb hlt
    rw [C13_mm_first_after_outside m r s hs p fuel hb, if_pos ((tpLt_iff m p s hp hsv).mpr hlt)]
  · intro hb hge
    rw [C13_mm_first_after_outside m r s hs p fuel hb, if_neg fun c => hge ((tpLt_iff m p s hp hsv).mp c)]

/-- Witnesses (`R5/2002-05-04T23:00Z/PT1H`, window [00:00Z, 02:00Z]):
    probe 22:00Z (before start) gets the start 23:00Z although that is before `min_point`;
    probe 23:30Z (after start, before min) gets `None` although 00:00Z, 01:00Z, 02:00Z follow;
    probe 00:30Z gets 01:00Z; probe 02:00Z (at max) gets `None`. -/
example :
    let r : RecMM := ⟨⟨some 5, some ⟨.cal 2002 5 4, 23, 0, 0, ⟨0, 0⟩⟩, some (.units 0 0 0 1 0 0),
      some ⟨.cal 2002 5 5, 3, 0, 0, ⟨0, 0⟩⟩, none, 3⟩, some ⟨.cal 2002 5 5, 0, 0, 0, ⟨0, 0⟩⟩,
      some ⟨.cal 2002 5 5, 2, 0, 0, ⟨0, 0⟩⟩⟩
    getFirstAfterMM .greg r ⟨.cal 2002 5 4, 22, 0, 0, ⟨0, 0⟩⟩ 10 = some ⟨.cal 2002 5 4, 23, 0, 0, ⟨0, 0⟩⟩ ∧
    getFirstAfterMM .greg r ⟨.cal 2002 5 4, 23, 30, 0, ⟨0, 0⟩⟩ 10 = none ∧
    getFirstAfterMM .greg r ⟨.cal 2002 5 5, 0, 30, 0, ⟨0, 0⟩⟩ 10 = some ⟨.cal 2002 5 5, 1, 0, 0, ⟨0, 0⟩⟩ ∧
    getFirstAfterMM .greg r ⟨.cal 2002 5 5, 2, 0, 0, ⟨0, 0⟩⟩ 10 = none := by
  decide +kernel

/-- `C13_mm_first_after_exact` at that recurrence, probe `2002-125T02:30+02:00` (= 00:30Z). -/
example := C13_mm_first_after_exact .greg
    ⟨⟨some 5, some ⟨.cal 2002 5 4, 23, 0, 0, ⟨0, 0⟩⟩, some (.units 0 0 0 1 0 0),
      some ⟨.cal 2002 5 5, 3, 0, 0, ⟨0, 0⟩⟩, none, 3⟩, some ⟨.cal 2002 5 5, 0, 0, 0, ⟨0, 0⟩⟩,
      some ⟨.cal 2002 5 5, 2, 0, 0, ⟨0, 0⟩⟩⟩
    (.units 0 0 0 1 0 0) 3600
    ⟨rfl, rfl, by decide, by decide, by decide, fun s h => by cases h; decide, fun e h => by cases h; decide⟩
    ⟨.cal 2002 5 4, 23, 0, 0, ⟨0, 0⟩⟩ rfl ⟨.ord 2002 125, 2, 30, 0, ⟨2, 0⟩⟩ (by decide) 10

end IsoDT.Props.C13
