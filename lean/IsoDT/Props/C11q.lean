/-
  C11 (decimal components) — Duration arithmetic, equality, ordering and hashing are coherent, as
  ALGORITHMS over exact rationals.

  `Model.DurationQ` is `Duration` with the components the constructor allows to carry a fraction
  (hours, minutes, seconds) in `Rat`, and the whole ones (years, months, weeks, days) in `Int`; its
  functions run the statements of the Python operators, the unit conversions and the `standardize`
  block of `__init__` over exact rationals.  The laws of `Props/C11.lean` are proved here for all
  four calendar modes and ALL component values (any size, either sign, any fraction), and
  `C11_rat_extends_int` shows that on whole components every operation coincides with the integer
  model, whose theorems are therefore the instances at `ofDur`.

  What this does NOT say: anything about binary rounding in the real float computation.  On
  floats the laws hold only while every intermediate value is exactly representable — e.g.
  `Duration(days=100000, seconds=2**-20) == Duration(days=100000)` is `True` in Python (the sum
  `8640000000 + 2**-20` rounds) although `>` between the same two is also `True`; over `Rat`
  (`C11q_order_consistent_with_eq`) that cannot happen.
-/
import IsoDT.Lemmas.DurationQ

namespace IsoDT.Props.C11q
open IsoDT IsoDT.Model IsoDT.Lemmas IsoDT.Lemmas.DQ

/-- `==` on durations: equal exactly when years, months and the exact remainder
    (`_get_non_nominal_seconds`, a rational) all match. -/
theorem C11q_eq_iff (m : Mode) (a b : DurationQ) :
    DurationQ.eq m a b = true ↔ ym a = ym b ∧ a.exactSeconds m = b.exactSeconds m := by
  rw [eq_iff, exactSeconds_eq, exactSeconds_eq]

/-- The exact remainder is 604800 s per week, 86400 per day, 3600 per hour, 60 per minute, whatever
    the calendar mode. -/
theorem C11q_exactSeconds (m : Mode) :
    (∀ w, (DurationQ.weeks w).exactSeconds m = 604800 * (w : Rat)) ∧
    (∀ y mo d h mi s, (DurationQ.units y mo d h mi s).exactSeconds m = 86400 * (d : Rat) + 3600 * h + 60 * mi + s) :=
  ⟨fun w => exactSeconds_eq m (.weeks w), fun y mo d h mi s => exactSeconds_eq m (.units y mo d h mi s)⟩

theorem C11q_eq_equivalence (m : Mode) (a b c : DurationQ) :
    DurationQ.eq m a a = true ∧ (DurationQ.eq m a b = true → DurationQ.eq m b a = true) ∧
    (DurationQ.eq m a b = true → DurationQ.eq m b c = true → DurationQ.eq m a c = true) := by
  refine ⟨(eq_iff m a a).mpr ⟨rfl, rfl⟩, fun h => ?_, fun h1 h2 => ?_⟩
  · have := (eq_iff m a b).mp h
    exact (eq_iff m b a).mpr ⟨this.1.symm, this.2.symm⟩
  · have x := (eq_iff m a b).mp h1
    have y := (eq_iff m b c).mp h2
    exact (eq_iff m a c).mpr ⟨x.1.trans y.1, x.2.trans y.2⟩

/-- Exact durations are equal purely by total length, whatever units spell them. -/
theorem C11q_exact_eq_by_length (m : Mode) (a b : DurationQ) (ha : a.isExact = true) (hb : b.isExact = true) :
    DurationQ.eq m a b = true ↔ a.exactSeconds m = b.exactSeconds m := by
  rw [isExact_iff] at ha hb
  rw [C11q_eq_iff, ha, hb]; simp

/-- An exact duration never equals a nominal one (either way round). -/
theorem C11q_exact_ne_nominal (m : Mode) (a b : DurationQ) (ha : a.isExact = true) (hb : b.isExact = false) :
    DurationQ.eq m a b = false ∧ DurationQ.eq m b a = false := by
  have hb' : ¬ ym b = (0, 0) := fun h => by rw [(isExact_iff b).mpr h] at hb; cases hb
  rw [isExact_iff] at ha
  exact ⟨Bool.eq_false_iff.2 fun h => hb' (ha ▸ ((eq_iff m a b).mp h).1).symm,
    Bool.eq_false_iff.2 fun h => hb' (ha ▸ ((eq_iff m b a).mp h).1)⟩

/-- Equal durations hash equally (the hashed tuple is the same; Python hashes numbers by value). -/
theorem C11q_hash (m : Mode) (a b : DurationQ) (h : DurationQ.eq m a b = true) :
    DurationQ.hashKey m a = DurationQ.hashKey m b := by
  rw [eq_iff] at h
  rw [hashKey_eq, hashKey_eq, h.1, h.2]

/-- … and the hashed tuple determines `==`. -/
theorem C11q_hash_iff (m : Mode) (a b : DurationQ) :
    DurationQ.eq m a b = true ↔ DurationQ.hashKey m a = DurationQ.hashKey m b := by
  rw [eq_iff, hashKey_eq, hashKey_eq]
  constructor
  · intro h; rw [h.1, h.2]
  · intro h
    simp only [Prod.mk.injEq] at h
    exact ⟨Prod.ext h.1 h.2.1, h.2.2⟩

/-- Commutative — even field for field. -/
theorem C11q_add_comm (m : Mode) (a b : DurationQ) : DurationQ.add m a b = DurationQ.add m b a := by
  cases a <;> cases b <;> simp only [DurationQ.add, DurationQ.toDays, Int.add_comm, Rat.add_comm]

/-- Associative — even field for field. -/
theorem C11q_add_assoc (m : Mode) (a b c : DurationQ) :
    DurationQ.add m (DurationQ.add m a b) c = DurationQ.add m a (DurationQ.add m b c) := by
  cases a <;> cases b <;> cases c <;>
    simp only [DurationQ.add, DurationQ.toDays, Int.add_assoc, Rat.add_assoc, Int.add_mul, Rat.zero_add,
      Int.zero_add]

/-- Addition adds years, months and exact lengths. -/
theorem C11q_add_length (m : Mode) (a b : DurationQ) :
    ym (DurationQ.add m a b) = ((ym a).1 + (ym b).1, (ym a).2 + (ym b).2) ∧
    (DurationQ.add m a b).exactSeconds m = a.exactSeconds m + b.exactSeconds m := by
  simp only [exactSeconds_eq]; exact ⟨add_ym m a b, add_len m a b⟩

/-- The empty duration is the identity (up to `==`: `P1W + P0Y` is spelled `P7D`); on unit-form
    durations even field for field. -/
theorem C11q_add_zero (m : Mode) (a : DurationQ) :
    DurationQ.eq m (DurationQ.add m a DurationQ.zero) a = true ∧
    DurationQ.eq m (DurationQ.add m DurationQ.zero a) a = true ∧
    DurationQ.add m a DurationQ.zero = a.toDays m := by
  have z : ym DurationQ.zero = (0, 0) := rfl
  refine ⟨?_, ?_, ?_⟩
  · rw [eq_iff, add_ym, add_len, zero_len, z, Rat.add_zero, Int.add_zero, Int.add_zero]
    exact ⟨rfl, rfl⟩
  · rw [eq_iff, add_ym, add_len, zero_len, z, Rat.zero_add, Int.zero_add, Int.zero_add]
    exact ⟨rfl, rfl⟩
  · cases a <;> simp only [DurationQ.add, DurationQ.toDays, DurationQ.zero, Int.add_zero, Rat.add_zero]

/-- `d + (-1 * d)` is empty. -/
theorem C11q_add_inverse (m : Mode) (a : DurationQ) :
    (DurationQ.add m a (a.mul (-1))).nonzero = false ∧
    DurationQ.eq m (DurationQ.add m a (a.mul (-1))) DurationQ.zero = true := by
  cases a with
  | weeks w =>
    have e : DurationQ.add m (.weeks w) ((DurationQ.weeks w).mul (-1)) = .weeks 0 := by
      simp only [DurationQ.mul, DurationQ.add, Int.mul_neg, Int.mul_one, Int.add_right_neg]
    rw [e]
    exact ⟨rfl, (eq_iff m _ _).mpr ⟨rfl, by decide +kernel⟩⟩
  | units y mo d h mi s =>
    have e : DurationQ.add m (.units y mo d h mi s) ((DurationQ.units y mo d h mi s).mul (-1)) =
        DurationQ.zero := by
      simp only [DurationQ.mul, DurationQ.add, DurationQ.toDays, DurationQ.zero, Int.mul_neg, Int.mul_one,
        Int.add_right_neg, Rat.intCast_neg, Rat.intCast_ofNat, Rat.mul_neg, Rat.mul_one, Rat.add_neg_cancel]
    rw [e]
    exact ⟨rfl, (eq_iff m _ _).mpr ⟨rfl, rfl⟩⟩

/-- Subtraction is addition of the negation (by definition of `__sub__`). -/
theorem C11q_sub (m : Mode) (a b : DurationQ) : DurationQ.sub m a b = DurationQ.add m a (b.mul (-1)) := rfl

/-- `a - a` is empty. -/
theorem C11q_sub_self (m : Mode) (a : DurationQ) :
    (DurationQ.sub m a a).nonzero = false ∧ DurationQ.eq m (DurationQ.sub m a a) DurationQ.zero = true :=
  C11q_add_inverse m a

theorem nfold_spec (m : Mode) (a : DurationQ) : ∀ n : Nat,
    ym (DurationQ.nfold m a n) = ((ym a).1 * (n : Int), (ym a).2 * (n : Int)) ∧
    len (DurationQ.nfold m a n) = len a * ((n : Int) : Rat) := by
  intro n
  induction n with
  | zero =>
    refine ⟨by simp [DurationQ.nfold, DurationQ.zero, ym], ?_⟩
    simp only [DurationQ.nfold, zero_len, Int.natCast_zero, Rat.intCast_zero]; grind
  | succ k ih =>
    obtain ⟨i1, i2⟩ := ih
    simp only [DurationQ.nfold, add_ym, add_len, i1, i2]
    have e : ((k + 1 : Nat) : Int) = (k : Int) + 1 := by omega
    rw [e, Int.mul_add, Int.mul_add, Rat.intCast_add]
    refine ⟨by simp, ?_⟩
    simp only [Rat.intCast_ofNat]; grind

/-- `n * d` equals `n`-fold addition of `d`. -/
theorem C11q_mul_is_repeated_add (m : Mode) (a : DurationQ) (n : Nat) :
    DurationQ.eq m (a.mul n) (DurationQ.nfold m a n) = true := by
  rw [eq_iff, mul_ym, mul_len, (nfold_spec m a n).1, (nfold_spec m a n).2]
  exact ⟨rfl, rfl⟩

/-- `(-n) * d` equals `n`-fold addition of `-1 * d`. -/
theorem C11q_mul_neg_is_repeated_add (m : Mode) (a : DurationQ) (n : Nat) :
    DurationQ.eq m (a.mul (-(n : Int))) (DurationQ.nfold m a.neg n) = true := by
  rw [eq_iff, mul_ym, mul_len, (nfold_spec m a.neg n).1, (nfold_spec m a.neg n).2]
  unfold DurationQ.neg
  rw [mul_ym, mul_len]
  refine ⟨by simp only [Prod.mk.injEq]; constructor <;> grind, ?_⟩
  simp only [Rat.intCast_neg, Rat.intCast_ofNat]; grind

/-- … and in day representation `n * d` and the `n`-fold sum agree field for field (years, months,
    days, hours, minutes and seconds separately, not only in total length). -/
theorem C11q_mul_fieldwise (m : Mode) (a : DurationQ) (n : Nat) :
    (a.mul n).toDays m = (DurationQ.nfold m a n).toDays m := by
  induction n with
  | zero =>
    cases a <;> simp only [DurationQ.mul, DurationQ.nfold, DurationQ.toDays, DurationQ.zero, Int.natCast_zero,
      Int.mul_zero, Int.zero_mul, Rat.intCast_zero, Rat.mul_zero]
  | succ k ih =>
    rw [DurationQ.nfold, toDays_add, ← ih]
    cases a <;> simp only [DurationQ.mul, DurationQ.add, DurationQ.toDays, Int.natCast_succ, Int.mul_add,
      Int.mul_one, Int.add_mul, Rat.intCast_add, Rat.intCast_ofNat, Rat.mul_add, Rat.mul_one, Rat.add_zero,
      Int.add_zero]

/-- Multiplication scales years, months and exact length. -/
theorem C11q_mul_length (m : Mode) (a : DurationQ) (n : Int) :
    ym (a.mul n) = ((ym a).1 * n, (ym a).2 * n) ∧ (a.mul n).exactSeconds m = a.exactSeconds m * (n : Rat) := by
  simp only [exactSeconds_eq]; exact ⟨mul_ym a n, mul_len a n⟩

/-- A week is exactly 7 days, a day 24 hours (whole numbers of them: weeks and days cannot carry a
    fraction), and `to_days` of `n` weeks is `7n` days. -/
theorem C11q_units (m : Mode) (n : Int) :
    DurationQ.eq m (.weeks n) (.units 0 0 (7 * n) 0 0 0) = true ∧
    DurationQ.eq m (.units 0 0 n 0 0 0) (.units 0 0 0 (24 * (n : Rat)) 0 0) = true ∧
    DurationQ.eq m (.weeks n) (.units 0 0 0 (168 * (n : Rat)) 0 0) = true ∧
    (DurationQ.weeks n).toDays m = .units 0 0 (n * 7) 0 0 0 := by
  refine ⟨(eq_iff m _ _).mpr ⟨rfl, ?_⟩, (eq_iff m _ _).mpr ⟨rfl, ?_⟩, (eq_iff m _ _).mpr ⟨rfl, ?_⟩, ?_⟩
  · simp only [len, Rat.intCast_mul, Rat.intCast_ofNat]; grind
  · simp only [len, Rat.intCast_zero]; grind
  · simp only [len, Rat.intCast_zero]; grind
  · simp only [DurationQ.toDays, daysInWeek_eq]

/-- An hour is exactly 60 minutes and a minute 60 seconds — for ANY number of them, fractions
    included (`PT0.5H == PT30M`, `PT0.25M == PT15S`). -/
theorem C11q_units_frac (m : Mode) (q : Rat) :
    DurationQ.eq m (.units 0 0 0 q 0 0) (.units 0 0 0 0 (60 * q) 0) = true ∧
    DurationQ.eq m (.units 0 0 0 0 q 0) (.units 0 0 0 0 0 (60 * q)) = true ∧
    DurationQ.eq m (.units 0 0 0 q 0 0) (.units 0 0 0 0 0 (3600 * q)) = true := by
  refine ⟨(eq_iff m _ _).mpr ⟨rfl, ?_⟩, (eq_iff m _ _).mpr ⟨rfl, ?_⟩, (eq_iff m _ _).mpr ⟨rfl, ?_⟩⟩ <;>
    (simp only [len]; grind)

/-- The constructor counts weeks as 7 days unless weeks is the only unit given (then it keeps
    week form, of the same length). -/
theorem C11q_constructor (m : Mode) (y mo w d : Int) (h mi s : Rat) :
    (DurationQ.mk m y mo w d h mi s).exactSeconds m = (DurationQ.units y mo (d + 7 * w) h mi s).exactSeconds m ∧
    ym (DurationQ.mk m y mo w d h mi s) = (y, mo) := by
  unfold DurationQ.mk
  simp only [daysInWeek_eq, exactSeconds_eq]
  by_cases hc : w ≠ 0 ∧ y = 0 ∧ mo = 0 ∧ d = 0 ∧ h = 0 ∧ mi = 0 ∧ s = 0
  · rw [if_pos hc]
    obtain ⟨_, rfl, rfl, rfl, rfl, rfl, rfl⟩ := hc
    refine ⟨?_, rfl⟩
    have e : (0 + 7 * w) / 7 = w := by omega
    rw [e]
    simp only [len, Rat.intCast_add, Rat.intCast_mul, Rat.intCast_ofNat]; grind
  · rw [if_neg hc]
    exact ⟨rfl, rfl⟩

/-- The constructor rejects exactly the non-whole years / months / weeks / days. -/
theorem C11q_constructor_accepts (m : Mode) (y mo w d h mi s : Rat) :
    (DurationQ.mk? m y mo w d h mi s).isSome = true ↔ y.den = 1 ∧ mo.den = 1 ∧ w.den = 1 ∧ d.den = 1 := by
  unfold DurationQ.mk? DurationQ.intLike?
  by_cases h1 : y.den = 1
  · by_cases h2 : mo.den = 1
    · by_cases h3 : w.den = 1
      · by_cases h4 : d.den = 1 <;> simp [h1, h2, h3, h4]
      · simp [h3]
    · simp [h2]
  · simp [h1]

/-- `standardize=True` only respells: the result is `==` to the unstandardized duration, hashes
    the same, has the same `get_days_and_seconds()` (so compares the same), and its seconds and
    minutes are in `[0, 60)`, its hours in `[0, 24)`. -/
theorem C11q_standardize (m : Mode) (a : DurationQ) :
    DurationQ.eq m (a.standardize m) a = true ∧
    DurationQ.hashKey m (a.standardize m) = DurationQ.hashKey m a ∧
    (∀ y mo d h mi s, a = .units y mo d h mi s → ∃ d' : Int, ∃ h' mi' s' : Rat,
      a.standardize m = .units y mo d' h' mi' s' ∧
      0 ≤ s' ∧ s' < 60 ∧ 0 ≤ mi' ∧ mi' < 60 ∧ 0 ≤ h' ∧ h' < 24) := by
  obtain ⟨h1, h2, h3⟩ := standardize_spec m a
  have e := (eq_iff m _ _).mpr ⟨h1, h2⟩
  exact ⟨e, C11q_hash m _ _ e, h3⟩

/-- The rough length used by `<`, `<=`, `>`, `>=`: a year counts as the calendar's common-year
    length, a month as 30 days. -/
def roughSeconds (m : Mode) (a : DurationQ) : Rat :=
  (((ym a).1 * Spec.yearLenB m false * 86400 + (ym a).2 * 30 * 86400 : Int) : Rat) + a.exactSeconds m

/-- `get_days_and_seconds()` is the floor split of the rough length: whole days, and seconds in
    `[0, 86400)` (carrying any fraction). -/
theorem C11q_das_floor_split (m : Mode) (a : DurationQ) :
    ((a.daysAndSeconds m).1 : Rat) * 86400 + (a.daysAndSeconds m).2 = roughSeconds m a ∧
    0 ≤ (a.daysAndSeconds m).2 ∧ (a.daysAndSeconds m).2 < 86400 := by
  unfold roughSeconds; rw [exactSeconds_eq]; exact das_spec m a

theorem roughSeconds_exact (m : Mode) (a : DurationQ) (h : a.isExact = true) :
    roughSeconds m a = a.exactSeconds m := by
  unfold roughSeconds
  rw [(isExact_iff a).1 h, Int.zero_mul, Int.zero_mul, Int.zero_mul, Int.zero_mul, Int.add_zero,
    Rat.intCast_zero, Rat.zero_add]

/-- `get_seconds()` is the rough length (the exact length for an exact duration). -/
theorem C11q_get_seconds (m : Mode) (a : DurationQ) : a.seconds m = roughSeconds m a := by
  unfold DurationQ.seconds
  split
  · rename_i h; exact (roughSeconds_exact m a h).symm
  · rw [secondsInDay_eq, Rat.intCast_ofNat]; exact (C11q_das_floor_split m a).1

/-- `<`, `<=`, `>`, `>=` are the order of the rough lengths (rationals), hence mutually consistent:
    exactly one of `<`, "same rough length", `>`; `<=` / `>=` are the unions; transitive. -/
theorem C11q_order (m : Mode) (a b : DurationQ) :
    (DurationQ.lt m a b = true ↔ roughSeconds m a < roughSeconds m b) ∧
    (DurationQ.le m a b = true ↔ roughSeconds m a ≤ roughSeconds m b) ∧
    (DurationQ.gt m a b = true ↔ roughSeconds m a > roughSeconds m b) ∧
    (DurationQ.ge m a b = true ↔ roughSeconds m a ≥ roughSeconds m b) := by
  obtain ⟨ea, ra⟩ := C11q_das_floor_split m a
  obtain ⟨eb, rb⟩ := C11q_das_floor_split m b
  have l1 := pairLt_iff _ _ ra rb
  have l2 := pairLt_iff _ _ rb ra
  rw [ea, eb] at l1 l2
  unfold DurationQ.lt DurationQ.le DurationQ.gt DurationQ.ge
  exact ⟨l1, by rw [Bool.not_eq_true', ← Bool.not_eq_true, l2, Rat.not_lt], l2,
    by rw [Bool.not_eq_true', ← Bool.not_eq_true, l1, Rat.not_lt]⟩

/-- The four operators are mutually consistent, with no reference to lengths: `<=` is "not `>`",
    `>=` is "not `<`", `>` is `<` with the operands swapped, `<` and `>` exclude each other, and
    `<` is transitive. -/
theorem C11q_order_mutual (m : Mode) (a b c : DurationQ) :
    DurationQ.le m a b = !DurationQ.gt m a b ∧ DurationQ.ge m a b = !DurationQ.lt m a b ∧
    DurationQ.gt m a b = DurationQ.lt m b a ∧ DurationQ.ge m a b = DurationQ.le m b a ∧
    ¬ (DurationQ.lt m a b = true ∧ DurationQ.gt m a b = true) ∧
    (DurationQ.lt m a b = true → DurationQ.lt m b c = true → DurationQ.lt m a c = true) ∧
    (DurationQ.le m a b = true → DurationQ.le m b c = true → DurationQ.le m a c = true) ∧
    (DurationQ.le m a b = true ∨ DurationQ.le m b a = true) := by
  obtain ⟨ab1, ab2, ab3, _⟩ := C11q_order m a b
  obtain ⟨bc1, bc2, _, _⟩ := C11q_order m b c
  obtain ⟨ac1, ac2, _, _⟩ := C11q_order m a c
  obtain ⟨_, ba2, _, _⟩ := C11q_order m b a
  refine ⟨rfl, rfl, rfl, rfl, ?_, ?_, ?_, ?_⟩
  · rintro ⟨h1, h2⟩
    have := ab1.mp h1; have := ab3.mp h2; grind
  · intro h1 h2
    have := ab1.mp h1; have := bc1.mp h2; exact ac1.mpr (by grind)
  · intro h1 h2
    have := ab2.mp h1; have := bc2.mp h2; exact ac2.mpr (by grind)
  · rcases Rat.le_total (a := roughSeconds m a) (b := roughSeconds m b) with h | h
    · exact Or.inl (ab2.mpr h)
    · exact Or.inr (ba2.mpr h)

/-- Equal durations are neither `<` nor `>`, and are both `<=` and `>=`. -/
theorem C11q_order_consistent_with_eq (m : Mode) (a b : DurationQ) (h : DurationQ.eq m a b = true) :
    DurationQ.lt m a b = false ∧ DurationQ.gt m a b = false ∧ DurationQ.le m a b = true ∧
    DurationQ.ge m a b = true := by
  rw [C11q_eq_iff] at h
  have e : roughSeconds m a = roughSeconds m b := by unfold roughSeconds; rw [h.1, h.2]
  obtain ⟨o1, o2, o3, o4⟩ := C11q_order m a b
  rw [e] at o1 o2 o3 o4
  exact ⟨Bool.eq_false_iff.2 fun hl => Rat.lt_irrefl (o1.mp hl),
    Bool.eq_false_iff.2 fun hl => Rat.lt_irrefl (o3.mp hl), o2.mpr Rat.le_refl, o4.mpr Rat.le_refl⟩

/-- Exact durations are ordered and equal purely by total length, whatever units spell them; so
    between exact durations exactly one of `<`, `==`, `>` holds. -/
theorem C11q_exact_order_by_length (m : Mode) (a b : DurationQ) (ha : a.isExact = true) (hb : b.isExact = true) :
    (DurationQ.lt m a b = true ↔ a.exactSeconds m < b.exactSeconds m) ∧
    (DurationQ.gt m a b = true ↔ a.exactSeconds m > b.exactSeconds m) ∧
    (DurationQ.le m a b = true ↔ a.exactSeconds m ≤ b.exactSeconds m) ∧
    (DurationQ.ge m a b = true ↔ a.exactSeconds m ≥ b.exactSeconds m) ∧
    (DurationQ.eq m a b = true ↔ a.exactSeconds m = b.exactSeconds m) := by
  obtain ⟨o1, o2, o3, o4⟩ := C11q_order m a b
  rw [roughSeconds_exact m a ha, roughSeconds_exact m b hb] at o1 o2 o3 o4
  exact ⟨o1, o3, o2, o4, C11q_exact_eq_by_length m a b ha hb⟩

/-- The days / hours / minutes / seconds record that `TimePoint.__add__` consumes (`Model.DurQ`,
    for which `C01_add_exact_rat` is stated) has the duration's exact length. -/
theorem C11q_toDurQ_seconds (m : Mode) (a : DurationQ) : (a.toDurQ m).seconds = a.exactSeconds m := by
  rw [exactSeconds_eq]
  cases a <;> simp only [DurationQ.toDurQ, DurationQ.toDays, DurQ.seconds, len, daysInWeek_eq,
    Rat.intCast_mul, Rat.intCast_ofNat] <;> grind

/-- `abs` makes every component non-negative (component by component — it is not the absolute
    value of the length: `abs(P1DT-1H)` is `P1DT1H`), is idempotent, and forgets an overall sign. -/
theorem C11q_abs (a : DurationQ) :
    a.abs.abs = a.abs ∧ (a.mul (-1)).abs = a.abs ∧
    (∀ y mo d h mi s, a.abs = .units y mo d h mi s → 0 ≤ y ∧ 0 ≤ mo ∧ 0 ≤ d ∧ 0 ≤ h ∧ 0 ≤ mi ∧ 0 ≤ s) ∧
    (∀ w, a.abs = .weeks w → 0 ≤ w) := by
  cases a with
  | weeks w =>
    refine ⟨?_, ?_, fun _ _ _ _ _ _ h => (by cases h), fun w' h => ?_⟩
    · simp only [DurationQ.abs, Int.natAbs_natCast]
    · simp only [DurationQ.abs, DurationQ.mul, Int.mul_neg, Int.mul_one, Int.natAbs_neg]
    · cases h; exact Int.natCast_nonneg _
  | units y mo d h mi s =>
    refine ⟨?_, ?_, fun y' mo' d' h' mi' s' e => ?_, fun _ h => (by cases h)⟩
    · simp only [DurationQ.abs, Rat.abs_of_nonneg Rat.abs_nonneg, Int.natAbs_natCast]
    · simp only [DurationQ.abs, DurationQ.mul, Rat.intCast_neg, Rat.intCast_ofNat, Rat.mul_neg, Rat.mul_one,
        Rat.abs_neg, Int.mul_neg, Int.mul_one, Int.natAbs_neg]
    · cases e
      exact ⟨Int.natCast_nonneg _, Int.natCast_nonneg _, Int.natCast_nonneg _, Rat.abs_nonneg, Rat.abs_nonneg,
        Rat.abs_nonneg⟩

/-- `d // n` floors every component separately (so it is not division of the length, and
    `d // 1` drops the fractions: `PT1,5H // 1` is `PT1H`); it fails exactly for `n = 0`.  For
    `n > 0` every resulting hour / minute / second count is the whole `q` with `q·n ≤ x < (q+1)·n`. -/
theorem C11q_floordiv (a : DurationQ) (n : Int) :
    ((a.floordiv n).isSome = true ↔ n ≠ 0) ∧
    (0 < n → ∀ y mo d h mi s, a = .units y mo d h mi s → ∃ h' mi' s' : Rat,
      a.floordiv n = some (.units (y / n) (mo / n) (d / n) h' mi' s') ∧
      IsInt h' ∧ h' * (n : Rat) ≤ h ∧ h < (h' + 1) * (n : Rat) ∧
      IsInt mi' ∧ mi' * (n : Rat) ≤ mi ∧ mi < (mi' + 1) * (n : Rat) ∧
      IsInt s' ∧ s' * (n : Rat) ≤ s ∧ s < (s' + 1) * (n : Rat)) := by
  constructor
  · unfold DurationQ.floordiv
    by_cases hn : n = 0
    · simp [hn]
    · rw [if_neg hn]; cases a <;> simp [hn]
  · rintro hn y mo d h mi s rfl
    obtain ⟨a1, a2, a3⟩ := floorDivQ_spec h n hn
    obtain ⟨b1, b2, b3⟩ := floorDivQ_spec mi n hn
    obtain ⟨c1, c2, c3⟩ := floorDivQ_spec s n hn
    refine ⟨_, _, _, ?_, a1, a2, a3, b1, b2, b3, c1, c2, c3⟩
    unfold DurationQ.floordiv
    rw [if_neg (by omega)]
    simp only [Int.fdiv_eq_ediv_of_nonneg _ (Int.le_of_lt hn)]

/-- On durations with whole components every operation of the rational model gives the integer
    model's answer (embedded by `ofDur`, which is injective); so each theorem of `Props/C11.lean`
    is the instance of the theorem above at `ofDur a`, `ofDur b`. -/
theorem C11_rat_extends_int (m : Mode) (a b : Dur) (n : Int) (k : Nat) :
    DurationQ.add m (.ofDur a) (.ofDur b) = .ofDur (Dur.add m a b) ∧
    DurationQ.sub m (.ofDur a) (.ofDur b) = .ofDur (Dur.sub m a b) ∧
    (DurationQ.ofDur a).mul n = .ofDur (a.mul n) ∧
    (DurationQ.ofDur a).neg = .ofDur a.neg ∧
    (DurationQ.ofDur a).abs = .ofDur a.abs ∧
    (DurationQ.ofDur a).floordiv n = (a.floordiv n).map DurationQ.ofDur ∧
    (DurationQ.ofDur a).toDays m = .ofDur (a.toDays m) ∧
    (DurationQ.ofDur a).toWeeks m = .ofDur (a.toWeeks m) ∧
    DurationQ.nfold m (.ofDur a) k = .ofDur (Dur.nfold m a k) ∧
    (DurationQ.ofDur a).isExact = a.isExact ∧
    (DurationQ.ofDur a).nonzero = a.nonzero ∧
    (DurationQ.ofDur a).exactSeconds m = ((a.exactSeconds m : Int) : Rat) ∧
    (DurationQ.ofDur a).daysAndSeconds m = ((a.daysAndSeconds m).1, (((a.daysAndSeconds m).2 : Int) : Rat)) ∧
    (DurationQ.ofDur a).seconds m = ((a.seconds m : Int) : Rat) ∧
    DurationQ.hashKey m (.ofDur a) =
      ((Dur.hashKey m a).1, (Dur.hashKey m a).2.1, (((Dur.hashKey m a).2.2 : Int) : Rat)) ∧
    DurationQ.eq m (.ofDur a) (.ofDur b) = Dur.eq m a b ∧
    DurationQ.lt m (.ofDur a) (.ofDur b) = Dur.lt m a b ∧
    DurationQ.le m (.ofDur a) (.ofDur b) = Dur.le m a b ∧
    DurationQ.gt m (.ofDur a) (.ofDur b) = Dur.gt m a b ∧
    DurationQ.ge m (.ofDur a) (.ofDur b) = Dur.ge m a b := by
  refine ⟨ofDur_add m a b, ?_, ofDur_mul a n, ofDur_mul a (-1), ofDur_abs a, ofDur_floordiv a n,
    ofDur_toDays m a, ofDur_toWeeks m a, ofDur_nfold m a k, ofDur_isExact a, ofDur_nonzero a,
    ofDur_exactSeconds m a, ofDur_daysAndSeconds m a, ofDur_seconds m a, ofDur_hashKey m a,
    ofDur_eq m a b, ofDur_lt m a b, congrArg (!·) (ofDur_lt m b a), ofDur_lt m b a, congrArg (!·) (ofDur_lt m a b)⟩
  unfold DurationQ.sub Dur.sub; rw [ofDur_mul, ofDur_add]

/-- The constructor too, and the embedding loses nothing. -/
theorem C11_rat_extends_int_constructor (m : Mode) (y mo w d h mi s : Int) :
    DurationQ.mk m y mo w d (h : Rat) (mi : Rat) (s : Rat) = .ofDur (mkDur m y mo w d h mi s) ∧
    DurationQ.mk? m (y : Rat) (mo : Rat) (w : Rat) (d : Rat) (h : Rat) (mi : Rat) (s : Rat) =
      some (.ofDur (mkDur m y mo w d h mi s)) ∧
    (∀ a b : Dur, DurationQ.ofDur a = DurationQ.ofDur b → a = b) := by
  refine ⟨ofDur_mk m y mo w d h mi s, ?_, ofDur_injective⟩
  simp only [DurationQ.mk?, DurationQ.intLike?, Rat.den_intCast, Rat.num_intCast, if_true]
  rw [ofDur_mk]

/-- Example of an integer theorem recovered as an instance: `C11.C11_hash` from `C11q_hash`. -/
theorem C11_hash_from_rat (m : Mode) (a b : Dur) (h : Dur.eq m a b = true) :
    Dur.hashKey m a = Dur.hashKey m b := by
  have := C11q_hash m (.ofDur a) (.ofDur b) ((ofDur_eq m a b).trans h)
  rw [ofDur_hashKey, ofDur_hashKey] at this
  simp only [Prod.mk.injEq, Rat.intCast_inj] at this
  exact Prod.ext this.1 (Prod.ext this.2.1 this.2.2)

-- P1W == P6DT23H59,5M30S ; PT0,5H == PT30M == PT1800S ; hashed tuples equal
example : DurationQ.eq .greg (.weeks 1) (.units 0 0 6 23 (119/2) 30) = true := by decide +kernel
example : DurationQ.eq .greg (.units 0 0 0 (1/2) 0 0) (.units 0 0 0 0 30 0) = true ∧
    DurationQ.hashKey .greg (.units 0 0 0 (1/2) 0 0) = DurationQ.hashKey .greg (.units 0 0 0 0 0 1800) := by
  decide +kernel
-- a near miss of 1/8 s is not equal, and is ordered
example : DurationQ.eq .greg (.units 0 0 1 0 0 0) (.units 0 0 0 24 0 (1/8)) = false ∧
    DurationQ.lt .greg (.units 0 0 1 0 0 0) (.units 0 0 0 24 0 (1/8)) = true := by decide +kernel
-- nominal: P1Y is not == P365D but is <= and >= it (Gregorian); in the 360-day calendar P1Y < P365D
example : DurationQ.eq .greg (.units 1 0 0 0 0 0) (.units 0 0 365 0 0 0) = false ∧
    DurationQ.le .greg (.units 1 0 0 0 0 0) (.units 0 0 365 0 0 0) = true ∧
    DurationQ.lt .d360 (.units 1 0 0 0 0 0) (.units 0 0 364 (47/2) 30 0) = true := by decide +kernel
-- get_days_and_seconds of a negative fraction: -0.5 s is day -1 plus 86399.5 s
example : (DurationQ.units 0 0 0 0 0 (-1/2)).daysAndSeconds .greg = (-1, 172799/2) := by decide +kernel
-- addition promotes week form; the inverse; multiplication; floor division of fractions
example : DurationQ.add .greg (.weeks 1) (.units 0 0 0 (3/2) 0 0) = .units 0 0 7 (3/2) 0 0 := by decide +kernel
example : DurationQ.add .greg (.units 1 2 3 (1/2) (1/4) (1/8)) ((DurationQ.units 1 2 3 (1/2) (1/4) (1/8)).mul (-1)) =
    DurationQ.zero := by decide +kernel
example : (DurationQ.units 0 0 1 (3/2) 0 (1/8)).mul 3 = DurationQ.nfold .greg (.units 0 0 1 (3/2) 0 (1/8)) 3 := by
  decide +kernel
example : (DurationQ.units 0 0 3 (3/2) (-1/4) 0).floordiv 2 = some (.units 0 0 1 0 (-1) 0) := by decide +kernel
example : (DurationQ.units 0 0 0 (3/2) 0 0).floordiv 1 = some (.units 0 0 0 1 0 0) ∧
    (DurationQ.units 0 0 1 (-1) 0 (-1/2)).abs = .units 0 0 1 1 0 (1/2) := by decide +kernel
-- standardize: PT3664,5S -> PT1H1M4,5S ; PT-0,5S -> P-1DT23H59M59,5S
example : (DurationQ.units 0 0 0 0 0 (7329/2)).standardize .greg = .units 0 0 0 1 1 (9/2) := by decide +kernel
example : (DurationQ.units 0 0 0 0 0 (-1/2)).standardize .greg = .units 0 0 (-1) 23 59 (119/2) := by
  decide +kernel
-- constructor: fractional days are rejected, fractional hours are not; weeks alone keep week form
example : DurationQ.mk? .greg 0 0 0 (3/2) 0 0 0 = none ∧
    DurationQ.mk? .greg 0 0 0 1 (3/2) 0 0 = some (.units 0 0 1 (3/2) 0 0) ∧
    DurationQ.mk? .greg 0 0 2 0 0 0 0 = some (.weeks 2) ∧
    DurationQ.mk? .greg 0 0 2 0 0 0 (1/2) = some (.units 0 0 14 0 0 (1/2)) := by decide +kernel

end IsoDT.Props.C11q
