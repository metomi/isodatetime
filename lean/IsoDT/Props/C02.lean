/-
  C02 — Comparison and hashing of time points follow the timeline.

  `Model.cmp` mirrors `TimePoint._cmp` (re-zone the other operand, normalise 24:00 on both,
  compare `[*date, second_of_day]` lists, calendar triple or ordinal pair by the left operand's
  representation); the six operators are that comparison read through `operator.lt/eq/…`.
-/
import IsoDT.Lemmas.Cmp
import IsoDT.Lemmas.Dur

namespace IsoDT.Props.C02
open IsoDT IsoDT.Model IsoDT.Lemmas
open IsoDT.Spec (Date TZ TP)

/-- The six comparison operators as `_cmp` computes them from the list comparison. -/
def lt (m : Mode) (a b : TP) : Prop := cmp m a b = some (-1)
def eq (m : Mode) (a b : TP) : Prop := cmp m a b = some 0
def gt (m : Mode) (a b : TP) : Prop := cmp m a b = some 1
def le (m : Mode) (a b : TP) : Prop := lt m a b ∨ eq m a b
def ge (m : Mode) (a b : TP) : Prop := gt m a b ∨ eq m a b
def ne (m : Mode) (a b : TP) : Prop := ¬ eq m a b

/-- **C02**: the comparison is the order of the instants, whatever representations, offsets and
    24:00 spellings the operands use. -/
theorem C02_cmp (m : Mode) (a b : TP) (ha : a.Valid m) (hb : b.Valid m) :
    cmp m a b = some (sgn (a.inst m - b.inst m)) := cmp_spec m a b ha hb

theorem C02_operators (m : Mode) (a b : TP) (ha : a.Valid m) (hb : b.Valid m) :
    (lt m a b ↔ a.inst m < b.inst m) ∧ (eq m a b ↔ a.inst m = b.inst m) ∧
    (gt m a b ↔ a.inst m > b.inst m) ∧ (le m a b ↔ a.inst m ≤ b.inst m) ∧
    (ge m a b ↔ a.inst m ≥ b.inst m) ∧ (ne m a b ↔ a.inst m ≠ b.inst m) := by
  unfold le ge ne lt eq gt
  rw [cmp_spec m a b ha hb]
  simp only [Option.some.injEq, sgn_neg_iff, sgn_zero_iff, sgn_one_iff]
  refine ⟨?_, ?_, ?_, ?_, ?_, ?_⟩ <;> omega

/-- Exactly one of `a < b`, `a == b`, `a > b`. -/
theorem C02_trichotomy (m : Mode) (a b : TP) (ha : a.Valid m) (hb : b.Valid m) :
    (lt m a b ∧ ¬ eq m a b ∧ ¬ gt m a b) ∨ (¬ lt m a b ∧ eq m a b ∧ ¬ gt m a b) ∨
    (¬ lt m a b ∧ ¬ eq m a b ∧ gt m a b) := by
  obtain ⟨h1, h2, h3, _⟩ := C02_operators m a b ha hb
  rw [h1, h2, h3]; omega

theorem C02_eq_symm (m : Mode) (a b : TP) (ha : a.Valid m) (hb : b.Valid m) :
    (eq m a b ↔ eq m b a) ∧ (ne m a b ↔ ne m b a) ∧ (lt m a b ↔ gt m b a) := by
  obtain ⟨h1, h2, h3, _, _, h6⟩ := C02_operators m a b ha hb
  obtain ⟨g1, g2, g3, _, _, g6⟩ := C02_operators m b a hb ha
  rw [h1, h2, h6, g2, g3, g6]; omega

theorem C02_trans (m : Mode) (a b c : TP) (ha : a.Valid m) (hb : b.Valid m) (hc : c.Valid m) :
    (le m a b → le m b c → le m a c) ∧ (lt m a b → lt m b c → lt m a c) ∧
    (eq m a b → eq m b c → eq m a c) := by
  obtain ⟨l1, e1, _, le1, _⟩ := C02_operators m a b ha hb
  obtain ⟨l2, e2, _, le2, _⟩ := C02_operators m b c hb hc
  obtain ⟨l3, e3, _, le3, _⟩ := C02_operators m a c ha hc
  rw [le1, le2, le3, l1, l2, l3, e1, e2, e3]; omega

/-- Points that compare equal have the same hash key (Python hashes the key tuple; equal int
    tuples hash equally — CPython, trusted). -/
theorem C02_hash (m : Mode) (a b : TP) (ha : a.Valid m) (hb : b.Valid m) (h : eq m a b) :
    hashKey m a = hashKey m b ∧ (hashKey m a).isSome :=
  hashKey_eq_of_inst_eq m a b ha hb (((C02_operators m a b ha hb).2.1).mp h)

/-- The sign of `a - b` agrees with the comparison. -/
theorem C02_sub_sign (m : Mode) (a b : TP) (ha : a.Valid m) (hb : b.Valid m) :
    ∃ d, subTP m a b = some d ∧ cmp m a b = some (sgn (d.exactSeconds m)) := by
  obtain ⟨dd, hh, mm, ss, e, hl, _⟩ := subTP_spec m a b ha hb
  exact ⟨_, e, by rw [cmp_spec m a b ha hb, exactSeconds_units, hl]⟩

/-! ## Non-vacuity, and the 24:00 witnesses of the defect F2 repaired in /repo, both operand orders -/

example : (⟨.cal 2000 12 31, 24, 0, 0, ⟨0, 0⟩⟩ : TP).Valid .greg ∧
    (⟨.cal 2001 1 1, 1, 0, 0, ⟨1, 0⟩⟩ : TP).Valid .greg := by decide
example : cmp .greg ⟨.cal 2000 12 31, 24, 0, 0, ⟨0, 0⟩⟩ ⟨.cal 2001 1 1, 1, 0, 0, ⟨1, 0⟩⟩ = some 0 := by
  decide +kernel
example : cmp .greg ⟨.cal 2001 1 1, 1, 0, 0, ⟨1, 0⟩⟩ ⟨.cal 2000 12 31, 24, 0, 0, ⟨0, 0⟩⟩ = some 0 := by
  decide +kernel
example : hashKey .greg ⟨.cal 2000 12 31, 24, 0, 0, ⟨0, 0⟩⟩ = hashKey .greg ⟨.week 2001 1 1, 1, 0, 0, ⟨1, 0⟩⟩ := by
  decide +kernel

end IsoDT.Props.C02
