/-
  C20 — Adding a truncated time point finds the next matching date-time.

  `Model.addTruncated` mirrors `TimePoint.add_truncated`: each
  `while new._field != target: new._field += 1; new._tick_over()` loop is `Model.loopField` with a
  fuel bound; `none` would mean the real loop is still spinning.

  Proved here for every whole-second point, offset, representation and mode:
  * every loop returns the *first* point along its walk whose field equals the target
    (`C20_loop_first_match`), each step moving the instant forward by exactly one unit, so the
    result is never earlier than `p`, keeps offset, and is a valid date-time;
  * the second, minute, hour and weekday loops always terminate within their fuel
    (`C20_periodic_loops_terminate`), and for the time-of-day shapes (`T06`, `T-30`, `T--15`, …) the
    result is exactly the earliest date-time not earlier than `p` whose specified fields match, with
    the lower time fields zero (`C20_seconds`, `C20_minutes`, `C20_hours`);
  * idempotence for those shapes;
  * the day-of-month, day-of-year and week loops terminate within their fuel
    (`C20_day_loops_terminate`), and so does the whole operation for every legal combination of
    fields (`C20_terminates`).
  The day-designator shapes are in `Props/C20b.lean`; minimality fails for day designator +
  minute/second without hour (known finding F9, `C20_earliest_counterexample_dayMinute`).
-/
import IsoDT.Lemmas.TruncDay

namespace IsoDT.Props.C20
open IsoDT IsoDT.Model IsoDT.Lemmas
open IsoDT.Spec (Date TZ TP)

/-- **Every loop returns the first match along its walk.**  If the loop returns `q` within its fuel
    then `q` is `k` unit steps after `p`, its field equals the target, and none of the `k` earlier
    points did. -/
theorem C20_loop_first_match (m : Mode) (get : TP → Int) (bump : TP → TP) (target : Int) (fuel : Nat)
    (p q : TP) (h : loopField m get bump target fuel p = some q) :
    ∃ k : Nat, k ≤ fuel ∧ stepsFrom m bump k p = some q ∧ get q = target ∧
      ∀ j : Nat, j < k → ∀ x, stepsFrom m bump j p = some x → get x ≠ target :=
  loopField_spec m get bump target fuel p q h

/-- Each unit step (`+1 s`, `+1 min`, `+1 h`, `+1 day`, `+1 week` followed by `_tick_over`) moves the
    instant forward by exactly that unit and yields a valid point in the same offset and
    representation — so any loop result is valid, in `p`'s offset, and not earlier than `p`. -/
theorem C20_steps (m : Mode) (k : Nat) (p : TP) (hp : p.Strict m) :
    (∃ q, stepsFrom m (fun q => { q with ss := q.ss + 1 }) k p = some q ∧ q.Strict m ∧
      q.inst m = p.inst m + k * 1 ∧ q.tz = p.tz ∧ q.date.rep = p.date.rep) ∧
    (∃ q, stepsFrom m (fun q => { q with mi := q.mi + 1 }) k p = some q ∧ q.Strict m ∧
      q.inst m = p.inst m + k * 60 ∧ q.tz = p.tz ∧ q.date.rep = p.date.rep) ∧
    (∃ q, stepsFrom m (fun q => { q with hh := q.hh + 1 }) k p = some q ∧ q.Strict m ∧
      q.inst m = p.inst m + k * 3600 ∧ q.tz = p.tz ∧ q.date.rep = p.date.rep) ∧
    (∃ q, stepsFrom m (fun q => { q with date := bumpDay q.date 1 }) k p = some q ∧ q.Strict m ∧
      q.inst m = p.inst m + k * 86400 ∧ q.tz = p.tz ∧ q.date.rep = p.date.rep) ∧
    (p.date.rep = 2 → ∃ q, stepsFrom m bumpWeek k p = some q ∧ q.Strict m ∧
      q.inst m = p.inst m + k * 604800 ∧ q.tz = p.tz ∧ q.date.rep = p.date.rep) :=
  ⟨stepsFrom_spec m _ 1 _ (stepOK_ss m _) k p hp rfl, stepsFrom_spec m _ 60 _ (stepOK_mi m _) k p hp rfl,
   stepsFrom_spec m _ 3600 _ (stepOK_hh m _) k p hp rfl, stepsFrom_spec m _ 86400 _ (stepOK_day m _) k p hp rfl,
   fun h => stepsFrom_spec m _ 604800 2 (stepOK_week m) k p hp h⟩

/-- **The second, minute, hour and weekday loops terminate** within their fuel from any valid
    point, for every legal target value, and land exactly the distance (mod 60, 60, 24, 7) ahead. -/
theorem C20_periodic_loops_terminate (m : Mode) (p : TP) (hp : p.Strict m) :
    (∀ s, 0 ≤ s ∧ s < 60 → ∃ q, loopField m (·.ss) (fun q => { q with ss := q.ss + 1 }) s fuelTime p = some q ∧
      q.inst m = p.inst m + (s - p.ss) % 60) ∧
    (∀ t, 0 ≤ t ∧ t < 60 → ∃ q, loopField m (·.mi) (fun q => { q with mi := q.mi + 1 }) t fuelTime p = some q ∧
      q.inst m = p.inst m + 60 * ((t - p.mi) % 60)) ∧
    (∀ t, 0 ≤ t ∧ t < 24 → ∃ q, loopField m (·.hh) (fun q => { q with hh := q.hh + 1 }) t fuelTime p = some q ∧
      q.inst m = p.inst m + 3600 * ((t - p.hh) % 24)) ∧
    (p.date.rep = 2 → ∀ t, 1 ≤ t ∧ t ≤ 7 →
      ∃ q, loopField m getDow (fun q => { q with date := bumpDay q.date 1 }) t fuelDow p = some q ∧
        q.inst m = p.inst m + 86400 * ((t - getDow p) % 7)) := by
  refine ⟨fun s hs => ?_, fun t ht => ?_, fun t ht => ?_, fun hk t ht => ?_⟩
  · obtain ⟨q, h1, _, h3, _⟩ := loop_ss m p hp s hs; exact ⟨q, h1, h3⟩
  · obtain ⟨q, h1, _, h3, _⟩ := loop_mi m p hp t ht; exact ⟨q, h1, h3⟩
  · obtain ⟨q, h1, _, h3, _⟩ := loop_hh m p hp t ht; exact ⟨q, h1, h3⟩
  · obtain ⟨q, h1, _, h3, _⟩ := loop_dow m p hp hk t ht; exact ⟨q, h1, h3⟩

/-- **The day-of-month, day-of-year and week loops terminate** within their fuel from any valid
    point of the right representation, for every target value the bounds check admits
    in the mode: day 1..31 (30 in the 360-day calendar), day-of-year up to 366 where the mode has
    leap years (a leap year starts within 7 years), week up to 53 (52 in the 360-day calendar; a
    week-year that long starts within 7 years: seven shorter ones would not cover seven calendar
    years). -/
theorem C20_day_loops_terminate (m : Mode) (p : TP) (hp : p.Strict m) :
    (p.date.rep = 0 → ∀ t, 1 ≤ t ∧ t ≤ (calOf m).maxDaysInMonth →
      ∃ q, loopField m getDom (fun q => { q with date := bumpDay q.date 1 }) t fuelDom p = some q) ∧
    (p.date.rep = 1 → ∀ t, 1 ≤ t ∧ t ≤ (calOf m).daysInYearLeap →
      ∃ q, loopField m getDoy (fun q => { q with date := bumpDay q.date 1 }) t fuelDoy p = some q) ∧
    (p.date.rep = 2 → ∀ t, 1 ≤ t ∧ t ≤ (calOf m).maxWeeksInYear →
      ∃ q, loopField m getWeek bumpWeek t fuelWeek p = some q) :=
  ⟨fun hk t ht => loop_dom_terminates m p hp hk t ht.1 ht.2, fun hk t ht => loop_doy_terminates m p hp hk t ht.1 ht.2,
    fun hk t ht => loop_week_terminates m p hp hk t ht.1 ht.2⟩

/-- A loop result, whatever the loop: a valid point in the same offset and representation, not
    earlier than where the loop started. -/
theorem C20_loop_result (m : Mode) (get : TP → Int) (bump : TP → TP) (target delta : Int) (kr fuel : Nat)
    (hb : StepOK m bump delta kr) (hd : 0 ≤ delta) (p q : TP) (hp : p.Strict m) (hk : p.date.rep = kr)
    (h : loopField m get bump target fuel p = some q) :
    q.Strict m ∧ q.tz = p.tz ∧ q.date.rep = p.date.rep ∧ p.inst m ≤ q.inst m ∧ get q = target := by
  obtain ⟨k, _, hs, hg, _⟩ := loopField_spec m get bump target fuel p q h
  obtain ⟨x, hx, xs, xi, xt, xr⟩ := stepsFrom_spec m bump delta kr hb k p hp hk
  rw [hs] at hx; cases hx
  have := Int.mul_nonneg (Int.natCast_nonneg k) hd
  exact ⟨xs, xt, xr, by omega, hg⟩

/-- The field values a truncated point may carry in mode `m` (what its constructor's bounds check
    admits: the year-less limits, after the repair of F8). -/
def LegalTrunc (m : Mode) (t : Trunc) : Prop :=
  (∀ x, t.ss = some x → 0 ≤ x ∧ x < 60) ∧ (∀ x, t.mi = some x → 0 ≤ x ∧ x < 60) ∧
  (∀ x, t.hh = some x → 0 ≤ x ∧ x < 24) ∧ (∀ x, t.dow = some x → 1 ≤ x ∧ x ≤ 7) ∧
  (∀ x, t.dom = some x → 1 ≤ x ∧ x ≤ (calOf m).maxDaysInMonth) ∧
  (∀ x, t.doy = some x → 1 ≤ x ∧ x ≤ (calOf m).daysInYearLeap) ∧
  (∀ x, t.week = some x → 1 ≤ x ∧ x ≤ (calOf m).maxWeeksInYear)

/-- The time fields `add_truncated` aims for: the given ones, lower ones defaulting to zero. -/
def TimeMatch (t : Trunc) (q : TP) : Prop := ShowsTime t.hh (effMI t) (effSS t) q

theorem eff_given (t : Trunc) :
    (∀ x, t.mi = some x → effMI t = some x) ∧ (t.hh ≠ none → t.mi = none → effMI t = some 0) ∧
    (∀ s, t.ss = some s → effSS t = some s) ∧ ((t.hh ≠ none ∨ t.mi ≠ none) → t.ss = none → effSS t = some 0) := by
  obtain ⟨week, dow, dom, doy, hh, mi, ss, tz⟩ := t
  cases hh <;> cases mi <;> cases ss <;> simp [effMI, effSS]

theorem eff_none (t : Trunc) (h1 : t.hh = none) (h2 : t.mi = none) (h3 : t.ss = none) :
    effMI t = none ∧ effSS t = none := by
  simp [effMI, effSS, h1, h2, h3]

theorem eff_of_hh (t : Trunc) (h : Int) (hh : t.hh = some h) :
    effMI t = some (t.mi.getD 0) ∧ effSS t = some (t.ss.getD 0) := by
  obtain ⟨week, dow, dom, doy, hh', mi, ss, tz⟩ := t
  cases mi <;> cases ss <;> simp_all [effMI, effSS]

theorem eff_closed (t : Trunc) :
    (effMI t ≠ none → effSS t ≠ none) ∧ (t.hh ≠ none → effMI t ≠ none) ∧
    (∀ x, effMI t = some x → t.mi = some x ∨ x = 0) ∧ (∀ x, effSS t = some x → t.ss = some x ∨ x = 0) := by
  obtain ⟨week, dow, dom, doy, hh, mi, ss, tz⟩ := t
  cases hh <;> cases mi <;> cases ss <;> simp [effMI, effSS, eq_comm]

theorem timeMatch_given (t : Trunc) (q : TP) (tm : TimeMatch t q) :
    (∀ s, t.ss = some s → q.ss = s) ∧ (∀ x, t.mi = some x → q.mi = x) ∧ (∀ h, t.hh = some h → q.hh = h) ∧
    (t.hh ≠ none → t.mi = none → q.mi = 0) ∧ ((t.hh ≠ none ∨ t.mi ≠ none) → t.ss = none → q.ss = 0) := by
  obtain ⟨f1, f2, f3, f4⟩ := eff_given t
  exact ⟨fun s hs => tm.2.2 s (f3 s hs), fun x hx => tm.2.1 x (f1 x hx), tm.1,
    fun h1 h2 => tm.2.1 0 (f2 h1 h2), fun h1 h2 => tm.2.2 0 (f4 h1 h2)⟩

/-- **A run of `add_truncated` on `p`, by its stations**: `p0` is `p` with 24:00 normalised; the three
    time-of-day loops take it less than a day forward to `p3`, the earliest point not before `p` that
    shows the targeted time fields; then the weekday, day-of-month, day-of-year and week loops hand
    on `p4`, `p5`, `p6` and the result `q`. -/
structure TruncRun (m : Mode) (p : TP) (t : Trunc) (p0 p3 p4 p5 p6 q : TP) : Prop where
  norm : normalise24 m p = some p0
  good : Good m p p0 0
  eq : addTruncated m p t = some q
  strict3 : p3.Strict m
  tz3 : p3.tz = p.tz
  rep3 : p3.date.rep = p.date.rep
  ge3 : p.inst m ≤ p3.inst m
  lt3 : p3.inst m < p.inst m + 86400
  time : TimeMatch t p3
  noTime : t.hh = none → t.mi = none → t.ss = none → p3 = p0
  min3 : ∀ q' : TP, q'.Strict m → q'.tz = p.tz → p.inst m ≤ q'.inst m → TimeMatch t q' → p3.inst m ≤ q'.inst m
  dow : DowRel m t.dow p3 p4
  dom : DomRel m t.dom p4 p5
  doy : DoyRel m t.doy p5 p6
  week : WeekRel m t.week p6 q

theorem addTruncated_chain (m : Mode) (p : TP) (hv : p.Valid m) (t : Trunc) (hl : LegalTrunc m t) :
    ∃ p0 p3 p4 p5 p6 q, TruncRun m p t p0 p3 p4 p5 p6 q := by
  obtain ⟨l1, l2, l3, l4, l5, l6, l7⟩ := hl
  obtain ⟨cl1, cl2, cmi, css⟩ := eff_closed t
  have hmi : ∀ x, effMI t = some x → 0 ≤ x ∧ x < 60 := fun x hx =>
    (cmi x hx).elim (l2 x) fun h => by omega
  have hss : ∀ x, effSS t = some x → 0 ≤ x ∧ x < 60 := fun x hx =>
    (css x hx).elim (l1 x) fun h => by omega
  obtain ⟨p0, e0, g0⟩ := normalise24_spec m p hv
  obtain ⟨p1, e1, r1⟩ := ss_stage m p0 g0.strict (effSS t) hss
  have s1 := optRel_elim r1 (·.Strict m) g0.strict fun _ r => r.1
  obtain ⟨p2, e2, r2⟩ := mi_stage m p1 s1 (effMI t) hmi
  have s2 := optRel_elim r2 (·.Strict m) s1 fun _ r => r.1
  obtain ⟨p3, e3, r3⟩ := hh_stage m p2 s2 t.hh l3
  obtain ⟨a1, a2, a3, a4, a5, tm3, a9, a10⟩ := time_summary m _ _ _ p0 p1 p2 p3 g0.strict r1 r2 r3
  obtain ⟨p4, e4, r4⟩ := dow_stage m p3 a1 t.dow l4
  have s4 := optRel_elim r4 (·.Strict m) a1 fun _ r => r.1.strict
  obtain ⟨p5, e5, r5⟩ := dom_stage m p4 s4 t.dom l5
  have s5 := optRel_elim r5 (·.Strict m) s4 fun _ r => r.1.strict
  obtain ⟨p6, e6, r6⟩ := doy_stage m p5 s5 t.doy l6
  have s6 := optRel_elim r6 (·.Strict m) s5 fun _ r => r.1.strict
  obtain ⟨q, e7, r7⟩ := week_stage m p6 s6 t.week l7
  have hi := g0.inst
  refine ⟨p0, p3, p4, p5, p6, q, e0, g0, ?_, a1, by rw [a2, g0.tz], by rw [a3, g0.rep], by omega, by omega,
    tm3, fun h1 h2 h3 => a9 h1 (eff_none t h1 h2 h3).1 (eff_none t h1 h2 h3).2,
    fun q' hq htz hge tm => a10 cl1 cl2 q' hq (by rw [htz, g0.tz]) (by omega) tm, r4, r5, r6, r7⟩
  simp only [addTruncated_parts, timeParts, dayParts, e0, e1, e2, e3, e4, e5, e6, e7, Option.bind_some]

section run
variable {m : Mode} {p : TP} {t : Trunc} {p0 p3 p4 p5 p6 q : TP} (R : TruncRun m p t p0 p3 p4 p5 p6 q)
include R

theorem run_keeps : Keeps m p3 q :=
  dayRels_keeps m _ _ _ _ p3 p4 p5 p6 q R.strict3 R.dow R.dom R.doy R.week

theorem run_timeMatch : TimeMatch t q := by
  have kq := run_keeps R
  obtain ⟨t1, t2, t3⟩ := R.time
  exact ⟨fun x hx => by rw [kq.hh]; exact t1 x hx, fun x hx => by rw [kq.mi]; exact t2 x hx,
    fun x hx => by rw [kq.ss]; exact t3 x hx⟩

theorem run_noDay (hd : t.dow = none ∧ t.dom = none ∧ t.doy = none ∧ t.week = none) : q = p3 := by
  have r4 := R.dow; have r5 := R.dom; have r6 := R.doy; have r7 := R.week
  rw [hd.1] at r4; rw [hd.2.1] at r5; rw [hd.2.2.1] at r6; rw [hd.2.2.2] at r7
  rw [show q = p6 from r7, show p6 = p5 from r6, show p5 = p4 from r5, show p4 = p3 from r4]

end run

/-- **The operation terminates**: for every valid full point `p` (24:00 included) and every
    truncated point with legal field values - any combination of time fields and day designators,
    in every mode - `add_truncated` returns (all its loops end within their fuel), and the result
    is a valid date-time in `p`'s offset, not earlier than `p`. -/
theorem C20_terminates (m : Mode) (p : TP) (hv : p.Valid m) (t : Trunc) (hl : LegalTrunc m t) :
    ∃ q, addTruncated m p t = some q ∧ q.Strict m ∧ q.tz = p.tz ∧ p.inst m ≤ q.inst m := by
  obtain ⟨p0, p3, p4, p5, p6, q, R⟩ := addTruncated_chain m p hv t hl
  have kq := run_keeps R
  have := keeps_inst m p3 q kq
  have := R.ge3
  exact ⟨q, R.eq, kq.strict, by rw [kq.tz, R.tz3], by omega⟩

/-- What "earliest matching date-time" means for a time-of-day shape. -/
def Earliest (m : Mode) (p q : TP) (Match : TP → Prop) : Prop :=
  q.Strict m ∧ q.tz = p.tz ∧ q.date.rep = p.date.rep ∧ Match q ∧ p.inst m ≤ q.inst m ∧
  ∀ q' : TP, q'.Strict m → q'.tz = p.tz → Match q' → p.inst m ≤ q'.inst m → q.inst m ≤ q'.inst m

/-- **No day designator**: the result is the earliest date-time not earlier than `p` that shows the
    targeted time fields. -/
theorem time_shape (m : Mode) (p : TP) (hv : p.Valid m) (t : Trunc) (hl : LegalTrunc m t)
    (hd : t.dow = none ∧ t.dom = none ∧ t.doy = none ∧ t.week = none) :
    ∃ q, addTruncated m p t = some q ∧ Earliest m p q (TimeMatch t) := by
  obtain ⟨p0, p3, p4, p5, p6, q, R⟩ := addTruncated_chain m p hv t hl
  obtain rfl := run_noDay R hd
  exact ⟨q, R.eq, R.strict3, R.tz3, R.rep3, R.time, R.ge3, fun q' hq htz hm hge => R.min3 q' hq htz hge hm⟩

theorem earliest_congr {m : Mode} {p q : TP} {M M' : TP → Prop} (h : ∀ x, M x ↔ M' x)
    (he : Earliest m p q M) : Earliest m p q M' :=
  ⟨he.1, he.2.1, he.2.2.1, (h q).1 he.2.2.2.1, he.2.2.2.2.1,
    fun q' hq htz hm hge => he.2.2.2.2.2 q' hq htz ((h q').2 hm) hge⟩

/-- **`T--ss`** (only a second given): the earliest date-time not earlier than `p` with that second. -/
theorem C20_seconds (m : Mode) (p : TP) (hv : p.Valid m) (s : Int) (hs : 0 ≤ s ∧ s < 60) :
    ∃ q, addTruncated m p ⟨none, none, none, none, none, none, some s, none⟩ = some q ∧
      Earliest m p q (fun x => x.ss = s) := by
  obtain ⟨q, e, he⟩ := time_shape m p hv ⟨none, none, none, none, none, none, some s, none⟩
    ⟨fun _ h => by cases h; exact hs, nofun, nofun, nofun, nofun, nofun, nofun⟩ ⟨rfl, rfl, rfl, rfl⟩
  exact ⟨q, e, earliest_congr (he := he) fun x => ⟨fun h => h.2.2 s rfl, fun h => ⟨nofun, nofun, fun _ e => by cases e; exact h⟩⟩⟩

/-- **`T-mm`, `T-mm:ss`** (minute given, no hour): the earliest date-time not earlier than `p` with
    that minute and the given second (zero if none was given). -/
theorem C20_minutes (m : Mode) (p : TP) (hv : p.Valid m) (t : Int) (ht : 0 ≤ t ∧ t < 60)
    (ss : Option Int) (hs : ∀ s, ss = some s → 0 ≤ s ∧ s < 60) :
    ∃ q, addTruncated m p ⟨none, none, none, none, none, some t, ss, none⟩ = some q ∧
      Earliest m p q (fun x => x.mi = t ∧ x.ss = ss.getD 0) := by
  obtain ⟨q, e, he⟩ := time_shape m p hv ⟨none, none, none, none, none, some t, ss, none⟩
    ⟨hs, fun _ h => by cases h; exact ht, nofun, nofun, nofun, nofun, nofun⟩ ⟨rfl, rfl, rfl, rfl⟩
  have e2 : effSS ⟨none, none, none, none, none, some t, ss, none⟩ = some (ss.getD 0) := by cases ss <;> rfl
  exact ⟨q, e, earliest_congr (he := he) fun x => ⟨fun h => ⟨h.2.1 t rfl, h.2.2 _ e2⟩,
    fun h => ⟨nofun, fun _ e => by cases e; exact h.1, fun _ e => by rw [e2] at e; cases e; exact h.2⟩⟩⟩

/-- **`Thh`, `Thh:mm`, `Thh:mm:ss`** (hour given): the earliest date-time not earlier than `p` at
    that hour, the given minute and second (zero where none was given). -/
theorem C20_hours (m : Mode) (p : TP) (hv : p.Valid m) (h : Int) (hh : 0 ≤ h ∧ h < 24)
    (mi ss : Option Int) (hmi : ∀ x, mi = some x → 0 ≤ x ∧ x < 60) (hs : ∀ s, ss = some s → 0 ≤ s ∧ s < 60) :
    ∃ q, addTruncated m p ⟨none, none, none, none, some h, mi, ss, none⟩ = some q ∧
      Earliest m p q (fun x => x.hh = h ∧ x.mi = mi.getD 0 ∧ x.ss = ss.getD 0) := by
  obtain ⟨q, e, he⟩ := time_shape m p hv ⟨none, none, none, none, some h, mi, ss, none⟩
    ⟨hs, hmi, fun _ e => by cases e; exact hh, nofun, nofun, nofun, nofun⟩ ⟨rfl, rfl, rfl, rfl⟩
  obtain ⟨e1, e2⟩ := eff_of_hh ⟨none, none, none, none, some h, mi, ss, none⟩ h rfl
  exact ⟨q, e, earliest_congr (he := he) fun x => ⟨fun hm => ⟨hm.1 h rfl, hm.2.1 _ e1, hm.2.2 _ e2⟩,
    fun hm => ⟨fun _ e => by cases e; exact hm.1, fun _ e => by rw [e1] at e; cases e; exact hm.2.1,
      fun _ e => by rw [e2] at e; cases e; exact hm.2.2⟩⟩⟩

/-- **Applying `t` again returns the same result** (time-of-day shapes): a point that already
    matches is its own earliest match. -/
theorem C20_idempotent (m : Mode) (p q : TP) (Match : TP → Prop) (he : Earliest m p q Match)
    (q2 : TP) (he2 : Earliest m q q2 Match) : q2 = q := by
  obtain ⟨qs, qt, qr, qm, qge, _⟩ := he
  obtain ⟨q2s, q2t, q2r, q2m, q2ge, q2min⟩ := he2
  have h1 := q2min q qs rfl qm (Int.le_refl _)
  exact strict_unique m q2 q q2s qs q2r q2t (by omega)

/-- With a zone of its own, `t` is read in that zone and the answer is re-expressed in `p`'s. -/
theorem C20_zone (m : Mode) (p : TP) (t : Trunc) (z : TZ) (hz : t.tz = some z) :
    addTruncTP m p t =
      (toTimeZone m p z).bind fun q => (addTruncated m q t).bind fun r => toTimeZone m r p.tz := by
  unfold addTruncTP; rw [hz]

theorem C20_no_zone (m : Mode) (p : TP) (t : Trunc) (hz : t.tz = none) :
    addTruncTP m p t = addTruncated m p t := by
  unfold addTruncTP; rw [hz]

/-! ## Non-vacuity; 24:00 (F2), week 53 in the 360-day calendar (F8), and F9 -/

example : addTruncated .greg ⟨.cal 2000 12 31, 24, 0, 0, ⟨0, 0⟩⟩ ⟨none, none, none, none, some 0, none, none, none⟩ =
    some ⟨.cal 2001 1 1, 0, 0, 0, ⟨0, 0⟩⟩ := by decide +kernel
/-- Week 53 never occurs in the 360-day calendar, and the bounds check refuses it. -/
example : (Gen.calOfMode .d360).maxWeeksInYear = 52 := by decide

/-- **F9**: for a day designator with a minute but no hour the result matches but is not the
    earliest: `-001T-46` added to `2000-003T19:40:08Z` gives `2001-001T19:46`, while
    `2001-001T00:46` also matches and is earlier. -/
theorem C20_earliest_counterexample_dayMinute :
    addTruncated .greg ⟨.ord 2000 3, 19, 40, 8, ⟨0, 0⟩⟩ ⟨none, none, none, some 1, none, some 46, none, none⟩ =
      some ⟨.ord 2001 1, 19, 46, 0, ⟨0, 0⟩⟩ ∧
    (⟨.ord 2001 1, 0, 46, 0, ⟨0, 0⟩⟩ : TP).inst .greg < (⟨.ord 2001 1, 19, 46, 0, ⟨0, 0⟩⟩ : TP).inst .greg ∧
    (⟨.ord 2000 3, 19, 40, 8, ⟨0, 0⟩⟩ : TP).inst .greg ≤ (⟨.ord 2001 1, 0, 46, 0, ⟨0, 0⟩⟩ : TP).inst .greg := by
  refine ⟨by decide +kernel, by decide +kernel, by decide +kernel⟩

end IsoDT.Props.C20
