/-
  C13 (continued) — Recurrence queries agree with iteration: the remaining notations.

  `get_is_valid` for the unbounded start/duration recurrence and for both duration/end
  recurrences (with the amount of iteration — fuel — that suffices, and that more does not change
  the answer), `r[i]` for duration/end and for the unbounded recurrences, `r[i]` as the `i`-th point
  of any longer run of `__iter__` (every recurrence), `get_first_after` for a probe outside the
  bounds (every recurrence with a start) and the leastness of its closed-form result.
  Exact intervals throughout, except where stated otherwise.
-/
import IsoDT.Props.C13
import IsoDT.Lemmas.RecQuery

namespace IsoDT.Props.C13
open IsoDT IsoDT.Model IsoDT.Lemmas IsoDT.Props.C12
open IsoDT.Spec (Date TZ TP)

/-- **get_is_valid is membership of the visited points**, every notation: for a recurrence with an
    exact interval (bounded or not, forwards or backwards) and any amount of iteration,
    `get_is_valid(p)` is true exactly when one of the visited points is at the probe's instant.
    The early exits never lose a member: the points not yet visited are further away still. -/
theorem C13_is_valid_iff_iterated (m : Mode) (r : Rec) (d : Dur) (L : Int) (hr : ExactRec m r d L)
    (p : TP) (hp : p.Valid m) (fuel : Nat) :
    getIsValid m r p fuel = true ↔ ∃ q ∈ iter m r fuel, q.inst m = p.inst m :=
  getIsValid_iff_iterated m r d L hr.stepRec p hp fuel

/-- Start/second-point notation `R/2002-05-04T23:00Z/2002-05-05T00:00Z` (interval: the difference). -/
example := C13_is_valid_iff_iterated .greg ⟨none, some ⟨.cal 2002 5 4, 23, 0, 0, ⟨0, 0⟩⟩, some (.units 0 0 0 1 0 0), none,
    some ⟨.cal 2002 5 5, 0, 0, 0, ⟨0, 0⟩⟩, 1⟩ (.units 0 0 0 1 0 0) 3600
    ⟨rfl, rfl, by decide, by decide, by decide, fun s h => by cases h; decide, fun e h => by cases h⟩
    ⟨.ord 2002 125, 3, 0, 0, ⟨2, 0⟩⟩ (by decide) 3
example : mkRec .greg none (some ⟨.cal 2002 5 4, 23, 0, 0, ⟨0, 0⟩⟩) none (some ⟨.cal 2002 5 5, 0, 0, 0, ⟨0, 0⟩⟩) =
    some ⟨none, some ⟨.cal 2002 5 4, 23, 0, 0, ⟨0, 0⟩⟩, some (.units 0 0 0 1 0 0), none,
      some ⟨.cal 2002 5 5, 0, 0, 0, ⟨0, 0⟩⟩, 1⟩ := by decide +kernel

theorem mem_fwd_unbounded (m : Mode) (r : Rec) (d : Dur) (L : Int) (hr : ExactRec m r d L) (s : TP)
    (hs : r.start = some s) (hen : r.end_ = none) (x : Int) (fuel : Nat) :
    (∃ q ∈ iter m r fuel, q.inst m = x) ↔ ∃ k : Nat, k < fuel ∧ x = s.inst m + (k : Int) * L := by
  obtain ⟨a, c, _⟩ := iter_exact_fwd m r d L hr s hs fuel
  rw [series_mem_iff m _ _ _ _ _ a x, c hen]

theorem mem_rev_unbounded (m : Mode) (r : Rec) (d : Dur) (L : Int) (hr : ExactRec m r d L) (e : TP)
    (hs : r.start = none) (he : r.end_ = some e) (x : Int) (fuel : Nat) :
    (∃ q ∈ iter m r fuel, q.inst m = x) ↔ ∃ k : Nat, k < fuel ∧ x = e.inst m - (k : Int) * L := by
  obtain ⟨a, c⟩ := iter_exact_rev m r d L hr e hs he fuel
  rw [series_mem_iff m _ _ _ _ _ a x, c]
  constructor
  · rintro ⟨k, hk, hx⟩; exact ⟨k, hk, by rw [hx, Int.mul_neg]; omega⟩
  · rintro ⟨k, hk, hx⟩; exact ⟨k, hk, by rw [hx, Int.mul_neg]; omega⟩

/-- **get_is_valid**, unbounded start/duration with an exact interval.  Python's loop runs until a
    point equals the probe or (early exit) is later than it; the fuel is how many points the loop
    is allowed to visit.  With any fuel greater than `⌊(p − start)/L⌋` (for a probe before the
    start: any fuel at all) the answer is membership of the visited points by instant, which is:
    the probe is at `start + k·L` for some `k ≥ 0` — equivalently it is within the bounds and
    `p − start` is a multiple of `L` — whatever representation or offset the probe is written in;
    and any larger fuel gives the same answer (the loop has already stopped). -/
theorem C13_is_valid_start_duration_unbounded (m : Mode) (s : TP) (d : Dur) (hs : s.Valid m)
    (hex : d.isExact = true) (hpos : 0 < d.exactSeconds m) (p : TP) (hp : p.Valid m) (fuel : Nat)
    (hf : (p.inst m - s.inst m) / d.exactSeconds m < (fuel : Int)) :
    ∃ r, mkRec m none (some s) (some d) none = some r ∧
      (getIsValid m r p fuel = true ↔ ∃ q ∈ iter m r fuel, q.inst m = p.inst m) ∧
      ((∃ q ∈ iter m r fuel, q.inst m = p.inst m) ↔
        ∃ k : Nat, p.inst m = s.inst m + (k : Int) * d.exactSeconds m) ∧
      (getIsValid m r p fuel = true ↔
        inBounds m r p = true ∧ (p.inst m - s.inst m) % d.exactSeconds m = 0) ∧
      (∀ fuel', fuel ≤ fuel' → getIsValid m r p fuel' = getIsValid m r p fuel) := by
  refine ⟨_, mkRec_fmt3_unbounded m s d hex hpos, ?_⟩
  have hx := exactRec_fmt3_unbounded m s d hs hex hpos
  have key : ∀ f : Nat, (p.inst m - s.inst m) / d.exactSeconds m < (f : Int) →
      (getIsValid m ⟨none, some s, some d, none, none, 3⟩ p f = true ↔
        ∃ k : Nat, p.inst m = s.inst m + (k : Int) * d.exactSeconds m) := by
    intro f hf'
    rw [C13_is_valid_iff_iterated m _ d _ hx p hp f, mem_fwd_unbounded m _ d _ hx s rfl rfl _ f,
      index_bound_drop _ hpos _ _ f hf']
  refine ⟨C13_is_valid_iff_iterated m _ d _ hx p hp fuel, ?_, ?_, ?_⟩
  · rw [mem_fwd_unbounded m _ d _ hx s rfl rfl _ fuel, index_bound_drop _ hpos _ _ fuel hf]
  · rw [key fuel hf, inBounds_iff m _ hx.startValid hx.endValid p hp, progression_iff _ hpos]
    exact and_congr_left' ⟨fun h => ⟨fun s' h' => by cases h'; exact h, fun e' h' => nomatch h'⟩,
      fun h => h.1 s rfl⟩
  · intro fuel' hle
    rw [Bool.eq_iff_iff, key fuel hf, key fuel' (by omega)]

/-- 2002-05-04T23:00Z, `PT1H`; the probe 2002-05-05T01:00Z (`start + 2·PT1H`) written as an
    ordinal date at offset +02:00; three points visited (`3 > ⌊7200/3600⌋ = 2`). -/
example := C13_is_valid_start_duration_unbounded .greg ⟨.cal 2002 5 4, 23, 0, 0, ⟨0, 0⟩⟩ (.units 0 0 0 1 0 0)
  (by decide) (by decide) (by decide) ⟨.ord 2002 125, 3, 0, 0, ⟨2, 0⟩⟩ (by decide) 3 (by decide +kernel)
example : getIsValid .greg ⟨none, some ⟨.cal 2002 5 4, 23, 0, 0, ⟨0, 0⟩⟩, some (.units 0 0 0 1 0 0), none, none, 3⟩
    ⟨.ord 2002 125, 3, 0, 0, ⟨2, 0⟩⟩ 3 = true ∧
    -- half an hour off: not a member (the early exit is taken at the third point)
    getIsValid .greg ⟨none, some ⟨.cal 2002 5 4, 23, 0, 0, ⟨0, 0⟩⟩, some (.units 0 0 0 1 0 0), none, none, 3⟩
    ⟨.ord 2002 125, 2, 30, 0, ⟨2, 0⟩⟩ 3 = false ∧
    -- the fuel bound is sharp: with only two points visited the member is not reached
    getIsValid .greg ⟨none, some ⟨.cal 2002 5 4, 23, 0, 0, ⟨0, 0⟩⟩, some (.units 0 0 0 1 0 0), none, none, 3⟩
    ⟨.ord 2002 125, 3, 0, 0, ⟨2, 0⟩⟩ 2 = false := by decide +kernel

/-- **get_is_valid**, duration/end with `n ≥ 2` repetitions and an exact interval (the start is
    derived, `end − (n−1)·d`, and iteration runs forwards from it; neither early exit applies, so
    all `n` points may be visited): true exactly when iteration yields a point at the probe's
    instant, i.e. iff the probe is at `end − k·d` for some `0 ≤ k < n` — whatever representation
    or offset the probe is written in. -/
theorem C13_is_valid_duration_end (m : Mode) (n : Nat) (e : TP) (d : Dur) (hn : 2 ≤ n) (he : e.Valid m)
    (hex : d.isExact = true) (hpos : 0 < d.exactSeconds m) (fuel : Nat) (hf : n ≤ fuel)
    (p : TP) (hp : p.Valid m) :
    ∃ r, mkRec m (some (n : Int)) none (some d) (some e) = some r ∧
      (getIsValid m r p fuel = true ↔ ∃ q ∈ iter m r fuel, q.inst m = p.inst m) ∧
      ((∃ q ∈ iter m r fuel, q.inst m = p.inst m) ↔
        ∃ k : Nat, k < n ∧ p.inst m = e.inst m - (k : Int) * d.exactSeconds m) := by
  obtain ⟨s, hr, hx, _, si, _, _⟩ := mkRec_fmt4_bounded m n e d (Int.ofNat_le.mpr hn) he hex hpos
  obtain ⟨hser, _, c⟩ := iter_exact_fwd m _ d _ hx s rfl fuel
  have hlen := c e n rfl (by rw [si, Int.sub_add_cancel]) (Nat.le_of_succ_le hn) hf
  refine ⟨_, hr, getIsValid_iff_iterated m _ d _ hx.stepRec p hp fuel, ?_⟩
  rw [series_mem_iff m _ _ _ _ _ hser, hlen, si]
  exact rev_progression _ _ n _

/-- `R3/PT1H/2002-05-05T01:00Z`; the probe is `end − 2·PT1H` in week-date form at offset −01:00. -/
example := C13_is_valid_duration_end .greg 3 ⟨.cal 2002 5 5, 1, 0, 0, ⟨0, 0⟩⟩ (.units 0 0 0 1 0 0)
  (by decide) (by decide) (by decide) (by decide) 5 (by decide) ⟨.week 2002 18 6, 22, 0, 0, ⟨-1, 0⟩⟩ (by decide)
example : ∃ r, mkRec .greg (some 3) none (some (.units 0 0 0 1 0 0)) (some ⟨.cal 2002 5 5, 1, 0, 0, ⟨0, 0⟩⟩) = some r ∧
    getIsValid .greg r ⟨.week 2002 18 6, 22, 0, 0, ⟨-1, 0⟩⟩ 5 = true ∧
    getIsValid .greg r ⟨.week 2002 18 6, 21, 0, 0, ⟨-1, 0⟩⟩ 5 = false :=
  ⟨⟨some 3, some ⟨.cal 2002 5 4, 23, 0, 0, ⟨0, 0⟩⟩, some (.units 0 0 0 1 0 0), some ⟨.cal 2002 5 5, 1, 0, 0, ⟨0, 0⟩⟩,
    none, 4⟩, by decide +kernel, by decide +kernel, by decide +kernel⟩

/-- **get_is_valid**, unbounded duration/end with an exact interval.  There is no start, so
    iteration runs backwards from the end and Python's loop stops at a point equal to the probe or
    (early exit) earlier than it.  With any fuel greater than `⌊(end − p)/L⌋` (for a probe after
    the end: any fuel at all) the answer is membership of the visited points by instant, which is:
    the probe is at `end − k·L` for some `k ≥ 0` — equivalently it is within the bounds and
    `end − p` is a multiple of `L`; and any larger fuel gives the same answer. -/
theorem C13_is_valid_duration_end_unbounded (m : Mode) (e : TP) (d : Dur) (he : e.Valid m)
    (hex : d.isExact = true) (hpos : 0 < d.exactSeconds m) (p : TP) (hp : p.Valid m) (fuel : Nat)
    (hf : (e.inst m - p.inst m) / d.exactSeconds m < (fuel : Int)) :
    ∃ r, mkRec m none none (some d) (some e) = some r ∧
      (getIsValid m r p fuel = true ↔ ∃ q ∈ iter m r fuel, q.inst m = p.inst m) ∧
      ((∃ q ∈ iter m r fuel, q.inst m = p.inst m) ↔
        ∃ k : Nat, p.inst m = e.inst m - (k : Int) * d.exactSeconds m) ∧
      (getIsValid m r p fuel = true ↔
        inBounds m r p = true ∧ (e.inst m - p.inst m) % d.exactSeconds m = 0) ∧
      (∀ fuel', fuel ≤ fuel' → getIsValid m r p fuel' = getIsValid m r p fuel) := by
  refine ⟨_, mkRec_fmt4_unbounded m e d hex hpos, ?_⟩
  have hx := exactRec_fmt4_unbounded m e d he hex hpos
  have key : ∀ f : Nat, (e.inst m - p.inst m) / d.exactSeconds m < (f : Int) →
      (getIsValid m ⟨none, none, some d, some e, none, 4⟩ p f = true ↔
        ∃ k : Nat, p.inst m = e.inst m - (k : Int) * d.exactSeconds m) := by
    intro f hf'
    rw [C13_is_valid_iff_iterated m _ d _ hx p hp f, mem_rev_unbounded m _ d _ hx e rfl rfl _ f,
      index_bound_drop_rev _ hpos _ _ f hf']
  refine ⟨C13_is_valid_iff_iterated m _ d _ hx p hp fuel, ?_, ?_, ?_⟩
  · rw [mem_rev_unbounded m _ d _ hx e rfl rfl _ fuel, index_bound_drop_rev _ hpos _ _ fuel hf]
  · rw [key fuel hf, inBounds_iff m _ hx.startValid hx.endValid p hp, progression_rev_iff _ hpos]
    exact and_congr_left' ⟨fun h => ⟨fun s' h' => (nomatch h'), fun e' h' => by cases h'; exact h⟩,
      fun h => h.2 e rfl⟩
  · intro fuel' hle
    rw [Bool.eq_iff_iff, key fuel hf, key fuel' (by omega)]

/-- `R/PT1H/2002-05-05T01:00Z`; the probe is `end − 2·PT1H` in week-date form at offset −01:00. -/
example := C13_is_valid_duration_end_unbounded .greg ⟨.cal 2002 5 5, 1, 0, 0, ⟨0, 0⟩⟩ (.units 0 0 0 1 0 0)
  (by decide) (by decide) (by decide) ⟨.week 2002 18 6, 22, 0, 0, ⟨-1, 0⟩⟩ (by decide) 3 (by decide +kernel)
example : getIsValid .greg ⟨none, none, some (.units 0 0 0 1 0 0), some ⟨.cal 2002 5 5, 1, 0, 0, ⟨0, 0⟩⟩, none, 4⟩
    ⟨.week 2002 18 6, 22, 0, 0, ⟨-1, 0⟩⟩ 3 = true ∧
    getIsValid .greg ⟨none, none, some (.units 0 0 0 1 0 0), some ⟨.cal 2002 5 5, 1, 0, 0, ⟨0, 0⟩⟩, none, 4⟩
    ⟨.week 2002 18 6, 22, 0, 1, ⟨-1, 0⟩⟩ 3 = false ∧
    getIsValid .greg ⟨none, none, some (.units 0 0 0 1 0 0), some ⟨.cal 2002 5 5, 1, 0, 0, ⟨0, 0⟩⟩, none, 4⟩
    ⟨.week 2002 18 6, 22, 0, 0, ⟨-1, 0⟩⟩ 2 = false := by decide +kernel

/-- **`r[i]`** is the `i`-th point of any run of `__iter__` that visits more than `i` points —
    `none` (`IndexError`) when the iteration ends earlier.  Every recurrence (any interval). -/
theorem C13_getitem_is_iter (m : Mode) (r : Rec) (i fuel : Nat) (h : i < fuel) :
    getItem m r i = (iter m r fuel)[i]? := by
  exact getItem_eq_getElem? m r i fuel h

example : getItem .greg ⟨some 12, some ⟨.week 2004 31 2, 23, 59, 0, ⟨0, 0⟩⟩, some (.units 1 13 0 0 0 0),
    some ⟨.week 2027 26 1, 23, 59, 0, ⟨0, 0⟩⟩, none, 3⟩ 2 =
    (iter .greg ⟨some 12, some ⟨.week 2004 31 2, 23, 59, 0, ⟨0, 0⟩⟩, some (.units 1 13 0 0 0 0),
    some ⟨.week 2027 26 1, 23, 59, 0, ⟨0, 0⟩⟩, none, 3⟩ 30)[2]? := by decide +kernel

/-- **`r[i]`**, duration/end with `n ≥ 2` repetitions and an exact interval.  The start is derived
    (`end − (n−1)·d`) and `__iter__` runs FORWARDS from it, so `r[0]` is the derived start and
    `r[n−1]` the given end: `r[i]` is at instant `end − (n−1−i)·d` for `i < n`, written in the
    end's representation and offset, and an `IndexError` (`none`) from `n` on. -/
theorem C13_getitem_duration_end (m : Mode) (n : Nat) (e : TP) (d : Dur) (hn : 2 ≤ n) (he : e.Valid m)
    (hex : d.isExact = true) (hpos : 0 < d.exactSeconds m) (i : Nat) :
    ∃ r, mkRec m (some (n : Int)) none (some d) (some e) = some r ∧
      (i < n → ∃ p, getItem m r i = some p ∧
        p.inst m = e.inst m - ((n : Int) - 1 - (i : Int)) * d.exactSeconds m ∧
        p.Valid m ∧ p.date.rep = e.date.rep ∧ p.tz = e.tz) ∧
      (n ≤ i → getItem m r i = none) := by
  obtain ⟨r, hr, hlen, hser⟩ :=
    C12_duration_end_bounded m n e d hn he hex hpos (n + (i + 1)) (Nat.le_add_right n _)
  have hget : getItem m r i = (iter m r (n + (i + 1)))[i]? :=
    getItem_eq_getElem? m r i _ (Nat.lt_add_left n (Nat.lt_succ_self i))
  refine ⟨r, hr, fun hi => ?_, fun hi => ?_⟩
  · obtain ⟨p, e1, e2, e3⟩ := series_getElem? m _ _ _ _ _ hser i (hlen.symm ▸ hi)
    exact ⟨p, hget.trans e1, e2.trans (rev_index_int _ _ _ _), e3⟩
  · rw [hget]
    exact List.getElem?_eq_none (hlen.symm ▸ hi)

example := C13_getitem_duration_end .greg 3 ⟨.cal 2002 5 5, 1, 0, 0, ⟨0, 0⟩⟩ (.units 0 0 0 1 0 0)
  (by decide) (by decide) (by decide) (by decide) 1
/-- The reverse-order reading of `r[i]` for the BOUNDED duration/end notation is false of the code:
    `R3/PT1H/2002-05-05T01:00Z` has `r[0]` = 2002-05-04T23:00Z (the derived start), not the end. -/
theorem C13_getitem_duration_end_forward_witness :
    ∃ r, mkRec .greg (some 3) none (some (.units 0 0 0 1 0 0)) (some ⟨.cal 2002 5 5, 1, 0, 0, ⟨0, 0⟩⟩) = some r ∧
      getItem .greg r 0 = some ⟨.cal 2002 5 4, 23, 0, 0, ⟨0, 0⟩⟩ ∧
      getItem .greg r 2 = some ⟨.cal 2002 5 5, 1, 0, 0, ⟨0, 0⟩⟩ ∧ getItem .greg r 3 = none :=
  ⟨⟨some 3, some ⟨.cal 2002 5 4, 23, 0, 0, ⟨0, 0⟩⟩, some (.units 0 0 0 1 0 0), some ⟨.cal 2002 5 5, 1, 0, 0, ⟨0, 0⟩⟩,
    none, 4⟩, by decide +kernel, by decide +kernel, by decide +kernel, by decide +kernel⟩

/-- **`r[i]`**, unbounded start/duration with an exact interval: every index is defined, and
    `r[i]` is at instant `start + i·d`, in the start's representation and offset. -/
theorem C13_getitem_unbounded (m : Mode) (s : TP) (d : Dur) (hs : s.Valid m)
    (hex : d.isExact = true) (hpos : 0 < d.exactSeconds m) (i : Nat) :
    ∃ r, mkRec m none (some s) (some d) none = some r ∧
      ∃ p, getItem m r i = some p ∧ p.inst m = s.inst m + (i : Int) * d.exactSeconds m ∧
        p.Valid m ∧ p.date.rep = s.date.rep ∧ p.tz = s.tz := by
  obtain ⟨r, hr, hlen, hser⟩ := C12_start_duration_unbounded m s d hs hex hpos (i + 1)
  obtain ⟨p, e1, e2⟩ := series_getElem? m _ _ _ _ _ hser i (by omega)
  exact ⟨r, hr, p, e1, e2⟩

example := C13_getitem_unbounded .greg ⟨.cal 2002 5 4, 23, 0, 0, ⟨0, 0⟩⟩ (.units 0 0 0 1 0 0)
  (by decide) (by decide) (by decide) 26
example : getItem .greg ⟨none, some ⟨.cal 2002 5 4, 23, 0, 0, ⟨0, 0⟩⟩, some (.units 0 0 0 1 0 0), none, none, 3⟩ 26 =
    some ⟨.cal 2002 5 6, 1, 0, 0, ⟨0, 0⟩⟩ := by decide +kernel

/-- **`r[i]`**, unbounded duration/end with an exact interval: there is no start, `__iter__` runs
    BACKWARDS from the end, so `r[i]` is at instant `end − i·d` for every `i`. -/
theorem C13_getitem_duration_end_unbounded (m : Mode) (e : TP) (d : Dur) (he : e.Valid m)
    (hex : d.isExact = true) (hpos : 0 < d.exactSeconds m) (i : Nat) :
    ∃ r, mkRec m none none (some d) (some e) = some r ∧
      ∃ p, getItem m r i = some p ∧ p.inst m = e.inst m - (i : Int) * d.exactSeconds m ∧
        p.Valid m ∧ p.date.rep = e.date.rep ∧ p.tz = e.tz := by
  obtain ⟨r, hr, hlen, hser⟩ := C12_duration_end_unbounded m e d he hex hpos (i + 1)
  obtain ⟨p, e1, e2, e3⟩ := series_getElem? m _ _ _ _ _ hser i (by omega)
  exact ⟨r, hr, p, e1, by rw [e2, Int.mul_neg]; omega, e3⟩

example := C13_getitem_duration_end_unbounded .greg ⟨.cal 2002 5 5, 1, 0, 0, ⟨0, 0⟩⟩ (.units 0 0 0 1 0 0)
  (by decide) (by decide) (by decide) 2
example : getItem .greg ⟨none, none, some (.units 0 0 0 1 0 0), some ⟨.cal 2002 5 5, 1, 0, 0, ⟨0, 0⟩⟩, none, 4⟩ 2 =
    some ⟨.cal 2002 5 4, 23, 0, 0, ⟨0, 0⟩⟩ := by decide +kernel

/-- **get_first_after** for a probe outside the bounds — every recurrence that has a start point,
    whatever its interval (exact, month/year, or none): a probe earlier than the start gives the
    start; a probe later than the end (bounded recurrence, start not after end) gives `None`. -/
theorem C13_first_after_outside (m : Mode) (r : Rec) (s : TP) (hs : r.start = some s) (hsv : s.Valid m)
    (p : TP) (hp : p.Valid m) (fuel : Nat) :
    (p.inst m < s.inst m → getFirstAfter m r p fuel = some s) ∧
    (∀ e, r.end_ = some e → e.Valid m → s.inst m ≤ e.inst m → e.inst m < p.inst m →
      getFirstAfter m r p fuel = none) := by
  have hlt := tpLt_iff m p s hp hsv
  constructor
  · intro h
    rw [getFirstAfter_of_not_inBounds m r s p hs (inBounds_false_of_lt_start m r s p hs (hlt.mpr h)),
      if_pos (hlt.mpr h)]
  · intro e he hev hse h
    rw [getFirstAfter_of_not_inBounds m r s p hs
        (inBounds_false_of_gt_end m r e p he ((tpGt_iff m p e hp hev).mpr h)),
      if_neg fun c => Int.lt_irrefl _ (Int.lt_of_le_of_lt hse (Int.lt_trans h (hlt.mp c)))]

/-- A month interval (`R3/2002-01-31T00:00Z/P1M`, end 2002-03-31): before the start, after the end. -/
example : getFirstAfter .greg ⟨some 3, some ⟨.cal 2002 1 31, 0, 0, 0, ⟨0, 0⟩⟩, some (.units 0 1 0 0 0 0),
      some ⟨.cal 2002 3 31, 0, 0, 0, ⟨0, 0⟩⟩, none, 3⟩ ⟨.ord 2002 30, 23, 0, 0, ⟨0, 0⟩⟩ 10 =
      some ⟨.cal 2002 1 31, 0, 0, 0, ⟨0, 0⟩⟩ ∧
    getFirstAfter .greg ⟨some 3, some ⟨.cal 2002 1 31, 0, 0, 0, ⟨0, 0⟩⟩, some (.units 0 1 0 0 0 0),
      some ⟨.cal 2002 3 31, 0, 0, 0, ⟨0, 0⟩⟩, none, 3⟩ ⟨.ord 2002 90, 0, 0, 1, ⟨0, 0⟩⟩ 10 = none := by
  decide +kernel
example := (C13_first_after_outside .greg ⟨some 3, some ⟨.cal 2002 1 31, 0, 0, 0, ⟨0, 0⟩⟩, some (.units 0 1 0 0 0 0),
      some ⟨.cal 2002 3 31, 0, 0, 0, ⟨0, 0⟩⟩, none, 3⟩ ⟨.cal 2002 1 31, 0, 0, 0, ⟨0, 0⟩⟩ rfl (by decide)
      ⟨.ord 2002 90, 0, 0, 1, ⟨0, 0⟩⟩ (by decide) 10).2 ⟨.cal 2002 3 31, 0, 0, 0, ⟨0, 0⟩⟩ rfl (by decide)
      (by decide +kernel) (by decide +kernel)

/-- **get_first_after**, closed form, is the LEAST later member.  For a probe within the bounds of
    a recurrence with exact interval `L` and start `s`: a result `q` is a member (`s + j·L`, within
    the bounds), strictly later than the probe, and no member `s + k·L` strictly later than the
    probe is earlier than `q`; and when the result is `None` every `s + k·L` strictly later than
    the probe lies beyond the end point — nothing later exists in the series. -/
theorem C13_first_after_least (m : Mode) (r : Rec) (d : Dur) (L : Int) (hr : ExactRec m r d L) (s : TP)
    (hs : r.start = some s) (p : TP) (hp : p.Valid m) (fuel : Nat) (hb : inBounds m r p = true) :
    (∀ q, getFirstAfter m r p fuel = some q →
      (∃ j : Nat, q.inst m = s.inst m + (j : Int) * L) ∧ inBounds m r q = true ∧ p.inst m < q.inst m ∧
      ∀ k : Nat, p.inst m < s.inst m + (k : Int) * L → q.inst m ≤ s.inst m + (k : Int) * L) ∧
    (getFirstAfter m r p fuel = none →
      ∀ k : Nat, p.inst m < s.inst m + (k : Int) * L →
        ∃ e, r.end_ = some e ∧ e.inst m < s.inst m + (k : Int) * L) := by
  obtain ⟨q0, g, hq, hlt, hle, hfa⟩ := (C13_first_after_exact m r d L hr s hs p hp fuel).1 hb
  have hpos := hr.pos
  have hge : s.inst m ≤ p.inst m := ((inBounds_iff m r hr.startValid hr.endValid p hp).mp hb).1 s hs
  have least : ∀ k : Nat, p.inst m < s.inst m + (k : Int) * L → q0.inst m ≤ s.inst m + (k : Int) * L :=
    fun k hk => least_member L hpos _ _ _ _ hq hle k hk
  -- the candidate is after the start, so it is within the bounds iff it is not after the end
  have hbq := inBounds_iff_end m r hr.startValid hr.endValid s hs q0 g.strict.1 (by omega)
  rw [hfa]
  refine ⟨fun q hq' => ?_, fun hnone k hk => ?_⟩
  · by_cases cb : inBounds m r q0 = true
    · rw [if_pos cb] at hq'
      cases hq'
      have hJ : 0 ≤ (p.inst m - s.inst m) / L + 1 :=
        Int.add_nonneg (Int.ediv_nonneg (Int.sub_nonneg_of_le hge) (Int.le_of_lt hpos)) (by omega)
      exact ⟨⟨((p.inst m - s.inst m) / L + 1).toNat, by rw [Int.toNat_of_nonneg hJ]; exact hq⟩, cb, hlt, least⟩
    · rw [if_neg cb] at hq'; cases hq'
  · by_cases cb : inBounds m r q0 = true
    · rw [if_pos cb] at hnone; cases hnone
    · have hlk := least k hk
      rw [hbq] at cb
      cases he : r.end_ with
      | none => exact absurd (fun e h => by rw [he] at h; cases h) cb
      | some e =>
        refine ⟨e, rfl, ?_⟩
        have : ¬ q0.inst m ≤ e.inst m := fun hqe => cb fun e' h => by rw [he] at h; cases h; exact hqe
        omega

/-- `R3/2002-05-04T23:00Z/PT1H` (end 01:00Z): probe 23:30Z in ordinal form is within the bounds. -/
example : inBounds .greg ⟨some 3, some ⟨.cal 2002 5 4, 23, 0, 0, ⟨0, 0⟩⟩, some (.units 0 0 0 1 0 0),
    some ⟨.cal 2002 5 5, 1, 0, 0, ⟨0, 0⟩⟩, none, 3⟩ ⟨.ord 2002 124, 23, 30, 0, ⟨0, 0⟩⟩ = true := by decide +kernel
example := C13_first_after_least .greg ⟨some 3, some ⟨.cal 2002 5 4, 23, 0, 0, ⟨0, 0⟩⟩, some (.units 0 0 0 1 0 0),
    some ⟨.cal 2002 5 5, 1, 0, 0, ⟨0, 0⟩⟩, none, 3⟩ (.units 0 0 0 1 0 0) 3600
    ⟨rfl, rfl, by decide, by decide, by decide, fun s h => by cases h; decide, fun e h => by cases h; decide⟩
    ⟨.cal 2002 5 4, 23, 0, 0, ⟨0, 0⟩⟩ rfl ⟨.ord 2002 124, 23, 30, 0, ⟨0, 0⟩⟩ (by decide) 10 (by decide +kernel)

end IsoDT.Props.C13
