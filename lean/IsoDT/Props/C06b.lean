/-
  C06 (text side) — a dump whose format carries a LITERAL zone prints the point converted to that
  zone, so the text parses back to the same instant carrying exactly that offset.

  Formats covered: the complete extended formats `CCYY-MM-DDThh:mm:ss±hh:mm`, `CCYY-DDDThh:mm:ss±hh:mm`,
  `CCYY-Www-DThh:mm:ss±hh:mm` (the one matching the point's date representation), literal zone any
  legal offset `-99:59 … +99:59` (the two-digit hour group of the default parser's `±hh:mm` regex
  and `TimeZone(...)` allow exactly that), `TimePointDumper()` without expanded year digits
  (`dumper_0`), reading parser without expanded year digits.
  `IsoDT.Text.dump` mirrors `TimePointDumper.dump` / `_get_expression_and_properties` /
  `get_time_zone` / `_dump_expression_with_properties`; agreement with the Python: driver op `tdump`.
-/
import IsoDT.Props.C06
import IsoDT.Lemmas.TextDumpZone

namespace IsoDT.Props.C06
open IsoDT IsoDT.Model IsoDT.Lemmas IsoDT.Text
open IsoDT.Spec (Date TZ TP)

/-- `get_time_zone` (the dumper's reading of the literal zone, through `TimePointParser()`):
    a literal `±hh:mm` spelling a legal offset — `-00:30`, `+00:00`, `-99:59` included — is read as
    exactly that offset. -/
theorem C06_literal_zone_read (z : TZ) (hz : z.Valid) :
    getTimeZone (litZoneText z) = some (z.h, z.mi) :=
  Custom.getTimeZone_litZone true .hm z hz nofun

/-- **C06 (dump with a literal zone)**: for every valid whole-second point `p` (any representation,
    any calendar mode, any offset, 24:00:00 included) and every legal literal offset `z`
    (−99:59 … +99:59, minutes carrying the hour's sign — the whole range `TimeZone(...)` accepts; no
    narrower bound is needed), dumping `p` with the complete extended format of its own representation
    followed by the literal zone `z` succeeds whenever the year of the RE-ZONED point `q` is within
    0000–9999, and prints exactly: date and time of `q` (as `stdText 0 q` spells them) followed by the
    literal zone text. -/
theorem C06_dump_literal_zone (m : Mode) (p : TP) (hv : p.Valid m) (z : TZ) (hz : z.Valid)
    (q : TP) (hq : toTimeZone m p z = some q)
    (hy : 0 ≤ dateYear q.date ∧ dateYear q.date ≤ 9999) :
    dump m Gen.Templates.dumper_0 (XTP.ofTP 0 p) (litFormat p.date z) = .ok (zonedText q z) := by
  rw [dump_litZone m p q hv z hz hq, if_pos hy]

/-- For a non-zero literal offset the printed text is exactly the specified text `stdText 0 q` of the
    re-zoned point (for the literal `+00:00` it differs from `stdText` only in the zone spelling:
    `+00:00` instead of `Z`). -/
theorem C06_dump_literal_zone_stdText (m : Mode) (p : TP) (hv : p.Valid m) (z : TZ) (hz : z.Valid)
    (hz0 : z ≠ ⟨0, 0⟩) (q : TP) (hq : toTimeZone m p z = some q)
    (hy : 0 ≤ dateYear q.date ∧ dateYear q.date ≤ 9999) :
    dump m Gen.Templates.dumper_0 (XTP.ofTP 0 p) (litFormat p.date z) = .ok (stdText 0 q) := by
  obtain ⟨_, rfl, _⟩ := toTimeZone_some m p q z hv hz hq
  rw [C06_dump_literal_zone m p hv q.tz hz q hq hy, zonedText_eq_stdText q hz0]

/-- **C06 (year bounds of a literal-zone dump)**: the 0000–9999 check is made on the year of the
    RE-ZONED point: if re-zoning carries the point out of that range (e.g. `9999-12-31T23:00Z` dumped
    with `+05:00`), the dump is the documented `TimePointDumperBoundsError`; a point whose own year is
    out of range but whose re-zoned year is in range prints. -/
theorem C06_dump_literal_zone_bounds (m : Mode) (p : TP) (hv : p.Valid m) (z : TZ) (hz : z.Valid)
    (q : TP) (hq : toTimeZone m p z = some q)
    (hy : ¬ (0 ≤ dateYear q.date ∧ dateYear q.date ≤ 9999)) :
    dump m Gen.Templates.dumper_0 (XTP.ofTP 0 p) (litFormat p.date z) = .error .err := by
  rw [dump_litZone m p q hv z hz hq, if_neg hy]

/-- **C06 (literal-zone dump, round trip)**: under the hypotheses of `C06_dump_literal_zone`, the
    printed text, read by any parser without expanded year digits that allows extended notation (any
    `allow_truncated`, any default-zone setting, same calendar mode), is the re-zoned point `q` field
    for field; `q` is the same instant as `p`, carries exactly the literal offset `z`, keeps `p`'s
    date representation and is valid.  This holds for EVERY legal literal offset, `+00:00` included
    (then the text ends in `+00:00`, and the parsed point carries the offset zero). -/
theorem C06_dump_literal_zone_roundtrip (m : Mode) (cfg : Cfg)
    (hpt : cfg.pt ∈ Gen.Templates.parserTables) (hned : cfg.pt.ned = 0)
    (hb : cfg.pt.basicOnly = false) (hm : cfg.mode = m)
    (p : TP) (hv : p.Valid m) (z : TZ) (hz : z.Valid)
    (q : TP) (hq : toTimeZone m p z = some q)
    (hy : 0 ≤ dateYear q.date ∧ dateYear q.date ≤ 9999) :
    ∃ text, dump m Gen.Templates.dumper_0 (XTP.ofTP 0 p) (litFormat p.date z) = .ok text ∧
      text = zonedText q z ∧ (z ≠ ⟨0, 0⟩ → text = stdText 0 q) ∧
      parse cfg text false = some (XTP.ofTP 0 q) ∧ (XTP.ofTP 0 q).toTP? = some q ∧
      q.inst m = p.inst m ∧ q.tz = z ∧ q.date.rep = p.date.rep ∧ q.Valid m := by
  subst hm
  obtain ⟨hinst, rfl, hrep, hvq⟩ := toTimeZone_some cfg.mode p q z hv hz hq
  refine ⟨zonedText q q.tz, C06_dump_literal_zone cfg.mode p hv q.tz hz q hq hy, rfl, zonedText_eq_stdText q, ?_,
    ofTP_toTP 0 q, hinst, rfl, hrep, hvq⟩
  have := parse_zonedText cfg hpt hb q hvq (by unfold YearInRange; rw [if_pos hned]; exact hy)
  rw [hned] at this
  exact this

/-- In plain form: for a non-zero literal offset the dump is the
    specified text of `q`, and that text parses back to `q` — same instant as `p`, offset exactly `z`. -/
theorem C06_dump_literal_zone_roundtrip_stdText (m : Mode) (cfg : Cfg)
    (hpt : cfg.pt ∈ Gen.Templates.parserTables) (hned : cfg.pt.ned = 0)
    (hb : cfg.pt.basicOnly = false) (hm : cfg.mode = m)
    (p : TP) (hv : p.Valid m) (z : TZ) (hz : z.Valid) (hz0 : z ≠ ⟨0, 0⟩)
    (q : TP) (hq : toTimeZone m p z = some q)
    (hy : 0 ≤ dateYear q.date ∧ dateYear q.date ≤ 9999) :
    dump m Gen.Templates.dumper_0 (XTP.ofTP 0 p) (litFormat p.date z) = .ok (stdText 0 q) ∧
      parse cfg (stdText 0 q) false = some (XTP.ofTP 0 q) ∧ q.inst m = p.inst m ∧ q.tz = z := by
  obtain ⟨text, h1, _, h3, h4, _, h6, h7, _⟩ :=
    C06_dump_literal_zone_roundtrip m cfg hpt hned hb hm p hv z hz q hq hy
  have e := h3 hz0
  subst e
  exact ⟨h1, h4, h6, h7⟩

/-- A week date at 24:00:00 with offset −00:30, dumped with the literal zone `+05:45`: the text is
    that of the next day 06:15 at `+05:45`, and it reads back as that point. -/
example : ∃ text,
    dump .greg Gen.Templates.dumper_0 (XTP.ofTP 0 ⟨.week 2020 53 7, 24, 0, 0, ⟨0, -30⟩⟩)
      (litFormat (.week 2020 53 7) ⟨5, 45⟩) = .ok text ∧
    text = zonedText ⟨.week 2021 1 1, 6, 15, 0, ⟨5, 45⟩⟩ ⟨5, 45⟩ ∧
    ((⟨5, 45⟩ : TZ) ≠ ⟨0, 0⟩ → text = stdText 0 ⟨.week 2021 1 1, 6, 15, 0, ⟨5, 45⟩⟩) ∧
    parse ⟨Gen.Templates.parser_0_all, true, .assumed 1 0, .greg⟩ text false =
      some (XTP.ofTP 0 ⟨.week 2021 1 1, 6, 15, 0, ⟨5, 45⟩⟩) ∧
    (XTP.ofTP 0 ⟨.week 2021 1 1, 6, 15, 0, ⟨5, 45⟩⟩).toTP? = some ⟨.week 2021 1 1, 6, 15, 0, ⟨5, 45⟩⟩ ∧
    (⟨.week 2021 1 1, 6, 15, 0, ⟨5, 45⟩⟩ : TP).inst .greg =
      (⟨.week 2020 53 7, 24, 0, 0, ⟨0, -30⟩⟩ : TP).inst .greg ∧
    (⟨.week 2021 1 1, 6, 15, 0, ⟨5, 45⟩⟩ : TP).tz = ⟨5, 45⟩ ∧
    (⟨.week 2021 1 1, 6, 15, 0, ⟨5, 45⟩⟩ : TP).date.rep = (Date.week 2020 53 7).rep ∧
    (⟨.week 2021 1 1, 6, 15, 0, ⟨5, 45⟩⟩ : TP).Valid .greg :=
  C06_dump_literal_zone_roundtrip .greg ⟨Gen.Templates.parser_0_all, true, .assumed 1 0, .greg⟩
    (.head _) rfl rfl rfl ⟨.week 2020 53 7, 24, 0, 0, ⟨0, -30⟩⟩ (by decide +kernel) ⟨5, 45⟩ (by decide)
    ⟨.week 2021 1 1, 6, 15, 0, ⟨5, 45⟩⟩ (by decide +kernel) (by decide +kernel)

example : zonedText ⟨.week 2021 1 1, 6, 15, 0, ⟨5, 45⟩⟩ ⟨5, 45⟩ = "2021-W01-1T06:15:00+05:45".toList := by
  decide +kernel

example : dump .greg Gen.Templates.dumper_0 (XTP.ofTP 0 ⟨.cal 2000 3 1, 0, 10, 0, ⟨0, 0⟩⟩)
      "CCYY-MM-DDThh:mm:ss-00:30".toList = .ok "2000-02-29T23:40:00-00:30".toList := by decide +kernel

example : dump .greg Gen.Templates.dumper_0 (XTP.ofTP 0 ⟨.ord 2001 1, 4, 0, 0, ⟨5, 30⟩⟩)
      "CCYY-DDDThh:mm:ss+00:00".toList = .ok "2000-366T22:30:00+00:00".toList := by decide +kernel

example : litFormat (.cal 2000 3 1) ⟨0, -30⟩ = "CCYY-MM-DDThh:mm:ss-00:30".toList ∧
    stdText 0 ⟨.cal 2000 2 29, 23, 40, 0, ⟨0, -30⟩⟩ = "2000-02-29T23:40:00-00:30".toList := by
  decide +kernel

/-- The bounds theorem instantiated: 9999-12-31T23:00:00Z with the literal zone `+05:00` is year 10000
    after re-zoning, hence the bounds error — although the point's own year is in range. -/
example : dump .greg Gen.Templates.dumper_0 (XTP.ofTP 0 ⟨.cal 9999 12 31, 23, 0, 0, ⟨0, 0⟩⟩)
      (litFormat (.cal 9999 12 31) ⟨5, 0⟩) = .error .err :=
  C06_dump_literal_zone_bounds .greg ⟨.cal 9999 12 31, 23, 0, 0, ⟨0, 0⟩⟩ (by decide +kernel) ⟨5, 0⟩
    (by decide) ⟨.cal 10000 1 1, 4, 0, 0, ⟨5, 0⟩⟩ (by decide +kernel) (by decide)

/-- …and the converse: year 10000 at `+05:00` re-zoned by the literal `-01:00` is back in 9999 and
    prints. -/
example : dump .greg Gen.Templates.dumper_0 (XTP.ofTP 0 ⟨.cal 10000 1 1, 4, 0, 0, ⟨5, 0⟩⟩)
      (litFormat (.cal 10000 1 1) ⟨-1, 0⟩) = .ok "9999-12-31T22:00:00-01:00".toList :=
  (C06_dump_literal_zone .greg ⟨.cal 10000 1 1, 4, 0, 0, ⟨5, 0⟩⟩ (by decide +kernel) ⟨-1, 0⟩
    (by decide) ⟨.cal 9999 12 31, 22, 0, 0, ⟨-1, 0⟩⟩ (by decide +kernel) (by decide)).trans
    (by decide +kernel)

example : getTimeZone (litZoneText ⟨0, -30⟩) = some (0, -30) := C06_literal_zone_read ⟨0, -30⟩ (by decide)
example : litZoneText ⟨0, -30⟩ = "-00:30".toList ∧ litZoneText ⟨-99, -59⟩ = "-99:59".toList ∧
    litZoneText ⟨0, 0⟩ = "+00:00".toList := by decide +kernel

end IsoDT.Props.C06
