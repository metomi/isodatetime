/-
  C14 (continued) — recurrences with `min_point`/`max_point` as values: `__eq__`/`__hash__` over
  all six components (repetitions, start, end, interval, min, max), and `__add__`/`__sub__`, which
  move the anchors and pass `min_point`/`max_point` on UNCHANGED.

  `Model.eqMM`, `hashKeyMM`, `shiftMM` (`Model/RecurrenceMM.lean`) mirror the three methods.
-/
import IsoDT.Props.C14
import IsoDT.Props.C12mm

namespace IsoDT.Props.C14
open IsoDT IsoDT.Model IsoDT.Lemmas IsoDT.Props.C12
open IsoDT.Spec (Date TZ TP)

/-- The relation `__eq__` decides on an optional point: both absent, or the same instant. -/
def SameOptInst (m : Mode) (a b : Option TP) : Prop :=
  (a = none ∧ b = none) ∨ ∃ x y, a = some x ∧ b = some y ∧ x.inst m = y.inst m

def PointsValidMM (m : Mode) (a : RecMM) : Prop :=
  (∀ x, a.base.start = some x → x.Valid m) ∧ (∀ x, a.base.end_ = some x → x.Valid m) ∧
  (∀ x, a.minP = some x → x.Valid m) ∧ (∀ x, a.maxP = some x → x.Valid m)

/-- **Equality of recurrences with min/max**: all six components equal — repetitions equal; start
    points, end points, min points, max points each both absent or at the same instant (whatever
    zone/representation they are written in); intervals equal as durations. -/
theorem C14_mm_eq_iff (m : Mode) (a b : RecMM) (hva : PointsValidMM m a) (hvb : PointsValidMM m b) :
    eqMM m a b = true ↔
      a.base.reps = b.base.reps ∧ SameOptInst m a.base.start b.base.start ∧
      SameOptInst m a.base.end_ b.base.end_ ∧ optDurEq m a.base.dur b.base.dur = true ∧
      SameOptInst m a.minP b.minP ∧ SameOptInst m a.maxP b.maxP := by
  unfold eqMM SameOptInst
  simp only [Bool.and_eq_true]
  rw [C14_eq_iff m a.base b.base ⟨hva.1, hva.2.1⟩ ⟨hvb.1, hvb.2.1⟩,
    optTpEq_iff m _ _ hva.2.2.1 hvb.2.2.1, optTpEq_iff m _ _ hva.2.2.2 hvb.2.2.2]
  constructor
  · rintro ⟨⟨⟨h1, h2, h3, h4⟩, h5⟩, h6⟩; exact ⟨h1, h2, h3, h4, h5, h6⟩
  · rintro ⟨h1, h2, h3, h4, h5, h6⟩; exact ⟨⟨⟨h1, h2, h3, h4⟩, h5⟩, h6⟩

/-- `eqMM` is `Rec.eq` of the bases together with the two window points. -/
theorem C14_mm_eq_split (m : Mode) (a b : RecMM) :
    eqMM m a b = true ↔
      Rec.eq m a.base b.base = true ∧ optTpEq m a.minP b.minP = true ∧ optTpEq m a.maxP b.maxP = true := by
  unfold eqMM; simp only [Bool.and_eq_true, and_assoc]

/-- **Equal recurrences have equal hashes** (the six hashed components agree). -/
theorem C14_mm_hash (m : Mode) (a b : RecMM) (hva : PointsValidMM m a) (hvb : PointsValidMM m b)
    (h : eqMM m a b = true) : hashKeyMM m a = hashKeyMM m b := by
  obtain ⟨h0, h5, h6⟩ := (C14_mm_eq_split m a b).mp h
  obtain ⟨_, _, _, _, g5, g6⟩ := (C14_mm_eq_iff m a b hva hvb).mp h
  unfold hashKeyMM
  rw [C14_hash m a.base b.base ⟨hva.1, hva.2.1⟩ ⟨hvb.1, hvb.2.1⟩ h0,
    optHash_eq m _ _ hva.2.2.1 hvb.2.2.1 g5, optHash_eq m _ _ hva.2.2.2 hvb.2.2.2 g6]

/-- **Recurrences differing only in `min_point` are equal iff the two min points are both absent
    or denote the same instant**; so a different, an added or a dropped `min_point` makes them
    unequal. -/
theorem C14_mm_differ_only_in_min (m : Mode) (b : Rec) (mn mn' mx : Option TP)
    (h1 : ∀ x, mn = some x → x.Valid m) (h2 : ∀ x, mn' = some x → x.Valid m) :
    eqMM m ⟨b, mn, mx⟩ ⟨b, mn', mx⟩ = true ↔ SameOptInst m mn mn' := by
  rw [C14_mm_eq_split]
  simp only [Rec_eq_refl, optTpEq_refl, true_and, and_true]
  exact optTpEq_iff m mn mn' h1 h2

/-- The same for `max_point`. -/
theorem C14_mm_differ_only_in_max (m : Mode) (b : Rec) (mn mx mx' : Option TP)
    (h1 : ∀ x, mx = some x → x.Valid m) (h2 : ∀ x, mx' = some x → x.Valid m) :
    eqMM m ⟨b, mn, mx⟩ ⟨b, mn, mx'⟩ = true ↔ SameOptInst m mx mx' := by
  rw [C14_mm_eq_split]
  simp only [Rec_eq_refl, optTpEq_refl, true_and]
  exact optTpEq_iff m mx mx' h1 h2

/-- In particular: a recurrence with a `min_point` (or `max_point`) is never equal to the same
    recurrence without it, and two valid min points at different instants make unequal recurrences. -/
theorem C14_mm_window_matters (m : Mode) (b : Rec) (x y : TP) (mn mx : Option TP) (hx : x.Valid m) (hy : y.Valid m) :
    eqMM m ⟨b, some x, mx⟩ ⟨b, none, mx⟩ = false ∧ eqMM m ⟨b, mn, some x⟩ ⟨b, mn, none⟩ = false ∧
    (x.inst m ≠ y.inst m → eqMM m ⟨b, some x, mx⟩ ⟨b, some y, mx⟩ = false ∧
      eqMM m ⟨b, mn, some x⟩ ⟨b, mn, some y⟩ = false) := by
  have hsx : ∀ z, some x = some z → z.Valid m := fun z h => by cases h; exact hx
  have hsy : ∀ z, some y = some z → z.Valid m := fun z h => by cases h; exact hy
  have hn : ∀ z, (none : Option TP) = some z → z.Valid m := fun z h => by cases h
  have key : ∀ {c : Bool} {P : Prop}, (c = true ↔ P) → ¬ P → c = false := by
    intro c P h hp; cases c
    · rfl
    · exact absurd (h.mp rfl) hp
  refine ⟨key (C14_mm_differ_only_in_min m b _ _ mx hsx hn) ?_, key (C14_mm_differ_only_in_max m b mn _ _ hsx hn) ?_,
    fun hne => ⟨key (C14_mm_differ_only_in_min m b _ _ mx hsx hsy) ?_,
      key (C14_mm_differ_only_in_max m b mn _ _ hsx hsy) ?_⟩⟩
  · rintro (⟨h, _⟩ | ⟨_, _, _, h, _⟩) <;> cases h
  · rintro (⟨h, _⟩ | ⟨_, _, _, h, _⟩) <;> cases h
  · rintro (⟨h, _⟩ | ⟨x', y', h1, h2, h3⟩)
    · cases h
    · cases h1; cases h2; exact hne h3
  · rintro (⟨h, _⟩ | ⟨x', y', h1, h2, h3⟩)
    · cases h
    · cases h1; cases h2; exact hne h3

/-- **`r + x` keeps `min_point` and `max_point` unchanged** and shifts the rest as the recurrence
    without a window is shifted (`Rec.shift`, theorems `C14_shift_*`). -/
theorem C14_mm_shift_iff (m : Mode) (r r' : RecMM) (x : Dur) :
    shiftMM m r x = some r' ↔
      r.base.shift m x = some r'.base ∧ r'.minP = r.minP ∧ r'.maxP = r.maxP := by
  unfold shiftMM
  cases h : r.base.shift m x with
  | none => simp
  | some b =>
    simp only [Option.map_some, Option.some.injEq]
    constructor
    · intro e; subst e; exact ⟨rfl, rfl, rfl⟩
    · rintro ⟨e1, e2, e3⟩
      cases r' with
      | mk b' mn' mx' => simp only at e1 e2 e3; subst e1 e2 e3; rfl

/-- Lifting a shift of the base recurrence. -/
theorem C14_mm_shift_lift (m : Mode) (r0 r0' : Rec) (x : Dur) (mn mx : Option TP)
    (h : r0.shift m x = some r0') : shiftMM m ⟨r0, mn, mx⟩ x = some ⟨r0', mn, mx⟩ :=
  (C14_mm_shift_iff m _ _ x).mpr ⟨h, rfl, rfl⟩

/-- **Shifting `Rn/start/d` with a window by an exact `x`** (`n ≥ 2`, exact interval): the result
    has the same repetitions, interval, `min_point` and `max_point`, its start is moved by `x`;
    and its iteration is the moved series cut by the UNMOVED window: the `k`-th point exists iff
    `k < n`, `min ≤ start + x` and `start + x + k·L ≤ max`. -/
theorem C14_mm_shift_start_duration (m : Mode) (n : Nat) (s : TP) (d x : Dur) (mn mx : Option TP) (hn : 2 ≤ n)
    (hs : s.Valid m) (hex : d.isExact = true) (hpos : 0 < d.exactSeconds m) (hx : x.isExact = true)
    (hmin : ∀ a, mn = some a → a.Valid m) (hmax : ∀ b, mx = some b → b.Valid m)
    (fuel : Nat) (hf : n ≤ fuel) :
    ∃ r r' s', mkRecMM m (some (n : Int)) (some s) (some d) none mn mx = some r ∧
      addDur m s x = some s' ∧ s'.inst m = s.inst m + x.exactSeconds m ∧
      shiftMM m r x = some r' ∧ r'.minP = mn ∧ r'.maxP = mx ∧
      r'.base.reps = some (n : Int) ∧ r'.base.dur = some d ∧ r'.base.start = some s' ∧
      SeriesOK m s.date.rep s.tz (iterMM m r' fuel) (s.inst m + x.exactSeconds m) (d.exactSeconds m) ∧
      (∀ k : Nat, (∃ p, (iterMM m r fuel)[k]? = some p) ↔
        k < n ∧ (∀ a, mn = some a → a.inst m ≤ s.inst m) ∧
          (∀ b, mx = some b → s.inst m + (k : Int) * d.exactSeconds m ≤ b.inst m)) ∧
      (∀ k : Nat, (∃ p, (iterMM m r' fuel)[k]? = some p) ↔
        k < n ∧ (∀ a, mn = some a → a.inst m ≤ s.inst m + x.exactSeconds m) ∧
          (∀ b, mx = some b → s.inst m + x.exactSeconds m + (k : Int) * d.exactSeconds m ≤ b.inst m)) := by
  obtain ⟨r0, r0', s', hr, hs', hi, hsh, hreps, hdur, hstart, hlen, hlen', hser, hser'⟩ :=
    C14_shift_start_duration m n s d x hn hs hex hpos hx fuel hf
  obtain ⟨w1, w2⟩ := window_exists_fwd m ⟨r0', mn, mx⟩ _ _ fuel _ _ n hser' hlen' hpos hmin hmax
  exact ⟨⟨r0, mn, mx⟩, ⟨r0', mn, mx⟩, s', mkRecMM_of m _ _ _ _ mn mx r0 hr, hs', hi,
    C14_mm_shift_lift m r0 r0' x mn mx hsh, rfl, rfl, hreps, hdur, hstart, w1,
    (window_exists_fwd m ⟨r0, mn, mx⟩ _ _ fuel _ _ n hser hlen hpos hmin hmax).2, w2⟩

/-- **Shifting `R/d/end` (unbounded, backwards) with a window by an exact `x`**: same interval and
    window, end moved by `x`; the `k`-th point of the result exists iff `k < fuel`,
    `end + x ≤ max` and `min ≤ end + x − k·L`. -/
theorem C14_mm_shift_duration_end_unbounded (m : Mode) (e : TP) (d x : Dur) (mn mx : Option TP)
    (he : e.Valid m) (hex : d.isExact = true) (hpos : 0 < d.exactSeconds m) (hx : x.isExact = true)
    (hmin : ∀ a, mn = some a → a.Valid m) (hmax : ∀ b, mx = some b → b.Valid m) (fuel : Nat) :
    ∃ r r' e', mkRecMM m none none (some d) (some e) mn mx = some r ∧
      addDur m e x = some e' ∧ e'.inst m = e.inst m + x.exactSeconds m ∧
      shiftMM m r x = some r' ∧ r'.minP = mn ∧ r'.maxP = mx ∧
      r'.base.reps = none ∧ r'.base.dur = some d ∧ r'.base.end_ = some e' ∧ r'.base.fmt = 4 ∧
      SeriesOK m e.date.rep e.tz (iterMM m r' fuel) (e.inst m + x.exactSeconds m) (-(d.exactSeconds m)) ∧
      (∀ k : Nat, (∃ p, (iterMM m r' fuel)[k]? = some p) ↔
        k < fuel ∧ (∀ b, mx = some b → e.inst m + x.exactSeconds m ≤ b.inst m) ∧
          (∀ a, mn = some a → a.inst m ≤ e.inst m + x.exactSeconds m - (k : Int) * d.exactSeconds m)) := by
  obtain ⟨r0, r0', e', hr, he', hi, hsh, _, hf4, _, hreps, _, hdur, _, hend, _, hlen', _, hser', _⟩ :=
    C14_shift_duration_end_unbounded m e d x he hex hpos hx fuel
  exact ⟨⟨r0, mn, mx⟩, ⟨r0', mn, mx⟩, e', mkRecMM_of m _ _ _ _ mn mx r0 hr, he', hi,
    C14_mm_shift_lift m r0 r0' x mn mx hsh, rfl, rfl, hreps, hdur, hend, hf4,
    window_exists_rev m ⟨r0', mn, mx⟩ _ _ fuel _ _ fuel hser' hlen' hpos hmin hmax⟩

/-- **(r + x) − x == r with a window** (start/duration, `n ≥ 2`, exact interval, exact `x`): the
    window is carried through both shifts unchanged, so the six-component `==` holds. -/
theorem C14_mm_shift_inverse (m : Mode) (n : Nat) (s : TP) (d x : Dur) (mn mx : Option TP) (hn : 2 ≤ n)
    (hs : s.Valid m) (hex : d.isExact = true) (hpos : 0 < d.exactSeconds m) (hx : x.isExact = true) :
    ∃ r r1 r2, mkRecMM m (some (n : Int)) (some s) (some d) none mn mx = some r ∧ shiftMM m r x = some r1 ∧
      shiftMM m r1 (x.mul (-1)) = some r2 ∧ eqMM m r2 r = true ∧ r2.minP = mn ∧ r2.maxP = mx := by
  obtain ⟨r0, r1, r2, hr, h1, h2, heq⟩ := C14_shift_inverse m n s d x hn hs hex hpos hx
  refine ⟨⟨r0, mn, mx⟩, ⟨r1, mn, mx⟩, ⟨r2, mn, mx⟩, mkRecMM_of m _ _ _ _ mn mx r0 hr,
    C14_mm_shift_lift m r0 r1 x mn mx h1, C14_mm_shift_lift m r1 r2 _ mn mx h2, ?_, rfl, rfl⟩
  rw [C14_mm_eq_split]
  exact ⟨heq, optTpEq_refl m mn, optTpEq_refl m mx⟩

/-- `R5/2002-05-04T23:00Z/PT1H` with `max_point = 2002-05-05T01:00Z`, shifted by `PT1H`: the start
    moves, `max_point` does not, so the result has TWO points (00:00, 01:00), not the three points
    of the original each moved by an hour. -/
example : (mkRecMM .greg (some 5) (some ⟨.cal 2002 5 4, 23, 0, 0, ⟨0, 0⟩⟩) (some (.units 0 0 0 1 0 0)) none
      none (some ⟨.cal 2002 5 5, 1, 0, 0, ⟨0, 0⟩⟩)).bind
      (fun r => (shiftMM .greg r (.units 0 0 0 1 0 0)).map fun r' =>
        (r'.minP, r'.maxP, r'.base.start, iterMM .greg r 9, iterMM .greg r' 9)) =
    some (none, some ⟨.cal 2002 5 5, 1, 0, 0, ⟨0, 0⟩⟩, some ⟨.cal 2002 5 5, 0, 0, 0, ⟨0, 0⟩⟩,
      [⟨.cal 2002 5 4, 23, 0, 0, ⟨0, 0⟩⟩, ⟨.cal 2002 5 5, 0, 0, 0, ⟨0, 0⟩⟩, ⟨.cal 2002 5 5, 1, 0, 0, ⟨0, 0⟩⟩],
      [⟨.cal 2002 5 5, 0, 0, 0, ⟨0, 0⟩⟩, ⟨.cal 2002 5 5, 1, 0, 0, ⟨0, 0⟩⟩]) := by
  decide +kernel

/-- Equal although the `max_point` is written in another zone and as `24:00`; equal hash keys. -/
example :
    let b : Rec := ⟨some 5, some ⟨.cal 2002 5 4, 23, 0, 0, ⟨0, 0⟩⟩, some (.units 0 0 0 1 0 0),
      some ⟨.cal 2002 5 5, 3, 0, 0, ⟨0, 0⟩⟩, none, 3⟩
    let a : RecMM := ⟨b, none, some ⟨.cal 2002 5 5, 0, 0, 0, ⟨0, 0⟩⟩⟩
    let c : RecMM := ⟨b, none, some ⟨.ord 2002 124, 24, 0, 0, ⟨0, 0⟩⟩⟩
    let c' : RecMM := ⟨b, none, some ⟨.week 2002 18 6, 19, 0, 0, ⟨-5, 0⟩⟩⟩
    let e : RecMM := ⟨b, none, some ⟨.cal 2002 5 5, 0, 0, 1, ⟨0, 0⟩⟩⟩
    eqMM .greg a c = true ∧ (hashKeyMM .greg a == hashKeyMM .greg c) = true ∧ eqMM .greg a c' = true ∧
      (hashKeyMM .greg a == hashKeyMM .greg c') = true ∧ eqMM .greg a e = false ∧
      eqMM .greg a ⟨b, none, none⟩ = false ∧ PointsValidMM .greg a ∧ PointsValidMM .greg c := by
  refine ⟨by decide +kernel, by decide +kernel, by decide +kernel, by decide +kernel, by decide +kernel,
    by decide +kernel, ?_, ?_⟩ <;>
  exact ⟨fun x h => (by cases h; decide), fun x h => (by cases h; decide), fun x h => (by cases h),
    fun x h => (by cases h; decide)⟩

/-- hypotheses of `C14_mm_shift_start_duration` / `C14_mm_shift_inverse` / `C14_mm_shift_duration_end_unbounded`
    at concrete values (a negative shift, a `24:00` end, window points in other zones) -/
example : (2 : Nat) ≤ 5 ∧ (⟨.cal 2002 5 4, 23, 0, 0, ⟨0, 0⟩⟩ : TP).Valid .greg ∧
    (Dur.units 0 0 0 1 0 0).isExact = true ∧ 0 < (Dur.units 0 0 0 1 0 0).exactSeconds .greg ∧
    (Dur.units 0 0 0 (-3) 0 0).isExact = true ∧ (⟨.cal 2002 5 5, 3, 0, 0, ⟨2, 0⟩⟩ : TP).Valid .greg ∧
    (⟨.ord 2000 366, 24, 0, 0, ⟨-3, 0⟩⟩ : TP).Valid .greg ∧ (Dur.weeks (-1)).isExact = true := by decide
example : (mkRecMM .greg none none (some (.units 0 0 0 0 90 0)) (some ⟨.ord 2000 366, 24, 0, 0, ⟨-3, 0⟩⟩)
      (some ⟨.cal 2000 12 25, 0, 0, 0, ⟨0, 0⟩⟩) (some ⟨.cal 2001 1 1, 3, 0, 0, ⟨0, 0⟩⟩)).bind
      (fun r => (shiftMM .greg r (.weeks (-1))).map fun r' => (r'.minP, r'.maxP, iterMM .greg r' 3)) =
    some (some ⟨.cal 2000 12 25, 0, 0, 0, ⟨0, 0⟩⟩, some ⟨.cal 2001 1 1, 3, 0, 0, ⟨0, 0⟩⟩,
      [⟨.ord 2000 360, 0, 0, 0, ⟨-3, 0⟩⟩, ⟨.ord 2000 359, 22, 30, 0, ⟨-3, 0⟩⟩, ⟨.ord 2000 359, 21, 0, 0, ⟨-3, 0⟩⟩]) := by
  decide +kernel

end IsoDT.Props.C14
