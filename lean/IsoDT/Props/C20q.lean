/-
  C20 (rational slots) — adding a truncated time point to a full point given in ANY
  time-precision form (decimal seconds / decimal minutes / decimal hours; `Model.TruncatedQ`, the
  statements of `TimePoint.add_truncated` and of the truncated branch of `__add__` over exact
  rationals; truncated fields whole numbers, the shapes of the property).

  What the code does, proved for every mode, date representation, offset, year, 24:00 included,
  and EVERY full point `p` (fraction of a second or not):

  * `t` names a time field (`T06`, `T-30`, `T--15`, also together with a day designator):
    `to_hour_minute_second()` expands `p` to hour:minute:second, and a point strictly inside a
    second is moved up to the next whole second (`Model.ceilSec`).  From there on everything is the
    whole-second computation of `Props/C20.lean`, `C20b.lean` on that point
    (`C20_time_field_is_ceilSec_run`): it terminates, the result is not earlier than `p`, carries
    the fields with lower ones zero, is the earliest match among ALL rational-slot candidates not
    earlier than `p`, and is idempotent; the result is in hour:minute:second form whatever `p`'s
    form was.
  * `t` names only a day designator: no expansion, no time loop; the three time slots of `p` (24:00
    normalised) - precision form and fraction included - are carried through the day loops
    untouched, and the date is what the whole-second model computes
    (`C20_day_only_is_date_run`); terminates, matches, earliest at that time of day, idempotent.
  * `C20_rat_extends_int`: on whole-second points in h:m:s form the model IS `addTruncTP`.

  Without the step to the next whole second the seconds loop would never end for a point inside a
  second (`Lemmas.TruncQ.ssLoop_never`); `C20_fraction_regression` runs six such inputs.
-/
import IsoDT.Lemmas.TruncQ
import IsoDT.Props.C20b

namespace IsoDT.Props.C20
open IsoDT IsoDT.Model IsoDT.Lemmas IsoDT.Lemmas.TruncQ
open IsoDT.Spec (Date TZ TP)

def HasTime (t : Trunc) : Prop := t.hh ≠ none ∨ t.mi ≠ none ∨ t.ss ≠ none

instance (t : Trunc) : Decidable (HasTime t) := by unfold HasTime; infer_instance

theorem not_hasTime (t : Trunc) (ht : ¬ HasTime t) : t.hh = none ∧ t.mi = none ∧ t.ss = none := by
  simpa only [HasTime, not_or, ne_eq, Decidable.not_not] using ht

theorem ofTP_strict (m : Mode) (p : TP) (h : p.Strict m) : TPQ.Strict m (TPQ.ofTP p) :=
  ⟨(ofTP_valid m p).2 h.1, Rat.intCast_lt_intCast.2 h.2⟩

/-- **On whole-second points the rational model coincides with `addTruncTP`** (`add_truncated` with
    the zone alignment of `__add__`), for every point and every truncated point, legal or not. -/
theorem C20_rat_extends_int (m : Mode) (p : TP) (t : Trunc) :
    addTruncTPQ m (TPQ.ofTP p) t = (addTruncTP m p t).map TPQ.ofTP := addTruncTPQ_ofTP m p t

theorem C20_rat_extends_int_add_truncated (m : Mode) (p : TP) (t : Trunc) :
    addTruncatedQ m (TPQ.ofTP p) t = (addTruncated m p t).map TPQ.ofTP := addTruncatedQ_ofTP m p t

example : addTruncTPQ .greg (TPQ.ofTP ⟨.cal 2000 1 1, 5, 59, 59, ⟨0, 0⟩⟩) ⟨none, none, none, none, some 6, none, none, some ⟨1, 0⟩⟩ =
    some (TPQ.ofTP ⟨.cal 2000 1 2, 5, 0, 0, ⟨0, 0⟩⟩) := by
  rw [C20_rat_extends_int]; decide +kernel

/-- **The whole-second point the run starts from** when a time field is named: `ceilSec m p` is
    `TPQ.ofTP c` for the strict whole-second point `c` at the least whole second not earlier than `p`
    (`p ≤ c < p + 1 s`; `c = p` when `p` denotes a whole second), in `p`'s offset and date
    representation. -/
theorem C20_ceilSec (m : Mode) (p : TPQ) (hv : p.Valid m) :
    ∃ c : TP, ceilSec m p = some (TPQ.ofTP c) ∧ c.Strict m ∧ c.tz = p.tz ∧ c.date.rep = p.date.rep ∧
      p.inst m ≤ ((c.inst m : Int) : Rat) ∧ ((c.inst m : Int) : Rat) < p.inst m + 1 ∧
      (WholeSec p → ((c.inst m : Int) : Rat) = p.inst m) := ceilSec_spec m p hv

/-- **A time field is named**: for EVERY legal `p`, the run on `p` is the whole-second model's run
    on `ceilSec p`, and the result is in hour:minute:second form. -/
theorem C20_time_field_is_ceilSec_run (m : Mode) (p : TPQ) (hv : p.Valid m) (t : Trunc) (ht : HasTime t) :
    ∃ c : TP, ceilSec m p = some (TPQ.ofTP c) ∧ c.Strict m ∧ c.tz = p.tz ∧ c.date.rep = p.date.rep ∧
      p.inst m ≤ ((c.inst m : Int) : Rat) ∧ ((c.inst m : Int) : Rat) < p.inst m + 1 ∧
      addTruncatedQ m p t = (addTruncated m c t).map TPQ.ofTP := by
  obtain ⟨c, ec, cs, ctz, cr, c1, c2, _⟩ := ceilSec_spec m p hv
  exact ⟨c, ec, cs, ctz, cr, c1, c2, addTruncatedQ_time m p t ht c ec cs⟩

/-- **Only day designators are named**: the date is the whole-second model's answer for `p0`'s date
    at 00:00:00 (`p0` = `p` with 24:00 normalised), and hour, minute and second slots of `p0` -
    `None` slots and fraction included - are those of the result. -/
theorem C20_day_only_is_date_run (m : Mode) (p : TPQ) (hv : p.Valid m) (t : Trunc) (ht : ¬ HasTime t) :
    ∃ p0, normalise24Q m p = some p0 ∧ p0.Valid m ∧ p0.hh < 24 ∧ p0.inst m = p.inst m ∧ p0.tz = p.tz ∧
      p0.date.rep = p.date.rep ∧ p0.mi.isSome = p.mi.isSome ∧ p0.ss.isSome = p.ss.isSome ∧
      addTruncatedQ m p t = (addTruncated m ⟨p0.date, 0, 0, 0, p0.tz⟩ t).map
        fun r => ⟨r.date, p0.hh, p0.mi, p0.ss, r.tz⟩ := by
  obtain ⟨h1, h2, h3⟩ := not_hasTime t ht
  obtain ⟨p0, e0, g0, e⟩ := addTruncatedQ_dayOnly m p hv t h1 h2 h3
  exact ⟨p0, e0, g0.valid, g0.lt24, by rw [g0.inst]; grind, g0.tz, g0.rep, g0.mi, g0.ss, e⟩

/-- **Only day designators are named**, in full: the run on `p` is the whole-second run on the date
    skeleton of `p0` (`p` with 24:00 normalised), whose result `r`, at 00:00:00, is re-dressed with the
    time slots of `p0`. -/
structure DayOnlyRun (m : Mode) (p : TPQ) (t : Trunc) (p0 : TPQ) (r : TP) : Prop where
  norm : normalise24Q m p = some p0
  good : GoodQ m p p0 0
  skelStrict : (skel p0).Strict m
  int : addTruncated m (skel p0) t = some r
  eq : addTruncatedQ m p t = some (reT p0 r)
  strict : r.Strict m
  tz : r.tz = p0.tz
  ge : (skel p0).inst m ≤ r.inst m
  skel_reT : skel (reT p0 r) = r
  strictQ : TPQ.Strict m (reT p0 r)
  inst : (reT p0 r).inst m = ((r.inst m : Int) : Rat) + p0.hms.secs
  inst0 : p0.inst m = (((skel p0).inst m : Int) : Rat) + p0.hms.secs
  day : DayShape t → DirectMatch t r ∧ DayMatch m t (r.date.dayNum m)

theorem dayOnly_run (m : Mode) (p : TPQ) (hv : p.Valid m) (t : Trunc) (hl : LegalTrunc m t) (ht : ¬ HasTime t) :
    ∃ p0 r, DayOnlyRun m p t p0 r := by
  obtain ⟨h1, h2, h3⟩ := not_hasTime t ht
  obtain ⟨p0, e0, g0, e⟩ := addTruncatedQ_dayOnly m p hv t h1 h2 h3
  have ss := skel_strict m p0 g0.valid
  obtain ⟨_, r, en, er, rs, rtz, ri, _, _, _, _, _, hkeep, hday⟩ := C20_matches m (skel p0) ss.1 t hl
  rw [normalise24_strict m _ ss] at en
  cases en
  have hz := hkeep h1 h2 h3
  obtain ⟨qs, qi⟩ := reT_spec m p0 ⟨g0.valid, g0.lt24⟩ r rs hz
  obtain ⟨_, pi0⟩ := reT_spec m p0 ⟨g0.valid, g0.lt24⟩ (skel p0) ss ⟨rfl, rfl, rfl⟩
  have hsk : skel (reT p0 r) = r := by
    obtain ⟨rd, rh, rm, rss, rz⟩ := r
    obtain ⟨z1, z2, z3⟩ := hz
    simp only at z1 z2 z3
    subst z1 z2 z3
    rfl
  exact ⟨p0, r, e0, g0, ss, er, by rw [e]; exact congrArg (Option.map (reT p0)) er, rs, rtz, ri, hsk, qs, qi,
    pi0, hday⟩

theorem matches_rat_time (m : Mode) (p : TPQ) (hv : p.Valid m) (t : Trunc) (hl : LegalTrunc m t)
    (ht : HasTime t) :
    ∃ q' : TP, addTruncatedQ m p t = some (TPQ.ofTP q') ∧ q'.Strict m ∧ q'.tz = p.tz ∧
      p.inst m ≤ ((q'.inst m : Int) : Rat) ∧ TimeMatch t q' ∧
      (DayShape t → DirectMatch t q' ∧ DayMatch m t (q'.date.dayNum m)) := by
  obtain ⟨c, _, cs, ctz, _, c1, _, e⟩ := C20_time_field_is_ceilSec_run m p hv t ht
  obtain ⟨_, q', _, eq, qs, qtz, qi, _, _, _, _, _, _, a7⟩ := C20_matches m c cs.1 t hl
  refine ⟨q', by rw [e, eq]; rfl, qs, by rw [qtz, ctz], ?_, addTruncated_timeMatch m c cs.1 t hl q' eq, a7⟩
  have := Rat.intCast_le_intCast.2 qi
  grind

/-- **C20, fields, a time field named** (EVERY legal `p`, any precision form, fraction or not): the
    result is the whole-second point `q'` in hour:minute:second form (`TPQ.ofTP q'`: all three slots
    present and whole - the decimal-hour / decimal-minute form of `p` is NOT kept); it is valid, in
    `p`'s offset, not earlier than `p`; it carries every time field `t` specifies, lower fields zero as
    `add_truncated` defaults them; for at most one day designator it carries that too. -/
theorem C20_matches_rat_time (m : Mode) (p : TPQ) (hv : p.Valid m) (t : Trunc) (hl : LegalTrunc m t)
    (ht : HasTime t) :
    ∃ q' : TP, addTruncatedQ m p t = some (TPQ.ofTP q') ∧ q'.Strict m ∧ q'.tz = p.tz ∧
      p.inst m ≤ ((q'.inst m : Int) : Rat) ∧
      (∀ s, t.ss = some s → q'.ss = s) ∧ (∀ x, t.mi = some x → q'.mi = x) ∧ (∀ h, t.hh = some h → q'.hh = h) ∧
      (t.hh ≠ none → t.mi = none → q'.mi = 0) ∧ ((t.hh ≠ none ∨ t.mi ≠ none) → t.ss = none → q'.ss = 0) ∧
      (DayShape t → DirectMatch t q' ∧ DayMatch m t (q'.date.dayNum m)) := by
  obtain ⟨q', e, qs, qtz, qi, tm, hd⟩ := matches_rat_time m p hv t hl ht
  obtain ⟨g1, g2, g3, g4, g5⟩ := timeMatch_given t q' tm
  exact ⟨q', e, qs, qtz, qi, g1, g2, g3, g4, g5, hd⟩

/-- **C20, fields, only day designators named** (any `p`, fraction or not): hour, minute and second
    slots of the result are those of `p0` (`p` with 24:00 normalised) - same precision form, same
    fraction: "time of day unchanged"; the result is valid, in `p`'s offset, not earlier than `p`,
    and for at most one day designator its date carries it. -/
theorem C20_matches_rat_day (m : Mode) (p : TPQ) (hv : p.Valid m) (t : Trunc) (hl : LegalTrunc m t)
    (ht : ¬ HasTime t) :
    ∃ p0 q, normalise24Q m p = some p0 ∧ addTruncatedQ m p t = some q ∧ q.Valid m ∧ q.hh < 24 ∧ q.tz = p.tz ∧
      p.inst m ≤ q.inst m ∧ q.hh = p0.hh ∧ q.mi = p0.mi ∧ q.ss = p0.ss ∧
      (DayShape t → DirectMatch t (skel q) ∧ DayMatch m t (q.date.dayNum m)) := by
  obtain ⟨p0, r, D⟩ := dayOnly_run m p hv t hl ht
  refine ⟨p0, reT p0 r, D.norm, D.eq, D.strictQ.1, D.strictQ.2, by show r.tz = p.tz; rw [D.tz]; exact D.good.tz,
    ?_, rfl, rfl, rfl, fun hd => by rw [D.skel_reT]; exact D.day hd⟩
  have := D.good.inst
  have := Rat.intCast_le_intCast.2 D.ge
  have := D.inst
  have := D.inst0
  grind

/-- With no time field named the date of the result does not depend on the time slots: a
    whole-second run gives the run on every rational-slot point with `hh < 24` on the same date, in
    the same offset. -/
theorem dayOnly_transfer (m : Mode) (c : TP) (hc : c.Strict m) (p : TPQ) (hp : TPQ.Strict m p)
    (hd : p.date = c.date) (htz : p.tz = c.tz) (t : Trunc) (ht : ¬ HasTime t) (q : TP)
    (h : addTruncated m c t = some q) :
    addTruncatedQ m p t = some ⟨q.date, p.hh, p.mi, p.ss, q.tz⟩ := by
  obtain ⟨h1, h2, h3⟩ := not_hasTime t ht
  have sc := ofTP_strict m c hc
  obtain ⟨c0, ec, _, e⟩ := addTruncatedQ_dayOnly m (TPQ.ofTP c) sc.1 t h1 h2 h3
  rw [normalise24Q_strict m _ sc] at ec
  cases ec
  obtain ⟨p0, ep, _, e'⟩ := addTruncatedQ_dayOnly m p hp.1 t h1 h2 h3
  rw [normalise24Q_strict m _ hp] at ep
  cases ep
  rw [addTruncatedQ_ofTP, h] at e
  obtain ⟨r, er, hr⟩ := Option.map_eq_some_iff.1 e.symm
  rw [e', show skel p = skel (TPQ.ofTP c) by unfold skel; rw [hd, htz]; rfl, er]
  simp only [TPQ.ofTP, reT, TPQ.mk.injEq] at hr
  simp only [Option.map_some, reT, hr.1, hr.2.2.2.2]

/-- Zone-free core of `C20_terminates_rat`. -/
theorem terminates_core (m : Mode) (p : TPQ) (hv : p.Valid m) (t : Trunc) (hl : LegalTrunc m t) :
    ∃ q, addTruncatedQ m p t = some q ∧ q.Valid m ∧ q.hh < 24 ∧ q.tz = p.tz ∧ p.inst m ≤ q.inst m := by
  by_cases ht : HasTime t
  · obtain ⟨q', e, qs, qtz, qi, _⟩ := matches_rat_time m p hv t hl ht
    have sq := ofTP_strict m q' qs
    exact ⟨TPQ.ofTP q', e, sq.1, sq.2, qtz, by rw [ofTP_inst]; exact qi⟩
  · obtain ⟨_, q, _, e, a, b, c, d, _⟩ := C20_matches_rat_day m p hv t hl ht
    exact ⟨q, e, a, b, c, d⟩

/-- **C20, termination over rational slots, all inputs** (`truncated + full`, zone alignment
    included): for EVERY legal full point `p` in any precision form - on a whole second or strictly
    inside one - and every truncated point with legal whole-number fields and (if it has one) a
    legal zone, every loop ends within its fuel; the result is a legal point with `hh < 24`, in `p`'s
    offset, not earlier than `p`. -/
theorem C20_terminates_rat (m : Mode) (p : TPQ) (hv : p.Valid m) (t : Trunc) (hl : LegalTrunc m t)
    (hz : ∀ z, t.tz = some z → z.Valid) :
    ∃ q, addTruncTPQ m p t = some q ∧ q.Valid m ∧ q.hh < 24 ∧ q.tz = p.tz ∧ p.inst m ≤ q.inst m := by
  unfold addTruncTPQ addTruncTPQF
  cases htz : t.tz with
  | none => exact terminates_core m p hv t hl
  | some z =>
    simp only
    obtain ⟨p1, e1, i1, t1, v1, _⟩ := toTimeZoneQ_spec m p z hv (hz z htz)
    obtain ⟨r, er, rv, rlt, rtz, ri⟩ := terminates_core m p1 v1 t hl
    obtain ⟨q, eq, qi, qtz, qv, _, _, _, qlt⟩ := toTimeZoneQ_spec m r p.tz rv hv.2.1
    have er' : addTruncatedQF stdTruncFuel m p1 t = some r := er
    refine ⟨q, by rw [e1, Option.bind_some, er', Option.bind_some, eq], qv, qlt rlt, qtz, ?_⟩
    rw [qi, ← i1]; exact ri

/-- **No early answer**: whatever `truncated + full` returns is a legal point in `p`'s offset that is
    not earlier than `p` (the zeroing of lower fields never produces a point before `p`, also for `p`
    strictly inside a second). -/
theorem C20_never_earlier_rat (m : Mode) (p : TPQ) (hv : p.Valid m) (t : Trunc) (hl : LegalTrunc m t)
    (hz : ∀ z, t.tz = some z → z.Valid) (q : TPQ) (h : addTruncTPQ m p t = some q) :
    q.Valid m ∧ q.hh < 24 ∧ q.tz = p.tz ∧ p.inst m ≤ q.inst m := by
  obtain ⟨q2, e, a, b, c, d⟩ := C20_terminates_rat m p hv t hl hz
  rw [h] at e; cases e
  exact ⟨a, b, c, d⟩

/-- **Six inputs strictly inside a second** (where a seconds loop comparing a second slot that carries
    a fraction with a whole number would go on for ever):
    `T06` + `05:59:59,875Z` = `06:00:00Z`; `T06` + `06:00:00,125Z` = next day `06:00:00Z`;
    `T06` + `06:00:00,5Z` = next day `06:00:00Z`; `T--15` + `00:00:15,5Z` = `00:01:15Z`;
    `T06` + decimal-minute `05:59,125Z` (= 05:59:07,5) = `06:00:00Z`;
    `T-30+01` + `05:59:59,5Z` (= 07:00:00 in +01:00 after the step to the next second) = `06:30:00Z`. -/
theorem C20_fraction_regression :
    addTruncTPQ .greg ⟨.cal 2000 1 1, 5, some 59, some (479/8), ⟨0, 0⟩⟩ ⟨none, none, none, none, some 6, none, none, none⟩ =
      some ⟨.cal 2000 1 1, 6, some 0, some 0, ⟨0, 0⟩⟩ ∧
    addTruncTPQ .greg ⟨.cal 2000 1 1, 6, some 0, some (1/8), ⟨0, 0⟩⟩ ⟨none, none, none, none, some 6, none, none, none⟩ =
      some ⟨.cal 2000 1 2, 6, some 0, some 0, ⟨0, 0⟩⟩ ∧
    addTruncTPQ .greg ⟨.cal 2000 1 1, 6, some 0, some (1/2), ⟨0, 0⟩⟩ ⟨none, none, none, none, some 6, none, none, none⟩ =
      some ⟨.cal 2000 1 2, 6, some 0, some 0, ⟨0, 0⟩⟩ ∧
    addTruncTPQ .greg ⟨.cal 2000 1 1, 0, some 0, some (31/2), ⟨0, 0⟩⟩ ⟨none, none, none, none, none, none, some 15, none⟩ =
      some ⟨.cal 2000 1 1, 0, some 1, some 15, ⟨0, 0⟩⟩ ∧
    addTruncTPQ .greg ⟨.cal 2000 1 1, 5, some (473/8), none, ⟨0, 0⟩⟩ ⟨none, none, none, none, some 6, none, none, none⟩ =
      some ⟨.cal 2000 1 1, 6, some 0, some 0, ⟨0, 0⟩⟩ ∧
    addTruncTPQ .greg ⟨.cal 2000 1 1, 5, some 59, some (119/2), ⟨0, 0⟩⟩ ⟨none, none, none, none, none, some 30, none, some ⟨1, 0⟩⟩ =
      some ⟨.cal 2000 1 1, 6, some 30, some 0, ⟨0, 0⟩⟩ := by
  refine ⟨?_, ?_, ?_, ?_, ?_, ?_⟩ <;> decide +kernel

example : ∃ q, addTruncTPQ .greg ⟨.cal 2000 1 1, 5, some 59, some (479/8), ⟨0, 0⟩⟩
    ⟨none, none, none, none, some 6, none, none, some ⟨1, 0⟩⟩ = some q ∧ q.Valid .greg ∧ q.hh < 24 ∧
    q.tz = ⟨0, 0⟩ ∧ (⟨.cal 2000 1 1, 5, some 59, some (479/8), ⟨0, 0⟩⟩ : TPQ).inst .greg ≤ q.inst .greg :=
  C20_terminates_rat .greg _ (by decide +kernel) _ (legal_of_legalB _ _ (by decide))
    (by intro z h; cases h; decide)
-- ... and the value: 05:59:59,875Z read in +01:00 is 06:59:59,875; next whole second 07:00:00; next 06:00 there is tomorrow
example : addTruncTPQ .greg ⟨.cal 2000 1 1, 5, some 59, some (479/8), ⟨0, 0⟩⟩
    ⟨none, none, none, none, some 6, none, none, some ⟨1, 0⟩⟩ = some ⟨.cal 2000 1 2, 5, some 0, some 0, ⟨0, 0⟩⟩ := by
  decide +kernel

/-- The time of day of `x`, expanded to hour, minute, second as `get_hour_minute_second` does,
    shows the time fields `add_truncated` aims for (the given ones, lower ones zero). -/
def TimeMatchQ (m : Mode) (t : Trunc) (x : TPQ) : Prop :=
  ∃ H M S : Rat, hmsQ m x = some (H, M, S) ∧ (∀ h, t.hh = some h → H = (h : Rat)) ∧
    (∀ v, effMI t = some v → M = (v : Rat)) ∧ (∀ s, effSS t = some s → S = (s : Rat))

/-- `q` is the earliest legal point (any precision form, `hh < 24`) in `p`'s offset, not earlier
    than `p`, that satisfies `Match`. -/
def EarliestQ (m : Mode) (p q : TPQ) (Match : TPQ → Prop) : Prop :=
  q.Valid m ∧ q.hh < 24 ∧ q.tz = p.tz ∧ Match q ∧ p.inst m ≤ q.inst m ∧
  ∀ x : TPQ, x.Valid m → x.hh < 24 → x.tz = p.tz → Match x → p.inst m ≤ x.inst m → q.inst m ≤ x.inst m

/-- A candidate whose expanded time of day shows whole-number targets down to the second is a
    whole-second point. -/
theorem timeMatchQ_whole (m : Mode) (t : Trunc) (ht : HasTime t) (x : TPQ) (hx : TPQ.Strict m x)
    (hm : TimeMatchQ m t x) :
    ∃ x' : TP, x'.Strict m ∧ x'.tz = x.tz ∧ x'.date = x.date ∧ ((x'.inst m : Int) : Rat) = x.inst m ∧
      TimeMatch t x' := by
  obtain ⟨H, M, S, e, m1, m2, m3⟩ := hm
  obtain ⟨x', f, e1, f0, f1, xs, xd, xtz, xi, _⟩ := hmsTPQ_spec m x hx
  simp only [hmsTPQ, e, Option.map_some, liftF, Option.some.injEq, TPQ.mk.injEq] at e1
  obtain ⟨_, eH, eM, eS, _⟩ := e1
  obtain ⟨s, hs⟩ := truncSS_some_of_time t ht
  have hS := m3 s hs
  have hf : f = 0 := by
    apply Classical.byContradiction
    intro hne
    have hpos : 0 < f := by grind
    exact not_isInt_add_frac x'.ss f hpos f1 s (by rw [← eS, hS])
  subst hf
  refine ⟨x', xs, xtz, xd, by rw [← xi]; grind, ?_, ?_, ?_⟩
  · intro h hh
    have := m1 h hh
    rw [eH] at this
    exact Rat.intCast_inj.1 this
  · intro v hv
    have := m2 v hv
    rw [eM] at this
    exact Rat.intCast_inj.1 this
  · intro s' hs'
    have := m3 s' hs'
    rw [eS, Rat.add_zero] at this
    exact Rat.intCast_inj.1 this

theorem timeMatchQ_ofTP (m : Mode) (t : Trunc) (q : TP) (h : TimeMatch t q) : TimeMatchQ m t (TPQ.ofTP q) :=
  ⟨_, _, _, hmsQ_ofTP m q, fun h' hh => (by rw [h.1 h' hh]), fun v hv => (by rw [h.2.1 v hv]),
    fun s hs => (by rw [h.2.2 s hs])⟩

/-- Transfer of "earliest" from whole-second candidates to all rational-slot candidates: `c` is
    the least whole second not earlier than `p`, and every candidate is a whole second. -/
theorem earliest_transfer (m : Mode) (p : TPQ) (c q' : TP) (ctz : c.tz = p.tz)
    (c1 : p.inst m ≤ ((c.inst m : Int) : Rat)) (c2 : ((c.inst m : Int) : Rat) < p.inst m + 1)
    (Match : TP → Prop) (MatchQ : TPQ → Prop)
    (he : EarliestAny m c q' Match) (hq : MatchQ (TPQ.ofTP q'))
    (hx : ∀ x : TPQ, TPQ.Strict m x → MatchQ x →
      ∃ x' : TP, x'.Strict m ∧ x'.tz = x.tz ∧ ((x'.inst m : Int) : Rat) = x.inst m ∧ Match x') :
    EarliestQ m p (TPQ.ofTP q') MatchQ := by
  obtain ⟨qs, qtz, _, qi, qmin⟩ := he
  have sq := ofTP_strict m q' qs
  refine ⟨sq.1, sq.2, by show q'.tz = p.tz; rw [qtz, ctz], hq, ?_, ?_⟩
  · rw [ofTP_inst]
    have := Rat.intCast_le_intCast.2 qi
    grind
  · intro x xv xlt xtz xm xge
    obtain ⟨x', xs', xtz', xi', xm'⟩ := hx x ⟨xv, xlt⟩ xm
    have : c.inst m ≤ x'.inst m := by
      have h1 : ((c.inst m : Int) : Rat) < ((x'.inst m + 1 : Int) : Rat) := by
        have c1' : (1 : Rat) = ((1 : Int) : Rat) := rfl
        rw [Rat.intCast_add, ← c1', xi']; grind
      have := Rat.intCast_lt_intCast.1 h1
      omega
    have := qmin x' xs' (by rw [xtz', xtz, ctz]) xm' this
    rw [ofTP_inst, ← xi']
    exact Rat.intCast_le_intCast.2 this

/-- **C20, earliest match, an hour is named** (`Thh`, `Thh:mm`, `Thh:mm:ss`, alone or with one day
    designator: `--DDThh`, `-DDDThh:mm`, `-W-DThh`, `-Www-DThh`): for EVERY legal `p` in any precision
    form, the result is the earliest point - among the legal points of EVERY precision form,
    fractions included - in `p`'s offset, not earlier than `p`, whose time of day is exactly
    `hh:mm:ss` (missing lower fields zero) and whose date carries the designator.  So `T06` added to
    `06:00:00,5` goes to the NEXT day's `06:00:00` (today's is earlier than `p`). -/
theorem C20_earliest_rat_hours (m : Mode) (p : TPQ) (hv : p.Valid m) (t : Trunc) (hl : LegalTrunc m t)
    (hd : DayShape t) (hwk : t.week ≠ none → t.dow ≠ none) (h : Int) (hh : t.hh = some h) :
    ∃ q' : TP, addTruncatedQ m p t = some (TPQ.ofTP q') ∧
      EarliestQ m p (TPQ.ofTP q') (fun x => TimeMatchQ m t x ∧ DayMatch m t (x.date.dayNum m)) := by
  have ht : HasTime t := Or.inl (by rw [hh]; simp)
  obtain ⟨c, _, cs, ctz, _, c1, c2, e⟩ := C20_time_field_is_ceilSec_run m p hv t ht
  obtain ⟨q', eq, he⟩ := C20_day_hour_earliest m c cs.1 t hl hd hwk h hh
  obtain ⟨e1, e2⟩ := eff_of_hh t h hh
  refine ⟨q', by rw [e, eq]; rfl, earliest_transfer m p c q' ctz c1 c2 _ _ he ?_ ?_⟩
  · obtain ⟨_, _, ⟨m1, m2, m3, m4⟩, _⟩ := he
    refine ⟨timeMatchQ_ofTP m t q' ⟨fun h' hh' => (by rw [hh] at hh'; cases hh'; exact m1),
      fun v hv => (by rw [e1] at hv; cases hv; exact m2), fun s hs => (by rw [e2] at hs; cases hs; exact m3)⟩, m4⟩
  · intro x xs ⟨xm, xd⟩
    obtain ⟨x', xs', xtz', xdt, xi', tm⟩ := timeMatchQ_whole m t ht x xs xm
    exact ⟨x', xs', xtz', xi', tm.1 h hh, tm.2.1 _ e1, tm.2.2 _ e2, by rw [xdt]; exact xd⟩

/-- **A time field and no day designator**, every legal `p`: the result is the earliest point, among
    the legal points of every precision form, not earlier than `p`, whose time of day shows the
    targeted fields. -/
theorem earliest_rat_time (m : Mode) (p : TPQ) (hv : p.Valid m) (t : Trunc) (hl : LegalTrunc m t) (ht : HasTime t)
    (hd : t.dow = none ∧ t.dom = none ∧ t.doy = none ∧ t.week = none) :
    ∃ q' : TP, addTruncatedQ m p t = some (TPQ.ofTP q') ∧ EarliestQ m p (TPQ.ofTP q') (TimeMatchQ m t) := by
  obtain ⟨c, _, cs, ctz, _, c1, c2, e⟩ := C20_time_field_is_ceilSec_run m p hv t ht
  obtain ⟨q', eq, qs, qtz, _, qm, qge, qmin⟩ := time_shape m c cs.1 t hl hd
  refine ⟨q', by rw [e, eq]; rfl, earliest_transfer m p c q' ctz c1 c2 (TimeMatch t) _ ⟨qs, qtz, qm, qge, qmin⟩
    (timeMatchQ_ofTP m t q' qm) fun x xs xm => ?_⟩
  obtain ⟨x', xs', xtz', _, xi', tm⟩ := timeMatchQ_whole m t ht x xs xm
  exact ⟨x', xs', xtz', xi', tm⟩

/-- **`T-mm`, `T-mm:ss`** (minute, no hour, no day designator), every legal `p`. -/
theorem C20_earliest_rat_minutes (m : Mode) (p : TPQ) (hv : p.Valid m) (v : Int) (hvr : 0 ≤ v ∧ v < 60)
    (ss : Option Int) (hs : ∀ s, ss = some s → 0 ≤ s ∧ s < 60) :
    ∃ q' : TP, addTruncatedQ m p ⟨none, none, none, none, none, some v, ss, none⟩ = some (TPQ.ofTP q') ∧
      EarliestQ m p (TPQ.ofTP q') (TimeMatchQ m ⟨none, none, none, none, none, some v, ss, none⟩) :=
  earliest_rat_time m p hv _ ⟨hs, fun _ h => by cases h; exact hvr, nofun, nofun, nofun, nofun, nofun⟩
    (Or.inr (Or.inl nofun)) ⟨rfl, rfl, rfl, rfl⟩

/-- **`T--ss`** (only a second), every legal `p`: `T--15` added to a point at `hh:mm:15` exactly
    returns it; added to `hh:mm:15,5` it goes to the NEXT minute's `:15`.  The candidates range over
    all precision forms, so nothing between `p` and the result - whole second or not - shows second
    15 (with a zero fraction). -/
theorem C20_earliest_rat_seconds (m : Mode) (p : TPQ) (hv : p.Valid m) (s : Int) (hs : 0 ≤ s ∧ s < 60) :
    ∃ q' : TP, addTruncatedQ m p ⟨none, none, none, none, none, none, some s, none⟩ = some (TPQ.ofTP q') ∧
      EarliestQ m p (TPQ.ofTP q') (TimeMatchQ m ⟨none, none, none, none, none, none, some s, none⟩) :=
  earliest_rat_time m p hv _ ⟨fun _ h => by cases h; exact hs, nofun, nofun, nofun, nofun, nofun, nofun⟩
    (Or.inr (Or.inr nofun)) ⟨rfl, rfl, rfl, rfl⟩

/-- **C20, earliest match, only day designators named** (`--DD`, `-DDD`, `-W-D`, `-Www-D`; any `p`,
    with or without a fraction, any precision form): the time slots are those of `p0` (`p` with 24:00
    normalised) and the result is the earliest legal point in `p`'s offset, not earlier than `p`, with
    exactly those slots, whose date carries the designator.  A fraction survives: `---15` added to
    `2000-01-01T00:00:15,5Z` is `2000-01-15T00:00:15,5Z`. -/
theorem C20_earliest_rat_day (m : Mode) (p : TPQ) (hv : p.Valid m) (t : Trunc) (hl : LegalTrunc m t)
    (hd : DayShape t) (hwk : t.week ≠ none → t.dow ≠ none) (ht : ¬ HasTime t) :
    ∃ p0 q, normalise24Q m p = some p0 ∧ addTruncatedQ m p t = some q ∧
      EarliestQ m p q (fun x => x.hh = p0.hh ∧ x.mi = p0.mi ∧ x.ss = p0.ss ∧ DayMatch m t (x.date.dayNum m)) := by
  obtain ⟨p0, r, D⟩ := dayOnly_run m p hv t hl ht
  obtain ⟨_, r', en, er', _, _, ⟨_, _, _, rdm⟩, _, rmin⟩ :=
    C20_day_only_earliest m (skel p0) D.skelStrict.1 t hl hd hwk (not_hasTime t ht)
  rw [normalise24_strict m _ D.skelStrict] at en
  cases en
  rw [D.int] at er'; cases er'
  have hpi := D.good.inst
  have qi := D.inst
  have pi0 := D.inst0
  refine ⟨p0, reT p0 r, D.norm, D.eq, D.strictQ.1, D.strictQ.2, by show r.tz = p.tz; rw [D.tz]; exact D.good.tz,
    ⟨rfl, rfl, rfl, rdm⟩, ?_, ?_⟩
  · have := Rat.intCast_le_intCast.2 D.ge
    grind
  · intro x xv xlt xtz ⟨x1, x2, x3, xd⟩ xge
    obtain ⟨_, xi⟩ := reT_spec m x ⟨xv, xlt⟩ (skel x) (skel_strict m x xv) ⟨rfl, rfl, rfl⟩
    rw [reT_skel] at xi
    have hsecs : x.hms.secs = p0.hms.secs := by simp only [TPQ.hms, x1, x2, x3]
    have hle : (skel p0).inst m ≤ (skel x).inst m := by
      apply Rat.intCast_le_intCast.1
      grind
    have := rmin (skel x) (skel_strict m x xv) (by show x.tz = p0.tz; rw [xtz, D.good.tz]) ⟨rfl, rfl, rfl, xd⟩ hle
    have := Rat.intCast_le_intCast.2 this
    grind

/-- **C20, fields, all inputs**: for every legal `p` in any precision form (fraction or not) and
    every legal `t`, `add_truncated` returns a point `q` that is legal with `hh < 24`, in `p`'s offset,
    not earlier than `p`, and
    * its time of day, expanded to hour, minute, second, shows every time field `t` specifies with
      the lower ones zero (`TimeMatchQ`);
    * if `t` names a time field, `q` is a whole-second point in hour:minute:second form (all three
      slots present and whole) - `p`'s precision form and fraction are not kept;
    * if `t` names no time field, `q`'s three slots are exactly those of `p` with 24:00 normalised:
      same precision form (`None` slots stay `None`), same fraction;
    * for at most one day designator the date of `q` carries it. -/
theorem C20_matches_rat (m : Mode) (p : TPQ) (hv : p.Valid m) (t : Trunc) (hl : LegalTrunc m t) :
    ∃ q, addTruncatedQ m p t = some q ∧
    q.Valid m ∧ q.hh < 24 ∧ q.tz = p.tz ∧ p.inst m ≤ q.inst m ∧ TimeMatchQ m t q ∧
    (HasTime t → ∃ q' : TP, q = TPQ.ofTP q') ∧
    (¬ HasTime t → ∃ p0, normalise24Q m p = some p0 ∧ q.hh = p0.hh ∧ q.mi = p0.mi ∧ q.ss = p0.ss) ∧
    (DayShape t → DayMatch m t (q.date.dayNum m)) := by
  by_cases ht : HasTime t
  · obtain ⟨q', e, qs, qtz, qi, tm, a6⟩ := matches_rat_time m p hv t hl ht
    have sq := ofTP_strict m q' qs
    exact ⟨TPQ.ofTP q', e, sq.1, sq.2, qtz, by rw [ofTP_inst]; exact qi,
      timeMatchQ_ofTP m t q' tm, fun _ => ⟨q', rfl⟩,
      fun hn => absurd ht hn, fun hd => (a6 hd).2⟩
  · obtain ⟨p0, q, e0, e, a, b, c, d, k1, k2, k3, dm⟩ := C20_matches_rat_day m p hv t hl ht
    obtain ⟨h1, h2, h3⟩ := not_hasTime t ht
    obtain ⟨e1, e2⟩ := eff_none t h1 h2 h3
    obtain ⟨H, M, S, eh, _⟩ := hmsQ_spec m q ⟨a, b⟩
    exact ⟨q, e, a, b, c, d, ⟨_, _, _, eh, fun h' hh' => (by rw [h1] at hh'; cases hh'),
      fun v hv' => (by rw [e1] at hv'; cases hv'), fun s hs => (by rw [e2] at hs; cases hs)⟩,
      fun h => absurd h ht, fun _ => ⟨p0, e0, k1, k2, k3⟩, fun hd => (dm hd).2⟩

/-- **Applying `t` again returns the same result** (at most one day designator, any time fields,
    every legal `p`). -/
theorem C20_idempotent_rat (m : Mode) (p : TPQ) (hv : p.Valid m) (t : Trunc) (hl : LegalTrunc m t)
    (hd : DayShape t) (q : TPQ) (h : addTruncatedQ m p t = some q) :
    addTruncatedQ m q t = some q := by
  by_cases ht : HasTime t
  · obtain ⟨c, _, cs, _, _, _, _, e⟩ := C20_time_field_is_ceilSec_run m p hv t ht
    rw [e] at h
    obtain ⟨q', eq, rfl⟩ := Option.map_eq_some_iff.1 h
    rw [addTruncatedQ_ofTP, C20_day_idempotent m c cs.1 t hl hd q' eq]
    rfl
  · -- the result `reT p0 r` is strict, so it is its own `p0`, and its skeleton is `r`
    obtain ⟨p0, r, D⟩ := dayOnly_run m p hv t hl ht
    rw [D.eq] at h; cases h
    obtain ⟨q0, r2, D2⟩ := dayOnly_run m (reT p0 r) D.strictQ.1 t hl ht
    have eq0 := D2.norm
    rw [normalise24Q_strict m _ D.strictQ] at eq0
    cases eq0
    have er2 := D2.int
    rw [D.skel_reT, C20_day_idempotent m (skel p0) D.skelStrict.1 t hl hd r D.int] at er2
    cases er2
    exact D2.eq

/-- With a zone of its own, `t` is read in that zone and the answer is re-expressed in `p`'s. -/
theorem C20_zone_rat (m : Mode) (p : TPQ) (t : Trunc) (z : TZ) (hz : t.tz = some z) :
    addTruncTPQ m p t =
      (toTimeZoneQ m p z).bind fun q => (addTruncatedQ m q t).bind fun r => toTimeZoneQ m r p.tz := by
  unfold addTruncTPQ addTruncTPQF; rw [hz]; rfl

theorem C20_no_zone_rat (m : Mode) (p : TPQ) (t : Trunc) (hz : t.tz = none) :
    addTruncTPQ m p t = addTruncatedQ m p t := by
  unfold addTruncTPQ addTruncTPQF; rw [hz]; rfl

-- `T06` added to decimal-minute `05:59,5` (= 05:59:30): result 06:00:00 in h:m:s form
example : addTruncatedQ .greg ⟨.cal 2000 1 1, 5, some (119/2), none, ⟨0, 0⟩⟩ ⟨none, none, none, none, some 6, none, none, none⟩ =
    some ⟨.cal 2000 1 1, 6, some 0, some 0, ⟨0, 0⟩⟩ := by decide +kernel
-- `T06` added to decimal-hour `06,5` (= 06:30:00): tomorrow 06:00:00
example : addTruncatedQ .greg ⟨.cal 2000 12 31, 13/2, none, none, ⟨5, 30⟩⟩ ⟨none, none, none, none, some 6, none, none, none⟩ =
    some ⟨.cal 2001 1 1, 6, some 0, some 0, ⟨5, 30⟩⟩ := by decide +kernel
-- `T00` added to `2000-12-31T23:59:59,5`: the step to the next whole second crosses the year
example : ceilSec .greg ⟨.cal 2000 12 31, 23, some 59, some (119/2), ⟨0, 0⟩⟩ = some ⟨.cal 2001 1 1, 0, some 0, some 0, ⟨0, 0⟩⟩ := by
  decide +kernel
example : addTruncatedQ .greg ⟨.cal 2000 12 31, 23, some 59, some (119/2), ⟨0, 0⟩⟩ ⟨none, none, none, none, some 0, none, none, none⟩ =
    some ⟨.cal 2001 1 1, 0, some 0, some 0, ⟨0, 0⟩⟩ := by decide +kernel
-- `---15` added to `00:00:15,5`: the fraction survives; to decimal-hour `05,5`: the form survives
example : addTruncatedQ .greg ⟨.cal 2000 1 1, 0, some 0, some (31/2), ⟨0, 0⟩⟩ ⟨none, none, some 15, none, none, none, none, none⟩ =
    some ⟨.cal 2000 1 15, 0, some 0, some (31/2), ⟨0, 0⟩⟩ := by decide +kernel
example : addTruncatedQ .greg ⟨.cal 2000 1 1, 11/2, none, none, ⟨0, 0⟩⟩ ⟨none, some 3, none, none, none, none, none, none⟩ =
    some ⟨.week 2000 1 3, 11/2, none, none, ⟨0, 0⟩⟩ := by decide +kernel
-- 24:00 in decimal-hour form + `-W-3`
example : addTruncatedQ .greg ⟨.cal 2000 1 1, 24, none, none, ⟨0, 0⟩⟩ ⟨none, some 3, none, none, none, none, none, none⟩ =
    some ⟨.week 2000 1 3, 0, none, none, ⟨0, 0⟩⟩ := by decide +kernel

/-- `C20_time_field_is_ceilSec_run` / `C20_matches_rat_time` at `-001T06` + `2000-12-31T05:30:00,25+05:30`
    (strictly inside a second). -/
example : ∃ q' : TP, addTruncatedQ .greg ⟨.cal 2000 12 31, 5, some 30, some (1/4), ⟨5, 30⟩⟩
      ⟨none, none, none, some 1, some 6, none, none, none⟩ = some (TPQ.ofTP q') ∧ q'.hh = 6 ∧ q'.mi = 0 ∧ q'.ss = 0 ∧
      getDoy q' = 1 := by
  obtain ⟨q', e, _, _, _, _, _, g3, g4, g5, a6⟩ := C20_matches_rat_time .greg ⟨.cal 2000 12 31, 5, some 30, some (1/4), ⟨5, 30⟩⟩
    (by decide +kernel) ⟨none, none, none, some 1, some 6, none, none, none⟩ (legal_of_legalB _ _ (by decide))
    (by decide)
  exact ⟨q', e, g3 6 rfl, g4 (by decide) rfl, g5 (by decide) rfl, ((a6 (by decide)).1.2.2.1 1 rfl).2⟩

/-- `C20_matches_rat_day` / `C20_earliest_rat_day` at `--31` + `2001-01-31T24:00+05:30` in decimal-minute form
    and at `-W53-5` + `2021-03-01T10:07,375Z`. -/
example : ∃ p0 q, normalise24Q .greg ⟨.cal 2001 1 31, 24, some 0, none, ⟨5, 30⟩⟩ = some p0 ∧
    addTruncatedQ .greg ⟨.cal 2001 1 31, 24, some 0, none, ⟨5, 30⟩⟩ ⟨none, none, some 31, none, none, none, none, none⟩ = some q ∧
    EarliestQ .greg ⟨.cal 2001 1 31, 24, some 0, none, ⟨5, 30⟩⟩ q
      (fun x => x.hh = p0.hh ∧ x.mi = p0.mi ∧ x.ss = p0.ss ∧
        DayMatch .greg ⟨none, none, some 31, none, none, none, none, none⟩ (x.date.dayNum .greg)) :=
  C20_earliest_rat_day .greg _ (by decide +kernel) _ (legal_of_legalB _ _ (by decide)) (by decide) (by decide) (by decide)
example : addTruncatedQ .greg ⟨.cal 2001 1 31, 24, some 0, none, ⟨5, 30⟩⟩ ⟨none, none, some 31, none, none, none, none, none⟩ =
    some ⟨.cal 2001 3 31, 0, some 0, none, ⟨5, 30⟩⟩ := by decide +kernel
example : addTruncatedQ .greg ⟨.cal 2021 3 1, 10, some (59/8), none, ⟨0, 0⟩⟩ ⟨some 53, some 5, none, none, none, none, none, none⟩ =
    some ⟨.week 2026 53 5, 10, some (59/8), none, ⟨0, 0⟩⟩ :=
  dayOnly_transfer .greg _ (by decide) _ ⟨by decide +kernel, by decide +kernel⟩ rfl rfl _ (by decide) _ week53_run

/-- `C20_earliest_rat_hours` at `T06` + `2000-01-01T06:00:00,5Z`: the NEXT day's 06:00:00;
    `C20_earliest_rat_seconds` at `T--15` + `00:00:15,5Z`: the next minute's :15;
    `C20_earliest_rat_minutes` at `T-30` + decimal-minute `23:59,5` on the last day of a 360-day year. -/
example : ∃ q' : TP, addTruncatedQ .greg ⟨.cal 2000 1 1, 6, some 0, some (1/2), ⟨0, 0⟩⟩ ⟨none, none, none, none, some 6, none, none, none⟩ =
      some (TPQ.ofTP q') ∧
    EarliestQ .greg ⟨.cal 2000 1 1, 6, some 0, some (1/2), ⟨0, 0⟩⟩ (TPQ.ofTP q')
      (fun x => TimeMatchQ .greg ⟨none, none, none, none, some 6, none, none, none⟩ x ∧
        DayMatch .greg ⟨none, none, none, none, some 6, none, none, none⟩ (x.date.dayNum .greg)) :=
  C20_earliest_rat_hours .greg _ (by decide +kernel) _ (legal_of_legalB _ _ (by decide)) (by decide) (by decide) 6 rfl
example : addTruncatedQ .greg ⟨.cal 2000 1 1, 6, some 0, some (1/2), ⟨0, 0⟩⟩ ⟨none, none, none, none, some 6, none, none, none⟩ =
    some ⟨.cal 2000 1 2, 6, some 0, some 0, ⟨0, 0⟩⟩ := by
  rw [← C20_no_zone_rat .greg _ _ rfl]; exact C20_fraction_regression.2.2.1
example : ∃ q' : TP, addTruncatedQ .greg ⟨.cal 2000 1 1, 0, some 0, some (31/2), ⟨0, 0⟩⟩ ⟨none, none, none, none, none, none, some 15, none⟩ =
      some (TPQ.ofTP q') ∧
    EarliestQ .greg ⟨.cal 2000 1 1, 0, some 0, some (31/2), ⟨0, 0⟩⟩ (TPQ.ofTP q')
      (TimeMatchQ .greg ⟨none, none, none, none, none, none, some 15, none⟩) :=
  C20_earliest_rat_seconds .greg _ (by decide +kernel) 15 (by decide)
example : addTruncatedQ .greg ⟨.cal 2000 1 1, 0, some 0, some (31/2), ⟨0, 0⟩⟩ ⟨none, none, none, none, none, none, some 15, none⟩ =
    some ⟨.cal 2000 1 1, 0, some 1, some 15, ⟨0, 0⟩⟩ := by
  rw [← C20_no_zone_rat .greg _ _ rfl]; exact C20_fraction_regression.2.2.2.1
example : ∃ q' : TP, addTruncatedQ .d360 ⟨.ord 2000 360, 23, some (119/2), none, ⟨0, 0⟩⟩ ⟨none, none, none, none, none, some 30, none, none⟩ =
      some (TPQ.ofTP q') ∧
    EarliestQ .d360 ⟨.ord 2000 360, 23, some (119/2), none, ⟨0, 0⟩⟩ (TPQ.ofTP q')
      (TimeMatchQ .d360 ⟨none, none, none, none, none, some 30, none, none⟩) :=
  C20_earliest_rat_minutes .d360 _ (by decide +kernel) 30 (by decide) none (fun _ h => by cases h)
example : addTruncatedQ .d360 ⟨.ord 2000 360, 23, some (119/2), none, ⟨0, 0⟩⟩ ⟨none, none, none, none, none, some 30, none, none⟩ =
    some ⟨.ord 2001 1, 0, some 30, some 0, ⟨0, 0⟩⟩ := by decide +kernel

/-- `C20_idempotent_rat` at a day-designator run with a fraction and at a time run from inside a second;
    `C20_never_earlier_rat`; `C20_matches_rat`. -/
example : addTruncatedQ .greg ⟨.cal 2000 1 15, 0, some 0, some (31/2), ⟨0, 0⟩⟩ ⟨none, none, some 15, none, none, none, none, none⟩ =
    some ⟨.cal 2000 1 15, 0, some 0, some (31/2), ⟨0, 0⟩⟩ :=
  C20_idempotent_rat .greg ⟨.cal 2000 1 1, 0, some 0, some (31/2), ⟨0, 0⟩⟩ (by decide +kernel) _
    (legal_of_legalB _ _ (by decide)) (by decide) _ (by decide +kernel)
example : addTruncatedQ .greg ⟨.cal 2000 1 1, 6, some 0, some 0, ⟨0, 0⟩⟩ ⟨none, none, none, none, some 6, none, none, none⟩ =
    some ⟨.cal 2000 1 1, 6, some 0, some 0, ⟨0, 0⟩⟩ :=
  C20_idempotent_rat .greg ⟨.cal 2000 1 1, 5, some 59, some (479/8), ⟨0, 0⟩⟩ (by decide +kernel) _
    (legal_of_legalB _ _ (by decide)) (by decide) _
    (by rw [← C20_no_zone_rat .greg _ _ rfl]; exact C20_fraction_regression.1)
example : (⟨.cal 2000 1 1, 5, some 59, some (479/8), ⟨0, 0⟩⟩ : TPQ).inst .greg ≤
    (⟨.cal 2000 1 2, 5, some 0, some 0, ⟨0, 0⟩⟩ : TPQ).inst .greg :=
  (C20_never_earlier_rat .greg ⟨.cal 2000 1 1, 5, some 59, some (479/8), ⟨0, 0⟩⟩ (by decide +kernel)
    ⟨none, none, none, none, some 6, none, none, some ⟨1, 0⟩⟩ (legal_of_legalB _ _ (by decide))
    (by intro z h; cases h; decide) _ (by decide +kernel)).2.2.2
example : ∃ q, addTruncatedQ .greg ⟨.cal 2000 1 1, 11/2, none, none, ⟨0, 0⟩⟩ ⟨none, some 3, none, none, none, none, none, none⟩ = some q ∧
    q.mi = none ∧ DayMatch .greg ⟨none, some 3, none, none, none, none, none, none⟩ (q.date.dayNum .greg) := by
  obtain ⟨q, e, _, _, _, _, _, _, hk, hd⟩ := C20_matches_rat .greg ⟨.cal 2000 1 1, 11/2, none, none, ⟨0, 0⟩⟩ (by decide +kernel)
    ⟨none, some 3, none, none, none, none, none, none⟩ (legal_of_legalB _ _ (by decide))
  obtain ⟨p0, e0, _, k2, _⟩ := hk (by decide)
  have : p0 = ⟨.cal 2000 1 1, 11/2, none, none, ⟨0, 0⟩⟩ := by
    have h0 : normalise24Q .greg ⟨.cal 2000 1 1, 11/2, none, none, ⟨0, 0⟩⟩ = some ⟨.cal 2000 1 1, 11/2, none, none, ⟨0, 0⟩⟩ := by
      decide +kernel
    rw [h0] at e0; cases e0; rfl
  exact ⟨q, e, by rw [k2, this], hd (by decide)⟩

end IsoDT.Props.C20
