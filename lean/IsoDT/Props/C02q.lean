/-
  C02 / C04 / C06 (rational slots) — comparison, hashing, re-zoning and point difference follow
  the timeline as ALGORITHMS, for every reduced-precision form.

  The Python keeps `_hour_of_day`, `_minute_of_hour`, `_second_of_minute` as floats, the last two
  possibly `None` (decimal seconds / decimal minutes / decimal hours).  `Model.TimePointQ2` runs the
  statements of `to_time_zone`, `_cmp`, `__hash__` and `__sub__(TimePoint)` over exact rationals;
  the theorems hold for all four calendar modes, the three date representations in any mix, any two
  offsets, any mix of precision forms, 24:00 included, every year in `Int`.  Equal instants hash
  alike also across precision forms (12.5h hashes like 12:30:00), because `__hash__` goes through
  `get_hour_minute_second`, which expands every form to whole hour, whole minute, second.  On
  whole-second points each function is the integer model's (`*_extends_int`).

  What this does NOT say: anything about binary rounding in the real float computation.  The float
  code is observably NOT exact on the decimal forms (differential test, /repo): e.g.
  `T12,1` (decimal hours) `==` `T12:06:00` is `True` (second of day 43560.0 both) while their
  hashes differ (`get_hour_minute_second` gives `(12.0, 5.0, 59.99999999999872)`), their difference
  is the mixed-sign `P-1DT23H59M59,99999999999872S`, and for some equal instants in two offsets
  both `a > b` and `b > a` hold and `a - b` recurses without end.  In exact arithmetic none of this
  happens (the theorems below); the defects are rounding, not logic.
-/
import IsoDT.Lemmas.CmpQ

namespace IsoDT.Props.C02
open IsoDT IsoDT.Model IsoDT.Lemmas
open IsoDT.Spec (Date TZ TP)

/-! ## C06: re-zoning -/

/-- **C06 over rationals**: `to_time_zone` keeps the instant, carries exactly the requested
    offset, gives a legal point (so every slot that must hold a whole number does) in the same
    date representation and the same precision form (`None` pattern), with `hh < 24` unless the
    point was returned unchanged — for every legal point in any precision form, every legal
    destination offset, every mode. -/
theorem C06_to_time_zone_rat (m : Mode) (p : TPQ) (z : TZ) (hv : p.Valid m) (hz : z.Valid) :
    ∃ q, toTimeZoneQ m p z = some q ∧ q.inst m = p.inst m ∧ q.tz = z ∧ q.Valid m ∧
      q.date.rep = p.date.rep ∧ q.mi.isSome = p.mi.isSome ∧ q.ss.isSome = p.ss.isSome ∧
      (p.hh < 24 → q.hh < 24) := toTimeZoneQ_spec m p z hv hz

example : (⟨.week 2021 1 1, 1/8, none, none, ⟨5, 45⟩⟩ : TPQ).Valid .greg ∧ (⟨-99, -59⟩ : TZ).Valid := by
  decide +kernel
-- decimal-hour point: the offset's minutes go into the hour slot as a fraction
example : toTimeZoneQ .greg ⟨.week 2021 1 1, 1/8, none, none, ⟨5, 45⟩⟩ ⟨-99, -59⟩ =
    some ⟨.week 2020 53 3, 1727/120, none, none, ⟨-99, -59⟩⟩ := by decide +kernel
-- decimal-minute point at 24:00
example : toTimeZoneQ .d360 ⟨.cal 2000 12 30, 24, some 0, none, ⟨0, 0⟩⟩ ⟨0, -30⟩ =
    some ⟨.cal 2000 12 30, 23, some 30, none, ⟨0, -30⟩⟩ := by decide +kernel
-- unchanged offset: the very same point (24:00 kept)
example : toTimeZoneQ .greg ⟨.ord 2001 59, 24, none, none, ⟨5, 30⟩⟩ ⟨5, 30⟩ =
    some ⟨.ord 2001 59, 24, none, none, ⟨5, 30⟩⟩ := by decide +kernel

/-! ## C02: comparison -/

/-- **C02 over rationals**: `_cmp` never raises on legal operands and its verdict `c`
    (`-1` / `0` / `1` for `<` / `==` / `>`) is the sign of the difference of the instants —
    whatever representations, offsets, precision forms and 24:00 spellings the operands use. -/
theorem C02_cmp_rat (m : Mode) (a b : TPQ) (ha : a.Valid m) (hb : b.Valid m) :
    ∃ c, cmpQ m a b = some c ∧ c = sgnQ (a.inst m - b.inst m) ∧
      (c = -1 ↔ a.inst m < b.inst m) ∧ (c = 0 ↔ a.inst m = b.inst m) ∧ (c = 1 ↔ a.inst m > b.inst m) :=
  ⟨_, cmpQ_spec m a b ha hb, rfl, sgnQ_sub_iff _ _⟩

-- 12.5h (decimal hours, Z)  <  13:30.5 (decimal minutes, +01:00) = 12:30:30Z
example : (⟨.cal 2000 1 1, 25/2, none, none, ⟨0, 0⟩⟩ : TPQ).Valid .greg ∧
    (⟨.ord 2000 1, 13, some (61/2), none, ⟨1, 0⟩⟩ : TPQ).Valid .greg ∧
    cmpQ .greg ⟨.cal 2000 1 1, 25/2, none, none, ⟨0, 0⟩⟩ ⟨.ord 2000 1, 13, some (61/2), none, ⟨1, 0⟩⟩ = some (-1) ∧
    sgnQ (TPQ.inst .greg ⟨.cal 2000 1 1, 25/2, none, none, ⟨0, 0⟩⟩ -
      TPQ.inst .greg ⟨.ord 2000 1, 13, some (61/2), none, ⟨1, 0⟩⟩) = -1 := by decide +kernel

/-- The six comparison operators as `_cmp` computes them. -/
def ltQ (m : Mode) (a b : TPQ) : Prop := cmpQ m a b = some (-1)
def eqQ (m : Mode) (a b : TPQ) : Prop := cmpQ m a b = some 0
def gtQ (m : Mode) (a b : TPQ) : Prop := cmpQ m a b = some 1
def leQ (m : Mode) (a b : TPQ) : Prop := ltQ m a b ∨ eqQ m a b
def geQ (m : Mode) (a b : TPQ) : Prop := gtQ m a b ∨ eqQ m a b
def neQ (m : Mode) (a b : TPQ) : Prop := ¬ eqQ m a b

/-- `<`, `==`, `>`, `<=`, `>=`, `!=` on legal points in any precision forms are the order of the
    instants. -/
theorem C02_operators_rat (m : Mode) (a b : TPQ) (ha : a.Valid m) (hb : b.Valid m) :
    (ltQ m a b ↔ a.inst m < b.inst m) ∧ (eqQ m a b ↔ a.inst m = b.inst m) ∧
    (gtQ m a b ↔ a.inst m > b.inst m) ∧ (leQ m a b ↔ a.inst m ≤ b.inst m) ∧
    (geQ m a b ↔ a.inst m ≥ b.inst m) ∧ (neQ m a b ↔ a.inst m ≠ b.inst m) := by
  obtain ⟨c, hc, _, h1, h2, h3⟩ := C02_cmp_rat m a b ha hb
  unfold leQ geQ neQ ltQ eqQ gtQ
  rw [hc]
  simp only [Option.some.injEq]
  exact ⟨h1, h2, h3, by rw [h1, h2, Rat.le_iff_lt_or_eq],
    by rw [h3, h2, ge_iff_le, Rat.le_iff_lt_or_eq, eq_comm], not_congr h2⟩

example : (⟨.cal 2000 1 1, 25/2, none, none, ⟨0, 0⟩⟩ : TPQ).Valid .greg ∧
    (⟨.ord 2000 1, 13, some (61/2), none, ⟨1, 0⟩⟩ : TPQ).Valid .greg ∧
    (⟨.week 1999 52 6, 12, some 30, some 0, ⟨0, 0⟩⟩ : TPQ).Valid .greg := by decide +kernel
-- 12.5h (decimal hours, Z)  vs  13:30.5 (decimal minutes, +01:00) = 12:30:30Z
example : cmpQ .greg ⟨.cal 2000 1 1, 25/2, none, none, ⟨0, 0⟩⟩ ⟨.ord 2000 1, 13, some (61/2), none, ⟨1, 0⟩⟩ =
    some (-1) := by decide +kernel
example : cmpQ .greg ⟨.ord 2000 1, 13, some (61/2), none, ⟨1, 0⟩⟩ ⟨.cal 2000 1 1, 25/2, none, none, ⟨0, 0⟩⟩ =
    some 1 := by decide +kernel
-- 12.5h == 12:30:00 (week date, full precision), both operand orders
example : cmpQ .greg ⟨.cal 2000 1 1, 25/2, none, none, ⟨0, 0⟩⟩ ⟨.week 1999 52 6, 12, some 30, some 0, ⟨0, 0⟩⟩ =
    some 0 := by decide +kernel
example : cmpQ .greg ⟨.week 1999 52 6, 12, some 30, some 0, ⟨0, 0⟩⟩ ⟨.cal 2000 1 1, 25/2, none, none, ⟨0, 0⟩⟩ =
    some 0 := by decide +kernel
-- 24:00 in decimal-hour form == next day 00:00:00 in another offset
example : cmpQ .greg ⟨.cal 2000 12 31, 24, none, none, ⟨0, 0⟩⟩ ⟨.cal 2001 1 1, 1, some 0, some 0, ⟨1, 0⟩⟩ =
    some 0 := by decide +kernel
-- a difference of 1/1000 s is seen
example : cmpQ .greg ⟨.cal 2000 1 1, 0, some 0, some (1/1000), ⟨0, 0⟩⟩ ⟨.cal 2000 1 1, 0, none, none, ⟨0, 0⟩⟩ =
    some 1 := by decide +kernel
-- the one shape on which `get_hour_minute_second` cannot be used (second slot without minute slot)
-- is no obstacle to `_cmp`, which goes through `get_second_of_day`
example : cmpQ .greg ⟨.cal 2000 1 1, 12, none, some 5, ⟨0, 0⟩⟩ ⟨.cal 2000 1 1, 12, some 0, some 0, ⟨0, 0⟩⟩ =
    some 1 := by decide +kernel

/-- Exactly one of `a < b`, `a == b`, `a > b`. -/
theorem C02_trichotomy_rat (m : Mode) (a b : TPQ) (ha : a.Valid m) (hb : b.Valid m) :
    (ltQ m a b ∧ ¬ eqQ m a b ∧ ¬ gtQ m a b) ∨ (¬ ltQ m a b ∧ eqQ m a b ∧ ¬ gtQ m a b) ∨
    (¬ ltQ m a b ∧ ¬ eqQ m a b ∧ gtQ m a b) := by
  obtain ⟨h1, h2, h3, _⟩ := C02_operators_rat m a b ha hb
  rw [h1, h2, h3]; grind

example : ltQ .greg ⟨.cal 2000 1 1, 25/2, none, none, ⟨0, 0⟩⟩ ⟨.ord 2000 1, 13, some (61/2), none, ⟨1, 0⟩⟩ := by
  unfold ltQ; decide +kernel

/-- `==` and `!=` are symmetric and `<` mirrors `>`, across precision forms. -/
theorem C02_eq_symm_rat (m : Mode) (a b : TPQ) (ha : a.Valid m) (hb : b.Valid m) :
    (eqQ m a b ↔ eqQ m b a) ∧ (neQ m a b ↔ neQ m b a) ∧ (ltQ m a b ↔ gtQ m b a) := by
  obtain ⟨h1, h2, h3, _, _, h6⟩ := C02_operators_rat m a b ha hb
  obtain ⟨g1, g2, g3, _, _, g6⟩ := C02_operators_rat m b a hb ha
  rw [h1, h2, h6, g2, g3, g6]; grind

example : eqQ .greg ⟨.cal 2000 1 1, 25/2, none, none, ⟨0, 0⟩⟩ ⟨.week 1999 52 6, 12, some 30, some 0, ⟨0, 0⟩⟩ ∧
    eqQ .greg ⟨.week 1999 52 6, 12, some 30, some 0, ⟨0, 0⟩⟩ ⟨.cal 2000 1 1, 25/2, none, none, ⟨0, 0⟩⟩ := by
  unfold eqQ; decide +kernel

/-- `<=`, `<`, `==` are transitive, across precision forms. -/
theorem C02_trans_rat (m : Mode) (a b c : TPQ) (ha : a.Valid m) (hb : b.Valid m) (hc : c.Valid m) :
    (leQ m a b → leQ m b c → leQ m a c) ∧ (ltQ m a b → ltQ m b c → ltQ m a c) ∧
    (eqQ m a b → eqQ m b c → eqQ m a c) := by
  have h1 := C02_operators_rat m a b ha hb
  have h2 := C02_operators_rat m b c hb hc
  have h3 := C02_operators_rat m a c ha hc
  rw [h1.2.2.2.1, h2.2.2.2.1, h3.2.2.2.1, h1.1, h2.1, h3.1, h1.2.1, h2.2.1, h3.2.1]; grind

example : leQ .greg ⟨.week 1999 52 6, 12, some 30, some 0, ⟨0, 0⟩⟩ ⟨.cal 2000 1 1, 25/2, none, none, ⟨0, 0⟩⟩ ∧
    leQ .greg ⟨.cal 2000 1 1, 25/2, none, none, ⟨0, 0⟩⟩ ⟨.ord 2000 1, 13, some (61/2), none, ⟨1, 0⟩⟩ := by
  unfold leQ ltQ eqQ; decide +kernel

/-! ## C02: hashing -/

/-- The hashed tuple: a real calendar date, whole hour in 0..23, whole minute in 0..59, second in
    `[0, 60)`, together denoting the point's instant in UTC. -/
theorem C02_hash_key_rat (m : Mode) (p : TPQ) (hv : p.Valid m) :
    ∃ (y mo d H M : Int) (S : Rat),
      hashKeyQ m p = some [(y : Rat), (mo : Rat), (d : Rat), (H : Rat), (M : Rat), S] ∧
      Spec.ValidCal m y mo d ∧ (0 ≤ H ∧ H ≤ 23) ∧ (0 ≤ M ∧ M ≤ 59 ∧ 0 ≤ S ∧ S < 60) ∧
      86400 * ((Spec.dayNumCal m y mo d : Int) : Rat) + (3600 * (H : Rat) + 60 * (M : Rat) + S) = p.inst m := by
  obtain ⟨u, e1, i1, t1, v1, _⟩ := toTimeZoneQ_spec m p ⟨0, 0⟩ hv utc_valid
  obtain ⟨u2, e2, g2⟩ := normalise24Q_spec m u v1
  obtain ⟨H, M, S, e4, h0, h1, m0, m1, s0, s1, hs⟩ := hmsQ_spec m u2 ⟨g2.valid, g2.lt24⟩
  obtain ⟨y, mo, d, e3, v3, n3⟩ := convert_to_cal m u2.date g2.valid.1
  refine ⟨y, mo, d, H, M, S, ?_, v3, ⟨h0, h1⟩, ⟨m0, m1, s0, s1⟩, ?_⟩
  · unfold hashKeyQ toUtcQ
    simp only [e1, Option.bind_eq_bind, Option.bind_some, e2, e3, e4]
  · have hi := g2.inst
    have ht : u2.tz = ⟨0, 0⟩ := by rw [g2.tz, t1]
    have c0 : (((⟨0, 0⟩ : TZ).seconds : Int) : Rat) = 0 := rfl
    rw [n3, hs, ← i1]
    simp only [TPQ.inst, ht, c0] at hi ⊢
    grind

-- 12.1h vs 12:06:00: equal tuples in exact arithmetic (the float code yields (12.0, 5.0, 59.99999999999872))
example : (⟨.cal 2000 1 1, 121/10, none, none, ⟨0, 0⟩⟩ : TPQ).Valid .greg ∧
    hashKeyQ .greg ⟨.cal 2000 1 1, 121/10, none, none, ⟨0, 0⟩⟩ = some [2000, 1, 1, 12, 6, 0] ∧
    hashKeyQ .greg ⟨.cal 2000 1 1, 12, some 6, some 0, ⟨0, 0⟩⟩ = some [2000, 1, 1, 12, 6, 0] := by
  decide +kernel
example : hashKeyQ .d360 ⟨.ord 2000 360, 23, some (119/2), none, ⟨-1, 0⟩⟩ = some [2001, 1, 1, 0, 59, 30] := by
  decide +kernel

/-- **C02 (hash) over rationals**: legal points denoting the same instant have the same hash
    tuple, and `__hash__` does not raise — also when the two are in DIFFERENT precision forms
    (decimal hours vs. hour:minute:second, …), offsets and representations.  (Python hashes the
    tuple; numerically equal `int`/`float` entries hash equally — CPython, trusted.) -/
theorem C02_hash_rat (m : Mode) (a b : TPQ) (ha : a.Valid m) (hb : b.Valid m)
    (h : a.inst m = b.inst m) : hashKeyQ m a = hashKeyQ m b ∧ (hashKeyQ m a).isSome := by
  obtain ⟨y1, mo1, d1, H1, M1, S1, e1, v1, hb1, mb1, i1⟩ := C02_hash_key_rat m a ha
  obtain ⟨y2, mo2, d2, H2, M2, S2, e2, v2, hb2, mb2, i2⟩ := C02_hash_key_rat m b hb
  -- the instant determines day number and second of day, these the date and hour, minute, second
  obtain ⟨hd, hs⟩ := radix_eq 86400 _ _ _ _ (hms_sod H1 M1 S1 hb1 mb1) (hms_sod H2 M2 S2 hb2 mb2)
    (by rw [i1, i2, h])
  obtain ⟨ey, emo, ed⟩ := cal_unique m _ _ _ _ _ _ v1 v2 hd
  obtain ⟨eh, em, es⟩ := hmsQ_unique H1 M1 H2 M2 S1 S2 mb1 mb2 hs
  rw [e1, e2, ey, emo, ed, eh, em, es]
  exact ⟨rfl, rfl⟩

-- 12.5h (decimal hours) and 12:30:00 (week date, full precision): one instant, one hash tuple
example : TPQ.inst .greg ⟨.cal 2000 1 1, 25/2, none, none, ⟨0, 0⟩⟩ =
      TPQ.inst .greg ⟨.week 1999 52 6, 12, some 30, some 0, ⟨0, 0⟩⟩ ∧
    hashKeyQ .greg ⟨.cal 2000 1 1, 25/2, none, none, ⟨0, 0⟩⟩ = some [2000, 1, 1, 12, 30, 0] ∧
    hashKeyQ .greg ⟨.week 1999 52 6, 12, some 30, some 0, ⟨0, 0⟩⟩ = some [2000, 1, 1, 12, 30, 0] := by
  decide +kernel

/-- Points that compare equal hash equally. -/
theorem C02_hash_of_eq_rat (m : Mode) (a b : TPQ) (ha : a.Valid m) (hb : b.Valid m) (h : eqQ m a b) :
    hashKeyQ m a = hashKeyQ m b ∧ (hashKeyQ m a).isSome :=
  C02_hash_rat m a b ha hb (((C02_operators_rat m a b ha hb).2.1).mp h)

-- decimal minutes at 24:00 vs decimal hours in +01:00
example : eqQ .greg ⟨.cal 2000 12 31, 24, some 0, none, ⟨0, 0⟩⟩ ⟨.week 2001 1 1, 1, none, none, ⟨1, 0⟩⟩ ∧
    hashKeyQ .greg ⟨.cal 2000 12 31, 24, some 0, none, ⟨0, 0⟩⟩ =
      hashKeyQ .greg ⟨.week 2001 1 1, 1, none, none, ⟨1, 0⟩⟩ := by
  unfold eqQ; decide +kernel

/-! ## C04: point difference -/

/-- **C04 over rationals**: `a - b` never raises on legal operands; the result `Duration` has
    days, hours, minutes and seconds only (`DurQ`: all four always set — `__sub__` goes through
    `get_hour_minute_second`, so `None` slots of the operands do not reach the result), its length
    is exactly the signed distance between the instants, hours and minutes are whole numbers,
    `|h| < 24`, `|m| < 60`, `|s| < 60`, and all four carry one sign — for any two legal points in any
    representations, offsets and precision forms, any distance. -/
theorem C04_sub_rat (m : Mode) (a b : TPQ) (ha : a.Valid m) (hb : b.Valid m) :
    ∃ d : DurQ, subTPQ m a b = some d ∧ d.seconds = a.inst m - b.inst m ∧
      (-24 < d.h ∧ d.h < 24 ∧ -60 < d.mi ∧ d.mi < 60 ∧ -60 < d.s ∧ d.s < 60) ∧
      ((0 ≤ d.days ∧ 0 ≤ d.h ∧ 0 ≤ d.mi ∧ 0 ≤ d.s) ∨ (d.days ≤ 0 ∧ d.h ≤ 0 ∧ d.mi ≤ 0 ∧ d.s ≤ 0)) ∧
      IsInt d.h ∧ IsInt d.mi := by
  obtain ⟨dd, hI, mI, s, e, hl, ⟨r1, r2, r3, r4, r5, r6⟩, hs⟩ := subTPQ_spec m a b ha hb
  refine ⟨_, e, hl, ⟨Rat.intCast_lt_intCast.2 r1, Rat.intCast_lt_intCast.2 r2, Rat.intCast_lt_intCast.2 r3,
    Rat.intCast_lt_intCast.2 r4, r5, r6⟩, ?_, isInt_intCast _, isInt_intCast _⟩
  simp only [Rat.intCast_nonneg, Rat.intCast_nonpos]
  exact hs

example : (⟨.cal 2000 1 1, 25/2, none, none, ⟨0, 0⟩⟩ : TPQ).Valid .greg ∧
    (⟨.week 1999 52 5, 23, some (119/2), none, ⟨-1, 0⟩⟩ : TPQ).Valid .greg := by decide +kernel
-- decimal hours minus decimal minutes: all four slots of the result are set
example : subTPQ .greg ⟨.cal 2000 1 1, 25/2, none, none, ⟨0, 0⟩⟩ ⟨.week 1999 52 5, 23, some (119/2), none, ⟨-1, 0⟩⟩ =
    some ⟨0, 11, 30, 30⟩ := by decide +kernel
-- swapped: every slot negated
example : subTPQ .greg ⟨.week 1999 52 5, 23, some (119/2), none, ⟨-1, 0⟩⟩ ⟨.cal 2000 1 1, 25/2, none, none, ⟨0, 0⟩⟩ =
    some ⟨0, -11, -30, -30⟩ := by decide +kernel
-- fractional seconds, a borrow through minutes, hours and days, across a leap day
example : subTPQ .greg ⟨.cal 2000 3 1, 0, some 0, some (1/4), ⟨0, 0⟩⟩ ⟨.ord 2000 59, 0, some 0, some (1/2), ⟨0, 0⟩⟩ =
    some ⟨1, 23, 59, 239/4⟩ := by decide +kernel
-- equal instants in different forms: the empty duration
example : subTPQ .greg ⟨.cal 2000 1 1, 121/10, none, none, ⟨0, 0⟩⟩ ⟨.cal 2000 1 1, 12, some 6, some 0, ⟨0, 0⟩⟩ =
    some ⟨0, 0, 0, 0⟩ := by decide +kernel

/-- `b + (a - b)` lands on the instant of `a` (and compares equal to it), in `b`'s representation,
    offset and precision form. -/
theorem C04_add_back_rat (m : Mode) (a b : TPQ) (ha : a.Valid m) (hb : b.Valid m) :
    ∃ d q, subTPQ m a b = some d ∧ addExactQ m b d = some q ∧ q.inst m = a.inst m ∧ q.Valid m ∧
      cmpQ m q a = some 0 := by
  obtain ⟨d, e, hl, _⟩ := C04_sub_rat m a b ha hb
  obtain ⟨q, eq', g⟩ := addExactQ_spec m b d hb
  have hi : q.inst m = a.inst m := by rw [g.inst, hl, Rat.add_comm, Rat.sub_add_cancel]
  refine ⟨d, q, e, eq', hi, g.valid, ?_⟩
  rw [cmpQ_spec m q a g.valid ha, hi, Rat.sub_self]; rfl

example : addExactQ .greg ⟨.week 1999 52 5, 23, some (119/2), none, ⟨-1, 0⟩⟩ ⟨0, 11, 30, 30⟩ =
    some ⟨.week 1999 52 6, 11, some 30, none, ⟨-1, 0⟩⟩ ∧
    cmpQ .greg ⟨.week 1999 52 6, 11, some 30, none, ⟨-1, 0⟩⟩ ⟨.cal 2000 1 1, 25/2, none, none, ⟨0, 0⟩⟩ = some 0 := by
  decide +kernel

/-- The sign of `a - b` agrees with the comparison. -/
theorem C02_sub_sign_rat (m : Mode) (a b : TPQ) (ha : a.Valid m) (hb : b.Valid m) :
    ∃ d, subTPQ m a b = some d ∧ cmpQ m a b = some (sgnQ d.seconds) := by
  obtain ⟨d, e, hl, _⟩ := C04_sub_rat m a b ha hb
  exact ⟨d, e, by rw [cmpQ_spec m a b ha hb, hl]⟩

example : cmpQ .greg ⟨.week 1999 52 5, 23, some (119/2), none, ⟨-1, 0⟩⟩ ⟨.cal 2000 1 1, 25/2, none, none, ⟨0, 0⟩⟩ =
    some (sgnQ (DurQ.seconds ⟨0, -11, -30, -30⟩)) := by decide +kernel

/-- The re-zoned value compares equal to the original (both operand orders), hashes equal, and
    their difference has length zero. -/
theorem C06_equal_hash_diff_rat (m : Mode) (p : TPQ) (z : TZ) (hv : p.Valid m) (hz : z.Valid) :
    ∃ q d, toTimeZoneQ m p z = some q ∧ cmpQ m q p = some 0 ∧ cmpQ m p q = some 0 ∧
      hashKeyQ m q = hashKeyQ m p ∧ (hashKeyQ m p).isSome ∧ subTPQ m q p = some d ∧ d.seconds = 0 := by
  obtain ⟨q, e, hi, _, vq, _⟩ := toTimeZoneQ_spec m p z hv hz
  obtain ⟨d, e', hl, _⟩ := C04_sub_rat m q p vq hv
  have z1 : q.inst m - p.inst m = 0 := by rw [hi, Rat.sub_self]
  have z2 : p.inst m - q.inst m = 0 := by rw [hi, Rat.sub_self]
  refine ⟨q, d, e, ?_, ?_, ?_, ?_, e', by rw [hl, z1]⟩
  · rw [cmpQ_spec m q p vq hv, z1]; rfl
  · rw [cmpQ_spec m p q hv vq, z2]; rfl
  · exact (C02_hash_rat m q p vq hv hi).1
  · exact (C02_hash_rat m p q hv vq hi.symm).2

example : subTPQ .greg ⟨.week 2020 53 3, 1727/120, none, none, ⟨-99, -59⟩⟩ ⟨.week 2021 1 1, 1/8, none, none, ⟨5, 45⟩⟩ =
    some ⟨0, 0, 0, 0⟩ := by decide +kernel

/-- `to_time_zone` on a whole-second point: the integer model's answer. -/
theorem C06_to_time_zone_rat_extends_int (m : Mode) (p : TP) (z : TZ) :
    toTimeZoneQ m (TPQ.ofTP p) z = (toTimeZone m p z).map TPQ.ofTP := toTimeZoneQ_ofTP m p z

example : toTimeZoneQ .greg (TPQ.ofTP ⟨.week 2021 1 1, 0, 10, 0, ⟨5, 45⟩⟩) ⟨-99, -59⟩ =
    some (TPQ.ofTP ⟨.week 2020 53 3, 14, 26, 0, ⟨-99, -59⟩⟩) := by decide +kernel

/-- `_cmp` on whole-second points: the integer model's answer. -/
theorem C02_cmp_rat_extends_int (m : Mode) (a b : TP) :
    cmpQ m (TPQ.ofTP a) (TPQ.ofTP b) = cmp m a b := cmpQ_ofTP m a b

example : cmpQ .greg (TPQ.ofTP ⟨.cal 2000 12 31, 24, 0, 0, ⟨0, 0⟩⟩) (TPQ.ofTP ⟨.cal 2001 1 1, 1, 0, 0, ⟨1, 0⟩⟩) =
    some 0 := by decide +kernel

/-- The hash tuple of a whole-second point: the integer model's, entry by entry. -/
theorem C02_hash_rat_extends_int (m : Mode) (p : TP) :
    hashKeyQ m (TPQ.ofTP p) = (hashKey m p).map (List.map fun (x : Int) => (x : Rat)) := by
  unfold hashKeyQ hashKey toUtcQ toUtc
  simp only [Option.bind_eq_bind, toTimeZoneQ_ofTP, normalise24Q_ofTP, ofTP_map_bind, map_bind_fun]
  refine congrArg _ (funext fun u => congrArg _ (funext fun u2 => ?_))
  simp only [hmsQ_ofTP, Option.bind_some, date_ofTP]
  generalize convert m 0 u2.date = cu
  rcases cu with _ | (⟨y1, mo1, d1⟩ | ⟨y1, n1⟩ | ⟨y1, w1, d1⟩) <;> rfl

example : hashKeyQ .greg (TPQ.ofTP ⟨.cal 2000 12 31, 24, 0, 0, ⟨0, 0⟩⟩) = some [2001, 1, 1, 0, 0, 0] := by
  decide +kernel

/-- `a - b` on whole-second points: the integer model's duration, slot by slot. -/
theorem C04_sub_rat_extends_int (m : Mode) (a b : TP) :
    subTPQ m (TPQ.ofTP a) (TPQ.ofTP b) = (subTP m a b).map durQOf := subTPQ_ofTP m a b

example : subTPQ .greg (TPQ.ofTP ⟨.week 2020 53 7, 0, 0, 0, ⟨5, 30⟩⟩) (TPQ.ofTP ⟨.ord 1999 1, 12, 0, 0, ⟨0, 0⟩⟩) =
    some ⟨8037, 6, 30, 0⟩ := by decide +kernel

end IsoDT.Props.C02
