/-
  C01 — Adding an exact duration translates the instant exactly.

  `Model.addDur` mirrors `TimePoint.__add__` (with `_tick_over`, `_tick_over_day_of_month` and the
  year / week-year loops); `Spec.TP.inst` is the instant a point denotes.  The theorems hold for
  every valid whole-second point (three representations, any offset, 24:00 included, every year
  in `Int`), every exact duration of either sign, and all four calendar modes.
  Fractional slots and operands as exact rationals: `Props/C01q`; float rounding is outside the model
  (DESIGN §10).
-/
import IsoDT.Lemmas.Tick
import IsoDT.Lemmas.Dur

namespace IsoDT.Props.C01
open IsoDT IsoDT.Model IsoDT.Lemmas
open IsoDT.Spec (Date TZ TP)

/-- `_tick_over` from any intermediate state of an addition (a calendar month in 1..12, every
    other field anywhere in `Int`): the instant, representation and offset are kept, and every
    field ends inside its legal range. -/
theorem C01_tick_over (m : Mode) (p : TP) (hp : PreValid p.date) :
    ∃ q, tickOver m p = some q ∧ q.inst m = p.inst m ∧ q.date.Valid m ∧
      0 ≤ q.hh ∧ q.hh < 24 ∧ 0 ≤ q.mi ∧ q.mi < 60 ∧ 0 ≤ q.ss ∧ q.ss < 60 ∧
      q.tz = p.tz ∧ q.date.rep = p.date.rep := tickOver_spec m p hp

/-- The carry loops of `_tick_over` always make progress: every year has a positive number of
    days, every week-year a positive number of weeks (so the real, unguarded loops terminate). -/
theorem C01_loops_progress (m : Mode) (y : Int) :
    0 < daysInYear m y ∧ 0 < weeksInYear m y ∧ 0 < (calOf m).monthsInYear :=
  ⟨daysInYear_pos m y, weeksInYear_pos m y, by rw [monthsInYear_eq]; omega⟩

/-- Week form and day form of the same length add identically (`PnW` is `P(7n)D`). -/
theorem C01_weeks_are_days (m : Mode) (p : TP) (w : Int) :
    addDur m p (.weeks w) = addDur m p (.units 0 0 (w * 7) 0 0 0) := by
  simp only [addDur, Dur.toDays, daysInWeek_eq]

/-- **C01**: `p + d` for an exact `d` denotes the instant of `p` shifted by exactly the length of
    `d`; it is a valid point with `0 ≤ h < 24`, in `p`'s representation and UTC offset. -/
theorem C01_add_exact (m : Mode) (p : TP) (dur : Dur) (hv : p.Valid m) (hex : dur.isExact = true) :
    ∃ q, addDur m p dur = some q ∧ q.inst m = p.inst m + dur.exactSeconds m ∧ q.Strict m ∧
      q.date.rep = p.date.rep ∧ q.tz = p.tz := by
  obtain ⟨q, he, g⟩ := addDur_exact m p dur hv hex
  exact ⟨q, he, g.inst, g.strict, g.rep, g.tz⟩

/-- `p - d` is `p + (-d)`: `__sub__` is defined so. -/
theorem C01_sub_is_add_neg (m : Mode) (p : TP) (dur : Dur) : subDur m p dur = addDur m p dur.neg := rfl

/-- `p - d` for an exact `d` shifts the instant by exactly minus the length of `d`. -/
theorem C01_sub_exact (m : Mode) (p : TP) (dur : Dur) (hv : p.Valid m) (hex : dur.isExact = true) :
    ∃ q, subDur m p dur = some q ∧ q.inst m = p.inst m - dur.exactSeconds m ∧ q.Strict m ∧
      q.date.rep = p.date.rep ∧ q.tz = p.tz := by
  obtain ⟨q, he, g⟩ := subDur_exact m p dur hv hex
  exact ⟨q, he, g.inst.trans (Int.sub_eq_add_neg ..).symm, g.strict, g.rep, g.tz⟩

/-! ## Non-vacuity, and the regression witnesses of the defects repaired in /repo: F1 (the carry out
    of ordinal day 366, first two examples) and F2 (24:00, third) -/

example : (⟨.ord 2004 366, 0, 0, 0, ⟨0, 0⟩⟩ : TP).Valid .greg := by decide
example : addDur .greg ⟨.ord 2004 366, 0, 0, 0, ⟨0, 0⟩⟩ (.units 0 0 1 0 0 0) =
    some ⟨.ord 2005 1, 0, 0, 0, ⟨0, 0⟩⟩ := by decide +kernel
example : addDur .greg ⟨.cal 2000 12 31, 24, 0, 0, ⟨0, 0⟩⟩ (.units 0 0 0 0 0 0) =
    some ⟨.cal 2001 1 1, 0, 0, 0, ⟨0, 0⟩⟩ := by decide +kernel
example : addDur .greg ⟨.week 2020 53 7, 23, 59, 59, ⟨0, -30⟩⟩ (.units 0 0 0 0 0 1) =
    some ⟨.week 2021 1 1, 0, 0, 0, ⟨0, -30⟩⟩ := by decide +kernel
example : addDur .d360 ⟨.cal 0 1 1, 0, 0, 0, ⟨0, 0⟩⟩ (.units 0 0 (-1) 0 0 0) =
    some ⟨.cal (-1) 12 30, 0, 0, 0, ⟨0, 0⟩⟩ := by decide +kernel

end IsoDT.Props.C01
