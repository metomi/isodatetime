/-
  C15 (algorithms) — "Year length, month lengths and leap behaviour are exactly those of the mode -
  twelve 30-day months; 365 days always; 366 days always; the Gregorian 4/100/400 rule."

  `Props/C15` proves the history half of the property (no result depends on an earlier mode) and
  that the regenerated calendar RECORDS are the four tables of the text.  This file states the
  second sentence of the property about the regenerated FUNCTIONS (`Gen.Algo.*`, re-translated from
  the AST of `data.py` on every run by `harness/gen_algo.py`): what `get_is_leap_year`,
  `get_days_in_year` and `get_days_in_month` compute, for every integer year (year 0 and negative
  years included), is the readable definition of `IsoDT/Spec` - so an edit of one of these
  functions that changes a month or year length for any year breaks a theorem here (e.g. a
  truthiness test `year and ...` that reads year 0 as "no year": the translator refuses it; had it
  been written `year != 0 and ...` the proof of `C15_algo_month_lengths` would not close).
-/
import IsoDT.Props.C03algo
import IsoDT.Lemmas.Calendar

namespace IsoDT.Props.C15algo
open IsoDT IsoDT.Model IsoDT.Lemmas

/-- The Gregorian 4/100/400 rule, for every integer year, whatever the mode in force. -/
theorem C15_algo_leap_rule (m : Mode) (y : Int) :
    Gen.Algo.get_is_leap_year m y = ((y % 4 == 0 && !(y % 100 == 0)) || y % 400 == 0) := by
  rw [C03algo.C03_algo_get_is_leap_year, isLeapYear_eq]; rfl

/-- Year length: 360 / 365 / 366 always in the fixed calendars, 365 or 366 by the rule in the Gregorian. -/
theorem C15_algo_year_lengths (y : Int) :
    Gen.Algo.get_days_in_year .d360 y = 360 ∧
    Gen.Algo.get_days_in_year .d365 y = 365 ∧
    Gen.Algo.get_days_in_year .d366 y = 366 ∧
    Gen.Algo.get_days_in_year .greg y = (if Spec.isLeapG y then 366 else 365) := by
  simp only [C03algo.C03_algo_get_days_in_year, daysInYear_eq]
  exact ⟨rfl, rfl, rfl, yearLen_greg y⟩

/-- Month lengths: for every month 1..12 and EVERY integer year the function returns the entry of the
    mode's table - the leap table exactly in the years the mode calls leap. -/
theorem C15_algo_month_lengths (m : Mode) (mo y : Int) (h1 : 1 ≤ mo) (h2 : mo ≤ 12) :
    Gen.Algo.get_days_in_month m mo (.int y) = some (Spec.monthLen m y mo) := by
  rw [C03algo.C03_algo_get_days_in_month m mo y h1 h2, daysInMonth_eq m y mo h1 h2]

/-- Spelled out: twelve 30-day months; February has 28 days always / 29 days always; the Gregorian
    February follows the rule - in particular in year 0 and in negative years. -/
theorem C15_algo_february (y : Int) :
    Gen.Algo.get_days_in_month .d360 2 (.int y) = some 30 ∧
    Gen.Algo.get_days_in_month .d365 2 (.int y) = some 28 ∧
    Gen.Algo.get_days_in_month .d366 2 (.int y) = some 29 ∧
    Gen.Algo.get_days_in_month .greg 2 (.int y) = some (if Spec.isLeapG y then 29 else 28) := by
  simp only [C15_algo_month_lengths _ 2 y (by decide) (by decide)]
  refine ⟨rfl, rfl, rfl, ?_⟩
  have hl : Spec.leap .greg y = Spec.isLeapG y := rfl
  unfold Spec.monthLen
  rw [hl]
  cases Spec.isLeapG y <;> decide

theorem C15_algo_thirty_day_months (mo y : Int) (h1 : 1 ≤ mo) (h2 : mo ≤ 12) :
    Gen.Algo.get_days_in_month .d360 mo (.int y) = some 30 := by
  rw [C15_algo_month_lengths _ mo y h1 h2]
  exact congrArg some ((by decide : ∀ x ∈ Spec.t360, x = 30) _ (monthLenB_mem .d360 false mo h1 h2))

/-- The fixed calendars never depend on the year. -/
theorem C15_algo_fixed_calendars (m : Mode) (hm : m ≠ .greg) (mo y y' : Int) (h1 : 1 ≤ mo) (h2 : mo ≤ 12) :
    Gen.Algo.get_days_in_month m mo (.int y) = Gen.Algo.get_days_in_month m mo (.int y') ∧
    Gen.Algo.get_days_in_year m y = Gen.Algo.get_days_in_year m y' := by
  rw [C15_algo_month_lengths _ _ _ h1 h2, C15_algo_month_lengths _ _ _ h1 h2,
      C03algo.C03_algo_get_days_in_year, C03algo.C03_algo_get_days_in_year, daysInYear_eq, daysInYear_eq]
  cases m <;> simp_all [Spec.monthLen, Spec.yearLen, Spec.leap]

/-- Witnesses at the years a truthiness or sign slip would hit. -/
theorem C15_algo_year_zero :
    Gen.Algo.get_days_in_month .greg 2 (.int 0) = some 29 ∧
    Gen.Algo.get_days_in_month .greg 2 (.int (-4)) = some 29 ∧
    Gen.Algo.get_days_in_month .greg 2 (.int (-100)) = some 28 ∧
    Gen.Algo.get_days_in_month .greg 2 (.int (-400)) = some 29 ∧
    Gen.Algo.get_days_in_year .greg 0 = 366 ∧
    Gen.Algo.get_is_leap_year .d360 0 = true := by decide

example : Spec.isLeapG 0 = true ∧ Spec.isLeapG 1900 = false ∧ Spec.isLeapG 2000 = true := by decide

end IsoDT.Props.C15algo
