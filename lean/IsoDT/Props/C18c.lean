/-
  C18 / C17 (the strptime glue) — from the groups a `strptime` match captured to the `TimePoint`,
  THROUGH the parser's zone processing.

  Model: `Model/StrptimeZone.lean` — `_parse_from_custom_regex` after the match, dictionary by
  dictionary: the `%s` translator (`get_timepoint_properties_from_seconds_since_unix_epoch`), the
  date / time / ELSE partition, `process_time_zone_info` (`assumed_time_zone`,
  `default_to_unknown_time_zone`, `timezone.get_local_time_zone()`), `_create_timepoint_from_info`,
  the constructor (`Model.mkTP`).  `strpZone m cfg loc mt` is
  `TimePointParser(assumed_time_zone=cfg.assumed, default_to_unknown_time_zone=cfg.defaultUnknown)
   .strptime(text, fmt)` for a text matching `fmt` with captured values `mt`, in a process whose local
  zone is `loc`.  Lemmas: `Lemmas/StrptimeZone.lean`.

  * `C18_strptime_unix_instant`        `%s`: for EVERY n, mode, legal local zone and parser
                                        configuration the result is the instant epoch + n, in the
                                        LOCAL zone: `assumed_time_zone` is never applied to a Unix
                                        time (nor is the unknown-zone default); it is THE strict
                                        calendar-date point of the local zone at that instant
                                        (`Lemmas.StrpZone.strpZone_unix_eq`);
  * `C18_strptime_unix_any_fields`     … and whatever else the format captures beside `%s` (date and
                                        time fields) is overridden by it;
  * `C18_strptime_unix_zero_fields`    the same spelled out for results whose year, hour, minute,
                                        second and local offset are all ZERO (nothing in the glue looks
                                        at the truthiness of a value), with `decide` witnesses;
  * `C18_strptime_unix_with_zone`      `%s` beside `%z`: the captured offset is overwritten by the
                                        local one, the captured SIGN survives and negates it — the
                                        result is 2 × (local offset) away from epoch + n
                                        (`C18_strptime_unix_with_zone_counterexample`; the text-level
                                        witness is `C17_unix_with_zone_counterexample`);
  * `C17_strptime_zone_default`        field formats: without zone groups the constructor gets the
                                        assumed zone if one is configured, else NO zone keyword if
                                        `default_to_unknown_time_zone`, else the local zone; with
                                        `%z` exactly the captured zone, whatever the configuration;
                                        the other keywords are exactly the captured numbers;
  * `C17_strptime_zone_round_trip`     hence the fields + zone of any valid calendar / ordinal point
                                        come back as that very point under every configuration, and
                                        the fields without the zone come back in the default zone;
  * `C17_strptime_is_glue`             the text-level model `Strf.strptime` (of `C17_strptime`,
                                        `C17_defaults`, …) answers what this glue model answers on the
                                        numbers the captured groups spell;
  * `C17_strptime_round_trip_through_glue`  so the strftime → strptime round trip of `C17_strptime`
                                        holds with the parsing half run through the glue;
  * `C17_strptime_unknown_zone_is_utc` `default_to_unknown_time_zone` on a complete date-time gives
                                        the KNOWN zone (0, 0), not an unknown one.

  Outside these statements (model only, checked by the `strpzone` correspondence): the `Z` group
  (`time_zone_utc`; no strptime directive captures it), Unix-time texts with a fraction, `float()`
  rounding of counts beyond 2^53.
-/
import IsoDT.Lemmas.StrptimeZone
import IsoDT.Props.C17

namespace IsoDT.Props.C18
open IsoDT IsoDT.Model IsoDT.Model.StrpZone IsoDT.Lemmas IsoDT.Lemmas.StrpZone
open IsoDT.Spec (Date TZ TP)
open IsoDT.Model.Strf (PCfg)

/-- **C18 (`%s` beside any date / time fields)**: for every Unix time `n`, mode, legal local zone
    `loc`, EVERY parser configuration `cfg` (any `assumed_time_zone`, either value of
    `default_to_unknown_time_zone`) and whatever other date and time groups the format captures
    (`%Y %m %d %j %H %M %S`, any subset, any values), the point built is
    `get_timepoint_from_seconds_since_unix_epoch(n)`: the instant 1970-01-01T00:00:00Z + n seconds,
    a legal calendar-date point, carrying the LOCAL zone, with a known zone. -/
theorem C18_strptime_unix_any_fields (m : Mode) (n : Int) (loc : TZ) (hloc : loc.Valid) (cfg : PCfg)
    (year month dom doy hh mi ss : Option Int) :
    ∃ q, strpZone m cfg loc ⟨year, month, dom, doy, hh, mi, ss, none, false, some n⟩ = .ok q false ∧
      fromUnix m n (some loc) = some q ∧ q.inst m = unixEpoch.inst m + n ∧ q.tz = loc ∧ q.Strict m ∧
      q.date.rep = 0 := by
  obtain ⟨q, e, hi, hs, ht, hr, hall⟩ := strpZone_unix_point m cfg loc hloc n
  refine ⟨q, ?_, e, hi, ht, hs, hr⟩
  rw [hall]
  rfl

/-- **C18 (`strptime(str(n), "%s")`)**: the assumed zone is never applied to a Unix time. -/
theorem C18_strptime_unix_instant (m : Mode) (n : Int) (loc : TZ) (hloc : loc.Valid) (cfg : PCfg) :
    ∃ q, strpZone m cfg loc { unix := some n } = .ok q false ∧
      fromUnix m n (some loc) = some q ∧ q.inst m = unixEpoch.inst m + n ∧ q.tz = loc ∧ q.Strict m ∧
      q.date.rep = 0 :=
  C18_strptime_unix_any_fields m n loc hloc cfg none none none none none none none

/-- Non-vacuity: pre-1970, a negative half-hour local zone, an assumed zone that is NOT applied;
    and a format that also captures a (contradicting) date and time. -/
example : strpZone .greg ⟨some ⟨5, 30⟩, false⟩ ⟨-3, -30⟩ { unix := some (-3600) } =
      .ok ⟨.cal 1969 12 31, 19, 30, 0, ⟨-3, -30⟩⟩ false ∧
    strpZone .d360 ⟨some ⟨5, 30⟩, true⟩ ⟨0, 45⟩
        { year := some 2000, month := some 2, dom := some 30, hh := some 24, unix := some 86399 } =
      .ok ⟨.cal 1970 1 2, 0, 44, 59, ⟨0, 45⟩⟩ false := by decide +kernel

/-- **C18 (zero fields)**: when the local-zone point of the Unix time has year 0, month `mo`, day `d`
    at 00:00:00 — and also when the local zone itself is (0, 0) — `strptime(…, "%s")` returns exactly
    that point under every configuration: the zeros are kept (no keyword is dropped or replaced because
    its value is falsy), the zone is the local one and known. -/
theorem C18_strptime_unix_zero_fields (m : Mode) (n : Int) (loc : TZ) (hloc : loc.Valid) (cfg : PCfg)
    (mo d : Int) (hq : fromUnix m n (some loc) = some ⟨.cal 0 mo d, 0, 0, 0, loc⟩) :
    strpZone m cfg loc { unix := some n } = .ok ⟨.cal 0 mo d, 0, 0, 0, loc⟩ false ∧
    TP.inst m ⟨.cal 0 mo d, 0, 0, 0, loc⟩ = unixEpoch.inst m + n := by
  obtain ⟨q, e, hq', hi, _⟩ := C18_strptime_unix_instant m n loc hloc cfg
  rw [hq] at hq'
  cases hq'
  exact ⟨e, hi⟩

/-- Witnesses for the hypothesis (Gregorian year 0 is n ∈ −62167219200 … −62135596801): midnight of
    0000-01-01 under local zone (0, 0) — every field zero — with the assumed zones (5, 30), (0, 0),
    (−3, −30), none, and the unknown flag; and the same instant seen from +05:30. -/
example : fromUnix .greg (-62167219200) (some ⟨0, 0⟩) = some ⟨.cal 0 1 1, 0, 0, 0, ⟨0, 0⟩⟩ ∧
    strpZone .greg ⟨some ⟨5, 30⟩, false⟩ ⟨0, 0⟩ { unix := some (-62167219200) } =
      .ok ⟨.cal 0 1 1, 0, 0, 0, ⟨0, 0⟩⟩ false ∧
    strpZone .greg ⟨some ⟨0, 0⟩, false⟩ ⟨0, 0⟩ { unix := some (-62167219200) } =
      .ok ⟨.cal 0 1 1, 0, 0, 0, ⟨0, 0⟩⟩ false ∧
    strpZone .greg ⟨some ⟨-3, -30⟩, true⟩ ⟨0, 0⟩ { unix := some (-62167219200) } =
      .ok ⟨.cal 0 1 1, 0, 0, 0, ⟨0, 0⟩⟩ false ∧
    strpZone .greg ⟨none, true⟩ ⟨0, 0⟩ { unix := some (-62167219200) } =
      .ok ⟨.cal 0 1 1, 0, 0, 0, ⟨0, 0⟩⟩ false ∧
    strpZone .greg ⟨some ⟨0, 0⟩, false⟩ ⟨5, 30⟩ { unix := some (-62167219200) } =
      .ok ⟨.cal 0 1 1, 5, 30, 0, ⟨5, 30⟩⟩ false := by
  have h0 := fun cfg => strpZone_unix_eq .greg (-62167219200) ⟨0, 0⟩ (by decide) cfg
    ⟨.cal 0 1 1, 0, 0, 0, ⟨0, 0⟩⟩ (by decide) rfl rfl (by decide)
  have h1 := fun cfg => strpZone_unix_eq .greg (-62167219200) ⟨5, 30⟩ (by decide) cfg
    ⟨.cal 0 1 1, 5, 30, 0, ⟨5, 30⟩⟩ (by decide) rfl rfl (by decide)
  exact ⟨(h0 ⟨none, false⟩).1, (h0 _).2, (h0 _).2, (h0 _).2, (h0 _).2, (h1 _).2⟩

example : strpZone .greg ⟨some ⟨5, 30⟩, false⟩ ⟨0, 0⟩ { unix := some (-62150000000) } =
      .ok ⟨.cal 0 7 18, 7, 6, 40, ⟨0, 0⟩⟩ false ∧
    strpZone .greg ⟨some ⟨5, 30⟩, false⟩ ⟨0, 0⟩ { unix := some 0 } =
      .ok ⟨.cal 1970 1 1, 0, 0, 0, ⟨0, 0⟩⟩ false ∧
    strpZone .d360 ⟨some ⟨5, 30⟩, false⟩ ⟨0, 0⟩ { unix := some (-61274880000) } =
      .ok ⟨.cal 0 1 1, 0, 0, 0, ⟨0, 0⟩⟩ false :=
  ⟨(strpZone_unix_eq .greg _ ⟨0, 0⟩ (by decide) _ _ (by decide) rfl rfl (by decide)).2,
   (strpZone_unix_eq .greg _ ⟨0, 0⟩ (by decide) _ _ (by decide) rfl rfl (by decide)).2,
   (strpZone_unix_eq .d360 _ ⟨0, 0⟩ (by decide) _ _ (by decide) rfl rfl (by decide)).2⟩

/-- **`%s` beside `%z`**: the offset `%z` captured is overwritten by the local one, but its SIGN is
    still applied.  With a plus sign the result is as without `%z`; with a minus sign it is the
    local-zone clock reading labelled with the NEGATED local offset. -/
theorem C18_strptime_unix_with_zone (m : Mode) (n : Int) (loc : TZ) (hloc : loc.Valid) (cfg : PCfg)
    (year month dom doy hh mi ss : Option Int) (neg : Bool) (zh zm : Int) :
    ∃ q, fromUnix m n (some loc) = some q ∧
      strpZone m cfg loc ⟨year, month, dom, doy, hh, mi, ss, some (neg, zh, zm), false, some n⟩ =
        .ok (if neg then { q with tz := ⟨-loc.h, -loc.mi⟩ } else q) false ∧
      TP.inst m (if neg then { q with tz := ⟨-loc.h, -loc.mi⟩ } else q) =
        unixEpoch.inst m + n + (if neg then 2 * loc.seconds else 0) := by
  obtain ⟨q, e, hi, hs, ht, hr, hall⟩ := strpZone_unix_point m cfg loc hloc n
  refine ⟨q, e, ?_, ?_⟩
  · rw [hall]
    cases neg <;> rfl
  · cases neg
    · simp [hi]
    · simp only [↓reduceIte]
      unfold TP.inst at hi ⊢
      simp only [TZ.seconds, TP.secOfDay] at hi ⊢
      rw [ht] at hi
      omega

/-- So `%s %z` does not denote epoch + n unless the sign is `+` or the local zone is UTC: for n = 0
    read as `"0-0000"` under local zone +05:30 the result is eleven hours off. -/
theorem C18_strptime_unix_with_zone_counterexample :
    strpZone .greg ⟨none, false⟩ ⟨5, 30⟩ { zone := some (true, 0, 0), unix := some 0 } =
      .ok ⟨.cal 1970 1 1, 5, 30, 0, ⟨-5, -30⟩⟩ false ∧
    TP.inst .greg ⟨.cal 1970 1 1, 5, 30, 0, ⟨-5, -30⟩⟩ = unixEpoch.inst .greg + 0 + 39600 := by
  decide +kernel

example : strpZone .greg ⟨none, false⟩ ⟨5, 30⟩ { zone := some (false, 1, 0), unix := some 0 } =
    .ok ⟨.cal 1970 1 1, 5, 30, 0, ⟨5, 30⟩⟩ false := by decide +kernel

end IsoDT.Props.C18

namespace IsoDT.Props.C17
open IsoDT IsoDT.Model IsoDT.Model.StrpZone IsoDT.Lemmas IsoDT.Lemmas.StrpZone
open IsoDT.Spec (Date TZ TP)
open IsoDT.Model.Strf (PCfg)

/-- **C17 (zone default of `strptime`)**: for a field format (no `%s`) capturing any subset of
    `%Y %m %d %j %H %M %S` with any values:

    1. WITHOUT zone groups the `TimePoint` constructor is called with exactly the captured numbers
       (`year = 100·century + year_of_century`, 0 if `%Y` is absent; an absent group is an absent
       keyword, to which the constructor applies its start-of-period defaults) and the zone keywords
       `defaultZoneArgs cfg loc`: the assumed zone if one is configured (even (0, 0)), else none at
       all if `default_to_unknown_time_zone`, else the local zone;
    2. WITH `%z` (sign, hours, minutes) it is called with exactly that zone — both parts negated for a
       minus sign — whatever the configuration and the local zone. -/
theorem C17_strptime_zone_default (m : Mode) (cfg : PCfg) (loc : TZ)
    (year month dom doy hh mi ss : Option Int) :
    strpZone m cfg loc ⟨year, month, dom, doy, hh, mi, ss, none, false, none⟩ =
      resOf (mkTP m ⟨some (year.getD 0), month, none, doy, dom, none, hh, mi, ss,
        (defaultZoneArgs cfg loc).1, (defaultZoneArgs cfg loc).2⟩) ∧
    (∀ a, cfg.assumed = some a → defaultZoneArgs cfg loc = (some a.h, some a.mi)) ∧
    (cfg.assumed = none → cfg.defaultUnknown = true → defaultZoneArgs cfg loc = (none, none)) ∧
    (cfg.assumed = none → cfg.defaultUnknown = false → defaultZoneArgs cfg loc = (some loc.h, some loc.mi)) ∧
    ∀ (neg : Bool) (zh zm : Int),
      strpZone m cfg loc ⟨year, month, dom, doy, hh, mi, ss, some (neg, zh, zm), false, none⟩ =
        resOf (mkTP m ⟨some (year.getD 0), month, none, doy, dom, none, hh, mi, ss,
          some (if neg then -zh else zh), some (if neg then -zm else zm)⟩) := by
  refine ⟨strpZone_fields m cfg loc year month dom doy hh mi ss none, ?_, ?_, ?_, ?_⟩
  · intro a h; simp [defaultZoneArgs, h]
  · intro h1 h2; simp [defaultZoneArgs, h1, h2]
  · intro h1 h2; simp [defaultZoneArgs, h1, h2]
  · intro neg zh zm
    rw [strpZone_fields m cfg loc year month dom doy hh mi ss (some (neg, zh, zm))]
    cases neg <;> rfl

/-- Non-vacuity: year 0000 at midnight with the assumed zone (0, 0) / none + local / unknown flag;
    a `%z` of `-0030` (zero hours, negative minutes) against an assumed zone; a month-only format. -/
example : strpZone .greg ⟨some ⟨0, 0⟩, false⟩ ⟨5, 30⟩
      { year := some 0, month := some 1, dom := some 1, hh := some 0, mi := some 0, ss := some 0 } =
      .ok ⟨.cal 0 1 1, 0, 0, 0, ⟨0, 0⟩⟩ false ∧
    strpZone .greg ⟨none, false⟩ ⟨5, 30⟩
      { year := some 0, month := some 1, dom := some 1, hh := some 0, mi := some 0, ss := some 0 } =
      .ok ⟨.cal 0 1 1, 0, 0, 0, ⟨5, 30⟩⟩ false ∧
    strpZone .greg ⟨none, true⟩ ⟨5, 30⟩
      { year := some 0, month := some 1, dom := some 1, hh := some 0, mi := some 0, ss := some 0 } =
      .ok ⟨.cal 0 1 1, 0, 0, 0, ⟨0, 0⟩⟩ false ∧
    strpZone .greg ⟨some ⟨5, 30⟩, false⟩ ⟨1, 0⟩
      { year := some 2000, doy := some 366, hh := some 24, mi := some 0, ss := some 0,
        zone := some (true, 0, 30) } =
      .ok ⟨.ord 2000 366, 24, 0, 0, ⟨0, -30⟩⟩ false ∧
    strpZone .greg ⟨some ⟨5, 30⟩, false⟩ ⟨0, 0⟩ { month := some 3 } =
      .ok ⟨.cal 0 3 1, 0, 0, 0, ⟨5, 30⟩⟩ false ∧
    strpZone .greg ⟨some ⟨5, -30⟩, false⟩ ⟨0, 0⟩ { month := some 3 } = .err := by decide +kernel

/-- What a format naming year, month + day or day-of-year, hour, minute, second (and `%z` if
    `withZone`) captures from the text `strftime` prints for `p` (`C17_strptime`: the text level). -/
def capturedOf (p : TP) (withZone : Bool) : Matched :=
  let zone : Option (Bool × Int × Int) :=
    if withZone then some (decide (tzSign p.tz < 0), tzHourAbs p.tz, tzMinuteAbs p.tz) else none
  match p.date with
  | .cal y mo d =>
    { year := some y, month := some mo, dom := some d, hh := some p.hh, mi := some p.mi, ss := some p.ss,
      zone := zone }
  | .ord y n => { year := some y, doy := some n, hh := some p.hh, mi := some p.mi, ss := some p.ss, zone := zone }
  | .week y _ _ => { year := some y, zone := zone }

/-- **C17 (the glue inverts the fields)**: for every valid point `p` kept as a calendar or ordinal
    date (what `strftime` prints from), in any mode and offset, 24:00 included:

    * its date, time AND zone fields come back as `p` itself under EVERY parser configuration and
      local zone;
    * its date and time fields alone come back as `p` re-labelled with the default zone: the assumed
      zone `a` if configured (and legal), else (0, 0) — a known zone — under
      `default_to_unknown_time_zone`, else the local zone. -/
theorem C17_strptime_zone_round_trip (m : Mode) (p : TP) (hv : p.Valid m) (hrep : p.date.rep ≠ 2)
    (cfg : PCfg) (loc : TZ) :
    strpZone m cfg loc (capturedOf p true) = .ok p false ∧
    (∀ a, cfg.assumed = some a → a.Valid →
      strpZone m cfg loc (capturedOf p false) = .ok { p with tz := a } false) ∧
    (cfg.assumed = none → cfg.defaultUnknown = true →
      strpZone m cfg loc (capturedOf p false) = .ok { p with tz := ⟨0, 0⟩ } false) ∧
    (cfg.assumed = none → cfg.defaultUnknown = false → loc.Valid →
      strpZone m cfg loc (capturedOf p false) = .ok { p with tz := loc } false) := by
  obtain ⟨date, h, mi, s, tz⟩ := p
  obtain ⟨a, b, c, d', e', f, g, i, hzv⟩ := hv
  -- with zone keywords that spell the legal zone `z` (none at all: the zone (0, 0)) the fields come back
  -- as the point re-labelled with `z`
  have key : ∀ (withZone : Bool) (z : TZ) (za : Option Int × Option Int), z.Valid →
      zoneArgs cfg loc (if withZone then some (decide (tzSign tz < 0), tzHourAbs tz, tzMinuteAbs tz) else none) = za →
      (za = (some z.h, some z.mi) ∨ za = (none, none) ∧ z = ⟨0, 0⟩) →
      strpZone m cfg loc (capturedOf ⟨date, h, mi, s, tz⟩ withZone) = .ok ⟨date, h, mi, s, z⟩ false := by
    intro withZone z za hz hza hcase
    have hc := ConstructTrunc.mkTP_complete m ⟨date, h, mi, s, z⟩ ⟨a, b, c, d', e', f, g, i, hz⟩
    cases date
    case week => simp [Date.rep] at hrep
    all_goals
      simp only [capturedOf, argsOf] at hc ⊢
      rw [strpZone_fields, hza]
      rcases hcase with rfl | ⟨rfl, rfl⟩
      · simp only [Option.getD_some, hc, resOf]
      · simp only [mkTP_no_zone, Option.getD_some, hc, resOf]
  refine ⟨key true tz _ hzv rfl (Or.inl ?_), fun a ha hav => key false a _ hav rfl (Or.inl ?_),
    fun h1 h2 => key false ⟨0, 0⟩ _ (by decide) rfl (Or.inr ⟨?_, rfl⟩),
    fun h1 h2 hl => key false loc _ hl rfl (Or.inl ?_)⟩
  · have hback := Strf.zone_back tz hzv
    by_cases c : tzSign tz < 0
    · rw [if_pos c] at hback
      simp only [↓reduceIte, zoneArgs, c, decide_true, show -tzHourAbs tz = tz.h from congrArg TZ.h hback,
        show -tzMinuteAbs tz = tz.mi from congrArg TZ.mi hback]
    · rw [if_neg c] at hback
      simp only [↓reduceIte, zoneArgs, c, decide_false, Bool.false_eq_true,
        show tzHourAbs tz = tz.h from congrArg TZ.h hback, show tzMinuteAbs tz = tz.mi from congrArg TZ.mi hback]
  · simp [zoneArgs, defaultZoneArgs, ha]
  · simp [zoneArgs, defaultZoneArgs, h1, h2]
  · simp [zoneArgs, defaultZoneArgs, h1, h2]

/-- Non-vacuity: a negative half-hour offset with zero hours at 24:00 on a leap day (ordinal). -/
example : (⟨.ord 2000 366, 24, 0, 0, ⟨0, -30⟩⟩ : TP).Valid .greg ∧
    capturedOf ⟨.ord 2000 366, 24, 0, 0, ⟨0, -30⟩⟩ true =
      { year := some 2000, doy := some 366, hh := some 24, mi := some 0, ss := some 0, zone := some (true, 0, 30) } ∧
    strpZone .greg ⟨some ⟨5, 30⟩, true⟩ ⟨1, 0⟩ (capturedOf ⟨.ord 2000 366, 24, 0, 0, ⟨0, -30⟩⟩ true) =
      .ok ⟨.ord 2000 366, 24, 0, 0, ⟨0, -30⟩⟩ false ∧
    strpZone .greg ⟨some ⟨5, 30⟩, true⟩ ⟨1, 0⟩ (capturedOf ⟨.ord 2000 366, 24, 0, 0, ⟨0, -30⟩⟩ false) =
      .ok ⟨.ord 2000 366, 24, 0, 0, ⟨5, 30⟩⟩ false := by decide +kernel

section
open IsoDT.Model.Strf IsoDT.Lemmas.Strf IsoDT.Spec.Posix
open IsoDT.Gen.Strftime (Fld Piece)

/-- **C17 (the text-level model is the glue model)**: `Strf.strptime` of `Model/Strftime.lean` — the
    model `C17_strptime`, `C17_defaults`, … speak about, which summarises the glue in three lines —
    answers, for every format over the supported directives, every text it matches (captured groups
    `b`; a `%s` group spelling a whole number), every configuration and legal local zone, exactly what
    the dictionary-level model answers on the numbers the groups spell. -/
theorem C17_strptime_is_glue (m : Mode) (cfg : PCfg) (loc : TZ) (hloc : loc.Valid) (data fmt : List Char)
    (items : List FItem) (hf : parseFmt fmt = some items)
    (hnd : hasDup (fldsOf (piecesOfItems items)) = false)
    (b : List (Fld × List Char)) (hm : matchPieces (piecesOfItems items) data = some b) (n : Option Int)
    (hux : match b.lookup .unix with
      | none => n = none
      | some txt => ∃ k, parseUnix txt = .ok k ∧ n = some k) :
    resOf (strptime m cfg loc data fmt).toOption = strpZone m cfg loc (matchedOf b n) := by
  obtain ⟨ht, _⟩ := translate_scan fmt items hf
  have hkeys := keys_of_match _ _ _ hm
  have hpres : ∀ f, (b.lookup f).isSome = true ↔ sf f ∈ fieldsOf items := by
    intro f; rw [lookup_isSome_iff, hkeys, mem_fldsOf_items]
  have hsame : ∀ f g, sf f = sf g → (b.lookup f).isSome = (b.lookup g).isSome := by
    intro f g h
    rw [Bool.eq_iff_iff, hpres, hpres, h]
  unfold strptime
  simp only [ht, hnd, Bool.false_eq_true, ↓reduceIte, hm]
  have hz1 : (b.lookup .tzSign).isSome = (Strf.numOf b .tzHourAbs).isSome := by
    rw [numOf_isSome]; exact hsame _ _ rfl
  have hz2 : (b.lookup .tzSign).isSome = (Strf.numOf b .tzMinuteAbs).isSome := by
    rw [numOf_isSome]; exact hsame _ _ rfl
  cases hu : b.lookup .unix with
  | some txt =>
    rw [hu] at hux
    obtain ⟨k, hk, rfl⟩ := hux
    exact assemble_eq_strpZone_unix m cfg loc hloc b txt k hu hk hz1 hz2
  | none =>
    rw [hu] at hux
    subst hux
    have hnu : SField.unix ∉ fieldsOf items := by
      intro h
      have := (hpres .unix).mpr h
      rw [hu] at this
      cases this
    refine assemble_eq_strpZone_fields m cfg loc b hu ?_ hz1 hz2 ?_
    · rw [numOf_isSome, numOf_isSome]; exact hsame _ _ rfl
    · by_cases hz : SField.zone ∈ fieldsOf items
      · have h1 := (hpres .tzSign).mpr hz
        rw [h1, List.any_eq_true]
        obtain ⟨e, he, hek⟩ := List.mem_map.mp ((lookup_isSome_iff b .tzSign).mp h1)
        exact ⟨e, he, by rw [hek]; rfl⟩
      · rw [any_zone_false b items hkeys hz hnu]
        cases h : (b.lookup .tzSign).isSome with
        | false => rfl
        | true => exact absurd ((hpres .tzSign).mp h) hz

/-- **C17 (strptime inverts strftime, through the glue)**: the round trip of `C17_strptime`, with the
    parsing half run through the dictionary-level glue: for a format that determines date, time and
    zone, every valid point `p` with a civil year in 0000–9999, every configuration and legal local
    zone, `strftime` prints a text which the format's regex matches with groups `b`, and the glue on
    the numbers they spell builds a valid point at the same instant — with `p`'s own offset and clock
    fields, except for `%s`, which comes back in the local zone. -/
theorem C17_strptime_round_trip_through_glue (m : Mode) (p : TP) (hv : p.Valid m) (c : Civil)
    (hc : IsCivil m p c) (hy : 0 ≤ c.year ∧ c.year ≤ 9999) (fmt : List Char) (items : List FItem)
    (hf : parseFmt fmt = some items) (hd : Determined items) (cfg : PCfg) (loc : TZ) (hloc : loc.Valid) :
    ∃ text b n q, strftime m p fmt = .ok text ∧ matchPieces (piecesOfItems items) text = some b ∧
      strpZone m cfg loc (matchedOf b n) = .ok q false ∧
      q.inst m = p.inst m ∧ q.Valid m ∧
      (fieldsOf items = [.unix] → q.tz = loc) ∧
      (fieldsOf items ≠ [.unix] → q.tz = p.tz ∧ q.hh = p.hh ∧ q.mi = p.mi ∧ q.ss = p.ss) := by
  obtain ⟨text, q, h1, h2, h3, h4, h5, h6⟩ := C17_strptime m p hv c hc hy fmt items hf hd cfg loc hloc
  obtain ⟨hnd, b, hm, ha⟩ := strptime_ok m cfg loc text fmt items q hf h2
  -- the `%s` group, if any, spelled a whole number (else `assemble` would have failed)
  have hux : ∃ n, (match b.lookup .unix with
      | none => n = none
      | some txt => ∃ k, parseUnix txt = .ok k ∧ n = some k) := by
    cases hu : b.lookup .unix with
    | none => exact ⟨none, rfl⟩
    | some txt =>
      cases hp : parseUnix txt with
      | ok k => exact ⟨some k, k, hp, rfl⟩
      | error e =>
        unfold assemble at ha
        simp only [hu, hp] at ha
        cases ha
  obtain ⟨n, hn⟩ := hux
  refine ⟨text, b, n, q, h1, hm, ?_, h3, h4, h5, h6⟩
  rw [← C17_strptime_is_glue m cfg loc hloc text fmt items hf hnd b hm n hn, h2]
  rfl

/-- Non-vacuity: the groups of `"2000-366T24:00:00-0030"` under `"%Y-%jT%H:%M:%S%z"`, and the point
    the glue builds from them under an assumed zone that must not be applied. -/
example : matchPieces (piecesOfItems [.conv .Y, .lit '-', .conv .j, .lit 'T', .conv .X, .conv .z])
      "2000-366T24:00:00-0030".toList =
      some [(.century, ['2', '0']), (.yearOfCentury, ['0', '0']), (.dayOfYear, ['3', '6', '6']),
        (.hourOfDay, ['2', '4']), (.minuteOfHour, ['0', '0']), (.secondOfMinute, ['0', '0']),
        (.tzSign, ['-']), (.tzHourAbs, ['0', '0']), (.tzMinuteAbs, ['3', '0'])] ∧
    strpZone .greg ⟨some ⟨5, 30⟩, false⟩ ⟨1, 0⟩ (matchedOf
      [(.century, ['2', '0']), (.yearOfCentury, ['0', '0']), (.dayOfYear, ['3', '6', '6']),
        (.hourOfDay, ['2', '4']), (.minuteOfHour, ['0', '0']), (.secondOfMinute, ['0', '0']),
        (.tzSign, ['-']), (.tzHourAbs, ['0', '0']), (.tzMinuteAbs, ['3', '0'])] none) =
      .ok ⟨.ord 2000 366, 24, 0, 0, ⟨0, -30⟩⟩ false := by decide +kernel

end

/-- **`default_to_unknown_time_zone` does not give an unknown zone to a complete date-time**: no zone
    keyword reaches the constructor, and `has_unknown_tz = self._truncated and …` is `False` for a
    non-truncated point, so the zone is the known (0, 0) — the same point as with
    `assumed_time_zone=(0, 0)`. -/
theorem C17_strptime_unknown_zone_is_utc (m : Mode) (loc : TZ) (year month dom doy hh mi ss : Option Int) :
    strpZone m ⟨none, true⟩ loc ⟨year, month, dom, doy, hh, mi, ss, none, false, none⟩ =
      strpZone m ⟨some ⟨0, 0⟩, false⟩ loc ⟨year, month, dom, doy, hh, mi, ss, none, false, none⟩ ∧
    ∀ q u, strpZone m ⟨none, true⟩ loc ⟨year, month, dom, doy, hh, mi, ss, none, false, none⟩ = .ok q u →
      u = false ∧ q.tz = ⟨0, 0⟩ := by
  have e1 := strpZone_fields m ⟨none, true⟩ loc year month dom doy hh mi ss none
  have e2 := strpZone_fields m ⟨some ⟨0, 0⟩, false⟩ loc year month dom doy hh mi ss none
  simp only [zoneArgs, defaultZoneArgs, ↓reduceIte, mkTP_no_zone] at e1 e2
  refine ⟨by rw [e1, e2], ?_⟩
  intro q u hq
  rw [e1] at hq
  cases hm : mkTP m ⟨some (year.getD 0), month, none, doy, dom, none, hh, mi, ss, some 0, some 0⟩ with
  | none => rw [hm] at hq; cases hq
  | some p =>
    rw [hm] at hq
    simp only [resOf, Res.ok.injEq] at hq
    obtain ⟨rfl, rfl⟩ := hq
    have := mkTP_tz m _ p hm
    simp only [mkTZOpt_zero, Option.some.injEq] at this
    exact ⟨rfl, this.symm⟩

example : strpZone .greg ⟨none, true⟩ ⟨5, 30⟩ { year := some 2000, hh := some 12 } =
    .ok ⟨.cal 2000 1 1, 12, 0, 0, ⟨0, 0⟩⟩ false := by decide +kernel

end IsoDT.Props.C17
