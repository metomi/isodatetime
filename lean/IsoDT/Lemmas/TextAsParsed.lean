/-
  IsoDT.Lemmas.TextAsParsed — `parse(text, dump_as_parsed=True)` followed by `str`, for every
  documented non-truncated form at once.

  With `dump_as_parsed` the parsed point carries, as its dump format, the concatenated EXPRESSION
  TEXT of the matched table entries (`CCYY-MM-DDThh:mm:ss+hh:mm`).  `str` hands that text to the
  dumper, whose chain of regex substitutions (`compile` over the rule tables) turns it into a printf
  expression.  The expression texts are concrete per entry, so the compilation is evaluated by the
  kernel — entry by entry, not combination by combination, since the dumper compiles the date, time
  and zone texts separately (`dateCompiles`, `timePartOK`, `zonePartOK`; `getExpr_parts`): the
  compiled segment list is, item by item, the entry's regular expression (`tmplSegs`: literal ↔
  literal, `[0-9]{n}` group ↔ `%(prop)0nd`, sign group ↔ `%(sign prop)s`, `[0-9]+` group ↔
  `%(decimal prop)s`), and the date properties collected are exactly the date groups present.  The
  rest is generic: a segment list of that shape, evaluated on the point `pointOf` that `parse`
  returns (`Lemmas/TextDecodeAll`), prints the template's own rendering of the values read back from
  the point (`renderSegs_tmpl`), and `_dump_expression_with_properties` neither converts the
  representation nor the zone, nor trips the year-bounds check (`dumpExpr_keep`).
-/
import IsoDT.Lemmas.TextDecodeAll
import IsoDT.Lemmas.TextRoundStr

namespace IsoDT.Text
open IsoDT IsoDT.Model IsoDT.Lemmas
open IsoDT.Spec (TZ Date)
open _root_.IsoDT.Gen.Templates (timeDesignator parserTables dumpTables)

/-! ## The dump format does not influence parsing -/

theorem assemble_dump (cfg : Cfg) (info : Info) (d : Option (List Char)) :
    assemble cfg info d = (assemble cfg info none).map fun a => { a with dumpFmt := d } := by
  unfold assemble
  simp only []
  split
  · split <;> rfl
  · rfl

/-- `TimePoint.__init__` passes `dump_format` through and looks at nothing of it. -/
theorem ctor_dump (m : Mode) (a : Args) (d : Option (List Char)) :
    ctor m { a with dumpFmt := d } = (ctor m a).map fun p => { p with dumpFmt := d } := by
  unfold ctor
  dsimp only
  -- the map moves through the tests; what is left differs in the format `checkBounds` does not read
  cases mkTZ m (a.tzHour.getD 0) (a.tzMinute.getD 0) <;>
    simp only [apply_ite (Option.map _), Option.map_none, Option.map_some, ite_self]
  rfl

/-- **`dump_as_parsed` only sets the dump format**: the point parsed with `dump_as_parsed=True` is
    the point parsed without, carrying the expression text `get_info` assembled. -/
theorem parse_asParsed (cfg : Cfg) (s : List Char) (info : Info) (h : getInfo cfg s = some info) :
    parse cfg s true = (parse cfg s false).map fun p => { p with dumpFmt := some info.expr } := by
  unfold parse
  rw [h]
  simp only [if_true, Bool.false_eq_true, if_false]
  rw [assemble_dump cfg info (some info.expr)]
  cases assemble cfg info none with
  | none => rfl
  | some a => exact ctor_dump cfg.mode a (some info.expr)

/-! ## The printf expression a regular expression corresponds to -/

/-- The `TimePoint` property that prints the group `f` (for the two literal groups, which print no
    property, an arbitrary one). -/
def propOf : Fld → DProp
  | .yearSign => .yearSign
  | .expandedYear => .expandedYearDigits
  | .century => .century
  | .yearOfCentury => .yearOfCentury
  | .yearOfDecade => .yearOfDecade
  | .monthOfYear => .monthOfYear
  | .dayOfMonth => .dayOfMonth
  | .dayOfYear => .dayOfYear
  | .weekOfYear => .weekOfYear
  | .dayOfWeek => .dayOfWeek
  | .hourOfDay => .hourOfDay
  | .minuteOfHour => .minuteOfHour
  | .secondOfMinute => .secondOfMinute
  | .hourDec => .hourDecStr
  | .minuteDec => .minuteDecStr
  | .secondDec => .secondDecStr
  | .tzSign => .tzSign
  | .tzHour => .tzHourAbs
  | .tzMinute => .tzMinuteAbs
  | .tzUtc => .tzSign
  | .truncated => .yearSign

/-- The printf pieces one regular-expression item corresponds to: a literal is itself; `[0-9]{n}` is
    `%(prop)0nd`; `[-+]` and `[0-9]+` are `%(prop)s`; a literal group is its characters. -/
def itemSegs : Item → List Seg
  | .lit c => [.raw c]
  | .digits f n => [.dir (.int (propOf f) n)]
  | .digitsPlus f => [.dir (.str (propOf f))]
  | .sign f => [.dir (.str (propOf f))]
  | .group _ ls => ls.map Seg.raw

def tmplSegs (t : Template) : List Seg := t.flatMap itemSegs

/-- What the point must answer for one item to print the text `envBy` gives its group. -/
def itemPrintsBy (m : Mode) (x : XTP) (nat : Fld → Nat) (neg : Fld → Bool) (dec : Fld → List Char) :
    Item → Prop
  | .lit _ => True
  | .digits f n => intProp m x (propOf f) = some (nat f) ∧ padNat n (nat f) = renderNat n (nat f)
  | .digitsPlus f => strProp x (propOf f) = some (dec f)
  | .sign f => strProp x (propOf f) = some [if neg f then '-' else '+']
  | .group _ _ => True

abbrev itemPrints (m : Mode) (x : XTP) (v : Vals) : Item → Prop := itemPrintsBy m x v.nat v.neg v.dec

/-- **The generic rendering lemma**: if the point answers every group's property with the value
    assigned to the group, the printf expression of a regular expression prints exactly the text the
    regular expression spells for these values. -/
theorem renderSegs_envBy (m : Mode) (x : XTP) (nat : Fld → Nat) (neg : Fld → Bool) (dec : Fld → List Char)
    (t : Template) (h : ∀ it ∈ t, itemPrintsBy m x nat neg dec it) :
    renderSegs m x (tmplSegs t) = some (trender t (envBy nat neg dec t)) := by
  induction t with
  | nil => rfl
  | cons it t ih =>
    have ih := ih fun i hi => h i (List.mem_cons_of_mem _ hi)
    have hit := h it (List.mem_cons_self ..)
    have e : tmplSegs (it :: t) = itemSegs it ++ tmplSegs t := by simp [tmplSegs]
    rw [e]
    cases it with
    | lit c => simp [itemSegs, renderSegs, ih, envBy, trender]
    | digits f n =>
      obtain ⟨h1, h2⟩ := hit
      simp [itemSegs, renderSegs, ih, envBy, trender, h1, h2]
    | digitsPlus f =>
      simp only [itemPrintsBy] at hit
      simp [itemSegs, renderSegs, ih, envBy, trender, hit]
    | sign f =>
      simp only [itemPrintsBy] at hit
      simp [itemSegs, renderSegs, ih, envBy, trender, hit]
    | group f ls =>
      simp only [itemSegs, envBy, trender]
      exact renderSegs_append m x _ _ _ _ (renderSegs_raw m x ls) ih

theorem renderSegs_tmpl (m : Mode) (x : XTP) (v : Vals) (t : Template)
    (h : ∀ it ∈ t, itemPrints m x v it) :
    renderSegs m x (tmplSegs t) = some (trender t (envOf t v)) := by
  rw [envOf_eq]
  exact renderSegs_envBy m x _ _ _ t h

theorem mem_groupFields (t : Template) (it : Item) (h : it ∈ t) :
    match it with
    | .lit _ => True
    | .digits f _ => hasGroup t f = true
    | .digitsPlus f => hasGroup t f = true
    | .sign f => hasGroup t f = true
    | .group f _ => hasGroup t f = true := by
  induction t with
  | nil => cases h
  | cons a t ih =>
    rcases List.mem_cons.mp h with rfl | h'
    · cases it <;> simp [hasGroup, groupFields]
    · have := ih h'
      cases it <;> first | trivial | exact hasGroup_tail a t _ this

/-- What the point must answer for the group `f` to print the text `v` gives it. -/
def answers (m : Mode) (x : XTP) (v : Vals) (f : Fld) : Prop :=
  if isIntFld f then intProp m x (propOf f) = some (v.nat f)
  else if isSignFld f then strProp x (propOf f) = some [if v.neg f then '-' else '+']
  else if isDecFld f then strProp x (propOf f) = some (v.dec f)
  else True

theorem prints_of (m : Mode) (x : XTP) (v v' : Vals) (ned : Nat) (t : Template)
    (hok : t.all (itemOK ned) = true) (hv : v.Fit ned) (hn : ∀ f, v'.nat f = v.nat f)
    (hx : ned = 0 → hasGroup t .expandedYear = false)
    (h : ∀ f, hasGroup t f = true → answers m x v' f) : ∀ it ∈ t, itemPrints m x v' it := by
  intro it hit
  have hk := List.all_eq_true.mp hok it hit
  have hg := mem_groupFields t it hit
  cases it with
  | lit c => trivial
  | digits f n =>
    simp only [itemOK, Bool.and_eq_true, beq_iff_eq] at hk
    obtain ⟨hf, rfl⟩ := hk
    have ha := h f hg
    simp only [answers, hf, if_true] at ha
    have hg' : hasGroup t f = true := hg
    have hw : stdWidth ned f ≠ 0 := by
      intro h0
      cases f <;> first | exact Bool.noConfusion ((hx h0).symm.trans hg') | simp [stdWidth] at h0
    exact ⟨ha, padNat_eq _ _ (by rw [hn]; exact fit_nat _ v hv f hf) hw⟩
  | digitsPlus f =>
    have ha := h f hg
    have hk' : isDecFld f = true := hk
    cases f <;> first | exact absurd hk' (by decide) | exact ha
  | sign f =>
    have ha := h f hg
    have hk' : isSignFld f = true := hk
    cases f <;> first | exact absurd hk' (by decide) | exact ha
  | group f ls => trivial

/-! ## The dump format does not influence printing -/

theorem intProp_dump (m : Mode) (p : XTP) (tp : Option TruncProp) (d : Option (List Char)) (pr : DProp) :
    intProp m { p with truncProp := tp, dumpFmt := d } pr = intProp m p pr := by
  cases pr <;> rfl

theorem strProp_dump (p : XTP) (tp : Option TruncProp) (d : Option (List Char)) (pr : DProp) :
    strProp { p with truncProp := tp, dumpFmt := d } pr = strProp p pr := by
  cases pr <;> rfl

theorem renderSegs_dump (m : Mode) (p : XTP) (tp : Option TruncProp) (d : Option (List Char)) (segs : List Seg) :
    renderSegs m { p with truncProp := tp, dumpFmt := d } segs = renderSegs m p segs := by
  induction segs with
  | nil => rfl
  | cons s rest ih =>
    cases s with
    | raw c => simp only [renderSegs, ih]
    | dir o =>
      cases o with
      | lit c => simp only [renderSegs, ih]
      | int pr w => simp only [renderSegs, ih, intProp_dump]
      | str pr => simp only [renderSegs, ih, strProp_dump]

def isDateFld : Fld → Bool
  | .yearSign | .expandedYear | .century | .yearOfCentury | .monthOfYear | .dayOfMonth | .dayOfYear
  | .weekOfYear | .dayOfWeek => true
  | _ => false

def isTimeFld : Fld → Bool
  | .hourOfDay | .minuteOfHour | .secondOfMinute | .hourDec | .minuteDec | .secondDec => true
  | _ => false

def isZoneFld : Fld → Bool
  | .tzUtc | .tzSign | .tzHour | .tzMinute => true
  | _ => false

/-- The date groups whose properties `_dump_expression_with_properties` inspects. -/
def dateFlds : List Fld :=
  [.yearSign, .expandedYear, .century, .yearOfCentury, .yearOfDecade, .monthOfYear, .dayOfMonth,
   .dayOfYear, .weekOfYear, .dayOfWeek]

def zexprO : Option ZEntry → List Char
  | none => []
  | some ze => ze.expr

def ztmplO : Option ZEntry → Template
  | none => []
  | some ze => ze.tmpl

def ttmplO : Option Entry → Template
  | none => []
  | some te => te.tmpl

/-- The number of expanded year digits the parsed point carries. -/
def nedOf (pt : ParserTables) (de : Template) : Nat := if hasGroup de .expandedYear then pt.ned else 0

/-- The expression text `get_info` assembles. -/
def fmtOf (de : Entry) (te : Option Entry) (zo : Option ZEntry) : List Char :=
  match te with
  | none => de.expr
  | some te => de.expr ++ timeDesignator :: (te.expr ++ zexprO zo)

/-- The printf expression the regular expressions of the entries correspond to. -/
def segsOf (de : Entry) (te : Option Entry) (zo : Option ZEntry) : List Seg :=
  match te with
  | none => tmplSegs de.tmpl
  | some te => tmplSegs de.tmpl ++ Seg.raw timeDesignator :: (tmplSegs te.tmpl ++ tmplSegs (ztmplO zo))

/-- The text the regular expressions of the entries spell for `v`. -/
def textOf (de : Entry) (te : Option Entry) (zo : Option ZEntry) (v : Vals) : List Char :=
  match te with
  | none => trender de.tmpl (envOf de.tmpl v)
  | some te => trender de.tmpl (envOf de.tmpl v) ++
      timeDesignator :: (trender te.tmpl (envOf te.tmpl v) ++ trender (ztmplO zo) (envOf (ztmplO zo) v))

/-- **The compiled expression is the regular expression**: the dumper for the point's number of
    expanded digits compiles the entries' expression text (which has no `%` and is not empty) to
    exactly `segsOf`, collects of the date properties exactly those of the date groups present, and
    fixes a literal zone (`+00:00`) iff the zone entry is `Z`. -/
def exprCheck (pt : ParserTables) (de : Entry) (te : Option Entry) (zo : Option ZEntry) : Bool :=
  match dumpTablesFor (nedOf pt de.tmpl) with
  | none => false
  | some dt =>
    match getExpr dt (fmtOf de te zo) with
    | none => false
    | some e =>
      !(fmtOf de te zo).contains '%' && !(fmtOf de te zo).isEmpty &&
      decide (e.segs = segsOf de te zo) &&
      dateFlds.all (fun f => decide (e.props.contains (propOf f) = hasGroup de.tmpl f)) &&
      decide (e.customTZ = if hasGroup (ztmplO zo) .tzUtc then some (0, 0) else none)

/-- Each part has groups of its own kind only; a year sign comes with expanded digits and conversely;
    a `Z` zone has no other group. -/
def shapeCheck (de : Entry) (te : Option Entry) (zo : Option ZEntry) : Bool :=
  (groupFields de.tmpl).all isDateFld &&
  decide (hasGroup de.tmpl .yearSign = hasGroup de.tmpl .expandedYear) &&
  (groupFields (ttmplO te)).all isTimeFld &&
  (groupFields (ztmplO zo)).all isZoneFld &&
  (!hasGroup (ztmplO zo) .tzUtc ||
    !(hasGroup (ztmplO zo) .tzSign || hasGroup (ztmplO zo) .tzHour || hasGroup (ztmplO zo) .tzMinute))

theorem exprCheck_spec (pt : ParserTables) (de : Entry) (te : Option Entry) (zo : Option ZEntry)
    (h : exprCheck pt de te zo = true) :
    ∃ dt e, dumpTablesFor (nedOf pt de.tmpl) = some dt ∧ getExpr dt (fmtOf de te zo) = some e ∧
      (fmtOf de te zo).contains '%' = false ∧ (fmtOf de te zo).isEmpty = false ∧
      e.segs = segsOf de te zo ∧
      (∀ f ∈ dateFlds, e.props.contains (propOf f) = hasGroup de.tmpl f) ∧
      e.customTZ = (if hasGroup (ztmplO zo) .tzUtc then some (0, 0) else none) := by
  unfold exprCheck at h
  split at h
  · cases h
  · rename_i dt hdt
    split at h
    · cases h
    · rename_i e he
      simp only [Bool.and_eq_true, Bool.not_eq_true', decide_eq_true_eq, List.all_eq_true] at h
      obtain ⟨⟨⟨⟨h1, h2⟩, h3⟩, h4⟩, h5⟩ := h
      exact ⟨dt, e, hdt, he, h1, h2, h3, h4, h5⟩

theorem dumpTablesFor_ned (n : Nat) (dt : DumpTables) (h : dumpTablesFor n = some dt) : dt.ned = n := by
  unfold dumpTablesFor at h
  have := List.find?_some h
  simpa using this

/-! ## The checks, part by part

`_get_expression_and_properties` compiles the date text, the time text and the zone text separately
(`getExpr_T`), and cuts the zone off the time where it starts (`tzSplit_append`), so `exprCheck` of a
combination of entries follows from checks of its date entry, its time entry and its zone entry; the
tables are evaluated on the parts only. -/

/-- The dumper of a point without expanded year digits. -/
def dumper0 : DumpTables := (dumpTablesFor 0).getD default

theorem dumper0_eq : dumpTablesFor 0 = some dumper0 := by
  have h : (dumpTablesFor 0).isSome = true := by decide +kernel
  unfold dumper0
  cases hd : dumpTablesFor 0 with
  | none => rw [hd] at h; cases h
  | some dt => rfl

/-- The number of expanded year digits only changes the width the date rules print them with. -/
theorem timeRules_eq : ∀ dt ∈ dumpTables, dt.time = dumper0.time ∧ dt.zone = dumper0.zone := by
  decide +kernel

/-- **The date rules compile a date expression to its regular expression**: the segments are
    `tmplSegs`, the date properties collected exactly those of the groups present; the text has neither
    `T` nor `%`. -/
def dateCompiles (dt : DumpTables) (expr : List Char) (tmpl : Template) : Bool :=
  match compile dt.date (expr.map Seg.raw) with
  | (segs, props) =>
    decide (segs = tmplSegs tmpl) &&
    dateFlds.all (fun f => decide (props.contains (propOf f) = hasGroup tmpl f)) &&
    !expr.contains 'T' && !expr.contains '%'

theorem dateCompiles_spec (dt : DumpTables) (expr : List Char) (tmpl : Template)
    (h : dateCompiles dt expr tmpl = true) :
    (compile dt.date (expr.map Seg.raw)).1 = tmplSegs tmpl ∧
    (∀ f ∈ dateFlds, (compile dt.date (expr.map Seg.raw)).2.contains (propOf f) = hasGroup tmpl f) ∧
    'T' ∉ expr ∧ '%' ∉ expr := by
  unfold dateCompiles at h
  simpa only [Bool.and_eq_true, decide_eq_true_eq, List.all_eq_true, Bool.not_eq_true',
    List.contains_eq_mem, decide_eq_false_iff_not, and_assoc] using h

/-- A zone expression text: nothing, `Z`, or `+hh…` with no further `+` and not ending in `Z`. -/
def zoneExprOK : List Char → Bool
  | [] => true
  | ['Z'] => true
  | '+' :: 'h' :: 'h' :: r => !r.contains '+' && !(('h' :: r).getLast? == some 'Z')
  | _ => false

theorem hasInfix_skip (p : Char) (ps t s : List Char) (hp : p ∉ t) :
    hasInfix (p :: ps) (t ++ s) = hasInfix (p :: ps) s := by
  induction t with
  | nil => rfl
  | cons c t ih =>
    simp only [List.mem_cons, not_or] at hp
    simp [hasInfix, stripPrefix, hp.1, ih hp.2]

/-- **The split**: a time text without `Z`, `+` and, after its leading hyphens, `-`, followed by a zone
    text of one of the three shapes, is cut exactly where the zone starts; only `Z` fixes a literal zone. -/
theorem tzSplit_append (t z : List Char) (hZ : 'Z' ∉ t) (hp : '+' ∉ t)
    (hm : (t.dropWhile (· = '-')).contains '-' = false) (hz : zoneExprOK z = true) :
    tzSplit (t ++ z) = some (t, z, if z = ['Z'] then some (0, 0) else none) := by
  have hinf := hasInfix_skip '+' ['h', 'h'] t
  unfold zoneExprOK at hz
  split at hz
  · have h1 : ¬ t.getLast? = some 'Z' := fun h => hZ (List.mem_of_getLast? h)
    have h2 : hasInfix ['+', 'h', 'h'] t = false := by rw [← List.append_nil t, hinf _ hp]; rfl
    have h3 : t.contains '+' = false := by simpa using hp
    unfold tzSplit
    simp only [List.append_nil, h1, h2, h3, hm, if_false, Bool.false_eq_true]
    rfl
  · unfold tzSplit
    simp
  · rename_i r
    simp only [Bool.and_eq_true, Bool.not_eq_true', beq_eq_false_iff_ne, ne_eq] at hz
    have h1 : ¬ (t ++ '+' :: 'h' :: 'h' :: r).getLast? = some 'Z' := by
      rw [List.getLast?_append, List.getLast?_cons_cons, List.getLast?_cons_cons]
      intro h
      cases hl : ('h' :: r).getLast? with
      | none => simp at hl
      | some c => rw [hl] at h; exact hz.2 (by rw [hl]; simpa using h)
    have h2 : hasInfix ['+', 'h', 'h'] (t ++ '+' :: 'h' :: 'h' :: r) = true := by
      rw [hinf _ hp]; simp [hasInfix, stripPrefix]
    have hr : '+' ∉ 'h' :: 'h' :: r := by
      simp only [List.mem_cons, not_or]
      exact ⟨by decide, by decide, by simpa using hz.1⟩
    unfold tzSplit
    simp only [h1, h2, if_false, if_true, splitOnChar_one '+' t _ hp hr]
    simp
  · cases hz

/-- **The time rules compile a time expression to its regular expression**, collecting no date
    property; the text has nothing the zone split looks for (`Z`, `+`, a `-` after the leading ones),
    neither `T` nor `%`; the groups are time groups or the truncation marker. -/
def timePartOK (te : Entry) : Bool :=
  match compile dumper0.time (te.expr.map Seg.raw) with
  | (segs, props) =>
    decide (segs = tmplSegs te.tmpl) && dateFlds.all (fun f => !props.contains (propOf f)) &&
    !te.expr.contains 'Z' && !te.expr.contains '+' && !(te.expr.dropWhile (· = '-')).contains '-' &&
    !te.expr.contains 'T' && !te.expr.contains '%' &&
    (groupFields te.tmpl).all (fun f => isTimeFld f || f == .truncated)

/-- **The zone rules compile a zone expression (or none) to its regular expression**, collecting no
    date property; the text is one the split recognises (`zoneExprOK`) and is `Z` iff the form is the
    `Z` group alone; neither `T` nor `%`; the groups are zone groups. -/
def zonePartOK (zo : Option ZEntry) : Bool :=
  match compile dumper0.zone ((zexprO zo).map Seg.raw) with
  | (segs, props) =>
    decide (segs = tmplSegs (ztmplO zo)) && dateFlds.all (fun f => !props.contains (propOf f)) &&
    zoneExprOK (zexprO zo) && decide (hasGroup (ztmplO zo) .tzUtc = true ↔ zexprO zo = ['Z']) &&
    !(zexprO zo).contains 'T' && !(zexprO zo).contains '%' &&
    (groupFields (ztmplO zo)).all isZoneFld &&
    (!hasGroup (ztmplO zo) .tzUtc ||
      !(hasGroup (ztmplO zo) .tzSign || hasGroup (ztmplO zo) .tzHour || hasGroup (ztmplO zo) .tzMinute))

def ttzCheck (te : Entry) (zo : Option ZEntry) : Bool := timePartOK te && zonePartOK zo

/-- **The time and zone rules compile a `time ++ zone` expression to the regular expressions**: the
    split falls where the zone starts (`tzSplit_append`) and the parts are compiled separately, so the
    segments are the two `tmplSegs`, no date property is collected, a literal zone is fixed (`+00:00`)
    iff the zone entry is `Z`; no `T`, no `%`; each part has groups of its own kind only, and a `Z`
    zone no other group. -/
structure TtzFacts (te : Entry) (zo : Option ZEntry) : Prop where
  compiled : ∃ props, timeZonePart dumper0 (te.expr ++ zexprO zo) =
      some (tmplSegs te.tmpl ++ tmplSegs (ztmplO zo), props,
        if hasGroup (ztmplO zo) .tzUtc then some (0, 0) else none) ∧
    ∀ f ∈ dateFlds, props.contains (propOf f) = false
  noT : 'T' ∉ te.expr ++ zexprO zo
  noPct : '%' ∉ te.expr ++ zexprO zo
  timeFlds : (groupFields te.tmpl).all (fun f => isTimeFld f || f == .truncated) = true
  zoneFlds : (groupFields (ztmplO zo)).all isZoneFld = true
  utcAlone : (!hasGroup (ztmplO zo) .tzUtc ||
    !(hasGroup (ztmplO zo) .tzSign || hasGroup (ztmplO zo) .tzHour || hasGroup (ztmplO zo) .tzMinute)) = true

theorem ttzCheck_spec (te : Entry) (zo : Option ZEntry) (h : ttzCheck te zo = true) : TtzFacts te zo := by
  unfold ttzCheck timePartOK zonePartOK at h
  simp only [Bool.and_eq_true, decide_eq_true_eq, Bool.not_eq_true', List.contains_eq_mem,
    decide_eq_false_iff_not, List.all_eq_true] at h
  obtain ⟨⟨⟨⟨⟨⟨⟨⟨t1, t2⟩, tZ⟩, tp⟩, tm⟩, tT⟩, tP⟩, t8⟩, ⟨⟨⟨⟨⟨⟨z1, z2⟩, zs⟩, zu⟩, zT⟩, zP⟩, z7⟩, z8⟩ := h
  refine ⟨⟨(compile dumper0.time (te.expr.map Seg.raw)).2 ++ (compile dumper0.zone ((zexprO zo).map Seg.raw)).2,
    ?_, fun f hf => ?_⟩, ?_, ?_, List.all_eq_true.mpr t8, List.all_eq_true.mpr z7, z8⟩
  · unfold timeZonePart
    rw [tzSplit_append te.expr (zexprO zo) tZ tp (by simpa using tm) zs]
    simp only [t1, z1, zu]
  · simp [t2 f hf, z2 f hf]
  · simp [tT, zT]
  · simp [tP, zP]

theorem getExpr_parts (dt : DumpTables) (hdt : dt ∈ dumpTables) (dexpr : List Char) (dtmpl : Template)
    (te : Entry) (zo : Option ZEntry)
    (hd : dateCompiles dt dexpr dtmpl = true) (ht : ttzCheck te zo = true) :
    ∃ e, getExpr dt (dexpr ++ 'T' :: (te.expr ++ zexprO zo)) = some e ∧
      e.segs = tmplSegs dtmpl ++ Seg.raw 'T' :: (tmplSegs te.tmpl ++ tmplSegs (ztmplO zo)) ∧
      (∀ f ∈ dateFlds, e.props.contains (propOf f) = hasGroup dtmpl f) ∧
      e.customTZ = (if hasGroup (ztmplO zo) .tzUtc then some (0, 0) else none) ∧
      (dexpr ++ 'T' :: (te.expr ++ zexprO zo)).contains '%' = false := by
  obtain ⟨d1, d2, hD, hP⟩ := dateCompiles_spec dt dexpr dtmpl hd
  have tf := ttzCheck_spec te zo ht
  obtain ⟨props, hpart, t2⟩ := tf.compiled
  have hdt0 : timeZonePart dt (te.expr ++ zexprO zo) = timeZonePart dumper0 (te.expr ++ zexprO zo) := by
    unfold timeZonePart
    rw [(timeRules_eq dt hdt).1, (timeRules_eq dt hdt).2]
  refine ⟨_, by rw [getExpr_T dt dexpr _ hD tf.noT, hdt0, hpart]; rfl, by rw [d1], fun f hf => ?_, rfl, ?_⟩
  · rw [← d2 f hf]
    show ((compile dt.date (dexpr.map Seg.raw)).2 ++ props).contains (propOf f) = _
    have : propOf f ∉ props := by simpa using t2 f hf
    simp only [List.contains_eq_mem, List.mem_append, this, or_false]
  · have : '%' ∉ dexpr ++ 'T' :: (te.expr ++ zexprO zo) := by
      simp only [List.mem_append, List.mem_cons, not_or]
      exact ⟨hP, by decide, by simpa using tf.noPct⟩
    simpa using this

theorem compile_nil (rs : List DumpRule) : compile rs [] = ([], []) := by
  induction rs with
  | nil => rfl
  | cons r rs ih =>
    have h : applyRule r [] = ([], false) := by
      unfold applyRule
      split
      · rfl
      · rename_i hp
        cases hpat : r.pat with
        | nil => rw [hpat] at hp; exact absurd rfl hp
        | cons c cs =>
          cases hb : r.behind <;> simp [matchRaw, matchesAt, hpat, scan, occurs]
    simp only [compile, h, ih]
    cases r.prop <;> rfl

theorem getExpr_datePart (dt : DumpTables) (dexpr : List Char) (dtmpl : Template)
    (hd : dateCompiles dt dexpr dtmpl = true) :
    ∃ e, getExpr dt dexpr = some e ∧ e.segs = tmplSegs dtmpl ∧
      (∀ f ∈ dateFlds, e.props.contains (propOf f) = hasGroup dtmpl f) ∧ e.customTZ = none := by
  obtain ⟨d1, d2, hD, _⟩ := dateCompiles_spec dt dexpr dtmpl hd
  refine ⟨⟨_, _, none⟩, ?_, d1, d2, rfl⟩
  unfold getExpr
  simp only [timeDesignator, splitOnChar_none 'T' dexpr hD]
  simp [compile_nil]

def datePartOK (pt : ParserTables) (de : Entry) : Bool :=
  match dumpTablesFor (nedOf pt de.tmpl) with
  | none => false
  | some dt => dateCompiles dt de.expr de.tmpl && !de.expr.isEmpty

theorem datePartOK_spec (pt : ParserTables) (de : Entry) (h : datePartOK pt de = true) :
    ∃ dt, dumpTablesFor (nedOf pt de.tmpl) = some dt ∧ dateCompiles dt de.expr de.tmpl = true ∧
      de.expr.isEmpty = false := by
  unfold datePartOK at h
  split at h
  · cases h
  · rename_i dt hdt
    simp only [Bool.and_eq_true, Bool.not_eq_true'] at h
    exact ⟨dt, hdt, h.1, h.2⟩

theorem exprCheck_date (pt : ParserTables) (de : Entry) (h : datePartOK pt de = true) :
    exprCheck pt de none none = true := by
  obtain ⟨dt, hdt, hd, hne⟩ := datePartOK_spec pt de h
  obtain ⟨e, he, hs, hp, hc⟩ := getExpr_datePart dt _ _ hd
  obtain ⟨_, _, _, hP⟩ := dateCompiles_spec dt _ _ hd
  unfold exprCheck
  simp only [hdt, fmtOf, segsOf, he]
  simp only [Bool.and_eq_true, Bool.not_eq_true', decide_eq_true_eq, List.all_eq_true]
  exact ⟨⟨⟨⟨by simpa using hP, hne⟩, decide_eq_true hs⟩, hp⟩, hc⟩

theorem exprCheck_time (pt : ParserTables) (de te : Entry) (zo : Option ZEntry)
    (hd : datePartOK pt de = true) (ht : ttzCheck te zo = true) :
    exprCheck pt de (some te) zo = true := by
  obtain ⟨dt, hdt, hd, _⟩ := datePartOK_spec pt de hd
  obtain ⟨e, he, hs, hp, hc, hP⟩ := getExpr_parts dt (List.mem_of_find?_eq_some hdt) _ _ te zo hd ht
  unfold exprCheck
  simp only [hdt, fmtOf, segsOf, timeDesignator, he]
  simp only [Bool.and_eq_true, Bool.not_eq_true', decide_eq_true_eq, List.all_eq_true]
  exact ⟨⟨⟨⟨hP, by cases de.expr <;> rfl⟩, decide_eq_true hs⟩, hp⟩, hc⟩

theorem shapeCheck_time (de te : Entry) (zo : Option ZEntry) (hd : shapeCheck de none none = true)
    (ht : (groupFields te.tmpl).all isTimeFld = true) (hz : ttzCheck te zo = true) :
    shapeCheck de (some te) zo = true := by
  have tf := ttzCheck_spec te zo hz
  simp only [shapeCheck, Bool.and_eq_true] at hd ⊢
  exact ⟨⟨⟨hd.1.1.1, ht⟩, tf.zoneFlds⟩, tf.utcAlone⟩

theorem yearOf_natAbs (de : Template) (v : Vals) :
    (yearOf de v).natAbs = (if hasGroup de .expandedYear then 10000 * v.x else 0) +
      (if hasGroup de .century then 100 * v.cc else 0) + (if hasGroup de .yearOfCentury then v.yy else 0) := by
  unfold yearOf
  simp only []
  split <;> omega

/-- In the documented date patterns month and day exclude the ordinal day and the week, a weekday
    comes with a week, and a week with no calendar or ordinal field. -/
theorem dateShape_fields (de : Template) (h : dateShapeOK de = true) :
    (hasGroup de .monthOfYear = true → hasGroup de .dayOfYear = false ∧ hasGroup de .weekOfYear = false) ∧
    (hasGroup de .dayOfMonth = true → hasGroup de .dayOfYear = false ∧ hasGroup de .weekOfYear = false) ∧
    (hasGroup de .dayOfWeek = true → hasGroup de .weekOfYear = true) ∧
    (hasGroup de .weekOfYear || hasGroup de .dayOfWeek) = hasGroup de .weekOfYear ∧
    (hasGroup de .weekOfYear &&
      (hasGroup de .monthOfYear || hasGroup de .dayOfMonth || hasGroup de .dayOfYear)) = false := by
  revert h
  unfold dateShapeOK datePattern
  generalize hasGroup de .monthOfYear = a
  generalize hasGroup de .dayOfMonth = b
  generalize hasGroup de .dayOfYear = c
  generalize hasGroup de .weekOfYear = d
  generalize hasGroup de .dayOfWeek = e
  revert a b c d e
  decide

theorem timeProps_pointOf (cfg : Cfg) (m : Mode) (de te : Template) (v : Vals) (tz : TZ)
    (ht : timeShapeOK te = true) :
    (hasGroup te .hourOfDay = true → intProp m (pointOf cfg de te v tz) .hourOfDay = some v.hour) ∧
    (hasGroup te .minuteOfHour = true → intProp m (pointOf cfg de te v tz) .minuteOfHour = some v.minute) ∧
    (hasGroup te .secondOfMinute = true → intProp m (pointOf cfg de te v tz) .secondOfMinute = some v.second) ∧
    (hasGroup te .hourDec = true →
      strProp (pointOf cfg de te v tz) .hourDecStr = some (decimalString (some v.hourDec))) ∧
    (hasGroup te .minuteDec = true →
      strProp (pointOf cfg de te v tz) .minuteDecStr = some (decimalString (some v.minuteDec))) ∧
    (hasGroup te .secondDec = true →
      strProp (pointOf cfg de te v tz) .secondDecStr = some (decimalString (some v.secondDec))) := by
  have hc := timeShape_cases te ht
  simp only [timePattern, Prod.mk.injEq] at hc
  rcases hc with ⟨t1, t2, t3, t4, t5, t6⟩ | ⟨t1, t2, t3, t4, t5, t6⟩ | ⟨t1, t2, t3, t4, t5, t6⟩ |
      ⟨t1, t2, t3, t4, t5, t6⟩ | ⟨t1, t2, t3, t4, t5, t6⟩ | ⟨t1, t2, t3, t4, t5, t6⟩ | ⟨t1, t2, t3, t4, t5, t6⟩ <;>
    simp [intProp, strProp, pointOf, decOf, t1, t2, t3, t4, t5, t6]

theorem mkTZ_some (m : Mode) (h mi : Int) (tz : TZ) (hz : mkTZ m h mi = some tz) : tz = ⟨h, mi⟩ := by
  unfold mkTZ at hz
  by_cases h1 : h < -99 ∨ h > 99
  · rw [if_pos h1] at hz; cases hz
  · rw [if_neg h1] at hz
    dsimp only at hz
    revert hz
    generalize (if h > 0 then (0 : Int) else 1 - (calOf m).minutesInHour) = lo
    generalize (if h < 0 then (0 : Int) else (calOf m).minutesInHour - 1) = hi
    intro hz
    split at hz
    · cases hz
    · exact (Option.some.inj hz).symm

def zoneZero (zt : Template) (v : Vals) : Bool :=
  v.tzHour == 0 && (!hasGroup zt .tzMinute || v.tzMinute == 0)

theorem zoneProps_of (m : Mode) (P : XTP) (zd : ZoneDefault) (zt : Template) (v : Vals)
    (hU : hasGroup zt .tzUtc = false)
    (htz : P.tz = ⟨(zoneOf zd (some zt) v).hour.getD 0, (zoneOf zd (some zt) v).minute.getD 0⟩) :
    intProp m P .tzHourAbs = some v.tzHour ∧
    (hasGroup zt .tzMinute = true → intProp m P .tzMinuteAbs = some v.tzMinute) ∧
    (hasGroup zt .tzSign = true →
      strProp P .tzSign = some [if v.tzNeg && !zoneZero zt v then '-' else '+']) := by
  simp only [intProp, strProp, htz, zoneOf, hU, Bool.false_eq_true, if_false, Option.getD_some,
    Option.some.injEq, zoneZero]
  refine ⟨?_, fun h => ?_, fun h => ?_⟩
  · split <;> omega
  · simp only [h, if_true, Option.getD_some]; split <;> omega
  · rw [h]
    cases hN : v.tzNeg
    · simp only [Bool.true_and, Bool.false_eq_true, if_false, Bool.false_and]
      cases hasGroup zt .tzMinute <;> simp
    · simp only [Bool.true_and, if_true]
      cases hasGroup zt .tzMinute <;> simp <;> split <;> split <;> first | rfl | (exfalso; omega)

/-- The values the printed text spells: as parsed, except that a `-` on an all-zero year or on an
    all-zero zone is `+`, and a decimal fraction is `TimePoint._decimal_string` of its digits. -/
def spelled (de zt : Template) (v : Vals) : Vals :=
  { v with
    yearNeg := v.yearNeg && decide (yearOf de v ≠ 0)
    tzNeg := v.tzNeg && !zoneZero zt v
    hourDec := decimalString (some v.hourDec)
    minuteDec := decimalString (some v.minuteDec)
    secondDec := decimalString (some v.secondDec) }

theorem spelled_nat (de zt : Template) (v : Vals) (f : Fld) : (spelled de zt v).nat f = v.nat f := by
  cases f <;> rfl

/-! ## The three parts print their own text -/

/-- **The parsed point answers each date group with what `spelled` gives it**: the year digits by
    arithmetic on `yearOf`; the sign, except that the point does not keep the sign of a zero year; month,
    day, ordinal day, week and weekday as spelled (in the documented date patterns a field that is
    spelled is kept in the point's representation). -/
theorem date_answers (cfg : Cfg) (m : Mode) (de te zt : Template) (v : Vals) (tz : TZ)
    (hcc : hasGroup de .century = true) (hds : dateShapeOK de = true) (h1 : v.cc < 100) (h2 : v.yy < 100)
    (f : Fld) (hd : isDateFld f = true) (hg : hasGroup de f = true) :
    answers m (pointOf cfg de te v tz) (spelled de zt v) f := by
  obtain ⟨hM, hD, hK, _⟩ := dateShape_fields de hds
  -- the year in a form `omega` reads at once: `10000 * k + 100 * cc + y` with `y < 100`
  have hn := yearOf_natAbs de v
  obtain ⟨k, hk⟩ : ∃ k, (if hasGroup de .expandedYear then 10000 * v.x else 0) = 10000 * k := by
    split
    · exact ⟨_, rfl⟩
    · exact ⟨0, rfl⟩
  have hy : (if hasGroup de .yearOfCentury then v.yy else 0) < 100 := by split <;> omega
  rw [hcc, if_pos rfl, hk] at hn
  generalize hy' : (if hasGroup de .yearOfCentury then v.yy else 0) = y at hn hy
  cases f <;> first | exact absurd hd (by decide) | skip
  · show some (if 0 ≤ yearOf de v then ['+'] else ['-']) =
      some [if v.yearNeg && decide (yearOf de v ≠ 0) then '-' else '+']
    cases hN : v.yearNeg
    · have : 0 ≤ yearOf de v := by
        unfold yearOf; simp only [hN, Bool.and_false, Bool.false_eq_true, if_false]; omega
      simp [this]
    · by_cases h0 : yearOf de v = 0
      · simp [h0]
      · have : ¬ 0 ≤ yearOf de v := by
          revert h0; unfold yearOf; simp only [hg, hN, Bool.and_self, if_true]; omega
        simp [this, h0]
  · show some ((yearOf de v).natAbs / 10000) = some v.x
    rw [hg, if_pos rfl] at hk
    rw [hn]
    congr 1
    omega
  · show some ((yearOf de v).natAbs % 10000 / 100) = some v.cc
    rw [hn]
    congr 1
    omega
  · show some ((yearOf de v).natAbs % 100) = some v.yy
    rw [hg, if_pos rfl] at hy'
    rw [hn]
    congr 1
    omega
  · show intProp m _ .monthOfYear = some v.month
    simp [intProp, pointOf, hg, hM hg]
  · show intProp m _ .dayOfMonth = some v.day
    simp [intProp, pointOf, hg, hD hg]
  · show intProp m _ .dayOfYear = some v.doy
    simp [intProp, pointOf, fieldOf, hg]
  · show intProp m _ .weekOfYear = some v.week
    simp [intProp, pointOf, fieldOf, hg]
  · show intProp m _ .dayOfWeek = some v.dow
    simp [intProp, pointOf, hg, hK hg]

theorem date_prints (cfg : Cfg) (m : Mode) (de te zt : Template) (v : Vals) (tz : TZ)
    (hok : de.all (itemOK cfg.pt.ned) = true) (hcc : hasGroup de .century = true)
    (hds : dateShapeOK de = true) (hfl : (groupFields de).all isDateFld = true)
    (hx : cfg.pt.ned = 0 → hasGroup de .expandedYear = false) (hv : v.Fit cfg.pt.ned) :
    ∀ it ∈ de, itemPrints m (pointOf cfg de te v tz) (spelled de zt v) it :=
  prints_of m _ v _ cfg.pt.ned de hok hv (spelled_nat _ _ v) hx fun f hg =>
    date_answers cfg m de te zt v tz hcc hds hv.2.1 hv.2.2.1 f
      (List.all_eq_true.mp hfl f (mem_of_hasGroup de f hg)) hg

theorem time_prints (cfg : Cfg) (m : Mode) (de te zt : Template) (v : Vals) (tz : TZ)
    (hok : te.all (itemOK cfg.pt.ned) = true) (hts : timeShapeOK te = true)
    (hfl : (groupFields te).all isTimeFld = true) (hv : v.Fit cfg.pt.ned) :
    ∀ it ∈ te, itemPrints m (pointOf cfg de te v tz) (spelled de zt v) it := by
  have hT := timeProps_pointOf cfg m de te v tz hts
  have hdf : ∀ f, hasGroup te f = true → isTimeFld f = true := fun f hg =>
    List.all_eq_true.mp hfl f (mem_of_hasGroup te f hg)
  refine prints_of m _ v _ cfg.pt.ned te hok hv (spelled_nat _ _ v)
    (fun _ => Bool.eq_false_iff.mpr fun hg => absurd (hdf _ hg) (by decide)) fun f hg => ?_
  have hd := hdf f hg
  cases f <;> first
    | exact absurd hd (by decide)
    | exact hT.1 hg
    | exact hT.2.1 hg
    | exact hT.2.2.1 hg
    | exact hT.2.2.2.1 hg
    | exact hT.2.2.2.2.1 hg
    | exact hT.2.2.2.2.2 hg

/-- The zone part: any point whose zone is the spelled one prints the zone form's own text for values
    `v'` that spell the numbers of `v` and its zone sign, a `-` on an all-zero zone as `+`. -/
theorem zone_prints (m : Mode) (ned : Nat) (P : XTP) (zt : Template) (v v' : Vals) (zd : ZoneDefault)
    (hok : zt.all (itemOK ned) = true) (hfl : (groupFields zt).all isZoneFld = true)
    (hU : (!hasGroup zt .tzUtc || !(hasGroup zt .tzSign || hasGroup zt .tzHour || hasGroup zt .tzMinute)) = true)
    (hv : v.Fit ned)
    (htz : P.tz = ⟨(zoneOf zd (some zt) v).hour.getD 0, (zoneOf zd (some zt) v).minute.getD 0⟩)
    (hn : ∀ f, v'.nat f = v.nat f) (hs : v'.tzNeg = (v.tzNeg && !zoneZero zt v)) :
    ∀ it ∈ zt, itemPrints m P v' it := by
  have hdf : ∀ f, hasGroup zt f = true → isZoneFld f = true := fun f hg =>
    List.all_eq_true.mp hfl f (mem_of_hasGroup zt f hg)
  refine prints_of m _ v _ ned zt hok hv hn
    (fun _ => Bool.eq_false_iff.mpr fun hg => absurd (hdf _ hg) (by decide)) fun f hg => ?_
  have hd := hdf f hg
  cases hu : hasGroup zt .tzUtc with
  | true =>
    -- a `Z` form has no other group
    simp only [hu, Bool.not_true, Bool.false_or, Bool.not_eq_true', Bool.or_eq_false_iff] at hU
    cases f <;> first
      | exact absurd hd (by decide)
      | trivial
      | (rw [hU.1.1] at hg; cases hg)
      | (rw [hU.1.2] at hg; cases hg)
      | (rw [hU.2] at hg; cases hg)
  | false =>
    have hZ := zoneProps_of m P zd zt v hu htz
    cases f <;> first
      | exact absurd hd (by decide)
      | trivial
      | (show intProp m P .tzHourAbs = some (v'.nat .tzHour); rw [hn]; exact hZ.1)
      | (show intProp m P .tzMinuteAbs = some (v'.nat .tzMinute); rw [hn]; exact hZ.2.1 hg)
      | (show strProp P .tzSign = some [if v'.tzNeg then '-' else '+']; rw [hs]; exact hZ.2.2 hg)

/-! ## `_dump_expression_with_properties` when nothing has to change -/

theorem dumpExpr_keep (m : Mode) (dt : DumpTables) (x : XTP) (e : Expr) (y : Int)
    (htr : x.truncated = false) (hy : x.year = some y)
    (hW : (e.props.contains .weekOfYear || e.props.contains .dayOfWeek) = x.isWeek)
    (hC : (x.isWeek && (e.props.contains .monthOfYear || e.props.contains .dayOfMonth ||
      e.props.contains .dayOfYear)) = false)
    (hZ : e.customTZ = none ∨ (e.customTZ = some (0, 0) ∧ x.tz = ⟨0, 0⟩ ∧ x.tzUnknown = false))
    (hb1 : (e.props.contains .century && (!e.props.contains .expandedYearDigits || dt.ned = 0) &&
      !(0 ≤ y && y ≤ 9999)) = false)
    (hb2 : (e.props.contains .expandedYearDigits &&
      !(-((10 : Int) ^ (dt.ned + 4) - 1) ≤ y && y ≤ (10 : Int) ^ (dt.ned + 4) - 1)) = false) :
    dumpExpr m dt x e =
      match renderSegs m x e.segs with
      | some s => .ok s
      | none => .error .unsupported := by
  have hp2 : Rezoned m x e.customTZ x := by
    rcases hZ with h | ⟨h, h1, h2⟩
    · rw [h]; exact rfl
    · rw [h]; exact ⟨_, mkTZ_zero m, by unfold XTP.toTimeZone; simp [h1, h2]⟩
  have := dumpExpr_sameRep m dt x x y e.segs e.props e.customTZ htr ⟨hW, hC⟩ hp2 hy
  rw [hb1, hb2] at this
  exact this

theorem str_dumpFmt (m : Mode) (x : XTP) (dt : DumpTables) (f : List Char) (e : Expr)
    (hdt : dumpTablesFor x.ned = some dt) (hf : x.dumpFmt = some f) (hne : f.isEmpty = false)
    (hpct : f.contains '%' = false) (he : getExpr dt f = some e) :
    str m x = dumpExpr m dt x e := by
  unfold str
  rw [hdt]
  simp only [hf, hne, Bool.false_eq_true, if_false]
  unfold dump
  rw [hpct, he]
  simp only [Bool.false_eq_true, if_false]

theorem pow_ned (n : Nat) : (10 : Int) ^ (n + 4) = ((10 ^ n : Nat) : Int) * 10000 := by
  rw [Int.natCast_pow, Int.pow_add]
  rfl

/-- A `Z` zone is `+00:00`. -/
theorem tz_utc (m : Mode) (zd : ZoneDefault) (zo : Option ZEntry) (v : Vals) (tz : TZ)
    (hz : mkTZ m ((zoneOf zd (zo.map (·.tmpl)) v).hour.getD 0)
      ((zoneOf zd (zo.map (·.tmpl)) v).minute.getD 0) = some tz)
    (hu : hasGroup (ztmplO zo) .tzUtc = true) :
    zoneOf zd (zo.map (·.tmpl)) v = ⟨some 0, some 0⟩ ∧ tz = ⟨0, 0⟩ := by
  cases zo with
  | none => cases hu
  | some ze =>
    have h0 : zoneOf zd (some ze.tmpl) v = ⟨some 0, some 0⟩ := by
      simp only [zoneOf, show hasGroup ze.tmpl .tzUtc = true from hu, if_true]
    refine ⟨h0, ?_⟩
    have := mkTZ_some _ _ _ _ hz
    rw [show Option.map (·.tmpl) (some ze) = some ze.tmpl from rfl, h0] at this
    exact this

theorem renderSegs_dtz (m : Mode) (x : XTP) (a b c : List Seg) (A B C : List Char)
    (ha : renderSegs m x a = some A) (hb : renderSegs m x b = some B) (hc : renderSegs m x c = some C) :
    renderSegs m x (a ++ Seg.raw 'T' :: (b ++ c)) = some (A ++ 'T' :: (B ++ C)) := by
  apply renderSegs_append m x _ _ _ _ ha
  simp only [renderSegs, renderSegs_append m x _ _ _ _ hb hc, Option.map_some]

theorem isWeek_pointOf (cfg : Cfg) (de te : Template) (v : Vals) (tz : TZ) :
    (pointOf cfg de te v tz).isWeek = hasGroup de .weekOfYear := by
  unfold XTP.isWeek pointOf fieldOf
  cases hasGroup de .weekOfYear <;> rfl

/-- **`str` of the parsed point**: the point `pointOf` carrying, as its dump format, the expression
    text of the entries it was parsed by prints the text those entries' regular expressions spell for
    the values `spelled` — provided the combination of entries passes the decidable checks. -/
theorem str_pointOf (cfg : Cfg) (de : Entry) (te : Option Entry) (zo : Option ZEntry) (v : Vals) (tz : TZ)
    (hok : de.tmpl.all (itemOK cfg.pt.ned) = true) (hcc : hasGroup de.tmpl .century = true)
    (hds : dateShapeOK de.tmpl = true)
    (hx : cfg.pt.ned = 0 → hasGroup de.tmpl .expandedYear = false)
    (htok : (ttmplO te).all (itemOK cfg.pt.ned) = true) (hts : timeShapeOK (ttmplO te) = true)
    (hzok : (ztmplO zo).all (itemOK cfg.pt.ned) = true)
    (hshape : shapeCheck de te zo = true) (hexpr : exprCheck cfg.pt de te zo = true)
    (hv : v.Fit cfg.pt.ned)
    (hz : mkTZ cfg.mode ((zoneOf cfg.zone (zo.map (·.tmpl)) v).hour.getD 0)
      ((zoneOf cfg.zone (zo.map (·.tmpl)) v).minute.getD 0) = some tz) :
    str cfg.mode { pointOf cfg de.tmpl (ttmplO te) v tz with dumpFmt := some (fmtOf de te zo) } =
      .ok (textOf de te zo (spelled de.tmpl (ztmplO zo) v)) := by
  obtain ⟨dt, e, hdt, he, hpct, hne, hsegs, hprops, hcust⟩ := exprCheck_spec cfg.pt de te zo hexpr
  simp only [shapeCheck, Bool.and_eq_true, decide_eq_true_eq] at hshape
  obtain ⟨⟨⟨⟨sd, ssx⟩, st⟩, sz⟩, su⟩ := hshape
  have hdn := dumpTablesFor_ned _ _ hdt
  rw [str_dumpFmt cfg.mode _ dt (fmtOf de te zo) e hdt rfl hne hpct he]
  have pX : e.props.contains .expandedYearDigits = hasGroup de.tmpl .expandedYear :=
    hprops .expandedYear (by decide)
  have pC : e.props.contains .century = hasGroup de.tmpl .century := hprops .century (by decide)
  have pM : e.props.contains .monthOfYear = hasGroup de.tmpl .monthOfYear := hprops .monthOfYear (by decide)
  have pD : e.props.contains .dayOfMonth = hasGroup de.tmpl .dayOfMonth := hprops .dayOfMonth (by decide)
  have pO : e.props.contains .dayOfYear = hasGroup de.tmpl .dayOfYear := hprops .dayOfYear (by decide)
  have pW : e.props.contains .weekOfYear = hasGroup de.tmpl .weekOfYear := hprops .weekOfYear (by decide)
  have pK : e.props.contains .dayOfWeek = hasGroup de.tmpl .dayOfWeek := hprops .dayOfWeek (by decide)
  have hna := yearOf_natAbs de.tmpl v
  have fx := hv.1
  have fc := hv.2.1
  have fy := hv.2.2.1
  rw [dumpExpr_keep cfg.mode dt _ e (yearOf de.tmpl v) rfl rfl]
  · -- the rendering
    rw [renderSegs_dump, hsegs]
    have hdp := date_prints cfg cfg.mode de.tmpl (ttmplO te) (ztmplO zo) v tz hok hcc hds sd hx hv
    have hd := renderSegs_tmpl cfg.mode _ _ de.tmpl hdp
    cases te with
    | none => simp only [segsOf, textOf]; rw [hd]
    | some t =>
      have htp := time_prints cfg cfg.mode de.tmpl t.tmpl (ztmplO zo) v tz htok hts st hv
      have hzp : ∀ it ∈ ztmplO zo, itemPrints cfg.mode (pointOf cfg de.tmpl t.tmpl v tz)
          (spelled de.tmpl (ztmplO zo) v) it := by
        cases zo with
        | none => intro it h; cases h
        | some ze =>
          exact zone_prints cfg.mode cfg.pt.ned _ ze.tmpl v _ cfg.zone hzok sz su hv
            (mkTZ_some _ _ _ _ hz) (spelled_nat _ _ v) rfl
      have := renderSegs_dtz cfg.mode (pointOf cfg de.tmpl t.tmpl v tz) _ _ _ _ _ _ hd
        (renderSegs_tmpl cfg.mode _ _ t.tmpl htp) (renderSegs_tmpl cfg.mode _ _ (ztmplO zo) hzp)
      simp only [segsOf, textOf, ttmplO, timeDesignator, this]
  · -- wantsWeek = isWeek
    rw [pW, pK]
    exact (dateShape_fields _ hds).2.2.2.1.trans (isWeek_pointOf cfg _ (ttmplO te) v tz).symm
  · rw [pM, pD, pO]
    exact (congrArg (· && _) (isWeek_pointOf cfg _ (ttmplO te) v tz)).trans (dateShape_fields _ hds).2.2.2.2
  · -- the literal zone
    rw [hcust]
    cases hu : hasGroup (ztmplO zo) .tzUtc with
    | false => exact Or.inl rfl
    | true => exact Or.inr ⟨rfl, (tz_utc _ _ zo v tz hz hu).2, rfl⟩
  · -- year bounds without expanded digits
    rw [pC, pX, hcc, hdn]
    cases hX : hasGroup de.tmpl .expandedYear with
    | true =>
      have : cfg.pt.ned ≠ 0 := fun h0 => by have := hx h0; rw [hX] at this; cases this
      simp [nedOf, hX, this]
    | false =>
      have hS : hasGroup de.tmpl .yearSign = false := by rw [ssx, hX]
      have hyv : yearOf de.tmpl v = ((yearOf de.tmpl v).natAbs : Int) := by
        unfold yearOf; simp only [hS, Bool.false_and, Bool.false_eq_true, if_false]; omega
      rw [hX, hcc] at hna
      simp only [Bool.false_eq_true, if_false, if_true] at hna
      simp only [Bool.not_false, Bool.true_or, Bool.and_true, Bool.true_and, Bool.not_eq_false',
        Bool.and_eq_true, decide_eq_true_eq]
      constructor
      · omega
      · rw [hyv, hna]; split <;> omega
  · -- year bounds with expanded digits
    rw [pX, hdn]
    cases hX : hasGroup de.tmpl .expandedYear with
    | false => rfl
    | true =>
      rw [hX, hcc] at hna
      simp only [if_true] at hna
      simp only [nedOf, hX, if_true, Bool.true_and, Bool.not_eq_false', Bool.and_eq_true, decide_eq_true_eq,
        pow_ned]
      have hp : 0 < 10 ^ cfg.pt.ned := Nat.pow_pos (by decide)
      constructor <;> (split at hna <;> omega)

theorem dropZeros_spec (r : List Char) :
    ∃ k, r = List.replicate k '0' ++ r.dropWhile (· = '0') ∧ (r.dropWhile (· = '0')).head? ≠ some '0' := by
  induction r with
  | nil => exact ⟨0, rfl, by simp⟩
  | cons c r ih =>
    by_cases hc : c = '0'
    · obtain ⟨k, h1, h2⟩ := ih
      refine ⟨k + 1, ?_, ?_⟩
      · simp only [List.dropWhile_cons, hc, decide_true, if_true, List.replicate_succ, List.cons_append]
        rw [← h1]
      · simpa [List.dropWhile_cons, hc] using h2
    · refine ⟨0, by simp [hc], by simp [hc]⟩

theorem stripZeros_spec (s : List Char) :
    ∃ k, (s = stripZeros s ++ List.replicate k '0' ∧ (stripZeros s).getLast? ≠ some '0') ∨
      (s = List.replicate k '0' ∧ stripZeros s = ['0']) := by
  obtain ⟨k, h1, h2⟩ := dropZeros_spec s.reverse
  refine ⟨k, ?_⟩
  have hs : s = (s.reverse.dropWhile (· = '0')).reverse ++ List.replicate k '0' := by
    have := congrArg List.reverse h1
    rw [List.reverse_reverse, List.reverse_append, List.reverse_replicate] at this
    exact this
  unfold stripZeros
  simp only []
  by_cases he : (s.reverse.dropWhile (· = '0')).reverse.isEmpty = true
  · right
    rw [if_pos he]
    refine ⟨?_, rfl⟩
    have : (s.reverse.dropWhile (· = '0')).reverse = [] := List.isEmpty_iff.mp he
    rw [this] at hs
    simpa using hs
  · left
    rw [if_neg he]
    refine ⟨hs, ?_⟩
    rw [List.getLast?_reverse]
    exact h2

end IsoDT.Text
