/-
  IsoDT.Lemmas.Text — generic lemmas about the template matcher / renderer of the text layer:
  digit fields, the template round trip, the decidable shape-disjointness check and its soundness.
-/
import IsoDT.Model.TextDump

namespace IsoDT.Text
open IsoDT

theorem digitChar (d : Nat) (h : d < 10) :
    isDigit (Char.ofNat (48 + d)) = true ∧ (Char.ofNat (48 + d)).toNat = 48 + d := by
  have : ∀ d : Fin 10, isDigit (Char.ofNat (48 + d.val)) = true ∧
      (Char.ofNat (48 + d.val)).toNat = 48 + d.val := by decide
  exact this ⟨d, h⟩

theorem renderNat_length (w v : Nat) : (renderNat w v).length = w := by
  induction w with
  | zero => rfl
  | succ w ih => simp [renderNat, ih]

theorem renderNat_digits (w v : Nat) : (renderNat w v).all isDigit = true := by
  induction w with
  | zero => rfl
  | succ w ih =>
    simp only [renderNat, List.all_cons, ih, Bool.and_true]
    exact (digitChar _ (Nat.mod_lt _ (by decide))).1

theorem foldl_digits (w v acc : Nat) :
    (renderNat w v).foldl (fun a c => 10 * a + (c.toNat - 48)) acc = acc * 10 ^ w + v % 10 ^ w := by
  induction w generalizing acc with
  | zero => simp [renderNat, Nat.mod_one]
  | succ w ih =>
    have hd := (digitChar (v / 10 ^ w % 10) (Nat.mod_lt _ (by decide))).2
    simp only [renderNat, List.foldl_cons, hd, ih]
    have e1 : 48 + v / 10 ^ w % 10 - 48 = v / 10 ^ w % 10 := by omega
    rw [e1, Nat.pow_succ, Nat.mod_mul, Nat.add_mul, Nat.mul_comm 10 acc, Nat.mul_assoc,
      Nat.mul_comm 10 (10 ^ w)]
    rw [Nat.mul_comm (10 ^ w) (v / 10 ^ w % 10)]
    omega

theorem digitsVal_renderNat (w v : Nat) : digitsVal (renderNat w v) = v % 10 ^ w := by
  unfold digitsVal
  rw [foldl_digits]; simp

theorem intOf_renderNat (w v : Nat) (hw : 0 < w) (hv : v < 10 ^ w) :
    intOf? (renderNat w v) = some (v : Int) := by
  unfold intOf?
  have : (renderNat w v).isEmpty = false := by
    cases w with
    | zero => omega
    | succ w => simp [renderNat]
  rw [this, digitsVal_renderNat, Nat.mod_eq_of_lt hv]; rfl

theorem digitsVal_lt (ds : List Char) (hd : ds.all isDigit = true) : digitsVal ds < 10 ^ ds.length := by
  have key : ∀ (ds : List Char) (acc : Nat), ds.all isDigit = true →
      ds.foldl (fun a c => 10 * a + (c.toNat - 48)) acc < (acc + 1) * 10 ^ ds.length := by
    intro ds
    induction ds with
    | nil => intro acc _; simp
    | cons c ds ih =>
      intro acc hd
      simp only [List.all_cons, Bool.and_eq_true, isDigit, decide_eq_true_eq] at hd
      refine Nat.lt_of_lt_of_le (ih (10 * acc + (c.toNat - 48)) hd.2) ?_
      rw [List.length_cons, Nat.pow_succ, Nat.mul_comm (10 ^ ds.length) 10, ← Nat.mul_assoc]
      exact Nat.mul_le_mul_right _ (by omega)
  simpa [digitsVal] using key ds 0 hd

theorem renderNat_split (a b v : Nat) :
    renderNat (a + b) v = renderNat a (v / 10 ^ b) ++ renderNat b v := by
  induction a with
  | zero => simp [renderNat]
  | succ a ih =>
    have : a + 1 + b = (a + b) + 1 := by omega
    rw [this]
    simp only [renderNat, ih, List.cons_append]
    congr 2
    rw [Nat.pow_add, Nat.div_div_eq_div_mul, Nat.mul_comm]

theorem renderNat_mod (w v : Nat) : renderNat w (v % 10 ^ w) = renderNat w v := by
  induction w generalizing v with
  | zero => rfl
  | succ w ih =>
    simp only [renderNat]
    have h1 : v % 10 ^ (w + 1) / 10 ^ w % 10 = v / 10 ^ w % 10 := by
      rw [Nat.pow_succ, Nat.mod_mul_right_div_self, Nat.mod_mod]
    have h2 : renderNat w (v % 10 ^ (w + 1)) = renderNat w v := by
      rw [← ih v, ← ih (v % 10 ^ (w + 1)), Nat.pow_succ, Nat.mod_mul_right_mod]
    rw [h1, h2]

/-- `CC` then `YY` is the four-digit year. -/
theorem renderNat_four (n : Nat) : renderNat 4 n = renderNat 2 (n / 100) ++ renderNat 2 (n % 100) := by
  have h1 := renderNat_split 2 2 n
  have h2 := renderNat_mod 2 n
  simp only [Nat.reduceAdd, Nat.reducePow] at h1 h2
  rw [h1, h2]

theorem takeDigits_append (s r : List Char) (h : s.all isDigit = true) :
    takeDigits s.length (s ++ r) = some (s, r) := by
  induction s with
  | nil => rfl
  | cons c s ih =>
    simp only [List.all_cons, Bool.and_eq_true] at h
    simp [takeDigits, h.1, ih h.2]

theorem takeDigits_some (n : Nat) (s d r : List Char) (h : takeDigits n s = some (d, r)) :
    s = d ++ r ∧ d.length = n ∧ d.all isDigit = true := by
  induction n generalizing s d r with
  | zero => simp [takeDigits] at h; obtain ⟨rfl, rfl⟩ := h; simp
  | succ n ih =>
    cases s with
    | nil => simp [takeDigits] at h
    | cons c s =>
      simp only [takeDigits] at h
      split at h
      · rename_i hc
        split at h
        · rename_i d' r' e
          simp only [Option.some.injEq, Prod.mk.injEq] at h
          obtain ⟨rfl, rfl⟩ := h
          obtain ⟨e1, e2, e3⟩ := ih s d' r' e
          exact ⟨by simp [e1], by simp [e2], by simp [hc, e3]⟩
        · exact absurd h (by simp)
      · exact absurd h (by simp)

theorem spanDigits_append (s r : List Char) (h : s.all isDigit = true)
    (hr : ∀ c r', r = c :: r' → isDigit c = false) : spanDigits (s ++ r) = (s, r) := by
  induction s with
  | nil =>
    cases r with
    | nil => rfl
    | cons c r' => simp [spanDigits, hr c r' rfl]
  | cons c s ih =>
    simp only [List.all_cons, Bool.and_eq_true] at h
    simp [spanDigits, h.1, ih h.2]

theorem spanDigits_spec (s : List Char) :
    s = (spanDigits s).1 ++ (spanDigits s).2 ∧ (spanDigits s).1.all isDigit = true := by
  induction s with
  | nil => simp [spanDigits]
  | cons c s ih =>
    by_cases hc : isDigit c = true
    · simp only [spanDigits, hc, if_true, List.cons_append, List.all_cons, Bool.true_and]
      exact ⟨by rw [← ih.1], ih.2⟩
    · simp [spanDigits, hc]

theorem stripPrefix_append (ls r : List Char) : stripPrefix ls (ls ++ r) = some r := by
  induction ls with
  | nil => rfl
  | cons l ls ih => simp [stripPrefix, ih]

theorem stripPrefix_some (ls s r : List Char) (h : stripPrefix ls s = some r) : s = ls ++ r := by
  induction ls generalizing s with
  | nil => simp [stripPrefix] at h; simp [h]
  | cons l ls ih =>
    cases s with
    | nil => simp [stripPrefix] at h
    | cons c s =>
      simp only [stripPrefix] at h
      split at h
      · rename_i e; subst e; simp [ih s h]
      · exact absurd h (by simp)

/-- `digitsPlus` occurs only as the last item (checked by the translator, re-checked on the tables). -/
def wf : Template → Bool
  | [] => true
  | .digitsPlus _ :: t => t.isEmpty
  | _ :: t => wf t

theorem fits_cons {it : Item} {t : Template} {env : Env} (h : fits (it :: t) env = true) :
    match it with
    | .lit _ => fits t env = true
    | .digits f n => ∃ s env', env = (f, s) :: env' ∧ s.length = n ∧ s.all isDigit = true ∧ fits t env' = true
    | .digitsPlus f => ∃ s, env = [(f, s)] ∧ s ≠ [] ∧ s.all isDigit = true ∧ t = []
    | .sign f => ∃ s env', env = (f, s) :: env' ∧ (s = ['+'] ∨ s = ['-']) ∧ fits t env' = true
    | .group f ls => ∃ env', env = (f, ls) :: env' ∧ fits t env' = true := by
  cases it with
  | lit c => exact h
  | digits f n =>
    cases env with
    | nil => exact absurd h Bool.false_ne_true
    | cons gs env =>
      simp only [fits, Bool.and_eq_true, decide_eq_true_eq] at h
      exact ⟨gs.2, env, by rw [h.1.1.1], h.1.1.2, h.1.2, h.2⟩
  | digitsPlus f =>
    cases env with
    | nil => exact absurd h Bool.false_ne_true
    | cons gs env =>
      simp only [fits, Bool.and_eq_true, decide_eq_true_eq, Bool.not_eq_true', List.isEmpty_eq_false_iff,
        List.isEmpty_iff] at h
      exact ⟨gs.2, by rw [h.1.1.1.1, h.2], h.1.1.1.2, h.1.1.2, h.1.2⟩
  | sign f =>
    cases env with
    | nil => exact absurd h Bool.false_ne_true
    | cons gs env =>
      simp only [fits, Bool.and_eq_true, Bool.or_eq_true, decide_eq_true_eq] at h
      exact ⟨gs.2, env, by rw [h.1.1], h.1.2, h.2⟩
  | group f ls =>
    cases env with
    | nil => exact absurd h Bool.false_ne_true
    | cons gs env =>
      simp only [fits, Bool.and_eq_true, decide_eq_true_eq] at h
      exact ⟨env, by rw [h.1.1, ← h.1.2], h.2⟩

/-- **Round trip**: a template matches the text it renders for any fitting assignment of its groups,
    and returns exactly that assignment. -/
theorem tmatch_trender (t : Template) (env : Env) (h : fits t env = true) :
    tmatch t (trender t env) = some env := by
  induction t generalizing env with
  | nil =>
    cases env with
    | nil => rfl
    | cons _ _ => simp [fits] at h
  | cons it t ih =>
    have hc := fits_cons h
    cases it with
    | lit c => simp [trender, tmatch, ih env hc]
    | digits f n =>
      obtain ⟨s, env, rfl, rfl, hd, hf⟩ := hc
      simp [trender, tmatch, takeDigits_append s _ hd, ih env hf]
    | digitsPlus f =>
      obtain ⟨s, rfl, hne, hd, rfl⟩ := hc
      have hs : spanDigits (s ++ []) = (s, []) := spanDigits_append s [] hd (by simp)
      simp only [List.append_nil] at hs
      simp [trender, tmatch, hs, hne, atEnd]
    | sign f =>
      obtain ⟨s, env, rfl, hs, hf⟩ := hc
      rcases hs with rfl | rfl <;> simp [trender, tmatch, ih env hf]
    | group f ls =>
      obtain ⟨env, rfl, hf⟩ := hc
      simp [trender, tmatch, stripPrefix_append, ih env hf]

theorem tmatch_nil_some {s : List Char} {env : Env} (h : tmatch [] s = some env) :
    atEnd s = true ∧ env = [] := by
  simp only [tmatch] at h
  split at h
  · rename_i he; exact ⟨he, (Option.some.inj h).symm⟩
  · cases h

theorem tmatch_cons_some {it : Item} {t : Template} {s : List Char} {env : Env}
    (h : tmatch (it :: t) s = some env) :
    ∃ r env', tmatch t r = some env' ∧
      match it with
      | .lit c => s = c :: r ∧ env = env'
      | .digits f n => ∃ d, s = d ++ r ∧ d.length = n ∧ d.all isDigit = true ∧ env = (f, d) :: env'
      | .digitsPlus f =>
        (spanDigits s).1 ≠ [] ∧ r = (spanDigits s).2 ∧ env = (f, (spanDigits s).1) :: env'
      | .sign f => ∃ c, s = c :: r ∧ (c = '+' ∨ c = '-') ∧ env = (f, [c]) :: env'
      | .group f ls => s = ls ++ r ∧ env = (f, ls) :: env' := by
  cases it with
  | lit l =>
    cases s with
    | nil => cases h
    | cons c cs =>
      simp only [tmatch] at h
      split at h
      · rename_i e; exact ⟨cs, env, h, by rw [e], rfl⟩
      · cases h
  | digits g k =>
    simp only [tmatch] at h
    split at h
    · rename_i d r e
      obtain ⟨env', hm, rfl⟩ := Option.map_eq_some_iff.mp h
      obtain ⟨e1, e2, e3⟩ := takeDigits_some k s d r e
      exact ⟨r, env', hm, d, e1, e2, e3, rfl⟩
    · cases h
  | digitsPlus g =>
    simp only [tmatch] at h
    split at h
    · cases h
    · rename_i hne
      obtain ⟨env', hm, rfl⟩ := Option.map_eq_some_iff.mp h
      exact ⟨_, env', hm, hne, rfl, rfl⟩
  | sign g =>
    cases s with
    | nil => cases h
    | cons c cs =>
      simp only [tmatch] at h
      split at h
      · rename_i hc
        obtain ⟨env', hm, rfl⟩ := Option.map_eq_some_iff.mp h
        exact ⟨cs, env', hm, c, rfl, hc, rfl⟩
      · cases h
  | group g ls =>
    simp only [tmatch] at h
    split at h
    · rename_i r e
      obtain ⟨env', hm, rfl⟩ := Option.map_eq_some_iff.mp h
      exact ⟨r, env', hm, stripPrefix_some ls s r e, rfl⟩
    · cases h

/-- The converse of `tmatch_trender`. -/
theorem tmatch_fits (t : Template) (hw : wf t = true) (s : List Char) (env : Env)
    (h : tmatch t s = some env) : fits t env = true := by
  induction t generalizing s env with
  | nil => rw [(tmatch_nil_some h).2]; rfl
  | cons it t ih =>
    obtain ⟨r, env', hm, hit⟩ := tmatch_cons_some h
    cases it with
    | lit c => rw [hit.2]; exact ih hw r env' hm
    | digits f n =>
      obtain ⟨d, _, hl, hd, rfl⟩ := hit
      simp [fits, hl, hd, ih hw r env' hm]
    | digitsPlus f =>
      obtain ⟨hne, _, rfl⟩ := hit
      have ht : t = [] := by simpa [wf] using hw
      subst ht
      rw [(tmatch_nil_some hm).2]
      simp [fits, hne, (spanDigits_spec s).2]
    | sign f =>
      obtain ⟨c, _, hc, rfl⟩ := hit
      rcases hc with rfl | rfl <;> simp [fits, ih hw r env' hm]
    | group f ls =>
      obtain ⟨_, rfl⟩ := hit
      simp [fits, ih hw r env' hm]

/-! ## Shapes: which texts can a template match at all -/

/-- A character class of a template position. -/
inductive CC where
  | ch (c : Char)
  | digit
  | sign
  deriving DecidableEq, Repr

def CC.mem : CC → Char → Bool
  | .ch a, c => a = c
  | .digit, c => isDigit c
  | .sign, c => c = '+' || c = '-'

/-- Do two classes share a character? -/
def CC.meet : CC → CC → Bool
  | .ch a, .ch b => a = b
  | .ch a, .digit => isDigit a
  | .digit, .ch a => isDigit a
  | .ch a, .sign => a = '+' || a = '-'
  | .sign, .ch a => a = '+' || a = '-'
  | .digit, .digit => true
  | .sign, .sign => true
  | .digit, .sign => false
  | .sign, .digit => false

theorem not_digit_of_sign (c : Char) (h : (c = '+' || c = '-') = true) : isDigit c = false := by
  simp only [Bool.or_eq_true, decide_eq_true_eq] at h
  rcases h with rfl | rfl <;> rfl

theorem CC.meet_of_mem (x y : CC) (c : Char) (hx : x.mem c = true) (hy : y.mem c = true) :
    x.meet y = true := by
  cases x with
  | ch a =>
    -- `x` is the one character `c`, so meeting `y` is `c` being in `y`
    cases of_decide_eq_true hx
    cases y with
    | ch b => exact decide_eq_true (of_decide_eq_true hy).symm
    | digit => exact hy
    | sign => exact hy
  | digit =>
    cases y with
    | ch b => cases of_decide_eq_true hy; exact hx
    | digit => rfl
    | sign => rw [CC.mem, not_digit_of_sign c hy] at hx; cases hx
  | sign =>
    cases y with
    | ch b => cases of_decide_eq_true hy; exact hx
    | digit => rw [CC.mem, not_digit_of_sign c hx] at hy; cases hy
    | sign => rfl

/-- What follows the fixed positions of a shape. -/
inductive Tail where
  /-- end of text -/
  | none
  /-- one or more digits, then the end -/
  | plus
  /-- zero or more digits, then the end -/
  | star
  deriving DecidableEq, Repr

/-- The texts of a shape: fixed classes, then the tail, then `$`. -/
def acceptsT : List CC → Tail → List Char → Bool
  | k :: ks, t, c :: s => k.mem c && acceptsT ks t s
  | _ :: _, _, [] => false
  | [], .none, s => atEnd s
  | [], .plus, s => !(spanDigits s).1.isEmpty && atEnd (spanDigits s).2
  | [], .star, s => atEnd (spanDigits s).2

/-- The shape of a (well-formed) template. -/
def shapeOf : Template → List CC × Tail
  | [] => ([], .none)
  | .lit c :: t => (.ch c :: (shapeOf t).1, (shapeOf t).2)
  | .digits _ n :: t => (List.replicate n .digit ++ (shapeOf t).1, (shapeOf t).2)
  | .digitsPlus _ :: _ => ([], .plus)
  | .sign _ :: t => (.sign :: (shapeOf t).1, (shapeOf t).2)
  | .group _ ls :: t => (ls.map .ch ++ (shapeOf t).1, (shapeOf t).2)

theorem acceptsT_digits (d r : List Char) (ks : List CC) (tl : Tail) (hd : d.all isDigit = true)
    (h : acceptsT ks tl r = true) : acceptsT (List.replicate d.length .digit ++ ks) tl (d ++ r) = true := by
  induction d with
  | nil => simpa using h
  | cons c d ih =>
    simp only [List.all_cons, Bool.and_eq_true] at hd
    simp [List.replicate_succ, acceptsT, CC.mem, hd.1, ih hd.2]

theorem acceptsT_lits (ls r : List Char) (ks : List CC) (tl : Tail)
    (h : acceptsT ks tl r = true) : acceptsT (ls.map .ch ++ ks) tl (ls ++ r) = true := by
  induction ls with
  | nil => simpa using h
  | cons c ls ih => simp [acceptsT, CC.mem, ih]

theorem tmatch_accepts (t : Template) (hw : wf t = true) (s : List Char) (env : Env)
    (h : tmatch t s = some env) : acceptsT (shapeOf t).1 (shapeOf t).2 s = true := by
  induction t generalizing s env with
  | nil => exact (tmatch_nil_some h).1
  | cons it t ih =>
    obtain ⟨r, env', hm, hit⟩ := tmatch_cons_some h
    cases it with
    | lit c =>
      rw [hit.1]
      simp [shapeOf, acceptsT, CC.mem, ih hw r env' hm]
    | digits f n =>
      obtain ⟨d, rfl, rfl, hd, _⟩ := hit
      exact acceptsT_digits d r _ _ hd (ih hw r env' hm)
    | digitsPlus f =>
      obtain ⟨hne, rfl, _⟩ := hit
      have ht : t = [] := by simpa [wf] using hw
      subst ht
      simp only [shapeOf, acceptsT, Bool.and_eq_true, Bool.not_eq_true', List.isEmpty_eq_false_iff]
      exact ⟨hne, (tmatch_nil_some hm).1⟩
    | sign f =>
      obtain ⟨c, rfl, hc, _⟩ := hit
      simp only [shapeOf, acceptsT, CC.mem, Bool.and_eq_true, Bool.or_eq_true, decide_eq_true_eq]
      exact ⟨hc, ih hw r env' hm⟩
    | group f ls =>
      rw [hit.1]
      exact acceptsT_lits ls r _ _ (ih hw r env' hm)

/-- `overlapB` when the first shape has no fixed positions left. -/
def overlapTail : Tail → List CC → Tail → Bool
  | .none, [], tb => tb != .plus
  | .plus, [], tb => tb != .none
  | .star, [], _ => true
  | .none, y :: _, _ => y.mem '\n'
  | .plus, y :: b, tb => y.meet .digit && overlapTail .star b tb
  | .star, y :: b, tb => (y.meet .digit && overlapTail .star b tb) || y.mem '\n'

/-- Can two shapes share a text? (`false` = certainly not.)  Structural in the first list. -/
def overlapB : List CC → Tail → List CC → Tail → Bool
  | [], ta, b, tb => overlapTail ta b tb
  | x :: _, _, [], .none => x.mem '\n'
  | x :: a, ta, [], .plus => x.meet .digit && overlapB a ta [] .star
  | x :: a, ta, [], .star => (x.meet .digit && overlapB a ta [] .star) || x.mem '\n'
  | x :: a, ta, y :: b, tb => x.meet y && overlapB a ta b tb

theorem atEnd_cons (c : Char) (s : List Char) (h : atEnd (c :: s) = true) : c = '\n' := by
  cases s with
  | nil => simpa [atEnd] using h
  | cons _ _ => simp [atEnd] at h

theorem nl_not_digit : isDigit '\n' = false := by decide

theorem digit_meet_of (y : CC) (c : Char) (hy : y.mem c = true) (hc : isDigit c = true) :
    CC.meet y .digit = true := CC.meet_of_mem y .digit c hy hc

theorem tail_step (tl : Tail) (htl : tl ≠ .none) (c : Char) (s : List Char)
    (h : acceptsT [] tl (c :: s) = true) :
    (isDigit c = true ∧ acceptsT [] .star s = true) ∨ (tl = .star ∧ c = '\n') := by
  by_cases hc : isDigit c = true
  · left
    refine ⟨hc, ?_⟩
    cases tl with
    | none => exact absurd rfl htl
    | plus => simpa [acceptsT, spanDigits, hc] using h
    | star => simpa [acceptsT, spanDigits, hc] using h
  · right
    cases tl with
    | none => exact absurd rfl htl
    | plus => simp [acceptsT, spanDigits, hc] at h
    | star =>
      simp only [acceptsT, spanDigits, hc] at h
      exact ⟨rfl, atEnd_cons c s (by simpa using h)⟩

theorem overlapTail_sound (ta : Tail) (b : List CC) (tb : Tail) (s : List Char)
    (ha : acceptsT [] ta s = true) (hb : acceptsT b tb s = true) : overlapTail ta b tb = true := by
  induction s generalizing ta b tb with
  | nil =>
    cases b with
    | cons y b => simp [acceptsT] at hb
    | nil => cases ta <;> cases tb <;> simp_all [overlapTail, acceptsT, spanDigits, atEnd]
  | cons c s ih =>
    cases b with
    | nil =>
      cases ta <;> cases tb <;> simp only [overlapTail] <;> try rfl
      · -- none, plus
        have := atEnd_cons c s (by simpa [acceptsT] using ha)
        subst this
        simp [acceptsT, spanDigits, nl_not_digit] at hb
      · -- plus, none
        have := atEnd_cons c s (by simpa [acceptsT] using hb)
        subst this
        simp [acceptsT, spanDigits, nl_not_digit] at ha
    | cons y b =>
      simp only [acceptsT, Bool.and_eq_true] at hb
      cases ta with
      | none =>
        have := atEnd_cons c s (by simpa [acceptsT] using ha)
        subst this
        simpa [overlapTail] using hb.1
      | plus =>
        rcases tail_step .plus (by simp) c s ha with ⟨hc, hs⟩ | ⟨h1, _⟩
        · simp only [overlapTail, Bool.and_eq_true]
          exact ⟨digit_meet_of y c hb.1 hc, ih .star b tb hs hb.2⟩
        · exact absurd h1 (by simp)
      | star =>
        rcases tail_step .star (by simp) c s ha with ⟨hc, hs⟩ | ⟨_, h2⟩
        · simp only [overlapTail, Bool.or_eq_true, Bool.and_eq_true]
          exact Or.inl ⟨digit_meet_of y c hb.1 hc, ih .star b tb hs hb.2⟩
        · subst h2
          simp only [overlapTail, Bool.or_eq_true]
          exact Or.inr hb.1

theorem overlapB_nil_right (a : List CC) (ta tb : Tail) : overlapB a ta [] tb = overlapTail tb a ta := by
  induction a generalizing tb with
  | nil => cases ta <;> cases tb <;> rfl
  | cons x a ih => cases tb <;> simp only [overlapB, overlapTail, ih]

/-- **Soundness of the disjointness check**: if one text has both shapes, `overlapB` says so. -/
theorem overlapB_sound (a : List CC) (ta : Tail) (b : List CC) (tb : Tail) (s : List Char)
    (ha : acceptsT a ta s = true) (hb : acceptsT b tb s = true) : overlapB a ta b tb = true := by
  induction a generalizing b s with
  | nil => exact overlapTail_sound ta b tb s ha hb
  | cons x a ih =>
    cases b with
    | nil => rw [overlapB_nil_right]; exact overlapTail_sound tb (x :: a) ta s hb ha
    | cons y b =>
      cases s with
      | nil => exact absurd ha Bool.false_ne_true
      | cons c s =>
        simp only [acceptsT, Bool.and_eq_true] at ha hb
        simp only [overlapB, Bool.and_eq_true]
        exact ⟨CC.meet_of_mem x y c ha.1 hb.1, ih b s ha.2 hb.2⟩

/-- The decidable check: no text is matched by both templates. -/
def shapeDisjoint (a b : Template) : Bool :=
  !overlapB (shapeOf a).1 (shapeOf a).2 (shapeOf b).1 (shapeOf b).2

theorem shapeDisjoint_sound (a b : Template) (ha : wf a = true) (hb : wf b = true)
    (h : shapeDisjoint a b = true) (s : List Char) (env : Env) (hm : tmatch b s = some env) :
    tmatch a s = none := by
  cases hma : tmatch a s with
  | none => rfl
  | some env' =>
    have h1 := tmatch_accepts a ha s env' hma
    have h2 := tmatch_accepts b hb s env hm
    have := overlapB_sound _ _ _ _ s h1 h2
    simp [shapeDisjoint, this] at h

end IsoDT.Text
