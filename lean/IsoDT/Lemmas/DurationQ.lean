/-
  IsoDT.Lemmas.DurationQ — helper facts about the rational `Duration` model (`Model.DurationQ`):
  years/months and exact length of every operation, `get_days_and_seconds` as a floor split of
  the rough length, and the agreement of every operation with the integer model on `ofDur`.
-/
import IsoDT.Model.DurationQ
import IsoDT.Lemmas.Dur
import IsoDT.Lemmas.TickQ

namespace IsoDT.Lemmas.DQ
open IsoDT IsoDT.Model IsoDT.Lemmas

/-- Years and months of a duration (none in week form). -/
def ym : DurationQ → Int × Int
  | .weeks _ => (0, 0)
  | .units y mo _ _ _ _ => (y, mo)

/-- The length of the exact units in seconds, spelled with literals. -/
def len : DurationQ → Rat
  | .weeks w => 604800 * (w : Rat)
  | .units _ _ d h mi s => 86400 * (d : Rat) + 3600 * h + 60 * mi + s

theorem exactSeconds_eq (m : Mode) (a : DurationQ) : a.exactSeconds m = len a := by
  cases a <;>
    simp only [DurationQ.exactSeconds, len, daysInWeek_eq, secondsInDay_eq, secondsInHour_eq,
      secondsInMinute_eq, Rat.intCast_mul, Rat.intCast_ofNat] <;> grind

theorem isExact_iff (a : DurationQ) : a.isExact = true ↔ ym a = (0, 0) := by
  cases a <;> simp [DurationQ.isExact, ym]

theorem ite_false_eq_true (P : Prop) [Decidable P] (b : Bool) :
    (if P then b else false) = true ↔ P ∧ b = true := by
  by_cases h : P <;> simp [h]

theorem eq_iff (m : Mode) (a b : DurationQ) :
    DurationQ.eq m a b = true ↔ ym a = ym b ∧ len a = len b := by
  simp only [DurationQ.eq, exactSeconds_eq]
  cases a <;> cases b <;>
    simp only [DurationQ.isExact, ym, Bool.and_eq_true, beq_iff_eq, Prod.mk.injEq, if_true, true_and,
      ite_false_eq_true, eq_comm (a := (0 : Int))]
  -- both in unit form: the exact branch if the left operand has no years and months
  split
  · rename_i h; simp only [ite_false_eq_true, h.1, h.2, beq_iff_eq, eq_comm (a := (0 : Int))]
  · simp only [Bool.and_eq_true, beq_iff_eq]

theorem hashKey_eq (m : Mode) (a : DurationQ) : DurationQ.hashKey m a = ((ym a).1, (ym a).2, len a) := by
  cases a <;> simp only [DurationQ.hashKey, exactSeconds_eq, ym]

theorem add_ym (m : Mode) (a b : DurationQ) :
    ym (DurationQ.add m a b) = ((ym a).1 + (ym b).1, (ym a).2 + (ym b).2) := by
  cases a <;> cases b <;> simp [DurationQ.add, DurationQ.toDays, ym]

theorem add_len (m : Mode) (a b : DurationQ) : len (DurationQ.add m a b) = len a + len b := by
  cases a <;> cases b <;>
    simp only [DurationQ.add, DurationQ.toDays, len, daysInWeek_eq, Rat.intCast_add, Rat.intCast_mul,
      Rat.intCast_ofNat] <;> grind

theorem mul_ym (a : DurationQ) (n : Int) : ym (a.mul n) = ((ym a).1 * n, (ym a).2 * n) := by
  cases a <;> simp [DurationQ.mul, ym]

theorem mul_len (a : DurationQ) (n : Int) : len (a.mul n) = len a * (n : Rat) := by
  cases a <;> simp only [DurationQ.mul, len, Rat.intCast_mul] <;> grind

theorem zero_len : len DurationQ.zero = 0 := by
  simp only [DurationQ.zero, len, Rat.intCast_zero]; grind

theorem toDays_ym (m : Mode) (a : DurationQ) : ym (a.toDays m) = ym a := by
  cases a <;> rfl

theorem toDays_len (m : Mode) (a : DurationQ) : len (a.toDays m) = len a := by
  cases a <;> simp only [DurationQ.toDays, len, daysInWeek_eq, Rat.intCast_mul, Rat.intCast_ofNat] <;> grind

/-- `to_days` commutes with addition (the sum of two week forms is a week form, else a day form). -/
theorem toDays_add (m : Mode) (a b : DurationQ) :
    (DurationQ.add m a b).toDays m = DurationQ.add m (a.toDays m) (b.toDays m) := by
  cases a <;> cases b <;>
    simp only [DurationQ.add, DurationQ.toDays, Int.add_mul, Int.add_zero, Rat.add_zero]

/-- `get_days_and_seconds` is the floor split of the rough length used by `<`, `<=`, `>`, `>=`: a
    year counts as the calendar's common-year length, a month as 30 days. -/
theorem das_spec (m : Mode) (a : DurationQ) :
    ((a.daysAndSeconds m).1 : Rat) * 86400 + (a.daysAndSeconds m).2 =
      (((ym a).1 * Spec.yearLenB m false * 86400 + (ym a).2 * 30 * 86400 : Int) : Rat) + len a ∧
    0 ≤ (a.daysAndSeconds m).2 ∧ (a.daysAndSeconds m).2 < 86400 := by
  cases a with
  | weeks w =>
    simp only [DurationQ.daysAndSeconds, ym, len, daysInWeek_eq, Rat.intCast_mul, Rat.intCast_ofNat,
      Int.zero_mul, Int.add_zero]
    exact ⟨by grind, Rat.le_refl, by decide⟩
  | units y mo d h mi s =>
    simp only [DurationQ.daysAndSeconds, ym, len, secondsInDay_eq, secondsInHour_eq,
      secondsInMinute_eq, roughDaysInYear_eq', roughDaysInMonth_eq']
    generalize Spec.yearLenB m false = L
    obtain ⟨e, r0, r1⟩ := divmodQ_spec (h * ((3600 : Int) : Rat) + mi * ((60 : Int) : Rat) + s) 86400 (by decide)
    generalize divmodQ (h * ((3600 : Int) : Rat) + mi * ((60 : Int) : Rat) + s) 86400 = r at e r0 r1
    simp only [Rat.intCast_add, Rat.intCast_mul, Rat.intCast_ofNat] at e r0 r1 ⊢
    refine ⟨by grind, r0, r1⟩

theorem pairLt_iff (a b : Int × Rat) (ha : 0 ≤ a.2 ∧ a.2 < 86400) (hb : 0 ≤ b.2 ∧ b.2 < 86400) :
    DurationQ.pairLt a b = true ↔ (a.1 : Rat) * 86400 + a.2 < (b.1 : Rat) * 86400 + b.2 := by
  unfold DurationQ.pairLt
  rw [Rat.mul_comm, Rat.mul_comm (b.1 : Rat), radix_lt 86400 a.1 b.1 a.2 b.2 ha hb]
  simp only [Bool.or_eq_true, Bool.and_eq_true, decide_eq_true_eq, beq_iff_eq]

theorem standardize_spec (m : Mode) (a : DurationQ) :
    ym (a.standardize m) = ym a ∧ len (a.standardize m) = len a ∧
    ∀ y mo d h mi s, a = .units y mo d h mi s → ∃ d' : Int, ∃ h' mi' s' : Rat,
      a.standardize m = .units y mo d' h' mi' s' ∧
      0 ≤ s' ∧ s' < 60 ∧ 0 ≤ mi' ∧ mi' < 60 ∧ 0 ≤ h' ∧ h' < 24 := by
  cases a with
  | weeks w => exact ⟨rfl, rfl, fun _ _ _ _ _ _ h => by cases h⟩
  | units y mo d h mi s =>
    simp only [DurationQ.standardize, ym, len, secondsInMinute_eq, minutesInHour_eq, hoursInDay_eq]
    obtain ⟨e1, a1, b1⟩ := divmodQ_spec s 60 (by decide)
    generalize divmodQ s 60 = r1 at e1 a1 b1 ⊢
    obtain ⟨e2, a2, b2⟩ := divmodQ_spec (mi + (r1.1 : Rat)) 60 (by decide)
    generalize divmodQ (mi + (r1.1 : Rat)) 60 = r2 at e2 a2 b2 ⊢
    obtain ⟨e3, a3, b3⟩ := divmodQ_spec (h + (r2.1 : Rat)) 24 (by decide)
    generalize divmodQ (h + (r2.1 : Rat)) 24 = r3 at e3 a3 b3 ⊢
    simp only [Rat.intCast_ofNat] at e1 b1 e2 b2 e3 b3
    refine ⟨trivial, by rw [Rat.intCast_add]; grind, ?_⟩
    rintro _ _ _ _ _ _ ⟨⟩
    exact ⟨_, _, _, _, rfl, a1, b1, a2, b2, a3, b3⟩

/-- `x // n` for `n > 0`. -/
theorem floorDivQ_spec (x : Rat) (n : Int) (hn : 0 < n) :
    IsInt (DurationQ.floorDivQ x n) ∧ DurationQ.floorDivQ x n * (n : Rat) ≤ x ∧
      x < (DurationQ.floorDivQ x n + 1) * (n : Rat) := by
  obtain ⟨e, r0, r1⟩ := divmodQ_spec x n hn
  have q : DurationQ.floorDivQ x n = ((divmodQ x n).1 : Rat) := rfl
  rw [q]
  exact ⟨isInt_intCast _, by grind⟩

theorem floor_intCast_div (a n : Int) (hn : n ≠ 0) : ((a : Rat) / (n : Rat)).floor = Int.fdiv a n := by
  rcases Int.lt_or_gt_of_ne hn with h | h
  · have hpos : 0 < -n := by omega
    have e : (a : Rat) / (n : Rat) = ((-a : Int) : Rat) / ((-n : Int) : Rat) := by
      have : (n : Rat) ≠ 0 := fun h0 => hn (Rat.intCast_inj.1 (by simpa using h0))
      rw [Rat.intCast_neg, Rat.intCast_neg]; grind
    rw [e, ← Int.neg_fdiv_neg, Int.fdiv_eq_ediv_of_nonneg _ (by omega)]
    exact congrArg Prod.fst (divmodQ_intCast (-a) (-n) hpos)
  · rw [Int.fdiv_eq_ediv_of_nonneg _ (by omega)]
    exact congrArg Prod.fst (divmodQ_intCast a n h)

theorem abs_intCast (a : Int) : (a : Rat).abs = ((a.natAbs : Int) : Rat) := by
  unfold Rat.abs
  split
  · rename_i h
    have h' : 0 ≤ a := by exact_mod_cast h
    congr 1; omega
  · rename_i h
    have h' : ¬ 0 ≤ a := fun x => h (by exact_mod_cast x)
    rw [← Rat.intCast_neg]; congr 1; omega

theorem intCast_beq (a b : Int) : ((a : Rat) == (b : Rat)) = (a == b) := by
  rw [Bool.eq_iff_iff, beq_iff_eq, beq_iff_eq, Rat.intCast_inj]

theorem ofDur_ym (a : Dur) : ym (DurationQ.ofDur a) = durYm a := by cases a <;> rfl

theorem ofDur_isExact (a : Dur) : (DurationQ.ofDur a).isExact = a.isExact := by cases a <;> rfl

theorem ofDur_exactSeconds (m : Mode) (a : Dur) :
    (DurationQ.ofDur a).exactSeconds m = ((a.exactSeconds m : Int) : Rat) := by
  cases a <;> simp only [DurationQ.ofDur, DurationQ.exactSeconds, Dur.exactSeconds, Rat.intCast_add,
    Rat.intCast_mul]

theorem ofDur_toDays (m : Mode) (a : Dur) : (DurationQ.ofDur a).toDays m = DurationQ.ofDur (a.toDays m) := by
  cases a <;> simp [DurationQ.ofDur, DurationQ.toDays, Dur.toDays]

theorem ofDur_mul (a : Dur) (n : Int) : (DurationQ.ofDur a).mul n = DurationQ.ofDur (a.mul n) := by
  cases a <;> simp [DurationQ.ofDur, DurationQ.mul, Dur.mul, Rat.intCast_mul]

theorem ofDur_add (m : Mode) (a b : Dur) :
    DurationQ.add m (DurationQ.ofDur a) (DurationQ.ofDur b) = DurationQ.ofDur (Dur.add m a b) := by
  cases a <;> cases b <;>
    simp [DurationQ.ofDur, DurationQ.add, Dur.add, DurationQ.toDays, Dur.toDays, Rat.intCast_add,
      Rat.add_zero, Rat.zero_add]

theorem ofDur_abs (a : Dur) : (DurationQ.ofDur a).abs = DurationQ.ofDur a.abs := by
  cases a <;> simp [DurationQ.ofDur, DurationQ.abs, Dur.abs, abs_intCast]

theorem ofDur_floordiv (a : Dur) (n : Int) :
    (DurationQ.ofDur a).floordiv n = (a.floordiv n).map DurationQ.ofDur := by
  unfold DurationQ.floordiv Dur.floordiv
  by_cases hn : n = 0
  · simp [hn]
  · rw [if_neg hn, if_neg hn]
    cases a <;> simp [DurationQ.ofDur, DurationQ.floorDivQ, floor_intCast_div _ _ hn]

theorem ofDur_mk (m : Mode) (y mo w d h mi s : Int) :
    DurationQ.mk m y mo w d (h : Rat) (mi : Rat) (s : Rat) = DurationQ.ofDur (mkDur m y mo w d h mi s) := by
  unfold DurationQ.mk mkDur
  simp only [Rat.intCast_eq_zero_iff]
  split <;> rfl

theorem ofDur_toWeeks (m : Mode) (a : Dur) : (DurationQ.ofDur a).toWeeks m = DurationQ.ofDur (a.toWeeks m) := by
  cases a with
  | weeks w => rfl
  | units y mo d h mi s =>
    simp only [DurationQ.ofDur, DurationQ.toWeeks, Dur.toWeeks]
    exact ofDur_mk m 0 0 _ 0 0 0 0

theorem ofDur_daysAndSeconds (m : Mode) (a : Dur) :
    (DurationQ.ofDur a).daysAndSeconds m = ((a.daysAndSeconds m).1, (((a.daysAndSeconds m).2 : Int) : Rat)) := by
  cases a with
  | weeks w => simp [DurationQ.ofDur, DurationQ.daysAndSeconds, Dur.daysAndSeconds]
  | units y mo d h mi s =>
    simp only [DurationQ.ofDur, DurationQ.daysAndSeconds, Dur.daysAndSeconds, secondsInDay_eq]
    rw [← Rat.intCast_mul, ← Rat.intCast_mul, ← Rat.intCast_add, ← Rat.intCast_add,
      divmodQ_intCast _ 86400 (by decide)]

theorem ofDur_seconds (m : Mode) (a : Dur) :
    (DurationQ.ofDur a).seconds m = ((a.seconds m : Int) : Rat) := by
  unfold DurationQ.seconds Dur.seconds
  rw [ofDur_isExact, ofDur_exactSeconds, ofDur_daysAndSeconds]
  split
  · rfl
  · simp only [Rat.intCast_add, Rat.intCast_mul]

theorem ofDur_eq (m : Mode) (a b : Dur) :
    DurationQ.eq m (DurationQ.ofDur a) (DurationQ.ofDur b) = Dur.eq m a b := by
  unfold DurationQ.eq Dur.eq
  rw [ofDur_isExact, ofDur_isExact, ofDur_exactSeconds, ofDur_exactSeconds, intCast_beq]
  cases a <;> cases b <;> simp only [DurationQ.ofDur]

theorem ofDur_hashKey (m : Mode) (a : Dur) :
    DurationQ.hashKey m (DurationQ.ofDur a) =
      ((Dur.hashKey m a).1, (Dur.hashKey m a).2.1, (((Dur.hashKey m a).2.2 : Int) : Rat)) := by
  cases a <;> simp only [DurationQ.ofDur, DurationQ.hashKey, Dur.hashKey]
  · exact congrArg (fun x => ((0 : Int), (0 : Int), x)) (ofDur_exactSeconds m (.weeks _))
  · rename_i y mo d h mi s
    exact congrArg (fun x => (y, mo, x)) (ofDur_exactSeconds m (.units y mo d h mi s))

theorem ofDur_lt (m : Mode) (a b : Dur) :
    DurationQ.lt m (DurationQ.ofDur a) (DurationQ.ofDur b) = Dur.lt m a b := by
  unfold DurationQ.lt Dur.lt DurationQ.pairLt Model.pairLt
  simp only [ofDur_daysAndSeconds, Rat.intCast_lt_intCast]

theorem ofDur_nonzero (a : Dur) : (DurationQ.ofDur a).nonzero = a.nonzero := by
  cases a <;> simp only [DurationQ.ofDur, DurationQ.nonzero, Dur.nonzero, bne, ← Rat.intCast_zero, intCast_beq]

theorem ofDur_zero : DurationQ.ofDur Dur.zero = DurationQ.zero := by
  simp [DurationQ.ofDur, Dur.zero, DurationQ.zero]

theorem ofDur_nfold (m : Mode) (a : Dur) (n : Nat) :
    DurationQ.nfold m (DurationQ.ofDur a) n = DurationQ.ofDur (Dur.nfold m a n) := by
  induction n with
  | zero => exact ofDur_zero.symm
  | succ k ih => simp only [DurationQ.nfold, Dur.nfold, ih, ofDur_add]

theorem ofDur_injective (a b : Dur) (h : DurationQ.ofDur a = DurationQ.ofDur b) : a = b := by
  cases a <;> cases b <;> simp only [DurationQ.ofDur, DurationQ.weeks.injEq, DurationQ.units.injEq,
    Rat.intCast_inj, reduceCtorEq] at h
  · rw [h]
  · obtain ⟨rfl, rfl, rfl, rfl, rfl, rfl⟩ := h; rfl

end IsoDT.Lemmas.DQ
