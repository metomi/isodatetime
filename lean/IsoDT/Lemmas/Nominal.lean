/-
  IsoDT.Lemmas.Nominal — the calendar rule for month steps that `add_months` is measured against,
  the rule and the code's step both read through the adjacent month, and what `add_months` and the
  year branch of `__add__` do to a strict point in each representation.
-/
import IsoDT.Lemmas.Cmp

namespace IsoDT.Lemmas
open IsoDT IsoDT.Model
open IsoDT.Spec (Date TZ TP)

/-- The calendar rule for one month step: the adjacent month, same day or that month's last. -/
def specMonthStep (m : Mode) (fwd : Bool) (x : Int × Int × Int) : Int × Int × Int :=
  let ym : Int × Int :=
    if fwd then (if x.2.1 + 1 > 12 then (x.1 + 1, x.2.1 + 1 - 12) else (x.1, x.2.1 + 1))
    else (if x.2.1 - 1 < 1 then (x.1 - 1, x.2.1 - 1 + 12) else (x.1, x.2.1 - 1))
  (ym.1, ym.2, if x.2.2 > Spec.monthLen m ym.1 ym.2 then Spec.monthLen m ym.1 ym.2 else x.2.2)

/-- The month after (`fwd`) or before month `mo` of year `y`; `specMonthStep` and `monthStep` are
    both "this month, day clamped to its length" (`specMonthStep_adj`, `monthStep_adj`). -/
def adjMonth (fwd : Bool) (y mo : Int) : Int × Int :=
  if fwd then (if mo + 1 > 12 then (y + 1, mo + 1 - 12) else (y, mo + 1))
  else (if mo - 1 < 1 then (y - 1, mo - 1 + 12) else (y, mo - 1))

theorem adjMonth_spec (fwd : Bool) (y mo : Int) (h1 : 1 ≤ mo) (h2 : mo ≤ 12) :
    1 ≤ (adjMonth fwd y mo).2 ∧ (adjMonth fwd y mo).2 ≤ 12 ∧
    12 * (adjMonth fwd y mo).1 + (adjMonth fwd y mo).2 = 12 * y + mo + (if fwd then 1 else -1) := by
  unfold adjMonth
  cases fwd
  · simp only [Bool.false_eq_true, ↓reduceIte]; split <;> omega
  · simp only [↓reduceIte]; split <;> omega

theorem clamp_eq_min (d l : Int) : (if l < d then l else d) = min d l := by omega

theorem specMonthStep_adj (m : Mode) (fwd : Bool) (y mo d : Int) :
    specMonthStep m fwd (y, mo, d) = ((adjMonth fwd y mo).1, (adjMonth fwd y mo).2,
      min d (Spec.monthLen m (adjMonth fwd y mo).1 (adjMonth fwd y mo).2)) :=
  congrArg (fun d => ((adjMonth fwd y mo).1, (adjMonth fwd y mo).2, d)) (clamp_eq_min _ _)

/-- The code takes the month's length from its table, indexed by the leap flag. -/
theorem monthStep_adj (m : Mode) (fwd : Bool) (y mo d : Int) (h1 : 1 ≤ mo) (h2 : mo ≤ 12) :
    monthStep m fwd (y, mo, d) = ((adjMonth fwd y mo).1, (adjMonth fwd y mo).2,
      min d (Spec.monthLen m (adjMonth fwd y mo).1 (adjMonth fwd y mo).2)) := by
  obtain ⟨r1, r2, _⟩ := adjMonth_spec fwd y mo h1 h2
  unfold monthStep
  simp only [monthsInYear_eq]
  exact (congrArg (fun l => ((adjMonth fwd y mo).1, (adjMonth fwd y mo).2, if d > l then l else d))
    (daysInMonthB_idx m (adjMonth fwd y mo).1 _ r1 r2)).trans (specMonthStep_adj m fwd y mo d)

def specMonthSteps (m : Mode) (fwd : Bool) : Nat → Int × Int × Int → Int × Int × Int
  | 0, x => x
  | k + 1, x => specMonthSteps m fwd k (specMonthStep m fwd x)

theorem rep0_cal' (d : Date) (h : d.rep = 0) : ∃ y mo dd, d = .cal y mo dd := rep0_cal d h

theorem addMonths_zero (m : Mode) (p : TP) : addMonths m p 0 = some p := by
  unfold addMonths; simp

theorem addYears_zero (m : Mode) (p : TP) : addYears m p 0 = p := by
  unfold addYears; rw [if_pos rfl]

theorem monthStep_spec (m : Mode) (fwd : Bool) (y mo d : Int) (h : Spec.ValidCal m y mo d) :
    monthStep m fwd (y, mo, d) = specMonthStep m fwd (y, mo, d) ∧
    Spec.ValidCal m (specMonthStep m fwd (y, mo, d)).1 (specMonthStep m fwd (y, mo, d)).2.1
      (specMonthStep m fwd (y, mo, d)).2.2 ∧
    12 * (specMonthStep m fwd (y, mo, d)).1 + (specMonthStep m fwd (y, mo, d)).2.1 =
      12 * y + mo + (if fwd then 1 else -1) ∧
    (specMonthStep m fwd (y, mo, d)).2.2 =
      min d (Spec.monthLen m (specMonthStep m fwd (y, mo, d)).1 (specMonthStep m fwd (y, mo, d)).2.1) := by
  obtain ⟨r1, r2, r3⟩ := adjMonth_spec fwd y mo h.1 h.2.1
  have hb := monthLen_bounds m (adjMonth fwd y mo).1 _ r1 r2
  rw [monthStep_adj m fwd y mo d h.1 h.2.1, specMonthStep_adj]
  exact ⟨rfl, ⟨r1, r2, Int.le_min.mpr ⟨h.2.2.1, by omega⟩, Int.min_le_right _ _⟩, r3, rfl⟩

theorem monthSteps_spec (m : Mode) (fwd : Bool) (k : Nat) (y mo d : Int) (h : Spec.ValidCal m y mo d) :
    monthSteps m fwd k (y, mo, d) = specMonthSteps m fwd k (y, mo, d) ∧
    Spec.ValidCal m (specMonthSteps m fwd k (y, mo, d)).1 (specMonthSteps m fwd k (y, mo, d)).2.1
      (specMonthSteps m fwd k (y, mo, d)).2.2 ∧
    12 * (specMonthSteps m fwd k (y, mo, d)).1 + (specMonthSteps m fwd k (y, mo, d)).2.1 =
      12 * y + mo + (if fwd then (k : Int) else -(k : Int)) ∧
    (specMonthSteps m fwd k (y, mo, d)).2.2 ≤ d ∧
    specMonthSteps m fwd (k + 1) (y, mo, d) = specMonthStep m fwd (specMonthSteps m fwd k (y, mo, d)) := by
  induction k generalizing y mo d with
  | zero =>
    refine ⟨rfl, h, ?_, Int.le_refl _, rfl⟩
    simp only [specMonthSteps]; split <;> omega
  | succ k ih =>
    obtain ⟨se, sv, si, sd⟩ := monthStep_spec m fwd y mo d h
    simp only [monthSteps, specMonthSteps, se]
    generalize specMonthStep m fwd (y, mo, d) = r at sv si sd ⊢
    obtain ⟨ry, rmo, rd⟩ := r
    obtain ⟨i1, i2, i3, i4, i5⟩ := ih ry rmo rd sv
    refine ⟨i1, i2, ?_, ?_, i5⟩
    · rw [i3, si]; cases fwd <;> simp only [Bool.false_eq_true, ↓reduceIte] <;> omega
    · dsimp only at sd; omega

theorem addMonths_spec (m : Mode) (p : TP) (n : Int) (hp : p.Strict m) :
    ∃ y mo d q, convert m 0 p.date = some (.cal y mo d) ∧ Spec.ValidCal m y mo d ∧
      addMonths m p n = some q ∧
      convert m 0 q.date = some (.cal (specMonthSteps m (decide (n > 0)) n.natAbs (y, mo, d)).1
        (specMonthSteps m (decide (n > 0)) n.natAbs (y, mo, d)).2.1
        (specMonthSteps m (decide (n > 0)) n.natAbs (y, mo, d)).2.2) ∧
      q.Strict m ∧ q.date.rep = p.date.rep ∧ q.tz = p.tz ∧ q.hh = p.hh ∧ q.mi = p.mi ∧ q.ss = p.ss := by
  obtain ⟨y, mo, d, ec, vc, _⟩ := convert_to_cal m p.date hp.1.1
  by_cases hn : n = 0
  · subst hn
    exact ⟨y, mo, d, p, ec, vc, addMonths_zero m p, ec, hp, rfl, rfl, rfl, rfl, rfl⟩
  obtain ⟨s1, s2, _⟩ := monthSteps_spec m (decide (n > 0)) n.natAbs y mo d vc
  refine ⟨y, mo, d, ?_⟩
  generalize specMonthSteps m (decide (n > 0)) n.natAbs (y, mo, d) = r at s1 s2 ⊢
  -- the point after the loop is strict, on a valid calendar date, so `_tick_over` is the identity
  have htick := tickOver_strict m ⟨.cal r.1 r.2.1 r.2.2, p.hh, p.mi, p.ss, p.tz⟩ ⟨⟨s2, hp.1.2⟩, hp.2⟩
  obtain ⟨q, er, vr, rr, _⟩ := convert_spec m p.date.rep (rep_lt_three _) (.cal r.1 r.2.1 r.2.2) s2
  have hback := convert_back m p.date.rep (rep_lt_three _) (.cal r.1 r.2.1 r.2.2) q s2 er
  refine ⟨{ p with date := q }, ec, vc, ?_, hback.1, ⟨⟨vr, hp.1.2⟩, hp.2⟩, rr, rfl, rfl, rfl, rfl⟩
  unfold addMonths
  rw [if_neg hn, ec]
  simp only [s1, htick, er, Option.map_some]

theorem addYears_spec (m : Mode) (p : TP) (n : Int) (hp : p.Strict m) :
    (addYears m p n).Strict m ∧ (addYears m p n).date.rep = p.date.rep ∧ (addYears m p n).tz = p.tz ∧
    (addYears m p n).hh = p.hh ∧ (addYears m p n).mi = p.mi ∧ (addYears m p n).ss = p.ss ∧
    (addYears m p n).date =
      match p.date with
      | .cal y mo d => .cal (y + n) mo (min d (Spec.monthLen m (y + n) mo))
      | .ord y doy => .ord (y + n) (min doy (Spec.yearLen m (y + n)))
      | .week y w d => .week (y + n) (min w (Spec.weeksInYear m (y + n))) d := by
  obtain ⟨date, hh, mi, ss, tz⟩ := p
  obtain ⟨⟨hd, ht⟩, h24⟩ := hp
  -- in each representation: the result is the date with the clamped field (for `n = 0` the clamp
  -- does nothing on a valid date), and that date is valid
  cases date with
  | cal y mo d =>
    obtain ⟨v1, v2, v3, v4⟩ := hd
    have hb := monthLen_bounds m (y + n) mo v1 v2
    have e : addYears m ⟨.cal y mo d, hh, mi, ss, tz⟩ n =
        ⟨.cal (y + n) mo (min d (Spec.monthLen m (y + n) mo)), hh, mi, ss, tz⟩ := by
      by_cases c : n = 0
      · subst c; rw [addYears_zero, Int.add_zero, Int.min_eq_left v4]
      · unfold addYears; rw [if_neg c]; simp only [monthsInYear_eq, daysInMonthB_idx m (y + n) mo v1 v2, gt_iff_lt, clamp_eq_min]
    rw [e]
    exact ⟨⟨⟨⟨v1, v2, Int.le_min.mpr ⟨v3, by omega⟩, Int.min_le_right _ _⟩, ht⟩, h24⟩,
      rfl, rfl, rfl, rfl, rfl, rfl⟩
  | ord y doy =>
    obtain ⟨v1, v2⟩ := hd
    have hb := yearLen_bounds m (y + n)
    have e : addYears m ⟨.ord y doy, hh, mi, ss, tz⟩ n =
        ⟨.ord (y + n) (min doy (Spec.yearLen m (y + n))), hh, mi, ss, tz⟩ := by
      by_cases c : n = 0
      · subst c; rw [addYears_zero, Int.add_zero, Int.min_eq_left v2]
      · unfold addYears; rw [if_neg c]; simp only [daysInYear_eq, clamp_eq_min]
    rw [e]
    exact ⟨⟨⟨⟨Int.le_min.mpr ⟨v1, by omega⟩, Int.min_le_right _ _⟩, ht⟩, h24⟩,
      rfl, rfl, rfl, rfl, rfl, rfl⟩
  | week y w d =>
    obtain ⟨v1, v2, v3, v4⟩ := hd
    have hb := weeksInYear_bounds m (y + n)
    have e : addYears m ⟨.week y w d, hh, mi, ss, tz⟩ n =
        ⟨.week (y + n) (min w (Spec.weeksInYear m (y + n))) d, hh, mi, ss, tz⟩ := by
      by_cases c : n = 0
      · subst c; rw [addYears_zero, Int.add_zero, Int.min_eq_left v2]
      · unfold addYears; rw [if_neg c]; simp only [weeksInYear_eq, clamp_eq_min]
    rw [e]
    exact ⟨⟨⟨⟨Int.le_min.mpr ⟨v1, by omega⟩, Int.min_le_right _ _, v3, v4⟩, ht⟩, h24⟩,
      rfl, rfl, rfl, rfl, rfl, rfl⟩

end IsoDT.Lemmas
