/-
  IsoDT.Lemmas.Dur — facts about `Duration` length, equality and ordering.
-/
import IsoDT.Model.Recurrence
import IsoDT.Lemmas.Tables

namespace IsoDT.Lemmas
open IsoDT IsoDT.Model

theorem exactSeconds_units (m : Mode) (y mo d h mi s : Int) :
    (Dur.units y mo d h mi s).exactSeconds m = 86400 * d + 3600 * h + 60 * mi + s := by
  simp only [Dur.exactSeconds, secondsInDay_eq, secondsInHour_eq, secondsInMinute_eq, Int.mul_comm]

theorem exactSeconds_weeks (m : Mode) (w : Int) : (Dur.weeks w).exactSeconds m = 604800 * w := by
  simp only [Dur.exactSeconds, daysInWeek_eq, secondsInDay_eq]
  omega

theorem exactSeconds_mul (m : Mode) (a : Dur) (n : Int) :
    (a.mul n).exactSeconds m = a.exactSeconds m * n := by
  cases a <;> simp only [Dur.mul, exactSeconds_units, exactSeconds_weeks, Int.add_mul, Int.mul_assoc]

theorem neg_exactSeconds (m : Mode) (d : Dur) : (d.mul (-1)).exactSeconds m = -(d.exactSeconds m) := by
  rw [exactSeconds_mul]; omega

theorem nonzero_of_pos (m : Mode) (d : Dur) (h : 0 < d.exactSeconds m) : d.nonzero = true := by
  cases d with
  | weeks w =>
    rw [exactSeconds_weeks] at h
    simp only [Dur.nonzero, bne_iff_ne, ne_eq]; omega
  | units y mo dd hh mi s =>
    rw [exactSeconds_units] at h
    simp only [Dur.nonzero, Bool.or_eq_true, bne_iff_ne, ne_eq]; omega

def durYm : Dur → Int × Int
  | .weeks _ => (0, 0)
  | .units y mo _ _ _ _ => (y, mo)

theorem dur_isExact_iff (a : Dur) : a.isExact = true ↔ durYm a = (0, 0) := by
  cases a <;> simp [Dur.isExact, durYm]

theorem mul_exact (d : Dur) (n : Int) (h : d.isExact = true) : (d.mul n).isExact = true := by
  cases d with
  | weeks w => rfl
  | units y mo dd hh mi s =>
    simp only [Dur.isExact, Bool.and_eq_true, beq_iff_eq] at h
    simp only [Dur.mul, Dur.isExact, h.1, h.2]; simp

/-- `__eq__` compares lengths if the left side is exact (and is false if only the left side is),
    otherwise years, months and lengths of two unit forms; as exact means `durYm = (0, 0)`, every
    branch says that `durYm` and the length agree. -/
theorem dur_eq_iff (m : Mode) (a b : Dur) :
    Dur.eq m a b = true ↔ durYm a = durYm b ∧ a.exactSeconds m = b.exactSeconds m := by
  unfold Dur.eq
  by_cases ha : a.isExact = true
  · rw [if_pos ha, (dur_isExact_iff a).mp ha]
    by_cases hb : b.isExact = true
    · rw [if_pos hb, (dur_isExact_iff b).mp hb, beq_iff_eq]
      exact (and_iff_right rfl).symm
    · rw [if_neg hb]
      exact ⟨(nomatch ·), fun h => absurd ((dur_isExact_iff b).mpr h.1.symm) hb⟩
  · rw [if_neg ha]
    cases a with
    | weeks w => exact absurd rfl ha
    | units y mo d h mi s =>
      cases b with
      | weeks w => exact ⟨(nomatch ·), fun h => absurd ((dur_isExact_iff _).mpr h.1) ha⟩
      | units y' mo' d' h' mi' s' =>
        simp only [Bool.and_eq_true, beq_iff_eq, durYm, Prod.mk.injEq]

theorem roughDaysInYear_eq' (m : Mode) : (calOf m).roughDaysInYear = Spec.yearLenB m false := by
  cases m <;> decide
theorem roughDaysInMonth_eq' (m : Mode) : (calOf m).roughDaysInMonth = 30 := by cases m <;> decide

/-- `get_days_and_seconds` is the floor split of the rough length: a year counted as the calendar's
    common-year length, a month as 30 days. -/
theorem das_rough (m : Mode) (a : Dur) :
    (a.daysAndSeconds m).1 * 86400 + (a.daysAndSeconds m).2 =
      (durYm a).1 * Spec.yearLenB m false * 86400 + (durYm a).2 * 30 * 86400 + a.exactSeconds m ∧
    0 ≤ (a.daysAndSeconds m).2 ∧ (a.daysAndSeconds m).2 < 86400 := by
  cases a with
  | weeks w =>
    simp only [Dur.daysAndSeconds, exactSeconds_weeks, durYm, daysInWeek_eq]
    omega
  | units y mo d h mi s =>
    simp only [Dur.daysAndSeconds, exactSeconds_units, durYm, secondsInDay_eq, secondsInHour_eq,
      secondsInMinute_eq, roughDaysInYear_eq', roughDaysInMonth_eq']
    generalize y * Spec.yearLenB m false = yl
    omega

theorem das_exact (m : Mode) (a : Dur) (h : a.isExact = true) :
    (a.daysAndSeconds m).1 * 86400 + (a.daysAndSeconds m).2 = a.exactSeconds m ∧
    0 ≤ (a.daysAndSeconds m).2 ∧ (a.daysAndSeconds m).2 < 86400 := by
  have := das_rough m a
  rw [(dur_isExact_iff a).mp h] at this
  simpa only [Int.zero_mul, Int.zero_add] using this

theorem pairLt_iff_lt (a b : Int × Int) (ha : 0 ≤ a.2 ∧ a.2 < 86400) (hb : 0 ≤ b.2 ∧ b.2 < 86400) :
    pairLt a b = true ↔ a.1 * 86400 + a.2 < b.1 * 86400 + b.2 := by
  unfold pairLt
  simp only [Bool.or_eq_true, Bool.and_eq_true, decide_eq_true_eq, beq_iff_eq]
  omega

theorem zero_exact : Dur.zero.isExact = true := rfl
theorem zero_seconds (m : Mode) : Dur.zero.exactSeconds m = 0 := exactSeconds_units m 0 0 0 0 0 0

theorem lt_zero_iff (m : Mode) (a : Dur) (h : a.isExact = true) :
    Dur.lt m a Dur.zero = true ↔ a.exactSeconds m < 0 := by
  obtain ⟨e1, r1⟩ := das_exact m a h
  obtain ⟨e2, r2⟩ := das_exact m Dur.zero zero_exact
  unfold Dur.lt
  rw [pairLt_iff_lt _ _ r1 r2, e1, e2, zero_seconds]

theorem isZeroDur_iff (m : Mode) (a : Dur) (h : a.isExact = true) :
    isZeroDur m a = true ↔ a.exactSeconds m = 0 := by
  unfold isZeroDur
  rw [dur_eq_iff, zero_seconds, (dur_isExact_iff a).mp h]
  exact and_iff_right rfl

/-- `get_seconds` of an exact duration is its length. -/
theorem seconds_exact (m : Mode) (a : Dur) (h : a.isExact = true) : a.seconds m = a.exactSeconds m := by
  unfold Dur.seconds; rw [if_pos h]

end IsoDT.Lemmas
