/-
  IsoDT.Lemmas.RecShift — helper lemmas for shifting recurrences (`TimeRecurrence.__add__`):
  what `Rec.shift` rebuilds in each notation, reading two arithmetic series pointwise, and that
  adding an exact `x` and then `−x` to a point returns to the same instant.
-/
import IsoDT.Lemmas.RecQuery

namespace IsoDT.Lemmas
open IsoDT IsoDT.Model
open IsoDT.Spec (Date TZ TP)

theorem series_shift_get? (m : Mode) (rep : Nat) (tz : TZ) :
    ∀ (l l' : List TP) (i0 c step : Int),
      SeriesOK m rep tz l i0 step → SeriesOK m rep tz l' (i0 + c) step → l.length ≤ l'.length →
      ∀ (k : Nat) (p : TP), l[k]? = some p →
        ∃ p', l'[k]? = some p' ∧ p'.inst m = p.inst m + c ∧ p.Valid m ∧ p'.Valid m ∧
          p'.date.rep = p.date.rep ∧ p'.tz = p.tz := by
  intro l l' i0 c step h1 h2 hlen k p hk
  obtain ⟨h, rfl⟩ := List.getElem?_eq_some_iff.mp hk
  have h' : k < l'.length := Nat.lt_of_lt_of_le h hlen
  obtain ⟨a1, a2, a3, a4⟩ := series_get m rep tz l i0 step h1 k h
  obtain ⟨b1, b2, b3, b4⟩ := series_get m rep tz l' (i0 + c) step h2 k h'
  refine ⟨l'[k], List.getElem?_eq_getElem h', ?_, a2, b2, b3.trans a3.symm, b4.trans a4.symm⟩
  rw [a1, b1]; omega

/-- start/duration notation: the constructor is re-run on the moved start and the stored interval. -/
theorem shift_fmt3_eq (m : Mode) (reps : Option Int) (s s' : TP) (d x : Dur) (en sec : Option TP)
    (h : addDur m s x = some s') :
    Rec.shift m ⟨reps, some s, some d, en, sec, 3⟩ x = mkRec m reps (some s') (some d) none := by
  simp only [Rec.shift, h, Option.bind_some, Option.getD_some]

/-- duration/end notation: the constructor is re-run on the moved end and the stored interval. -/
theorem shift_fmt4_eq (m : Mode) (reps : Option Int) (st sec : Option TP) (e e' : TP) (d x : Dur)
    (h : addDur m e x = some e') :
    Rec.shift m ⟨reps, st, some d, some e, sec, 4⟩ x = mkRec m reps none (some d) (some e') := by
  simp only [Rec.shift, h, Option.bind_some, Option.getD_some]

/-- start/second-point notation: the constructor is re-run on the moved start and second point. -/
theorem shift_fmt1_eq (m : Mode) (reps : Option Int) (s s' e2 e2' : TP) (du : Option Dur)
    (en : Option TP) (x : Dur) (h1 : addDur m s x = some s') (h2 : addDur m e2 x = some e2') :
    Rec.shift m ⟨reps, some s, du, en, some e2, 1⟩ x = mkRec m reps (some s') none (some e2') := by
  simp only [Rec.shift, h1, h2, Option.bind_some]

/-- A single-point recurrence stores no interval: it is rebuilt from the moved anchor with
    `Duration()`, which gives the single point again (start/duration and duration/end notation). -/
theorem shift_single (m : Mode) (a a' : TP) (x : Dur) (h : addDur m a x = some a') :
    (⟨some 1, some a, none, some a, none, 3⟩ : Rec).shift m x =
      some ⟨some 1, some a', none, some a', none, 3⟩ ∧
    (⟨some 1, some a, none, some a, none, 4⟩ : Rec).shift m x =
      some ⟨some 1, some a', none, some a', none, 4⟩ := by
  have hz : Dur.lt m Dur.zero Dur.zero = false :=
    lt_zero_false m Dur.zero zero_exact (by rw [zero_seconds]; omega)
  constructor
  · simp only [Rec.shift, h, Option.bind_some, Option.getD_none]
    exact mkRec_one3 m a' Dur.zero hz
  · simp only [Rec.shift, h, Option.bind_some, Option.getD_none]
    exact mkRec_one4 m a' Dur.zero hz

theorem addDur_neg_inst (m : Mode) (p : TP) (x : Dur) (hp : p.Valid m) (hx : x.isExact = true) :
    ∃ p1 p2, addDur m p x = some p1 ∧ Good m p p1 (x.exactSeconds m) ∧
      addDur m p1 (x.mul (-1)) = some p2 ∧ Good m p1 p2 (-(x.exactSeconds m)) ∧ p2.inst m = p.inst m := by
  obtain ⟨p1, h1, g1⟩ := addDur_exact m p x hp hx
  obtain ⟨p2, h2, g2⟩ := addDur_exact m p1 (x.mul (-1)) g1.strict.1 (mul_exact x _ hx)
  rw [neg_exactSeconds] at g2
  exact ⟨p1, p2, h1, g1, h2, g2, by rw [g2.inst, g1.inst]; omega⟩

/-- The same point, not only the same instant, if `p` was written with `h < 24`. -/
theorem addDur_neg_same (m : Mode) (p p1 p2 : TP) (c c' : Int) (hp : p.Valid m) (g1 : Good m p p1 c)
    (g2 : Good m p1 p2 c') (hi : p2.inst m = p.inst m) (h24 : p.hh < 24) : p2 = p :=
  strict_unique m p2 p g2.strict ⟨hp, h24⟩ (g2.rep.trans g1.rep) (g2.tz.trans g1.tz) hi

/-- Equal exact durations (`Duration.__eq__`) are those of equal length. -/
theorem dur_eq_of_exact (m : Mode) (a b : Dur) (ha : a.isExact = true) (hb : b.isExact = true)
    (h : a.exactSeconds m = b.exactSeconds m) : Dur.eq m a b = true := by
  rw [dur_eq_iff]
  exact ⟨by rw [(dur_isExact_iff a).mp ha, (dur_isExact_iff b).mp hb], h⟩

end IsoDT.Lemmas
