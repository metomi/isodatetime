/-
  IsoDT.Lemmas.TextTruncDump — `parse(text, dump_as_parsed=True)` followed by `str`, for the TRUNCATED
  forms.  The parsed truncated point `tpointOf` carries the concatenated expression text of the matched
  entries (`-YYMMT-mm,nn+hh:mm`) as its dump format; `str` hands it to the dumper
  (`TimePoint.__str__` → `dumper.dump(self, self._truncated_dump_format)`).

  As in `Lemmas/TextAsParsed`, the dumper's chain of regex substitutions on the concrete expression
  texts is evaluated by the kernel part by part: the date rules on each truncated date expression
  (`tdateCheck`), the time and zone parts as there (`ttzCheck`); `getExpr_parts` composes them.  A
  truncated point has no expanded year digits, so the dumper is always the one for 0 digits.
  The rest is generic: the compiled segment list is, item by item, the entries' regular expressions
  (`tmplSegs`), and evaluated on `tpointOf` it prints the templates' own rendering of the values read
  back from the point (`renderSegs_ttmpl`); `_dump_expression_with_properties` converts nothing for a
  truncated point (`dumpExpr_trunc`).
-/
import IsoDT.Lemmas.TextTrunc
import IsoDT.Lemmas.TextAsParsed

namespace IsoDT.Text
open IsoDT IsoDT.Model IsoDT.Lemmas
open IsoDT.Spec (TZ Date)
open _root_.IsoDT.Gen.Templates (timeDesignator parserTables dumpTables)

abbrev titemPrints (m : Mode) (x : XTP) (v : TVals) : Item → Prop := itemPrintsBy m x v.nat v.neg v.dec

theorem renderSegs_ttmpl (m : Mode) (x : XTP) (v : TVals) (t : Template)
    (h : ∀ it ∈ t, titemPrints m x v it) :
    renderSegs m x (tmplSegs t) = some (trender t (tenvOf t v)) := by
  rw [tenvOf_eq]
  exact renderSegs_envBy m x _ _ _ t h

/-- What the truncated point must answer for the group `f` to print the text `v` gives it. -/
def tanswers (m : Mode) (x : XTP) (v : TVals) (f : Fld) : Prop :=
  if isTIntFld f then intProp m x (propOf f) = some (v.nat f)
  else if isDecFld f then strProp x (propOf f) = some (v.dec f)
  else True

/-- Group by group: it is enough that the point answers each group of the template with what `v'`
    gives it, if the numbers of `v'` are those of values that fit the widths. -/
theorem tprints_of (m : Mode) (x : XTP) (v v' : TVals) (ned : Nat) (t : Template) (hok : t.all tItemOK = true)
    (hv : v.Fit ned) (hn : ∀ f, v'.nat f = v.nat f) (h : ∀ f, hasGroup t f = true → tanswers m x v' f) :
    ∀ it ∈ t, titemPrints m x v' it := by
  intro it hit
  have hk := List.all_eq_true.mp hok it hit
  have hg := mem_groupFields t it hit
  cases it with
  | lit c => trivial
  | digits f n =>
    simp only [tItemOK, Bool.and_eq_true, beq_iff_eq] at hk
    obtain ⟨hf, rfl⟩ := hk
    have ha := h f hg
    simp only [tanswers, hf, if_true] at ha
    exact ⟨ha, padNat_eq _ _ (by rw [hn]; exact tfit_nat _ v hv f hf) (Nat.pos_iff_ne_zero.mp (tWidth_pos f))⟩
  | digitsPlus f =>
    have ha := h f hg
    have hk' : isDecFld f = true := hk
    cases f <;> first | exact absurd hk' (by decide) | exact ha
  | sign f => simp [tItemOK] at hk
  | group f ls => trivial

/-- The values the printed text spells: as parsed, except that a `-` on an all-zero zone is `+` and a
    decimal fraction is `TimePoint._decimal_string` of its digits (trailing zeros dropped, at least one
    digit; more than six digits rounded to six — finding F12).  Truncated dates have no sign. -/
def tspelled (zt : Template) (v : TVals) : TVals :=
  { v with
    tzNeg := v.tzNeg && !zoneZero zt v.toVals
    hourDec := decimalString (some v.hourDec)
    minuteDec := decimalString (some v.minuteDec)
    secondDec := decimalString (some v.secondDec) }

theorem tspelled_nat (zt : Template) (v : TVals) (f : Fld) : (tspelled zt v).nat f = v.nat f := by
  cases f <;> rfl

theorem tspelled_vnat (zt : Template) (v : TVals) (f : Fld) :
    (tspelled zt v).toVals.nat f = v.toVals.nat f := by
  cases f <;> rfl

def tyearShapeOK (de : Template) : Bool := !(hasGroup de .yearOfCentury && hasGroup de .yearOfDecade)

/-- The truncated point answers each date group with the spelled number (the year of century or of
    decade is the whole year of the point).  The date part reads numbers only: any values `v'` that
    spell the numbers of `v` will do. -/
theorem tdate_prints (m : Mode) (ned : Nat) (de te : Template) (v v' : TVals) (tz : TZ) (unk : Bool)
    (dump : Option (List Char)) (hok : de.all tItemOK = true) (hys : tyearShapeOK de = true)
    (hfl : (groupFields de).all (fun f => isDateFld f || f == .yearOfDecade || f == .truncated) = true)
    (hv : v.Fit ned) (hn : ∀ f, v'.nat f = v.nat f) :
    ∀ it ∈ de, titemPrints m (tpointOf de te v tz unk dump) v' it := by
  refine tprints_of m _ v v' ned de hok hv hn fun f hg => ?_
  have hd := List.all_eq_true.mp hfl f (mem_of_hasGroup de f hg)
  have hy := hv.1.2.2.1
  have hz := hv.2
  simp only [tyearShapeOK, Bool.not_eq_true', Bool.and_eq_false_iff] at hys
  cases f <;> first
    | exact absurd hd (by decide)
    | trivial
    | (show intProp m _ _ = some (v'.nat _)
       rw [hn]
       simp [propOf, intProp, tpointOf, fieldOf, tyearOf, hg, TVals.nat, Vals.nat])
  · -- year of century: there is no year of decade
    rw [hys.resolve_left (by rw [hg]; decide), if_neg Bool.false_ne_true]
    omega
  · rw [hys.resolve_right (by rw [hg]; decide), if_neg Bool.false_ne_true]
    omega

/-- The truncated point answers each time group with the spelled number, a fraction with
    `_decimal_string` of its digits (in every time pattern the fraction's unit is spelled). -/
theorem ttime_prints (m : Mode) (ned : Nat) (de te zt : Template) (v : TVals) (tz : TZ) (unk : Bool)
    (dump : Option (List Char)) (hok : te.all tItemOK = true) (hts : ttimeShapeOK te = true)
    (hfl : (groupFields te).all (fun f => isTimeFld f || f == .truncated) = true) (hv : v.Fit ned) :
    ∀ it ∈ te, titemPrints m (tpointOf de te v tz unk dump) (tspelled zt v) it := by
  obtain ⟨t1, t2, t3⟩ := ttimeShape_frac te hts
  refine tprints_of m _ v _ ned te hok hv (tspelled_nat _ v) fun f hg => ?_
  have hd := List.all_eq_true.mp hfl f (mem_of_hasGroup te f hg)
  cases f <;> first
    | exact absurd hd (by decide)
    | trivial
    | (show intProp m _ _ = some _; simp [propOf, intProp, tpointOf, fieldOf, hg, tspelled, TVals.nat, Vals.nat]; done)
    | skip
  · show strProp _ .hourDecStr = some (decimalString (some v.hourDec))
    simp only [hg, Bool.true_and, Bool.or_eq_false_iff, Bool.not_eq_false'] at t1
    simp [strProp, tpointOf, fieldOf, decOf, hg, t1.1.1]
  · show strProp _ .minuteDecStr = some (decimalString (some v.minuteDec))
    simp only [hg, Bool.true_and, Bool.or_eq_false_iff, Bool.not_eq_false'] at t2
    simp [strProp, tpointOf, fieldOf, decOf, hg, t2.1]
  · show strProp _ .secondDecStr = some (decimalString (some v.secondDec))
    simp only [hg, Bool.true_and, Bool.not_eq_false'] at t3
    simp [strProp, tpointOf, fieldOf, decOf, hg, t3]

/-- For a truncated point nothing is converted: no change of representation; a literal zone `Z` only
    when the point's zone is `+00:00` and known; the year is looked at only if the expression prints a
    year property; the four-digit / expanded year bounds do not apply when neither the century nor the
    expanded digits are printed. -/
theorem dumpExpr_trunc (m : Mode) (dt : DumpTables) (x : XTP) (e : Expr)
    (htr : x.truncated = true)
    (hZ : e.customTZ = none ∨ (e.customTZ = some (0, 0) ∧ x.tz = ⟨0, 0⟩ ∧ x.tzUnknown = false))
    (hy : x.year = none → (e.props.contains .century || e.props.contains .expandedYearDigits ||
      e.props.contains .yearSign || e.props.contains .yearOfCentury || e.props.contains .yearOfDecade) = false)
    (hb1 : e.props.contains .century = false) (hb2 : e.props.contains .expandedYearDigits = false) :
    dumpExpr m dt x e =
      match renderSegs m x e.segs with
      | some s => .ok s
      | none => .error .unsupported := by
  have ht : e.customTZ = some (0, 0) → x.toTimeZone m ⟨0, 0⟩ = .ok x := by
    intro h
    rcases hZ with h' | ⟨_, h1, h2⟩
    · rw [h'] at h; cases h
    · unfold XTP.toTimeZone; simp [h1, h2]
  unfold dumpExpr
  simp only [htr, if_true, hb1, hb2, Bool.false_and, Bool.false_eq_true, if_false]
  cases hyr : x.year with
  | some y =>
    rcases hZ with h | ⟨h, _, _⟩
    · simp only [bind, Except.bind, h, hyr]; rfl
    · simp only [bind, Except.bind, h, mkTZ_zero, ht h, hyr]; rfl
  | none =>
    have := hy hyr
    rw [hb1, hb2] at this
    rcases hZ with h | ⟨h, _, _⟩
    · simp only [bind, Except.bind, h, hyr, this, Bool.false_eq_true, if_false]; rfl
    · simp only [bind, Except.bind, h, mkTZ_zero, ht h, hyr, this, Bool.false_eq_true, if_false]; rfl

/-! ## The decidable check on a truncated date entry (evaluated over the regenerated tables in `Props/C07d`) -/

/-- **The date rules compile a truncated date expression to its regular expression** (`dateCompiles`,
    for the dumper without expanded year digits); the groups are date groups, the year of decade or the
    marker; at most one of `YY`/`z`. -/
def tdateCheck (expr : List Char) (tmpl : Template) : Bool :=
  dateCompiles dumper0 expr tmpl &&
  (groupFields tmpl).all (fun f => isDateFld f || f == .yearOfDecade || f == .truncated) &&
  tyearShapeOK tmpl

theorem tdateCheck_spec (expr : List Char) (tmpl : Template) (h : tdateCheck expr tmpl = true) :
    dateCompiles dumper0 expr tmpl = true ∧
    (groupFields tmpl).all (fun f => isDateFld f || f == .yearOfDecade || f == .truncated) = true ∧
    tyearShapeOK tmpl = true := by
  simpa only [tdateCheck, Bool.and_eq_true, and_assoc] using h

/-- The date rules collect neither century nor expanded digits from a truncated date expression, and no
    year property at all from one that spells no year. -/
theorem tyear_props (dtmpl : Template) (hdok : dtmpl.all tItemOK = true) (props : List DProp)
    (hprops : ∀ f ∈ dateFlds, props.contains (propOf f) = hasGroup dtmpl f) (v : TVals) :
    props.contains .century = false ∧ props.contains .expandedYearDigits = false ∧
    (tyearOf dtmpl v = none → (props.contains .century || props.contains .expandedYearDigits ||
      props.contains .yearSign || props.contains .yearOfCentury || props.contains .yearOfDecade) = false) := by
  have hC : props.contains .century = false :=
    (hprops .century (by decide)).trans (hasGroup_tunclassed dtmpl hdok _ rfl rfl (by decide))
  have hX : props.contains .expandedYearDigits = false :=
    (hprops .expandedYear (by decide)).trans (hasGroup_tunclassed dtmpl hdok _ rfl rfl (by decide))
  have hS : props.contains .yearSign = false :=
    (hprops .yearSign (by decide)).trans (hasGroup_tunclassed dtmpl hdok _ rfl rfl (by decide))
  have hY : props.contains .yearOfCentury = _ := hprops .yearOfCentury (by decide)
  have hZ : props.contains .yearOfDecade = _ := hprops .yearOfDecade (by decide)
  refine ⟨hC, hX, fun h => ?_⟩
  unfold tyearOf at h
  split at h
  · cases h
  · rename_i hn
    rw [hC, hX, hS, hY, hZ]
    simpa using hn

/-- **`str` of the parsed truncated point (date, `T`, time, zone)**: the point `tpointOf` carrying, as its
    dump format, the expression text of the entries it was parsed by prints the text those entries'
    regular expressions spell for the values `tspelled` — provided the parts pass the decidable checks. -/
theorem str_tpointOf (m : Mode) (ned : Nat) (zd : ZoneDefault) (dexpr : List Char) (dtmpl : Template)
    (te : Entry) (zo : Option ZEntry) (v : TVals) (tz : TZ)
    (hdok : dtmpl.all tItemOK = true) (htok : te.tmpl.all tItemOK = true)
    (hts : ttimeShapeOK te.tmpl = true) (hzok : (ztmplO zo).all (itemOK ned) = true)
    (hd : tdateCheck dexpr dtmpl = true) (ht : ttzCheck te zo = true) (hv : v.Fit ned)
    (hz : mkTZ m ((zoneOf zd (zo.map (·.tmpl)) v.toVals).hour.getD 0)
      ((zoneOf zd (zo.map (·.tmpl)) v.toVals).minute.getD 0) = some tz) :
    str m (tpointOf dtmpl te.tmpl v tz (unknownOf (zoneOf zd (zo.map (·.tmpl)) v.toVals))
        (some (dexpr ++ 'T' :: (te.expr ++ zexprO zo)))) =
      .ok (trender dtmpl (tenvOf dtmpl (tspelled (ztmplO zo) v)) ++
        'T' :: (trender te.tmpl (tenvOf te.tmpl (tspelled (ztmplO zo) v)) ++
          trender (ztmplO zo) (envOf (ztmplO zo) (tspelled (ztmplO zo) v).toVals))) := by
  obtain ⟨hdc, d5, d6⟩ := tdateCheck_spec dexpr dtmpl hd
  obtain ⟨e, he, hsegs, hprops, hcust, hpct⟩ :=
    getExpr_parts dumper0 (List.mem_of_find?_eq_some dumper0_eq) dexpr dtmpl te zo hdc ht
  have tf := ttzCheck_spec te zo ht
  have hne : (dexpr ++ 'T' :: (te.expr ++ zexprO zo)).isEmpty = false := by
    cases dexpr <;> rfl
  obtain ⟨p1, p2, p3⟩ := tyear_props dtmpl hdok e.props hprops v
  rw [str_dumpFmt m _ dumper0 _ e dumper0_eq rfl hne hpct he]
  rw [dumpExpr_trunc m dumper0 _ e rfl _ p3 p1 p2]
  · have hzp : ∀ P : XTP, P.tz = tz → ∀ it ∈ ztmplO zo, itemPrints m P (tspelled (ztmplO zo) v).toVals it := by
      intro P hP
      cases zo with
      | none => intro it h; cases h
      | some ze =>
        exact zone_prints m ned P ze.tmpl v.toVals _ zd hzok tf.zoneFlds tf.utcAlone hv.1
          (hP.trans (mkTZ_some _ _ _ _ hz)) (tspelled_vnat _ v) rfl
    rw [hsegs, renderSegs_dtz m _ _ _ _ _ _ _
      (renderSegs_ttmpl m _ _ dtmpl
        (tdate_prints m ned dtmpl te.tmpl v _ tz _ _ hdok d6 d5 hv (tspelled_nat (ztmplO zo) v)))
      (renderSegs_ttmpl m _ _ te.tmpl (ttime_prints m ned dtmpl te.tmpl (ztmplO zo) v tz _ _ htok hts tf.timeFlds hv))
      (renderSegs_tmpl m _ _ (ztmplO zo) (hzp _ rfl))]
  · -- the literal zone
    rw [hcust]
    cases hu : hasGroup (ztmplO zo) .tzUtc with
    | false => exact Or.inl rfl
    | true =>
      obtain ⟨h0, htz⟩ := tz_utc m zd zo v.toVals tz hz hu
      exact Or.inr ⟨rfl, htz, by show unknownOf _ = false; rw [h0]; rfl⟩

/-- **`str` of the parsed truncated point (date alone)**. -/
theorem str_tpointOf_date (m : Mode) (ned : Nat) (dexpr : List Char) (dtmpl : Template) (v : TVals) (tz : TZ)
    (unk : Bool) (hdok : dtmpl.all tItemOK = true) (hd : tdateCheck dexpr dtmpl = true)
    (hne : dexpr.isEmpty = false) (hv : v.Fit ned) :
    str m (tpointOf dtmpl [] v tz unk (some dexpr)) = .ok (trender dtmpl (tenvOf dtmpl v)) := by
  obtain ⟨hdc, d5, d6⟩ := tdateCheck_spec _ _ hd
  obtain ⟨e, he, hsegs, hprops, hcust⟩ := getExpr_datePart dumper0 _ _ hdc
  obtain ⟨_, _, _, hP⟩ := dateCompiles_spec dumper0 _ _ hdc
  obtain ⟨p1, p2, p3⟩ := tyear_props dtmpl hdok e.props hprops v
  rw [str_dumpFmt m _ dumper0 dexpr e dumper0_eq rfl hne (by simpa using hP) he,
    dumpExpr_trunc m dumper0 _ e rfl (Or.inl hcust) p3 p1 p2, hsegs, renderSegs_ttmpl m _ v dtmpl
      (tdate_prints m ned dtmpl [] v v tz unk (some dexpr) hdok d6 d5 hv fun _ => rfl)]

end IsoDT.Text
