/-
  IsoDT.Lemmas.Calendar — the year-level arithmetic: the code-shaped helpers of
  `Model.Calendar` equal the Spec closed forms for every year in `Int`.
-/
import IsoDT.Lemmas.Tables

namespace IsoDT.Lemmas
open IsoDT IsoDT.Model

theorem isLeapYear_eq (y : Int) : isLeapYear y = Spec.isLeapG y := by
  unfold isLeapYear Spec.isLeapG
  rw [gen_leapFactors]
  simp only [List.foldl]
  cases y % 4 == 0 <;> cases y % 100 == 0 <;> cases y % 400 == 0 <;> rfl

theorem yearLen_greg (y : Int) : Spec.yearLen .greg y = if Spec.isLeapG y then 366 else 365 := by
  show Spec.yearLenB .greg (Spec.isLeapG y) = _
  generalize Spec.isLeapG y = b
  cases b <;> decide

theorem yearLen_fixed (m : Mode) (y : Int) :
    Spec.yearLen m y = match m with
      | .greg => (if Spec.isLeapG y then 366 else 365) | .d360 => 360 | .d365 => 365 | .d366 => 366 := by
  cases m
  · exact yearLen_greg y
  all_goals rfl

theorem yearLen_bounds (m : Mode) (y : Int) : 360 ≤ Spec.yearLen m y ∧ Spec.yearLen m y ≤ 366 :=
  yearLenB_bounds m _

/-- The month table the code picks for year `y` (by the Gregorian flag, in every mode) is the
    Spec's table for that year. -/
theorem monthTab_leapYear (m : Mode) (y : Int) :
    Spec.monthTab m (isLeapYear y) = Spec.monthTab m (Spec.leap m y) := by
  rw [isLeapYear_eq]
  cases m <;> simp [Spec.leap, Spec.monthTab]

theorem monthLenB_leapYear (m : Mode) (y mo : Int) :
    Spec.monthLenB m (isLeapYear y) mo = Spec.monthLen m y mo := by
  unfold Spec.monthLen Spec.monthLenB; rw [monthTab_leapYear]

theorem dbmB_leapYear (m : Mode) (y mo : Int) :
    Spec.dbmB m (isLeapYear y) mo = Spec.dbm m y mo := by
  unfold Spec.dbm Spec.dbmB; rw [monthTab_leapYear]

theorem yearLenB_leapYear (m : Mode) (y : Int) :
    Spec.yearLenB m (isLeapYear y) = Spec.yearLen m y := by
  unfold Spec.yearLen Spec.yearLenB; rw [monthTab_leapYear]

theorem daysInYear_eq (m : Mode) (y : Int) : daysInYear m y = Spec.yearLen m y := by
  unfold daysInYear
  rw [(daysInYearRec_eq m).1, (daysInYearRec_eq m).2, ← yearLenB_leapYear]
  cases isLeapYear y <;> rfl

theorem daysInMonthB_eq (m : Mode) (lp : Bool) (mo : Int) : daysInMonthB m lp mo = Spec.monthLenB m lp mo := by
  unfold daysInMonthB Spec.monthLenB; rw [table_eq]

/-- The bounds are not used: outside 1..12 both sides are 0. -/
theorem daysInMonth_eq (m : Mode) (y mo : Int) (_h1 : 1 ≤ mo) (_h2 : mo ≤ 12) :
    daysInMonth m y mo = Spec.monthLen m y mo :=
  (daysInMonthB_eq m _ mo).trans (monthLenB_leapYear m y mo)

theorem ediv_step (k y : Int) (hk : 0 < k) :
    y / k = (y - 1) / k + if y % k = 0 then 1 else 0 := by
  have h := Int.emod_add_mul_ediv y k
  have hr := Int.emod_nonneg y (Int.ne_of_gt hk)
  have hl := Int.emod_lt_of_pos y hk
  split
  · have : (y - 1) / k = y / k - 1 ∧ (y - 1) % k = k - 1 :=
      (Int.ediv_emod_unique hk).mpr ⟨by rw [Int.mul_sub, Int.mul_one]; omega, by omega, by omega⟩
    omega
  · have : (y - 1) / k = y / k ∧ (y - 1) % k = y % k - 1 :=
      (Int.ediv_emod_unique hk).mpr ⟨by omega, by omega, by omega⟩
    omega

theorem dby_succ (m : Mode) (y : Int) : Spec.dby m (y + 1) = Spec.dby m y + Spec.yearLen m y := by
  rw [yearLen_fixed]
  cases m
  · -- each of the three quotients steps at the multiples of its factor, and 400 ∣ y → 100 ∣ y → 4 ∣ y;
    -- with the quotients made opaque what is left for `omega` is linear
    have h4 := ediv_step 4 y (by omega)
    have h100 := ediv_step 100 y (by omega)
    have h400 := ediv_step 400 y (by omega)
    have d1 : y % 100 = 0 → y % 4 = 0 := fun h => by
      rw [← Int.emod_emod_of_dvd y (by decide : (4 : Int) ∣ 100), h]; rfl
    have d2 : y % 400 = 0 → y % 100 = 0 := fun h => by
      rw [← Int.emod_emod_of_dvd y (by decide : (100 : Int) ∣ 400), h]; rfl
    simp only [Spec.dby, Spec.isLeapG, Int.add_sub_cancel]
    generalize y / 4 = a4 at *
    generalize y / 100 = a100 at *
    generalize y / 400 = a400 at *
    generalize (y - 1) / 4 = b4 at *
    generalize (y - 1) / 100 = b100 at *
    generalize (y - 1) / 400 = b400 at *
    by_cases p4 : y % 4 = 0 <;> by_cases p100 : y % 100 = 0 <;> by_cases p400 : y % 400 = 0 <;>
      simp [p4, p100, p400] at * <;> omega
  all_goals (simp only [Spec.dby]; omega)

/-- Every year has between 360 and 366 days. -/
theorem dby_mono (m : Mode) (a b : Int) (h : a ≤ b) :
    Spec.dby m a + 360 * (b - a) ≤ Spec.dby m b ∧ Spec.dby m b ≤ Spec.dby m a + 366 * (b - a) := by
  obtain ⟨n, rfl⟩ := Int.le.dest h
  induction n with
  | zero => simp
  | succ n ih =>
    have := dby_succ m (a + n)
    have := yearLen_bounds m (a + n)
    have := ih (by omega)
    rw [show a + ((n + 1 : Nat) : Int) = a + n + 1 by omega]
    omega

/-- The `while` loop stops at the first multiple of `k` from `r` on, or at `e`: started after `s`,
    it passes no multiple of `k`. -/
theorem firstMult_spec (k e s : Int) (hk : 0 < k) (r : Int)
    (hinv : s + 1 ≤ r ∧ r ≤ e ∧ (r - 1) / k = s / k) :
    s + 1 ≤ firstMult k r e ∧ firstMult k r e ≤ e ∧ (firstMult k r e - 1) / k = s / k ∧
      (firstMult k r e % k = 0 ∨ firstMult k r e = e) := by
  induction r using firstMult.induct (k := k) (e := e) with
  | case1 r h ih =>
    rw [firstMult, if_pos h]
    have := ediv_step k r hk
    rw [if_neg h.1] at this
    exact ih ⟨by omega, by omega, by rw [Int.add_sub_cancel]; omega⟩
  | case2 r h =>
    rw [firstMult, if_neg h]
    exact ⟨hinv.1, hinv.2.1, hinv.2.2, by omega⟩

/-- `num_corrections` is the number of multiples of `k` among `s .. e`. -/
theorem numCorr_eq (k s e : Int) (hk : 0 < k) (h : s < e) : numCorr k s e = e / k - (s - 1) / k := by
  obtain ⟨q1, q2, q3, q4⟩ :=
    firstMult_spec k e s hk (s + 1) ⟨by omega, by omega, by rw [Int.add_sub_cancel]⟩
  have a0 := ediv_step k s hk
  have a1 := ediv_step k e hk
  have aq := ediv_step k (firstMult k (s + 1) e) hk
  have c1 : (if e ≠ s ∧ e % k = 0 then (1 : Int) else 0) = if e % k = 0 then 1 else 0 := by
    have hne : e ≠ s := by omega
    simp only [hne, ne_eq, not_false_eq_true, true_and]
  unfold numCorr
  simp only [c1]
  generalize firstMult k (s + 1) e = q at *
  generalize (if s % k = 0 then (1 : Int) else 0) = c0 at *
  generalize (if e % k = 0 then (1 : Int) else 0) = c1 at *
  split
  · -- the loop stopped at a multiple `q < e`: the closed form counts the multiples in `q + 1 .. e - 1`
    have hq : q % k = 0 := by omega
    have : (e - (q + 1)) / k = (e - 1) / k - q / k := by
      rw [show e - (q + 1) = e - 1 - q by omega, Int.sub_ediv_of_dvd _ (Int.dvd_of_emod_eq_zero hq)]
    rw [if_pos hq] at aq
    omega
  · have : q = e := by omega
    subst this
    omega

/-- `get_days_in_year_range(s, e)` is the number of days in the years `s..e` (0 if `s > e`). -/
theorem daysInYearRange_eq (m : Mode) (s e : Int) :
    daysInYearRange m s e = if s ≤ e then Spec.dby m (e + 1) - Spec.dby m s else 0 := by
  unfold daysInYearRange
  by_cases h1 : s = e
  · subst h1; simp [dby_succ, daysInYear_eq]; omega
  · by_cases h2 : s > e
    · have : ¬ s ≤ e := by omega
      simp [h1, h2, this]
    · have hlt : s < e := by omega
      have hle : s ≤ e := by omega
      simp only [h1, h2, hle, ↓reduceIte, gen_leapFactors, List.foldl,
        (daysInYearRec_eq m).1, (daysInYearRec_eq m).2, yearLenB_vals,
        numCorr_eq 4 s e (by omega) hlt, numCorr_eq 100 s e (by omega) hlt,
        numCorr_eq 400 s e (by omega) hlt]
      cases m <;> simp only [Spec.dby, Bool.false_eq_true, ↓reduceIte, Int.reduceSub, Int.mul_one,
        Int.mul_zero, Int.add_zero, Int.sub_zero, Int.add_sub_cancel] <;> omega

/-- `sum(get_days_in_year(i) for i in range(a, b))`. -/
theorem sumYears_eq (m : Mode) (a b : Int) (h : a ≤ b) : sumYears m a b = Spec.dby m b - Spec.dby m a := by
  induction a using sumYears.induct (b := b) with
  | case1 a hlt ih =>
    rw [sumYears]; simp only [hlt, ↓reduceIte]
    rw [ih (by omega), daysInYear_eq, dby_succ]; omega
  | case2 a hge =>
    rw [sumYears]; simp only [hge, ↓reduceIte]
    have : a = b := by omega
    subst this; omega

end IsoDT.Lemmas
