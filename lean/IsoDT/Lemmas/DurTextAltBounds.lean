/-
  IsoDT.Lemmas.DurTextAltBounds — what EVERY text accepted by the date-time-like fallback yields
  (`Model.DurTextAlt.parseAltDur`): a unit-form duration whose months, days, hours, minutes and seconds
  are non-negative and whose hours, minutes and seconds are two-digit numbers (`parseAltDur_ok_bounds`).
  Only the years can be negative (the sign of an expanded year).

  The argument follows the parser backwards, one inversion lemma per stage: the point is `durPoint` of the
  assembled arguments (`ctorDur_some`), whose fields are the numbers of the matched groups
  (`assemble_some`), which fit a listed non-truncated date form and a listed non-truncated time form
  (`getInfo_fits`: `getInfo_some`, `tmatch_fits`); the groups of such a form have the documented widths
  (`get_of_fits`), two digits for the hour, minute and second.
-/
import IsoDT.Lemmas.DurTextAlt

namespace IsoDT.Model.DurTextAlt
open IsoDT IsoDT.Model IsoDT.Text IsoDT.Gen
open _root_.IsoDT.Gen.Templates (timeDesignator parser_2_all)

/-- With `allow_truncated=False`, what `get_info` returns is never marked truncated: the date groups fit
    a complete or reduced form (documented items only, century present), the time groups — unless the
    text is a date alone — a non-truncated time form. -/
theorem getInfo_fits (m : Mode) (s : List Char) (info : Info) (h : getInfo (altCfg m) s = some info) :
    info.dateTrunc = false ∧
    (∃ e : Entry, e.tmpl.all (itemOK 2) = true ∧ hasGroup e.tmpl .century = true ∧
      fits e.tmpl info.dateEnv = true) ∧
    (info.timeEnv = [] ∨
      ∃ te : Entry, te.tmpl.all (itemOK 2) = true ∧ fits te.tmpl info.timeEnv = true) := by
  have df := IsoDT.Props.C07.decodeFacts (altCfg m).pt (altCfg_mem m)
  have tf := tableFacts (altCfg m).pt (altCfg_mem m)
  obtain ⟨hd, ht⟩ := getInfo_some _ _ _ h
  rcases hd with ⟨hat, _⟩ | ⟨hdt, e, he, date, hm⟩
  · cases hat
  · obtain ⟨hmem, hnt⟩ := dateOrder_nontrunc _ _ e he
    obtain ⟨hdi, hcc, _⟩ := df.dates e hmem hnt
    have hfd := tmatch_fits e.tmpl (tf.dates e hmem).1 date _ hm
    have g1 : info.dateTrunc = false := by
      rw [hdt, Env.has_fits _ _ hfd]
      exact hasGroup_unclassed _ _ hdi _ rfl rfl rfl (by decide)
    refine ⟨g1, ⟨e, hdi, hcc, hfd⟩, ht.imp_right ?_⟩
    rintro ⟨te, hte, htt, time, hm'⟩
    exact ⟨te, (df.times te hte (htt g1)).1, tmatch_fits te.tmpl (tf.times te hte).1 time _ hm'⟩

theorem optInt_time_bound (m : Mode) (s : List Char) (info : Info) (h : getInfo (altCfg m) s = some info)
    (f : Fld) (hf : f ∈ [Fld.hourOfDay, .minuteOfHour, .secondOfMinute]) (v : Option Int)
    (ho : optInt info.timeEnv f = some v) : ∀ x ∈ v, 0 ≤ x ∧ x < 100 := by
  rintro x rfl
  obtain ⟨ds, hg, rfl⟩ := optInt_some _ _ _ ho
  rcases (getInfo_fits m s info h).2.2 with he | ⟨te, hok, hfit⟩
  · rw [he] at hg; cases hg
  · have hint : isIntFld f = true ∧ stdWidth 2 f = 2 := by
      simp only [List.mem_cons, List.not_mem_nil, or_false] at hf
      rcases hf with rfl | rfl | rfl <;> exact ⟨rfl, rfl⟩
    obtain ⟨h1, h2⟩ := get_of_fits 2 te.tmpl hok _ hfit f hint.1 ds hg
    have := digitsVal_lt ds h2
    rw [h1, hint.2] at this
    omega

theorem optInt_nonneg (env : Env) (f : Fld) (v : Option Int) (ho : optInt env f = some v) :
    ∀ x ∈ v, 0 ≤ x := by
  rintro x rfl
  obtain ⟨ds, _, rfl⟩ := optInt_some _ _ _ ho
  exact Int.natCast_nonneg _

theorem durOf_ok (m : Mode) (p : XTP) (D : Dur) (h : durOf m p = .ok D) :
    ∃ y hh, p.year = some y ∧ p.hour = some hh ∧
      D = .units y (p.month.getD 0) (daysArg p.doy p.month p.day) hh (p.minute.getD 0) (p.second.getD 0) := by
  unfold durOf at h
  split at h
  · cases h
  · split at h
    · rename_i y hh hy hhour
      simp only at h
      by_cases hdec : (p.hourDec.isNone && p.minuteDec.isNone && p.secondDec.isNone) = true
      · rw [if_pos hdec] at h
        cases h
        exact ⟨y, hh, hy, hhour, IsoDT.Lemmas.DurText.mkDur_units ..⟩
      · rw [if_neg hdec] at h
        split at h <;> cases h
    · cases h

theorem getD_of_forall {P : Int → Prop} (o : Option Int) (hb : ∀ x ∈ o, P x) (h0 : P 0) :
    P (o.getD 0) := by
  cases o with
  | none => exact h0
  | some v => exact hb v rfl

theorem default0_of_forall {P : Int → Prop} (c : Bool) (a : Option Int) (hb : ∀ x ∈ a, P x)
    (h0 : P 0) : ∀ x ∈ (if c then some 0 else a), P x := by
  intro x hx
  cases c with
  | false => exact hb x hx
  | true => cases hx; exact h0

/-- **Every accepted text**: whatever text the fallback accepts with whole components, the result is a
    unit-form duration with months, days, hours, minutes, seconds ≥ 0 and hours, minutes, seconds < 100.
    (Only the years can be negative.) -/
theorem parseAltDur_ok_bounds (m : Mode) (s : List Char) (D : Dur) (h : parseAltDur m s = .ok D) :
    ∃ y mo d hh mi sec : Int, D = .units y mo d hh mi sec ∧ 0 ≤ mo ∧ 0 ≤ d ∧
      0 ≤ hh ∧ hh < 100 ∧ 0 ≤ mi ∧ mi < 100 ∧ 0 ≤ sec ∧ sec < 100 := by
  unfold parseAltDur at h
  cases hp : parseAltTP m s with
  | none => rw [hp] at h; cases h
  | some p =>
    rw [hp] at h
    obtain ⟨info, a, hi, ha, hc⟩ := parseAltTP_some m s p hp
    obtain ⟨a1, a2, a3, a4, a5, a6, _⟩ := assemble_some _ _ _ _ ha
    obtain ⟨_, tz, _, rfl⟩ := ctorDur_some m a p hc
    obtain ⟨y, hh, _, hhour, rfl⟩ := durOf_ok m _ D h
    have z100 : (0 : Int) ≤ 0 ∧ (0 : Int) < 100 := by decide
    have bh := default0_of_forall _ a.hour
      (optInt_time_bound m s info hi .hourOfDay (by decide) a.hour a4) z100 hh hhour
    have bmi := getD_of_forall (durPoint a tz).minute (default0_of_forall _ a.minute
      (optInt_time_bound m s info hi .minuteOfHour (by decide) a.minute a5) z100) z100
    have bs := getD_of_forall (durPoint a tz).second (default0_of_forall _ a.second
      (optInt_time_bound m s info hi .secondOfMinute (by decide) a.second a6) z100) z100
    have nmo := optInt_nonneg _ _ _ a1
    refine ⟨y, _, _, hh, _, _, rfl, getD_of_forall (P := (0 ≤ ·)) a.month nmo (Int.le_refl 0), ?_,
      bh.1, bh.2, bmi.1, bmi.2, bs.1, bs.2⟩
    show 0 ≤ daysArg a.doy a.month a.day
    unfold daysArg
    cases hdoy : a.doy with
    | some n => exact optInt_nonneg _ _ _ a3 n hdoy
    | none =>
      show 0 ≤ (if a.month.isSome then a.day.getD 0 else 0)
      split
      · exact getD_of_forall (P := (0 ≤ ·)) a.day (optInt_nonneg _ _ _ a2) (Int.le_refl 0)
      · exact Int.le_refl 0

end IsoDT.Model.DurTextAlt
