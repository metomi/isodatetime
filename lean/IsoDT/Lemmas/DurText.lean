/-
  IsoDT.Lemmas.DurText — lemmas for C10, integer components.  The matcher of `Model.DurText` is run
  through the optional groups `(?:(\d+)u)?` and `(?:(\d.*)u)?` of the duration regexes on a
  designator string (`desig`, `desigW`: what `Duration.__str__` writes): which pattern matches, what
  it captures and converts to; what a match can capture at all is read off `Reach`.  Date fields are
  runs of digits (`GoodF`); time fields only start with a digit and avoid the unit letters (`GoodA`,
  in the namespace `IsoDT.Lemmas.DurTextQ`: Lemmas/DurTextQ.lean is what it is for).
-/
import IsoDT.Model.DurText
import IsoDT.Lemmas.Dur

namespace IsoDT.Lemmas.DurText
open IsoDT IsoDT.Model IsoDT.Model.DurText IsoDT.Gen

theorem isDig_iff (c : Char) : isDig c = true ↔ 48 ≤ c.toNat ∧ c.toNat ≤ 57 := by
  simp [isDig]

theorem dch_spec (d : Nat) (h : d < 10) : (dch d).toNat = 48 + d ∧ isDig (dch d) = true := by
  have : ∀ d : Fin 10, (dch d.val).toNat = 48 + d.val ∧ isDig (dch d.val) = true := by decide
  exact this ⟨d, h⟩

def Digs (ds : List Char) : Prop := ∀ c ∈ ds, isDig c = true

theorem Digs.nil : Digs [] := by intro c h; cases h
theorem Digs.cons {c : Char} {ds : List Char} (h : isDig c = true) (t : Digs ds) : Digs (c :: ds) :=
  List.forall_mem_cons.mpr ⟨h, t⟩
theorem Digs.append {a b : List Char} (ha : Digs a) (hb : Digs b) : Digs (a ++ b) :=
  List.forall_mem_append.mpr ⟨ha, hb⟩
theorem Digs.head {c : Char} {ds : List Char} (h : Digs (c :: ds)) : isDig c = true := h c (by simp)
theorem Digs.tail {c : Char} {ds : List Char} (h : Digs (c :: ds)) : Digs ds := fun x hx => h x (by simp [hx])

theorem Digs.all {ds : List Char} (h : Digs ds) : ds.all isDig = true := by
  rw [List.all_eq_true]; exact h

theorem Digs.not_mem {ds : List Char} (h : Digs ds) {c : Char} (hc : isDig c = false) : c ∉ ds :=
  fun hm => by rw [h c hm] at hc; cases hc

theorem digitsVal_foldl (b : List Char) (x : Nat) :
    b.foldl (fun a c => 10 * a + (c.toNat - 48)) x =
      x * 10 ^ b.length + b.foldl (fun a c => 10 * a + (c.toNat - 48)) 0 := by
  induction b generalizing x with
  | nil => simp
  | cons c cs ih =>
    simp only [List.foldl_cons, List.length_cons]
    rw [ih (10 * x + (c.toNat - 48)), ih (10 * 0 + (c.toNat - 48))]
    rw [Nat.pow_succ]
    grind

theorem digitsVal_append (a b : List Char) :
    digitsVal (a ++ b) = digitsVal a * 10 ^ b.length + digitsVal b := by
  unfold digitsVal
  rw [List.foldl_append, digitsVal_foldl]

theorem digitsVal_cons (c : Char) (ds : List Char) :
    digitsVal (c :: ds) = (c.toNat - 48) * 10 ^ ds.length + digitsVal ds := by
  rw [← List.singleton_append, digitsVal_append]
  simp [digitsVal]

theorem natDigitsAux_append (f n : Nat) (acc : List Char) :
    natDigitsAux f n acc = natDigitsAux f n [] ++ acc := by
  induction f generalizing n acc with
  | zero => simp [natDigitsAux]
  | succ f ih =>
    simp only [natDigitsAux]
    split
    · simp
    · rw [ih, ih (n / 10) [dch (n % 10)]]; simp

theorem natDigitsAux_spec (f n : Nat) (h : n < f) :
    natDigitsAux f n [] ≠ [] ∧ Digs (natDigitsAux f n []) ∧ digitsVal (natDigitsAux f n []) = n := by
  induction f generalizing n with
  | zero => omega
  | succ f ih =>
    simp only [natDigitsAux]
    split
    · rename_i h10
      have := dch_spec n h10
      refine ⟨by simp, Digs.cons this.2 Digs.nil, ?_⟩
      simp [digitsVal, this.1]
    · rename_i h10
      have hlt : n / 10 < f := by omega
      obtain ⟨i1, i2, i3⟩ := ih (n / 10) hlt
      have hd := dch_spec (n % 10) (Nat.mod_lt _ (by decide))
      rw [natDigitsAux_append]
      refine ⟨by simp, Digs.append i2 (Digs.cons hd.2 Digs.nil), ?_⟩
      rw [digitsVal_append, i3]
      simp only [digitsVal, List.length_singleton, List.foldl_cons, List.foldl_nil, hd.1]
      omega

theorem natDigits_ne_nil (n : Nat) : natDigits n ≠ [] := (natDigitsAux_spec (n + 1) n (by omega)).1
theorem natDigits_digs (n : Nat) : Digs (natDigits n) := (natDigitsAux_spec (n + 1) n (by omega)).2.1
theorem digitsVal_natDigits (n : Nat) : digitsVal (natDigits n) = n :=
  (natDigitsAux_spec (n + 1) n (by omega)).2.2

theorem natDigits_pow10_length (k : Nat) : (natDigits (10 ^ k)).length = k + 1 := by
  have L : ∀ k f acc, 10 ^ k < f → (natDigitsAux f (10 ^ k) acc).length = acc.length + k + 1 := by
    intro k
    induction k with
    | zero =>
      intro f acc hf
      cases f with
      | zero => omega
      | succ f => simp [natDigitsAux]
    | succ k ih =>
      intro f acc hf
      have hp : 0 < 10 ^ k := Nat.pow_pos (by decide)
      rw [Nat.pow_succ] at hf ⊢
      cases f with
      | zero => omega
      | succ f =>
        simp only [natDigitsAux, show ¬ 10 ^ k * 10 < 10 by omega, if_false,
          Nat.mul_div_cancel _ (show 0 < 10 by decide)]
        rw [ih f _ (by omega), List.length_cons]
        omega
  exact (L k _ [] (by omega)).trans (by simp)

theorem starK_run {β : Type} (p : Char → Bool) (K : List Char → Option β) (ds : List Char) (tl : List Char)
    (hds : ∀ c ∈ ds, p c = true) (htl : ∀ c t, tl = c :: t → p c = false)
    (hK : ∀ c t, p c = true → K (c :: t) = none) :
    starK p (ds ++ tl) K = K tl := by
  induction ds with
  | nil =>
    cases tl with
    | nil => rfl
    | cons c t => simp [starK, htl c t rfl]
  | cons d ds ih =>
    have hd : p d = true := hds d (by simp)
    have := ih (fun c hc => hds c (by simp [hc]))
    simp only [List.cons_append, starK, hd, ↓reduceIte, this]
    cases h : K tl with
    | some x => rfl
    | none => exact hK d _ hd

theorem starK_none {β : Type} (p : Char → Bool) (K : List Char → Option β) (u : Char) (s : List Char)
    (hK : ∀ s', (∀ t, s' ≠ u :: t) → K s' = none) (hs : u ∉ s) :
    starK p s K = none := by
  induction s with
  | nil => exact hK [] (by intro t h; cases h)
  | cons c cs ih =>
    have hc : c ≠ u := by intro e; exact hs (by simp [e])
    have hk : K (c :: cs) = none := hK _ (by intro t h; injection h with h1 _; exact hc h1)
    have := ih (by intro h; exact hs (by simp [h]))
    simp only [starK, this, hk]
    split <;> rfl

theorem starK_any_to {β : Type} (K : List Char → Option β) (u : Char) (body rest : List Char)
    (hu : u ≠ '\n')
    (hK : ∀ s', (∀ t, s' ≠ u :: t) → K s' = none)
    (hb1 : u ∉ body) (hb2 : '\n' ∉ body) (hr : u ∉ rest) :
    starK (Cls.test .any) (body ++ u :: rest) K = K (u :: rest) := by
  induction body with
  | nil =>
    have h1 : Cls.test .any u = true := by simp [Cls.test, hu]
    have h2 := starK_none (Cls.test .any) K u rest hK hr
    simp only [List.nil_append, starK, h1, ↓reduceIte, h2]
  | cons c cs ih =>
    have hc : c ≠ u := by intro e; exact hb1 (by simp [e])
    have hn : c ≠ '\n' := by intro e; exact hb2 (by simp [e])
    have h1 : Cls.test .any c = true := by simp [Cls.test, hn]
    have := ih (by intro h; exact hb1 (by simp [h])) (by intro h; exact hb2 (by simp [h]))
    have hk : K (c :: (cs ++ u :: rest)) = none :=
      hK _ (by intro t h; injection h with h1 _; exact hc h1)
    simp only [List.cons_append, starK, h1, ↓reduceIte, this]
    cases K (u :: rest) with
    | some x => rfl
    | none => exact hk

/-! ### the two optional-group shapes of the duration regexes -/

theorem run_seq {β : Type} (a b : Re) (s : List Char) (cp : Caps) (k : List Char → Caps → Option β) :
    (Re.seq a b).run s cp k = a.run s cp (fun s' cp' => b.run s' cp' k) := rfl

theorem run_opt {β : Type} (r : Re) (s : List Char) (cp : Caps) (k : List Char → Caps → Option β) :
    (Re.opt r).run s cp k = (match r.run s cp k with | some x => some x | none => k s cp) := rfl

theorem run_grp {β : Type} (n : DUnit) (r : Re) (s : List Char) (cp : Caps) (k : List Char → Caps → Option β) :
    (Re.grp n r).run s cp k =
      r.run s cp (fun s' cp' => k s' (capSet cp' n (s.take (s.length - s'.length)))) := rfl
theorem run_plus_cons {β : Type} (c : Cls) (x : Char) (xs : List Char) (cp : Caps)
    (k : List Char → Caps → Option β) :
    (Re.plus c).run (x :: xs) cp k = if c.test x then starK c.test xs (fun s' => k s' cp) else none := rfl
theorem run_one_cons {β : Type} (c : Cls) (x : Char) (xs : List Char) (cp : Caps)
    (k : List Char → Caps → Option β) :
    (Re.one c).run (x :: xs) cp k = if c.test x then k xs cp else none := rfl
theorem run_star {β : Type} (c : Cls) (s : List Char) (cp : Caps) (k : List Char → Caps → Option β) :
    (Re.star c).run s cp k = starK c.test s (fun s' => k s' cp) := rfl
theorem test_digit (c : Char) : Cls.test .digit c = isDig c := rfl
theorem test_chr (x c : Char) : Cls.test (.chr x) c = (c == x) := rfl

theorem run_lit {β : Type} (c : Char) (s : List Char) (cp : Caps) (k : List Char → Caps → Option β) :
    (Re.one (.chr c)).run (c :: s) cp k = k s cp := by
  simp [Re.run, Cls.test]

theorem run_lit_ne {β : Type} (c x : Char) (s : List Char) (cp : Caps) (k : List Char → Caps → Option β)
    (h : x ≠ c) : (Re.one (.chr c)).run (x :: s) cp k = none := by
  simp [Re.run, Cls.test, h]

theorem run_lit_nil {β : Type} (c : Char) (cp : Caps) (k : List Char → Caps → Option β) :
    (Re.one (.chr c)).run [] cp k = none := rfl

theorem lit_cont_none {β : Type} (u : Char) (cp : Caps) (k : List Char → Caps → Option β)
    (s' : List Char) (h : ∀ t, s' ≠ u :: t) :
    (Re.one (.chr u)).run s' cp k = none := by
  cases s' with
  | nil => rfl
  | cons c t =>
    have : c ≠ u := by intro e; exact h t (by rw [e])
    exact run_lit_ne u c t _ k this

/-- `(?P<n>\d+)u` -/
@[reducible] def digUnit (n : DUnit) (u : Char) : Re := .seq (.grp n (.plus .digit)) (.one (.chr u))
/-- `(?P<n>\d.*)u` -/
@[reducible] def anyUnit (n : DUnit) (u : Char) : Re :=
  .seq (.grp n (.seq (.one .digit) (.star .any))) (.one (.chr u))

def fnd : List Char → Option Char
  | [] => none
  | c :: cs => if isDig c then fnd cs else some c

theorem fnd_digs_append (ds tl : List Char) (h : Digs ds) : fnd (ds ++ tl) = fnd tl := by
  induction ds with
  | nil => rfl
  | cons d ds ih => simp [fnd, h.head, ih h.tail]

theorem fnd_cons_nondig (c : Char) (t : List Char) (h : isDig c = false) : fnd (c :: t) = some c := by
  simp [fnd, h]

theorem split_digits (s : List Char) :
    ∃ ds tl, s = ds ++ tl ∧ Digs ds ∧
      ((tl = [] ∧ fnd s = none) ∨ ∃ c t, tl = c :: t ∧ isDig c = false ∧ fnd s = some c) := by
  induction s with
  | nil => exact ⟨[], [], rfl, Digs.nil, Or.inl ⟨rfl, rfl⟩⟩
  | cons c cs ih =>
    by_cases hc : isDig c = true
    · obtain ⟨ds, tl, e, hd, h⟩ := ih
      refine ⟨c :: ds, tl, by simp [e], Digs.cons hc hd, ?_⟩
      simpa [fnd, hc] using h
    · have hc' : isDig c = false := by simpa using hc
      exact ⟨[], c :: cs, rfl, Digs.nil, Or.inr ⟨c, cs, rfl, hc', fnd_cons_nondig c cs hc'⟩⟩

theorem dig_ne_of (c u : Char) (hc : isDig c = true) (hu : isDig u = false) : c ≠ u := by
  intro e; rw [e, hu] at hc; cases hc

theorem take_prefix (a b : List Char) : (a ++ b).take ((a ++ b).length - b.length) = a := by
  have : (a ++ b).length - b.length = a.length := by simp
  rw [this, List.take_left]

theorem run_digUnit {β : Type} (n : DUnit) (u : Char) (hu : isDig u = false) (ds rest : List Char) (cp : Caps)
    (k : List Char → Caps → Option β) (hds : Digs ds) (hne : ds ≠ []) :
    (digUnit n u).run (ds ++ u :: rest) cp k = k rest (capSet cp n ds) := by
  cases ds with
  | nil => exact absurd rfl hne
  | cons d ds' =>
    have hd : Cls.test .digit d = true := hds.head
    rw [run_seq, run_grp, List.cons_append, run_plus_cons, if_pos hd]
    rw [starK_run (Cls.test .digit) _ ds' (u :: rest) hds.tail]
    · have := take_prefix (d :: ds') (u :: rest)
      simp only [List.cons_append] at this
      rw [run_lit, this]
    · intro c t e; injection e with e1 _; rw [← e1]; exact hu
    · intro c t hc
      exact lit_cont_none u _ k (c :: t) (by intro t' e; injection e with e1 _; exact dig_ne_of c u hc hu e1)

theorem run_digUnit_none {β : Type} (n : DUnit) (u : Char) (hu : isDig u = false) (s : List Char) (cp : Caps)
    (k : List Char → Caps → Option β) (h : fnd s ≠ some u) :
    (digUnit n u).run s cp k = none := by
  cases s with
  | nil => rfl
  | cons x xs =>
    rw [run_seq, run_grp, run_plus_cons]
    by_cases hx : isDig x = true
    · rw [if_pos (show Cls.test .digit x = true from hx)]
      have hf : fnd xs ≠ some u := by simpa [fnd, hx] using h
      obtain ⟨ds, tl, e, hd, htl⟩ := split_digits xs
      rw [e, starK_run (Cls.test .digit) _ ds tl hd]
      · apply lit_cont_none u _ k tl
        intro t e'
        rcases htl with ⟨rfl, _⟩ | ⟨c, t', rfl, hc, hfc⟩
        · cases e'
        · injection e' with e1 _
          apply hf; rw [hfc, e1]
      · intro c t e'
        rcases htl with ⟨rfl, _⟩ | ⟨c', t', rfl, hc, _⟩
        · cases e'
        · injection e' with e1 _; rw [← e1]; exact hc
      · intro c t hc
        exact lit_cont_none u _ k (c :: t) (by intro t' e; injection e with e1 _; exact dig_ne_of c u hc hu e1)
    · rw [if_neg (show ¬ Cls.test .digit x = true from hx)]

theorem run_anyUnit {β : Type} (n : DUnit) (u : Char) (hu : u ≠ '\n') (d0 : Char) (body rest : List Char)
    (cp : Caps) (k : List Char → Caps → Option β) (hd : isDig d0 = true)
    (hb1 : u ∉ body) (hb2 : '\n' ∉ body) (hr : u ∉ rest) :
    (anyUnit n u).run (d0 :: (body ++ u :: rest)) cp k = k rest (capSet cp n (d0 :: body)) := by
  rw [run_seq, run_grp, run_seq, run_one_cons, if_pos (show Cls.test .digit d0 = true from hd), run_star]
  rw [starK_any_to _ u body rest hu _ hb1 hb2 hr]
  · have := take_prefix (d0 :: body) (u :: rest)
    simp only [List.cons_append] at this
    rw [run_lit, this]
  · intro s' hs'
    exact lit_cont_none u _ k s' hs'

theorem run_anyUnit_none {β : Type} (n : DUnit) (u : Char) (s : List Char) (cp : Caps)
    (k : List Char → Caps → Option β) (h : u ∉ s) :
    (anyUnit n u).run s cp k = none := by
  cases s with
  | nil => rfl
  | cons x xs =>
    rw [run_seq, run_grp, run_seq, run_one_cons]
    split
    · rw [run_star]
      apply starK_none _ _ u xs
      · intro s' hs'
        exact lit_cont_none u _ k s' hs'
      · intro hx; exact h (by simp [hx])
    · rfl

def fld (f : Option (List Char)) (u : Char) : List Char :=
  match f with
  | some ds => ds ++ [u]
  | none => []

def capAdd (cp : Caps) (n : DUnit) (f : Option (List Char)) : Caps :=
  match f with
  | some ds => capSet cp n ds
  | none => cp

def GoodF (f : Option (List Char)) : Prop := ∀ ds, f = some ds → Digs ds ∧ ds ≠ []

theorem GoodF.none : GoodF none := by intro ds h; cases h
theorem GoodF.some {ds : List Char} (h : Digs ds) (hne : ds ≠ []) : GoodF (some ds) := by
  intro ds' e; injection e with e; rw [← e]; exact ⟨h, hne⟩

theorem fnd_fld (f : Option (List Char)) (u : Char) (hu : isDig u = false) (hf : GoodF f) (tl : List Char) :
    fnd (fld f u ++ tl) = (match f with | some _ => some u | none => fnd tl) := by
  cases f with
  | none => rfl
  | some ds =>
    have := (hf ds rfl).1
    simp only [fld, List.append_assoc, List.singleton_append]
    rw [fnd_digs_append _ _ this, fnd_cons_nondig u tl hu]

theorem opt_skip {β : Type} (r : Re) (s : List Char) (cp : Caps) (K : List Char → Caps → Option β)
    (h : r.run s cp K = none) : (Re.opt r).run s cp K = K s cp := by
  rw [run_opt, h]

theorem opt_take {β : Type} (r : Re) (s : List Char) (cp : Caps) (K : List Char → Caps → Option β) (x : β)
    (h : r.run s cp K = some x) : (Re.opt r).run s cp K = some x := by
  rw [run_opt, h]

theorem opt_digUnit_fld {β : Type} (n : DUnit) (u : Char) (hu : isDig u = false) (f : Option (List Char))
    (hf : GoodF f) (tl : List Char) (ht : fnd tl ≠ some u) (cp : Caps) (K : List Char → Caps → Option β) (x : β)
    (h : K tl (capAdd cp n f) = some x) :
    (Re.opt (digUnit n u)).run (fld f u ++ tl) cp K = some x := by
  cases f with
  | none =>
    rw [show fld none u ++ tl = tl from rfl, opt_skip _ _ _ _ (run_digUnit_none n u hu tl cp K ht)]
    exact h
  | some ds =>
    obtain ⟨h1, h2⟩ := hf ds rfl
    apply opt_take
    rw [show fld (some ds) u ++ tl = ds ++ u :: tl by simp [fld], run_digUnit n u hu ds tl cp K h1 h2]
    exact h

/-! ### what a match is

  `Re.run` is written in continuation-passing style.  `Reach r s cp s' cp'` says declaratively that
  `r` can match at the start of `s` leaving `s'`, turning the captures `cp` into `cp'`; whenever
  `r.run s cp k` succeeds, `k` succeeded after such a match (`run_reach`).  What a match can
  consume and capture is then read off `Reach` by induction.  Only this direction is proved: that a
  given text IS matched (`search0_date`, `search1_timeA`, …) is shown by running the matcher
  through the optional groups one by one (`opt_digUnit_fld`, `opt_anyUnit_fld`). -/

inductive Reach : Re → List Char → Caps → List Char → Caps → Prop
  | eps (s cp) : Reach .eps s cp s cp
  | one (c x xs cp) : c.test x = true → Reach (.one c) (x :: xs) cp xs cp
  | star (c pre s' cp) : (∀ a ∈ pre, c.test a = true) → Reach (.star c) (pre ++ s') cp s' cp
  | plus (c x pre s' cp) : c.test x = true → (∀ a ∈ pre, c.test a = true) →
      Reach (.plus c) (x :: (pre ++ s')) cp s' cp
  | skip (r s cp) : Reach (.opt r) s cp s cp
  | take (r s cp s' cp') : Reach r s cp s' cp' → Reach (.opt r) s cp s' cp'
  | seq (a b s cp s1 cp1 s2 cp2) : Reach a s cp s1 cp1 → Reach b s1 cp1 s2 cp2 → Reach (.seq a b) s cp s2 cp2
  | grp (n r s cp s' cp') : Reach r s cp s' cp' →
      Reach (.grp n r) s cp s' (capSet cp' n (s.take (s.length - s'.length)))

theorem starK_sound {β : Type} (p : Char → Bool) (K : List Char → Option β) (s : List Char) (x : β)
    (h : starK p s K = some x) :
    ∃ pre s', s = pre ++ s' ∧ (∀ c ∈ pre, p c = true) ∧ K s' = some x := by
  induction s generalizing x with
  | nil => exact ⟨[], [], rfl, (by intro c hc; cases hc), h⟩
  | cons c cs ih =>
    simp only [starK] at h
    by_cases hc : p c = true
    · simp only [hc, ↓reduceIte] at h
      cases hs : starK p cs K with
      | some y =>
        rw [hs] at h
        obtain ⟨pre, s', e, hp, hk⟩ := ih y hs
        exact ⟨c :: pre, s', by simp [e], List.forall_mem_cons.mpr ⟨hc, hp⟩, by rw [hk]; exact h⟩
      | none =>
        rw [hs] at h
        exact ⟨[], c :: cs, rfl, (by intro a ha; cases ha), h⟩
    · simp only [hc] at h
      exact ⟨[], c :: cs, rfl, (by intro a ha; cases ha), h⟩

theorem run_reach {β : Type} (r : Re) : ∀ (s : List Char) (cp : Caps) (k : List Char → Caps → Option β) (x : β),
    r.run s cp k = some x → ∃ s' cp', Reach r s cp s' cp' ∧ k s' cp' = some x := by
  induction r with
  | eps => intro s cp k x h; exact ⟨s, cp, .eps s cp, h⟩
  | one c =>
    intro s cp k x h
    cases s with
    | nil => cases h
    | cons y ys =>
      rw [run_one_cons] at h
      split at h
      · rename_i hy; exact ⟨ys, cp, .one c y ys cp hy, h⟩
      · cases h
  | star c =>
    intro s cp k x h
    rw [run_star] at h
    obtain ⟨pre, s', rfl, hp, hk⟩ := starK_sound _ _ _ _ h
    exact ⟨s', cp, .star c pre s' cp hp, hk⟩
  | plus c =>
    intro s cp k x h
    cases s with
    | nil => cases h
    | cons y ys =>
      rw [run_plus_cons] at h
      split at h
      · rename_i hy
        obtain ⟨pre, s', rfl, hp, hk⟩ := starK_sound _ _ _ _ h
        exact ⟨s', cp, .plus c y pre s' cp hy hp, hk⟩
      · cases h
  | opt r ih =>
    intro s cp k x h
    rw [run_opt] at h
    cases hr : r.run s cp k with
    | some y =>
      rw [hr] at h
      obtain ⟨s', cp', hm, hk⟩ := ih s cp k y hr
      exact ⟨s', cp', .take r s cp s' cp' hm, by rw [hk]; exact h⟩
    | none =>
      rw [hr] at h
      exact ⟨s, cp, .skip r s cp, h⟩
  | seq a b iha ihb =>
    intro s cp k x h
    rw [run_seq] at h
    obtain ⟨s1, cp1, m1, hk1⟩ := iha s cp _ x h
    obtain ⟨s2, cp2, m2, hk2⟩ := ihb s1 cp1 k x hk1
    exact ⟨s2, cp2, .seq a b s cp s1 cp1 s2 cp2 m1 m2, hk2⟩
  | grp n r ih =>
    intro s cp k x h
    rw [run_grp] at h
    obtain ⟨s', cp', hm, hk⟩ := ih s cp _ x h
    exact ⟨s', _, .grp n r s cp s' cp' hm, hk⟩

def accepts : Re → Char → Bool
  | .eps, _ => false
  | .one k, c => k.test c
  | .star k, c => k.test c
  | .plus k, c => k.test c
  | .opt r, c => accepts r c
  | .seq a b, c => accepts a c || accepts b c
  | .grp _ r, c => accepts r c

theorem Reach.pre {r : Re} {s s' : List Char} {cp cp' : Caps} (h : Reach r s cp s' cp') :
    ∃ pre, s = pre ++ s' ∧ ∀ c ∈ pre, accepts r c = true := by
  induction h with
  | eps s cp => exact ⟨[], rfl, by intro c hc; cases hc⟩
  | one c x xs cp hx => exact ⟨[x], rfl, by intro a ha; rw [List.mem_singleton.mp ha]; exact hx⟩
  | star c pre s' cp hp => exact ⟨pre, rfl, hp⟩
  | plus c x pre s' cp hx hp => exact ⟨x :: pre, rfl, List.forall_mem_cons.mpr ⟨hx, hp⟩⟩
  | skip r s cp => exact ⟨[], rfl, by intro c hc; cases hc⟩
  | take r s cp s' cp' _ ih => exact ih
  | seq a b s cp s1 cp1 s2 cp2 _ _ ih1 ih2 =>
    obtain ⟨p1, rfl, h1⟩ := ih1
    obtain ⟨p2, rfl, h2⟩ := ih2
    refine ⟨p1 ++ p2, (List.append_assoc ..).symm, ?_⟩
    intro c hc
    simp only [accepts, Bool.or_eq_true]
    rcases List.mem_append.mp hc with hc | hc
    · exact Or.inl (h1 c hc)
    · exact Or.inr (h2 c hc)
  | grp n r s cp s' cp' _ ih => exact ih

theorem atEnd_cases (s : List Char) (h : atEnd s = true) : s = [] ∨ s = ['\n'] := by
  match s, h with
  | [], _ => exact Or.inl rfl
  | [c], h => simp only [atEnd, beq_iff_eq] at h; exact Or.inr (by rw [h])

theorem search_none_of_not_accepts (r : Re) (s : List Char) (c : Char) (hc : c ∈ s) (hn : c ≠ '\n')
    (ha : accepts r c = false) : r.search s = none := by
  cases h : r.search s with
  | none => rfl
  | some cp =>
    exfalso
    unfold Re.search at h
    obtain ⟨s', cp', hm, hk⟩ := run_reach r s capEmpty _ cp h
    obtain ⟨pre, e, hp⟩ := hm.pre
    by_cases he : atEnd s' = true
    · have hmem : c ∈ pre := by
        rw [e] at hc
        rcases List.mem_append.mp hc with hc | hc
        · exact hc
        · rcases atEnd_cases s' he with rfl | rfl
          · cases hc
          · exact absurd (List.mem_singleton.mp hc) hn
      have := hp c hmem
      rw [ha] at this; cases this
    · simp [he] at hk

/-! ### what the year / month / day / week groups can capture -/

def NoGrp : Re → Prop
  | .eps => True
  | .one _ => True
  | .star _ => True
  | .plus _ => True
  | .opt r => NoGrp r
  | .seq a b => NoGrp a ∧ NoGrp b
  | .grp _ _ => False

def IntGrps : Re → Prop
  | .eps => True
  | .one _ => True
  | .star _ => True
  | .plus _ => True
  | .opt r => IntGrps r
  | .seq a b => IntGrps a ∧ IntGrps b
  | .grp n r => (n.isIntKey = true → r = .plus .digit) ∧ NoGrp r

def CapI (cp : Caps) : Prop := ∀ n, n.isIntKey = true → GoodF (cp n)

theorem Reach.caps_nogrp {r : Re} {s s' : List Char} {cp cp' : Caps} (h : Reach r s cp s' cp')
    (hr : NoGrp r) : cp' = cp := by
  induction h with
  | eps | one | star | plus | skip => rfl
  | take r s cp s' cp' _ ih => exact ih hr
  | seq a b s cp s1 cp1 s2 cp2 _ _ ih1 ih2 => rw [ih2 hr.2, ih1 hr.1]
  | grp => exact hr.elim

/-- A group either is `\d+` or is named after a `float` keyword. -/
theorem Reach.capI {r : Re} {s s' : List Char} {cp cp' : Caps} (h : Reach r s cp s' cp')
    (hr : IntGrps r) (hc : CapI cp) : CapI cp' := by
  induction h with
  | eps | one | star | plus | skip => exact hc
  | take r s cp s' cp' _ ih => exact ih hr hc
  | seq a b s cp s1 cp1 s2 cp2 _ _ ih1 ih2 => exact ih2 hr.2 (ih1 hr.1 hc)
  | grp n r s cp s' cp' hm _ =>
    obtain ⟨hint, hng⟩ := hr
    have ec := hm.caps_nogrp hng
    subst ec
    intro n' hn' ds' e
    unfold capSet at e
    split at e
    · rename_i hx
      subst hx
      injection e with e
      subst e
      have er := hint hn'
      subst er
      cases hm with
      | plus c x pre s' cp hx hp =>
        have := take_prefix (x :: pre) s'
        simp only [List.cons_append] at this
        rw [this]
        exact ⟨Digs.cons hx hp, by simp⟩
    · exact hc n' hn' ds' e

theorem search_capI (r : Re) (hr : IntGrps r) (s : List Char) (cp : Caps) (h : r.search s = some cp) : CapI cp := by
  unfold Re.search at h
  obtain ⟨s', cp', hm, hk⟩ := run_reach r s capEmpty _ cp h
  split at hk
  · injection hk with hk; rw [← hk]; exact hm.capI hr (fun n _ ds h => by cases h)
  · cases hk

theorem firstMatch_mem (rs : List (Re × List DUnit)) (s : List Char) (gs : List DUnit) (cp : Caps)
    (h : firstMatch rs s = some (gs, cp)) : ∃ r, (r, gs) ∈ rs ∧ r.search s = some cp := by
  induction rs with
  | nil => cases h
  | cons p rest ih =>
    obtain ⟨r, g⟩ := p
    simp only [firstMatch] at h
    cases hs : r.search s with
    | some c =>
      rw [hs] at h
      obtain ⟨rfl, rfl⟩ := Prod.mk.inj (Option.some.inj h)
      exact ⟨r, List.mem_cons_self .., hs⟩
    | none =>
      rw [hs] at h
      obtain ⟨r', hm, hr'⟩ := ih h
      exact ⟨r', List.mem_cons_of_mem _ hm, hr'⟩

theorem intGrps_durRegexes : ∀ p ∈ durRegexes, IntGrps p.1 := by
  simp [durRegexes, durRegex0, durRegex1, durRegex2, IntGrps, NoGrp, DUnit.isIntKey]

theorem firstMatch_capI (s : List Char) (gs : List DUnit) (cp : Caps)
    (h : firstMatch durRegexes s = some (gs, cp)) : CapI cp := by
  obtain ⟨r, hm, hr⟩ := firstMatch_mem _ s gs cp h
  exact search_capI r (intGrps_durRegexes _ hm) s cp hr

abbrev TimeF := Option (List Char) × Option (List Char) × Option (List Char)

def timePart : Option TimeF → List Char
  | none => []
  | some (fh, fmi, fs) => 'T' :: (fld fh 'H' ++ (fld fmi 'M' ++ (fld fs 'S' ++ [])))

/-- `P[nY][nM][nD][T[nH][nM][nS]]` -/
def desig (fy fmo fd : Option (List Char)) (ft : Option TimeF) : List Char :=
  'P' :: (fld fy 'Y' ++ (fld fmo 'M' ++ (fld fd 'D' ++ timePart ft)))

def GoodT : Option TimeF → Prop
  | none => True
  | some (fh, fmi, fs) => GoodF fh ∧ GoodF fmi ∧ GoodF fs

end IsoDT.Lemmas.DurText

namespace IsoDT.Lemmas.DurTextQ
open IsoDT IsoDT.Model IsoDT.Model.DurText IsoDT.Gen IsoDT.Lemmas.DurText

/-! ### time fields

  The hour / minute / second groups are `\d.*`: what makes them stop at their own unit letter is
  that the field starts with a digit and contains no unit letter of the time part (`GoodA`); a run
  of digits (`GoodF`) is the special case the integer model needs. -/

def Free (t : List Char) : Prop :=
  ∀ c ∈ t, c ≠ 'H' ∧ c ≠ 'M' ∧ c ≠ 'S' ∧ c ≠ '\n' ∧ c.toNat < 128

def GoodA (f : Option (List Char)) : Prop :=
  ∀ t, f = some t → (∃ d0 body, t = d0 :: body ∧ isDig d0 = true) ∧ Free t

theorem GoodA.none : GoodA none := by intro t h; cases h

theorem dig_free (c : Char) (h : isDig c = true) :
    c ≠ 'H' ∧ c ≠ 'M' ∧ c ≠ 'S' ∧ c ≠ '\n' ∧ c.toNat < 128 := by
  have := (isDig_iff c).mp h
  refine ⟨?_, ?_, ?_, ?_, by omega⟩ <;> exact dig_ne_of c _ h (by decide)

theorem GoodA.ofGoodF {f : Option (List Char)} (h : GoodF f) : GoodA f := by
  intro t e
  obtain ⟨h1, h2⟩ := h t e
  refine ⟨?_, fun c hc => dig_free c (h1 c hc)⟩
  cases t with
  | nil => exact absurd rfl h2
  | cons d0 body => exact ⟨d0, body, rfl, h1.head⟩

def GoodAT : Option TimeF → Prop
  | none => True
  | some (fh, fmi, fs) => GoodA fh ∧ GoodA fmi ∧ GoodA fs

theorem GoodAT.ofGoodT {ft : Option TimeF} (h : GoodT ft) : GoodAT ft := by
  cases ft with
  | none => trivial
  | some t => exact ⟨.ofGoodF h.1, .ofGoodF h.2.1, .ofGoodF h.2.2⟩

end IsoDT.Lemmas.DurTextQ

namespace IsoDT.Lemmas.DurText
open IsoDT IsoDT.Model IsoDT.Model.DurText IsoDT.Gen IsoDT.Lemmas.DurTextQ

theorem fnd_fld_ne (f : Option (List Char)) (u : Char) (hu : isDig u = false) (hf : GoodF f) (tl : List Char)
    (c : Char) (h1 : u ≠ c) (h2 : fnd tl ≠ some c) : fnd (fld f u ++ tl) ≠ some c := by
  rw [fnd_fld f u hu hf tl]
  cases f with
  | none => exact h2
  | some ds => intro e; injection e with e; exact h1 e

def IsHMS (c : Char) : Prop := c = 'H' ∨ c = 'M' ∨ c = 'S'

theorem IsHMS.not_free {c : Char} (hc : IsHMS c) {t : List Char} (ht : Free t) : c ∉ t := by
  intro hm
  obtain ⟨a, b, d, _, _⟩ := ht c hm
  rcases hc with rfl | rfl | rfl
  · exact a rfl
  · exact b rfl
  · exact d rfl

theorem not_mem_fld_append (f : Option (List Char)) (u : Char) (hf : GoodA f) (tl : List Char) (c : Char)
    (hc : IsHMS c) (h1 : c ≠ u) (h2 : c ∉ tl) : c ∉ fld f u ++ tl := by
  intro h
  rcases List.mem_append.mp h with h | h
  · cases f with
    | none => cases h
    | some t =>
      rcases List.mem_append.mp h with h | h
      · exact hc.not_free (hf t rfl).2 h
      · exact h1 (List.mem_singleton.mp h)
  · exact h2 h

theorem opt_anyUnit_fld {β : Type} (n : DUnit) (u : Char) (hU : IsHMS u)
    (f : Option (List Char)) (hf : GoodA f) (tl : List Char) (ht : u ∉ tl) (cp : Caps)
    (K : List Char → Caps → Option β) (x : β) (h : K tl (capAdd cp n f) = some x) :
    (Re.opt (anyUnit n u)).run (fld f u ++ tl) cp K = some x := by
  have hn : u ≠ '\n' := by rcases hU with rfl | rfl | rfl <;> decide
  cases f with
  | none =>
    rw [show fld none u ++ tl = tl from rfl, opt_skip _ _ _ _ (run_anyUnit_none n u tl cp K ht)]
    exact h
  | some t =>
    obtain ⟨⟨d0, body, rfl, hd⟩, hfree⟩ := hf t rfl
    apply opt_take
    have hb1 : u ∉ body := fun hm => hU.not_free hfree (List.mem_cons_of_mem _ hm)
    have hb2 : '\n' ∉ body := fun hm => (hfree '\n' (List.mem_cons_of_mem _ hm)).2.2.2.1 rfl
    rw [show fld (some (d0 :: body)) u ++ tl = d0 :: (body ++ u :: tl) by simp [fld],
      run_anyUnit n u hn d0 body tl cp K hd hb1 hb2 ht]
    exact h

theorem fnd_timePart_ne (ft : Option TimeF) (c : Char) (h : c ≠ 'T') : fnd (timePart ft) ≠ some c := by
  cases ft with
  | none => intro e; cases e
  | some t =>
    obtain ⟨fh, fmi, fs⟩ := t
    rw [timePart, fnd_cons_nondig 'T' _ (by decide)]
    intro e; injection e with e; exact h e.symm

def dateCaps (fy fmo fd : Option (List Char)) : Caps :=
  capAdd (capAdd (capAdd capEmpty .years fy) .months fmo) .days fd

def allCaps (fy fmo fd fh fmi fs : Option (List Char)) : Caps :=
  capAdd (capAdd (capAdd (dateCaps fy fmo fd) .hours fh) .minutes fmi) .seconds fs

def kEnd : List Char → Caps → Option Caps := fun s' cp => if atEnd s' then some cp else none

theorem search_eq (r : Re) (s : List Char) : r.search s = r.run s capEmpty kEnd := rfl

theorem search0_date (fy fmo fd : Option (List Char)) (hy : GoodF fy) (hmo : GoodF fmo) (hd : GoodF fd) :
    durRegex0.search (desig fy fmo fd none) = some (dateCaps fy fmo fd) := by
  rw [search_eq]
  unfold durRegex0 desig
  rw [run_seq, run_lit]
  rw [run_seq]
  refine opt_digUnit_fld .years 'Y' (by decide) fy hy _ ?_ _ _ _ ?_
  · exact fnd_fld_ne _ _ (by decide) hmo _ _ (by decide)
      (fnd_fld_ne _ _ (by decide) hd _ _ (by decide) (fnd_timePart_ne none 'Y' (by decide)))
  rw [run_seq]
  refine opt_digUnit_fld .months 'M' (by decide) fmo hmo _ ?_ _ _ _ ?_
  · exact fnd_fld_ne _ _ (by decide) hd _ _ (by decide) (fnd_timePart_ne none 'M' (by decide))
  refine opt_digUnit_fld .days 'D' (by decide) fd hd _ ?_ _ _ _ ?_
  · exact fnd_timePart_ne none 'D' (by decide)
  rfl

theorem search0_time_none (fy fmo fd : Option (List Char)) (t : TimeF) :
    durRegex0.search (desig fy fmo fd (some t)) = none := by
  apply search_none_of_not_accepts _ _ 'T' _ (by decide) (by decide)
  unfold desig
  simp only [List.mem_cons, List.mem_append]
  obtain ⟨fh, fmi, fs⟩ := t
  exact Or.inr (Or.inr (Or.inr (Or.inr (List.mem_cons_self ..))))

/-- Each greedy `\d.*` group backs off to exactly its own field. -/
theorem search1_timeA (fy fmo fd fh fmi fs : Option (List Char)) (hy : GoodF fy) (hmo : GoodF fmo)
    (hd : GoodF fd) (hh : GoodA fh) (hmi : GoodA fmi) (hs : GoodA fs) :
    durRegex1.search (desig fy fmo fd (some (fh, fmi, fs))) = some (allCaps fy fmo fd fh fmi fs) := by
  rw [search_eq]
  unfold durRegex1 desig
  rw [run_seq, run_lit, run_seq]
  refine opt_digUnit_fld .years 'Y' (by decide) fy hy _ ?_ _ _ _ ?_
  · exact fnd_fld_ne _ _ (by decide) hmo _ _ (by decide)
      (fnd_fld_ne _ _ (by decide) hd _ _ (by decide) (fnd_timePart_ne _ 'Y' (by decide)))
  rw [run_seq]
  refine opt_digUnit_fld .months 'M' (by decide) fmo hmo _ ?_ _ _ _ ?_
  · exact fnd_fld_ne _ _ (by decide) hd _ _ (by decide) (fnd_timePart_ne _ 'M' (by decide))
  rw [run_seq]
  refine opt_digUnit_fld .days 'D' (by decide) fd hd _ ?_ _ _ _ ?_
  · exact fnd_timePart_ne _ 'D' (by decide)
  rw [timePart, run_seq, run_lit, run_seq]
  refine opt_anyUnit_fld .hours 'H' (Or.inl rfl) fh hh _ ?_ _ _ _ ?_
  · exact not_mem_fld_append _ _ hmi _ _ (Or.inl rfl) (by decide)
      (not_mem_fld_append _ _ hs _ _ (Or.inl rfl) (by decide) (by simp))
  rw [run_seq]
  refine opt_anyUnit_fld .minutes 'M' (Or.inr (Or.inl rfl)) fmi hmi _ ?_ _ _ _ ?_
  · exact not_mem_fld_append _ _ hs _ _ (Or.inr (Or.inl rfl)) (by decide) (by simp)
  refine opt_anyUnit_fld .seconds 'S' (Or.inr (Or.inr rfl)) fs hs _ (by simp) _ _ _ ?_
  rfl

theorem search1_time (fy fmo fd fh fmi fs : Option (List Char)) (hy : GoodF fy) (hmo : GoodF fmo)
    (hd : GoodF fd) (hh : GoodF fh) (hmi : GoodF fmi) (hs : GoodF fs) :
    durRegex1.search (desig fy fmo fd (some (fh, fmi, fs))) = some (allCaps fy fmo fd fh fmi fs) :=
  search1_timeA fy fmo fd fh fmi fs hy hmo hd (.ofGoodF hh) (.ofGoodF hmi) (.ofGoodF hs)

theorem search1_none (s : List Char) (hY : fnd s ≠ some 'Y') (hM : fnd s ≠ some 'M') (hD : fnd s ≠ some 'D')
    (hT : ∀ t, s ≠ 'T' :: t) : durRegex1.search ('P' :: s) = none := by
  rw [search_eq]
  unfold durRegex1
  rw [run_seq, run_lit, run_seq, opt_skip _ _ _ _ (run_digUnit_none .years 'Y' (by decide) s _ _ hY),
    run_seq, opt_skip _ _ _ _ (run_digUnit_none .months 'M' (by decide) s _ _ hM),
    run_seq, opt_skip _ _ _ _ (run_digUnit_none .days 'D' (by decide) s _ _ hD), run_seq]
  exact lit_cont_none 'T' _ _ s hT

theorem search2_weeks (ds : List Char) (h : Digs ds) (hne : ds ≠ []) :
    durRegex2.search ('P' :: (ds ++ ['W'])) = some (capSet capEmpty .weeks ds) := by
  rw [search_eq]
  unfold durRegex2
  rw [run_seq, run_lit]
  exact run_digUnit .weeks 'W' (by decide) ds [] capEmpty kEnd h hne

theorem search2_none (s : List Char) (h : fnd s ≠ some 'W') : durRegex2.search ('P' :: s) = none := by
  rw [search_eq]
  unfold durRegex2
  rw [run_seq, run_lit]
  exact run_digUnit_none .weeks 'W' (by decide) s capEmpty kEnd h

theorem capAdd_apply (cp : Caps) (n : DUnit) (f : Option (List Char)) (n' : DUnit) :
    capAdd cp n f n' = if n' = n then f.or (cp n') else cp n' := by
  cases f with
  | none => simp [capAdd]
  | some ds => simp [capAdd, capSet]

theorem dateCaps_apply (fy fmo fd : Option (List Char)) (n : DUnit) :
    dateCaps fy fmo fd n = match n with | .years => fy | .months => fmo | .days => fd | _ => none := by
  cases n <;> simp [dateCaps, capAdd_apply, capEmpty]

theorem allCaps_apply (fy fmo fd fh fmi fs : Option (List Char)) (n : DUnit) :
    allCaps fy fmo fd fh fmi fs n =
      match n with
      | .years => fy | .months => fmo | .days => fd | .hours => fh | .minutes => fmi | .seconds => fs
      | .weeks => none := by
  cases n <;> simp [allCaps, dateCaps, capAdd_apply, capEmpty]

/-- `int(...)` of a field. -/
def ival (f : Option (List Char)) : Int :=
  match f with
  | some ds => digitsVal ds
  | none => 0

/-- `float(...)` of a field (the nearest binary64 value, an integer here). -/
def fval (f : Option (List Char)) : Int :=
  match f with
  | some ds => f64Nat (digitsVal ds)
  | none => 0

def FltOk (f : Option (List Char)) : Prop := ∀ ds, f = some ds → digitsVal ds < f64Over

theorem FltOk.none : FltOk none := by intro ds h; cases h

/-- What one pass of the conversion loop stores for a field: its value times the sign factor, or
    what was there when the group did not participate. -/
def selI (f : Option (List Char)) (sg d : Int) : Int :=
  match f with
  | some ds => (digitsVal ds : Int) * sg
  | none => d
def selF (f : Option (List Char)) (sg d : Int) : Int :=
  match f with
  | some ds => (f64Nat (digitsVal ds) : Int) * sg
  | none => d
theorem selI_zero (f : Option (List Char)) (sg : Int) : selI f sg 0 = ival f * sg := by
  cases f <;> simp [selI, ival]
theorem selF_zero (f : Option (List Char)) (sg : Int) : selF f sg 0 = fval f * sg := by
  cases f <;> simp [selF, fval]
theorem zero_apply (n : DUnit) : Fields.zero n = 0 := rfl

theorem convert_int (sg : Int) (cp : Caps) (n : DUnit) (ns : List DUnit) (F : Fields)
    (f : Option (List Char)) (hn : n.isIntKey = true) (hcp : cp n = f) (hf : GoodF f) :
    convert sg cp (n :: ns) F = convert sg cp ns (fun x => if x = n then selI f sg (F x) else F x) := by
  cases f with
  | none => simp [DurText.convert, hn, hcp, intField, selI]
  | some ds =>
    obtain ⟨h1, h2⟩ := hf ds rfl
    simp [DurText.convert, hn, hcp, intField, selI, h2, h1.all]
    rfl

theorem convert_flt (sg : Int) (cp : Caps) (n : DUnit) (ns : List DUnit) (F : Fields)
    (f : Option (List Char)) (hn : n.isIntKey = false) (hcp : cp n = f) (hf : GoodF f) (hb : FltOk f) :
    convert sg cp (n :: ns) F = convert sg cp ns (fun x => if x = n then selF f sg (F x) else F x) := by
  cases f with
  | none => simp [DurText.convert, hn, hcp, fltField, selF]
  | some ds =>
    obtain ⟨h1, h2⟩ := hf ds rfl
    have := hb ds rfl
    simp [DurText.convert, hn, hcp, fltField, selF, h2, h1.all, this]
    rfl

theorem any_ge128_false (s : List Char) (h : ∀ c ∈ s, c.toNat < 128) :
    s.any (fun c => decide (128 ≤ c.toNat)) = false := by
  rw [List.any_eq_false]
  intro c hc
  have := h c hc
  simp only [decide_eq_true_eq]; omega

theorem parse_pos (m : Mode) (t : List Char) (h : ∀ c ∈ ('P' :: t), c.toNat < 128) :
    parse m ('P' :: t) = parseBody m 1 ('P' :: t) := by
  unfold parse
  rw [any_ge128_false _ h]
  rfl

theorem dig_ascii (c : Char) (h : isDig c = true) : c.toNat < 128 := by
  have := (isDig_iff c).mp h; omega

theorem ascii_append {a b : List Char} (ha : ∀ c ∈ a, c.toNat < 128) (hb : ∀ c ∈ b, c.toNat < 128) :
    ∀ c ∈ a ++ b, c.toNat < 128 := List.forall_mem_append.mpr ⟨ha, hb⟩
theorem ascii_cons {x : Char} {b : List Char} (hx : x.toNat < 128) (hb : ∀ c ∈ b, c.toNat < 128) :
    ∀ c ∈ x :: b, c.toNat < 128 := List.forall_mem_cons.mpr ⟨hx, hb⟩
theorem ascii_digs {a : List Char} (h : Digs a) : ∀ c ∈ a, c.toNat < 128 := fun c hc => dig_ascii c (h c hc)

theorem fld_asciiA (f : Option (List Char)) (u : Char) (hf : GoodA f) (hu : u.toNat < 128) :
    ∀ c ∈ fld f u, c.toNat < 128 := by
  intro c hc
  cases f with
  | none => cases hc
  | some t =>
    rcases List.mem_append.mp hc with h | h
    · exact ((hf t rfl).2 c h).2.2.2.2
    · exact List.mem_singleton.mp h ▸ hu

theorem desig_asciiA (fy fmo fd : Option (List Char)) (ft : Option TimeF) (hy : GoodF fy) (hmo : GoodF fmo)
    (hd : GoodF fd) (ht : GoodAT ft) : ∀ c ∈ desig fy fmo fd ft, c.toNat < 128 := by
  refine ascii_cons (by decide) (ascii_append (fld_asciiA fy 'Y' (.ofGoodF hy) (by decide))
    (ascii_append (fld_asciiA fmo 'M' (.ofGoodF hmo) (by decide))
    (ascii_append (fld_asciiA fd 'D' (.ofGoodF hd) (by decide)) ?_)))
  cases ft with
  | none => intro c hc; cases hc
  | some t =>
    obtain ⟨fh, fmi, fs⟩ := t
    exact ascii_cons (by decide) (ascii_append (fld_asciiA fh 'H' ht.1 (by decide))
      (ascii_append (fld_asciiA fmi 'M' ht.2.1 (by decide))
      (ascii_append (fld_asciiA fs 'S' ht.2.2 (by decide)) (by intro c hc; cases hc))))

theorem desig_ascii (fy fmo fd : Option (List Char)) (ft : Option TimeF) (hy : GoodF fy) (hmo : GoodF fmo)
    (hd : GoodF fd) (ht : GoodT ft) : ∀ c ∈ desig fy fmo fd ft, c.toNat < 128 :=
  desig_asciiA fy fmo fd ft hy hmo hd (.ofGoodT ht)

def tvals : Option TimeF → Int × Int × Int
  | none => (0, 0, 0)
  | some (fh, fmi, fs) => (fval fh, fval fmi, fval fs)

def FltOkT : Option TimeF → Prop
  | none => True
  | some (fh, fmi, fs) => FltOk fh ∧ FltOk fmi ∧ FltOk fs

/-- `PnW` -/
def desigW (ds : List Char) : List Char := 'P' :: (ds ++ ['W'])

theorem firstMatch_date (fy fmo fd : Option (List Char)) (hy : GoodF fy) (hmo : GoodF fmo) (hd : GoodF fd) :
    firstMatch durRegexes (desig fy fmo fd none) = some (durGroups0, dateCaps fy fmo fd) := by
  simp only [durRegexes, firstMatch, search0_date fy fmo fd hy hmo hd]

theorem firstMatch_time (fy fmo fd fh fmi fs : Option (List Char)) (hy : GoodF fy) (hmo : GoodF fmo)
    (hd : GoodF fd) (hh : GoodA fh) (hmi : GoodA fmi) (hs : GoodA fs) :
    firstMatch durRegexes (desig fy fmo fd (some (fh, fmi, fs))) =
      some (durGroups1, allCaps fy fmo fd fh fmi fs) := by
  simp only [durRegexes, firstMatch, search0_time_none fy fmo fd (fh, fmi, fs),
    search1_timeA fy fmo fd fh fmi fs hy hmo hd hh hmi hs]

theorem firstMatch_weeks (ds : List Char) (h : Digs ds) (hne : ds ≠ []) :
    firstMatch durRegexes (desigW ds) = some (durGroups2, capSet capEmpty .weeks ds) := by
  have hf : fnd (ds ++ ['W']) = some 'W' := by
    rw [fnd_digs_append _ _ h]; exact fnd_cons_nondig 'W' [] (by decide)
  have h0 : durRegex0.search (desigW ds) = none :=
    search_none_of_not_accepts _ _ 'W' (by simp [desigW]) (by decide) (by decide)
  have h1 : durRegex1.search (desigW ds) = none := by
    apply search1_none
    · rw [hf]; decide
    · rw [hf]; decide
    · rw [hf]; decide
    · intro t e
      cases ds with
      | nil => exact hne rfl
      | cons d ds' =>
        injection e with e1 _
        exact absurd (e1 ▸ h.head) (by decide)
  have h2 : durRegex2.search (desigW ds) = _ := search2_weeks ds h hne
  simp only [durRegexes, firstMatch, h0, h1, h2]

theorem parseBody_desig (m : Mode) (sg : Int) (fy fmo fd : Option (List Char)) (ft : Option TimeF)
    (hy : GoodF fy) (hmo : GoodF fmo) (hd : GoodF fd) (ht : GoodT ft) (hb : FltOkT ft) :
    parseBody m sg (desig fy fmo fd ft) =
      .ok (mkDur m (ival fy * sg) (ival fmo * sg) 0 (ival fd * sg)
        ((tvals ft).1 * sg) ((tvals ft).2.1 * sg) ((tvals ft).2.2 * sg)) := by
  cases ft with
  | none =>
    simp only [parseBody, firstMatch_date fy fmo fd hy hmo hd, durGroups0]
    rw [convert_int sg _ .years _ _ fy rfl (dateCaps_apply ..) hy,
      convert_int sg _ .months _ _ fmo rfl (dateCaps_apply ..) hmo,
      convert_int sg _ .days _ _ fd rfl (dateCaps_apply ..) hd]
    simp only [DurText.convert, Fields.toDur, reduceCtorEq, if_false, if_true, zero_apply, selI_zero, tvals,
      Int.zero_mul]
  | some t =>
    obtain ⟨fh, fmi, fs⟩ := t
    obtain ⟨hh, hmi, hs⟩ := ht
    obtain ⟨bh, bmi, bs⟩ := hb
    simp only [parseBody, firstMatch_time fy fmo fd fh fmi fs hy hmo hd (.ofGoodF hh) (.ofGoodF hmi) (.ofGoodF hs),
      durGroups1]
    rw [convert_int sg _ .years _ _ fy rfl (allCaps_apply ..) hy,
      convert_int sg _ .months _ _ fmo rfl (allCaps_apply ..) hmo,
      convert_int sg _ .days _ _ fd rfl (allCaps_apply ..) hd,
      convert_flt sg _ .hours _ _ fh rfl (allCaps_apply ..) hh bh,
      convert_flt sg _ .minutes _ _ fmi rfl (allCaps_apply ..) hmi bmi,
      convert_flt sg _ .seconds _ _ fs rfl (allCaps_apply ..) hs bs]
    simp only [DurText.convert, Fields.toDur, reduceCtorEq, if_false, if_true, zero_apply, selI_zero, selF_zero,
      tvals]

theorem desigW_ascii (ds : List Char) (h : Digs ds) : ∀ c ∈ desigW ds, c.toNat < 128 :=
  ascii_cons (by decide) (ascii_append (ascii_digs h) (by decide))

theorem parseBody_desigW (m : Mode) (sg : Int) (ds : List Char) (h : Digs ds) (hne : ds ≠ []) :
    parseBody m sg (desigW ds) = .ok (mkDur m 0 0 ((digitsVal ds : Int) * sg) 0 0 0 0) := by
  simp only [parseBody, firstMatch_weeks ds h hne, durGroups2]
  rw [convert_int sg _ .weeks _ _ (some ds) rfl (by simp [capSet]) (GoodF.some h hne)]
  simp only [DurText.convert, Fields.toDur, reduceCtorEq, if_false, if_true, zero_apply, selI_zero, ival]

/-! ### the shape of `Duration.__str__` -/

/-- The field a non-negative component prints as: absent when 0. -/
def ofv (v : Int) : Option (List Char) := if v ≠ 0 then some (natDigits v.natAbs) else none

theorem ofv_good (v : Int) : GoodF (ofv v) := by
  unfold ofv
  split
  · exact GoodF.some (natDigits_digs _) (natDigits_ne_nil _)
  · exact GoodF.none

theorem unitPart_nonneg (v : Int) (u : Char) (h : 0 ≤ v) : unitPart v u = fld (ofv v) u := by
  unfold unitPart ofv intText
  by_cases hv : v ≠ 0
  · rw [if_pos hv, if_pos hv, if_neg (by omega)]; rfl
  · rw [if_neg hv, if_neg hv]; rfl

theorem ival_ofv (v : Int) (h : 0 ≤ v) : ival (ofv v) = v := by
  unfold ofv
  by_cases hv : v ≠ 0
  · rw [if_pos hv]; simp only [ival, digitsVal_natDigits]; omega
  · rw [if_neg hv]; simp only [ival]; omega

theorem stripT_T (X : List Char) : stripT (X ++ ['T']) = X := by
  simp [stripT]

theorem stripT_other (X : List Char) (u : Char) (h : u ≠ 'T') : stripT (X ++ [u]) = X ++ [u] := by
  simp [stripT, h]

theorem map_subst_id (a b : Char) (s : List Char) (h : a ∉ s) : s.map (fun c => if c = a then b else c) = s :=
  (List.map_congr_left fun c hc => if_neg fun (e : c = a) => h (e ▸ hc)).trans (List.map_id s)

theorem replaceDot_id (s : List Char) (h : '.' ∉ s) : replaceDot s = s := map_subst_id '.' ',' s h

theorem time_shape (fh fmi fs : Option (List Char)) :
    (fld fh 'H' ++ (fld fmi 'M' ++ fld fs 'S') = [] ∧ fh = none ∧ fmi = none ∧ fs = none) ∨
    ∃ X u, fld fh 'H' ++ (fld fmi 'M' ++ fld fs 'S') = X ++ [u] ∧ u ≠ 'T' := by
  cases fs with
  | some ds => exact Or.inr ⟨fld fh 'H' ++ (fld fmi 'M' ++ ds), 'S', by simp [fld], by decide⟩
  | none =>
    cases fmi with
    | some ds => exact Or.inr ⟨fld fh 'H' ++ ds, 'M', by simp [fld], by decide⟩
    | none =>
      cases fh with
      | some ds => exact Or.inr ⟨ds, 'H', by simp [fld], by decide⟩
      | none => exact Or.inl ⟨rfl, rfl, rfl, rfl⟩

def timeOf (fh fmi fs : Option (List Char)) : Option TimeF :=
  if fh = none ∧ fmi = none ∧ fs = none then none else some (fh, fmi, fs)

/-- `if content_string.endswith("T"): content_string = content_string[:-1]`: the `T` goes exactly
    when no time field follows it. -/
theorem stripT_time (Y Mo D : List Char) (fh fmi fs : Option (List Char)) :
    stripT (Y ++ Mo ++ (D ++ ['T']) ++ fld fh 'H' ++ fld fmi 'M' ++ fld fs 'S') =
      Y ++ (Mo ++ (D ++ timePart (timeOf fh fmi fs))) := by
  rcases time_shape fh fmi fs with ⟨_, rfl, rfl, rfl⟩ | ⟨X, u, e, hu⟩
  · have : Y ++ Mo ++ (D ++ ['T']) ++ fld none 'H' ++ fld none 'M' ++ fld none 'S' = (Y ++ (Mo ++ D)) ++ ['T'] := by
      simp [fld]
    rw [this, stripT_T]
    simp [timeOf, timePart]
  · have hnz : ¬ (fh = none ∧ fmi = none ∧ fs = none) := by
      rintro ⟨rfl, rfl, rfl⟩
      simp [fld] at e
    have : Y ++ Mo ++ (D ++ ['T']) ++ fld fh 'H' ++ fld fmi 'M' ++ fld fs 'S' =
        (Y ++ (Mo ++ (D ++ 'T' :: X))) ++ [u] := by
      simp only [List.append_assoc, List.cons_append, List.nil_append] at e ⊢
      rw [e]
    rw [this, stripT_other _ _ hu]
    simp only [timeOf, hnz, ↓reduceIte, timePart, List.append_nil, List.append_assoc, List.cons_append,
      List.append_cancel_left_eq, List.cons.injEq, true_and]
    rw [← e]

def tOf (h mi s : Int) : Option TimeF :=
  if h = 0 ∧ mi = 0 ∧ s = 0 then none else some (ofv h, ofv mi, ofv s)

theorem ofv_none_iff (v : Int) : ofv v = none ↔ v = 0 := by
  unfold ofv; split <;> simp_all

theorem fld_chars (f : Option (List Char)) (u : Char) (hf : GoodF f) (L : List Char) (hu : u ∈ L) :
    ∀ c ∈ fld f u, isDig c = true ∨ c ∈ L := by
  intro c hc
  cases f with
  | none => cases hc
  | some ds =>
    rcases List.mem_append.mp hc with h | h
    · exact Or.inl ((hf ds rfl).1 c h)
    · exact Or.inr (List.mem_singleton.mp h ▸ hu)

theorem desig_chars (fy fmo fd : Option (List Char)) (ft : Option TimeF) (hy : GoodF fy) (hmo : GoodF fmo)
    (hd : GoodF fd) (ht : GoodT ft) :
    ∀ c ∈ desig fy fmo fd ft, isDig c = true ∨ c ∈ ['P', 'Y', 'M', 'D', 'T', 'H', 'S'] := by
  refine List.forall_mem_cons.mpr ⟨Or.inr (by decide), List.forall_mem_append.mpr
    ⟨fld_chars fy 'Y' hy _ (by decide), List.forall_mem_append.mpr
    ⟨fld_chars fmo 'M' hmo _ (by decide), List.forall_mem_append.mpr
    ⟨fld_chars fd 'D' hd _ (by decide), ?_⟩⟩⟩⟩
  cases ft with
  | none => intro c hc; cases hc
  | some t =>
    obtain ⟨fh, fmi, fs⟩ := t
    exact List.forall_mem_cons.mpr ⟨Or.inr (by decide), List.forall_mem_append.mpr
      ⟨fld_chars fh 'H' ht.1 _ (by decide), List.forall_mem_append.mpr
      ⟨fld_chars fmi 'M' ht.2.1 _ (by decide), List.forall_mem_append.mpr
      ⟨fld_chars fs 'S' ht.2.2 _ (by decide), by intro c hc; cases hc⟩⟩⟩⟩

theorem desig_no_dot (fy fmo fd : Option (List Char)) (ft : Option TimeF) (hy : GoodF fy) (hmo : GoodF fmo)
    (hd : GoodF fd) (ht : GoodT ft) : '.' ∉ desig fy fmo fd ft := by
  intro h
  rcases desig_chars fy fmo fd ft hy hmo hd ht '.' h with h | h
  · exact absurd h (by decide)
  · exact absurd h (by decide)

theorem tOf_good (h mi s : Int) : GoodT (tOf h mi s) := by
  unfold tOf
  split
  · trivial
  · exact ⟨ofv_good h, ofv_good mi, ofv_good s⟩

/-- `__str__` of a unit-form duration without negative components, past the sign test. -/
theorem toTextPos_units (y mo d h mi s : Int) (hy : 0 ≤ y) (hmo : 0 ≤ mo) (hd : 0 ≤ d) (hh : 0 ≤ h)
    (hmi : 0 ≤ mi) (hs : 0 ≤ s) :
    toTextPos (.units y mo d h mi s) = desig (ofv y) (ofv mo) (ofv d) (tOf h mi s) := by
  show replaceDot ('P' :: stripT _) = _
  rw [unitPart_nonneg y _ hy, unitPart_nonneg mo _ hmo, unitPart_nonneg d _ hd, unitPart_nonneg h _ hh,
    unitPart_nonneg mi _ hmi, unitPart_nonneg s _ hs, stripT_time,
    show timeOf (ofv h) (ofv mi) (ofv s) = tOf h mi s by simp only [timeOf, tOf, ofv_none_iff]]
  exact replaceDot_id _ (desig_no_dot _ _ _ _ (ofv_good y) (ofv_good mo) (ofv_good d) (tOf_good h mi s))

theorem fnl_nonneg (vs : List Int) (h : ∀ v ∈ vs, 0 ≤ v) : fullyNegLoop vs false = false := by
  induction vs with
  | nil => rfl
  | cons v vs ih =>
    have hv := h v (by simp)
    have := ih (fun x hx => h x (by simp [hx]))
    simp only [fullyNegLoop]
    split
    · rfl
    · rw [if_neg (by omega)]; exact this

theorem fnl_nonpos (vs : List Int) (acc : Bool) (h : ∀ v ∈ vs, v ≤ 0) :
    fullyNegLoop vs acc = (acc || vs.any (fun v => decide (v < 0))) := by
  induction vs generalizing acc with
  | nil => simp [fullyNegLoop]
  | cons v vs ih =>
    have hv := h v (by simp)
    have := fun a => ih a (fun x hx => h x (by simp [hx]))
    simp only [fullyNegLoop, List.any_cons]
    rw [if_neg (by omega)]
    by_cases hn : v < 0
    · rw [if_pos hn, this]; simp [hn]
    · rw [if_neg hn, this]; simp [hn]

theorem mkDur_units (m : Mode) (a b c e f g : Int) : mkDur m a b 0 c e f g = .units a b c e f g := by
  simp [mkDur]

theorem mkDur_weeks (m : Mode) (w : Int) (hw : w ≠ 0) : mkDur m 0 0 w 0 0 0 0 = .weeks w := by
  simp only [mkDur, hw, ne_eq, not_false_eq_true, and_self, ↓reduceIte, daysInWeek_eq, Int.zero_add]
  congr 1
  omega

theorem dur_eq_refl (m : Mode) (d : Dur) : Dur.eq m d d = true := by
  rw [dur_eq_iff]; exact ⟨rfl, rfl⟩

/-- `n` is a binary64 value below the overflow threshold: `float(str(n)) == n`. -/
def F64Exact (n : Nat) : Prop := n < f64Over ∧ f64Nat n = n

theorem f64Exact_of_lt (n : Nat) (h : n < 2 ^ 53) : F64Exact n := by
  refine ⟨?_, ?_⟩
  · have : (2 : Nat) ^ 53 ≤ f64Over := Nat.pow_le_pow_right (n := 2) (i := 53) (j := 1023) (by decide) (by decide)
    omega
  · unfold f64Nat; rw [if_pos h]

theorem fval_ofv (v : Int) (h : 0 ≤ v) (hx : F64Exact v.natAbs) : fval (ofv v) = v := by
  unfold ofv
  by_cases hv : v ≠ 0
  · rw [if_pos hv]; simp only [fval, digitsVal_natDigits, hx.2]; omega
  · rw [if_neg hv]; simp only [fval]; omega

theorem fltOk_ofv (v : Int) (hx : F64Exact v.natAbs) : FltOk (ofv v) := by
  intro ds e
  unfold ofv at e
  split at e
  · injection e with e; rw [← e, digitsVal_natDigits]; exact hx.1
  · cases e

theorem fltOkT_tOf (h mi s : Int) (xh : F64Exact h.natAbs) (xmi : F64Exact mi.natAbs)
    (xs : F64Exact s.natAbs) : FltOkT (tOf h mi s) := by
  unfold tOf; split
  · trivial
  · exact ⟨fltOk_ofv h xh, fltOk_ofv mi xmi, fltOk_ofv s xs⟩

theorem tvals_tOf (h mi s : Int) (hh : 0 ≤ h) (hmi : 0 ≤ mi) (hs : 0 ≤ s) (xh : F64Exact h.natAbs)
    (xmi : F64Exact mi.natAbs) (xs : F64Exact s.natAbs) : tvals (tOf h mi s) = (h, mi, s) := by
  unfold tOf; split
  · rename_i hz; obtain ⟨rfl, rfl, rfl⟩ := hz; rfl
  · simp only [tvals, fval_ofv h hh xh, fval_ofv mi hmi xmi, fval_ofv s hs xs]

theorem toText_zero (d : Dur) (h : d.nonzero = false) : toText d = ['P', '0', 'Y'] := by
  unfold toText; simp [h]

theorem nonzero_iff_comps (d : Dur) : d.nonzero = true ↔ ∃ v ∈ comps d, v ≠ 0 := by
  cases d <;> simp only [Dur.nonzero, Bool.or_eq_true, bne_iff_ne, ne_eq, or_assoc, comps, List.mem_cons,
    List.not_mem_nil, or_false, exists_eq_or_imp, exists_eq_left]

theorem comps_abs (d : Dur) : comps d.abs = (comps d).map fun v => (v.natAbs : Int) := by
  cases d <;> rfl

theorem toText_nonneg (d : Dur) (hnz : d.nonzero = true) (h : ∀ v ∈ comps d, 0 ≤ v) :
    toText d = toTextPos d := by
  unfold toText
  rw [hnz, fnl_nonneg _ h]
  rfl

theorem toText_nonpos (d : Dur) (hnz : d.nonzero = true) (h : ∀ v ∈ comps d, v ≤ 0) :
    toText d = '-' :: toTextPos d.abs := by
  obtain ⟨v, hv, hv0⟩ := (nonzero_iff_comps d).mp hnz
  have hany : (comps d).any (fun v => decide (v < 0)) = true :=
    List.any_eq_true.mpr ⟨v, hv, decide_eq_true (by have := h v hv; omega)⟩
  unfold toText
  rw [hnz, fnl_nonpos _ _ h, hany]
  rfl

theorem toText_units_pos (y mo d h mi s : Int) (hy : 0 ≤ y) (hmo : 0 ≤ mo) (hd : 0 ≤ d) (hh : 0 ≤ h)
    (hmi : 0 ≤ mi) (hs : 0 ≤ s) (hnz : (Dur.units y mo d h mi s).nonzero = true) :
    toText (.units y mo d h mi s) = desig (ofv y) (ofv mo) (ofv d) (tOf h mi s) := by
  rw [toText_nonneg _ hnz (by simpa [comps] using ⟨hy, hmo, hd, hh, hmi, hs⟩)]
  exact toTextPos_units y mo d h mi s hy hmo hd hh hmi hs

theorem toText_units_neg (y mo d h mi s : Int) (hy : y ≤ 0) (hmo : mo ≤ 0) (hd : d ≤ 0) (hh : h ≤ 0)
    (hmi : mi ≤ 0) (hs : s ≤ 0) (hnz : (Dur.units y mo d h mi s).nonzero = true) :
    toText (.units y mo d h mi s) = '-' :: desig (ofv (-y)) (ofv (-mo)) (ofv (-d)) (tOf (-h) (-mi) (-s)) := by
  rw [toText_nonpos _ hnz (by simpa [comps] using ⟨hy, hmo, hd, hh, hmi, hs⟩)]
  have e : (Dur.units y mo d h mi s).abs = .units (-y) (-mo) (-d) (-h) (-mi) (-s) := by
    simp only [Dur.abs, Int.ofNat_natAbs_of_nonpos, hy, hmo, hd, hh, hmi, hs]
  rw [e, toTextPos_units _ _ _ _ _ _ (by omega) (by omega) (by omega) (by omega) (by omega) (by omega)]

theorem toTextPos_weeks (w : Int) (hw : 0 ≤ w) : toTextPos (.weeks w) = desigW (natDigits w.natAbs) := by
  show replaceDot _ = _
  have : intText w = natDigits w.natAbs := by unfold intText; rw [if_neg (by omega)]
  rw [this]
  apply replaceDot_id
  intro hm
  simp only [List.mem_cons, List.mem_append, List.not_mem_nil, or_false] at hm
  rcases hm with hm | hm | hm
  · exact absurd hm (by decide)
  · exact (natDigits_digs _).not_mem (by decide) hm
  · exact absurd hm (by decide)

theorem toText_weeks_pos (w : Int) (hw : 0 < w) : toText (.weeks w) = desigW (natDigits w.natAbs) := by
  rw [toText_nonneg _ (by simp [Dur.nonzero]; omega) (by simp [comps]; omega)]
  exact toTextPos_weeks w (by omega)

theorem toText_weeks_neg (w : Int) (hw : w < 0) : toText (.weeks w) = '-' :: desigW (natDigits w.natAbs) := by
  rw [toText_nonpos _ (by simp [Dur.nonzero]; omega) (by simp [comps]; omega)]
  have e : (Dur.weeks w).abs = .weeks (-w) := by simp only [Dur.abs, Dur.weeks.injEq]; omega
  rw [e, toTextPos_weeks (-w) (by omega), Int.natAbs_neg]

theorem firstMatch_alt_none (s : List Char) (hT : 'T' ∈ s) (hf : fnd s = some '-' ∨ fnd s = some 'T')
    (hhead : ∀ t, s ≠ 'T' :: t) : firstMatch durRegexes ('P' :: s) = none := by
  have h0 : durRegex0.search ('P' :: s) = none :=
    search_none_of_not_accepts _ _ 'T' (by simp [hT]) (by decide) (by decide)
  have h1 : durRegex1.search ('P' :: s) = none := by
    apply search1_none _ _ _ _ hhead <;> rcases hf with hf | hf <;> rw [hf] <;> decide
  have h2 : durRegex2.search ('P' :: s) = none := by
    apply search2_none; rcases hf with hf | hf <;> rw [hf] <;> decide
  simp only [durRegexes, firstMatch, h0, h1, h2]

theorem parse_alt (m : Mode) (s : List Char) (r : Nat × Nat × Nat × Nat × Nat × Nat)
    (hasc : ∀ c ∈ s, c.toNat < 128) (hnone : firstMatch durRegexes ('P' :: s) = none)
    (ha : altParse s = some r) :
    parse m ('P' :: s) = .ok (.units r.1 r.2.1 r.2.2.1 r.2.2.2.1 r.2.2.2.2.1 r.2.2.2.2.2) := by
  rw [parse_pos m s (ascii_cons (by decide) hasc)]
  obtain ⟨y, mo, d, h, mi, sec⟩ := r
  simp only [parseBody, hnone, ↓reduceIte, altPath, ha, mkDur_units]

theorem len2 (l : List Char) (h : l.length = 2) : ∃ a b, l = [a, b] := by
  match l, h with
  | [a, b], _ => exact ⟨a, b, rfl⟩
theorem len3 (l : List Char) (h : l.length = 3) : ∃ a b c, l = [a, b, c] := by
  match l, h with
  | [a, b, c], _ => exact ⟨a, b, c, rfl⟩

theorem takeDigits_digs (w : Nat) (ds rest : List Char) (h : Digs ds) (hl : ds.length = w) :
    takeDigits w (ds ++ rest) = some (ds, rest) := by
  subst hl
  induction ds with
  | nil => rfl
  | cons c cs ih => simp [takeDigits, h.head, ih h.tail]

theorem expect_self (c : Char) (s : List Char) : expect c (c :: s) = some s := by
  simp [expect]

theorem expect_digs (c : Char) (ds rest : List Char) (h : Digs ds) (hne : ds ≠ []) (hc : isDig c = false) :
    expect c (ds ++ rest) = none := by
  cases ds with
  | nil => exact absurd rfl hne
  | cons d ds' => simp [expect, dig_ne_of d c h.head hc]

/-- The text of a separator that only the extended format writes. -/
def sepText (on : Bool) (c : Char) : List Char := if on then [c] else []

theorem sep_sepText (on : Bool) (c : Char) (s : List Char) : sep on c (sepText on c ++ s) = some s := by
  cases on
  · rfl
  · exact expect_self c s

/-- The month field, read only by the calendar forms. -/
theorem takeMonth (cal : Bool) (mo rest : List Char) (h : Digs mo) (l : mo.length = if cal then 2 else 0) :
    (if cal then takeDigits 2 (mo ++ rest) else some ([], mo ++ rest)) = some (mo, rest) := by
  cases cal
  · rw [List.length_eq_zero_iff.mp l]; rfl
  · exact takeDigits_digs 2 mo _ h l

/-- What the form `(ext, cal)` writes for the six digit runs (`mo` empty in the ordinal forms). -/
def altText (ext cal : Bool) (yy mo dd hh mi ss : List Char) : List Char :=
  yy ++ (sepText ext '-' ++ (mo ++ (sepText (ext && cal) '-' ++ (dd ++ 'T' ::
    (hh ++ (sepText ext ':' ++ (mi ++ (sepText ext ':' ++ ss))))))))

theorem altForm_ext_none (cal : Bool) (yy rest : List Char) (h1 : Digs yy) (l1 : yy.length = 4)
    (hr : expect '-' rest = none) : altForm true cal (yy ++ rest) = none := by
  simp only [altForm, Option.bind_eq_bind, takeDigits_digs 4 yy _ h1 l1, Option.bind_some, sep, if_true, hr,
    Option.bind_none]

/-- The extended calendar form wants a `-` after two digits where an ordinal day has a third. -/
theorem altForm_XC_ord (yy ddd rest : List Char) (h1 : Digs yy) (l1 : yy.length = 4) (h3 : Digs ddd)
    (l3 : ddd.length = 3) : altForm true true (yy ++ '-' :: (ddd ++ rest)) = none := by
  obtain ⟨d1, d2, d3, rfl⟩ := len3 ddd l3
  have e : takeDigits 2 ([d1, d2, d3] ++ rest) = some ([d1, d2], d3 :: rest) := by
    simp [takeDigits, h3 d1 (by simp), h3 d2 (by simp)]
  have n : expect '-' (d3 :: rest) = none := by
    simp [expect, dig_ne_of d3 '-' (h3 d3 (by simp)) (by decide)]
  simp only [altForm, Option.bind_eq_bind, takeDigits_digs 4 yy _ h1 l1, Option.bind_some, sep, if_true,
    expect_self, e, Bool.and_self, n, Option.bind_none]

/-- The basic calendar form wants two more digits where an ordinal day is followed by `T`. -/
theorem altForm_BC_ord (yy ddd rest : List Char) (h1 : Digs yy) (l1 : yy.length = 4) (h3 : Digs ddd)
    (l3 : ddd.length = 3) : altForm false true (yy ++ (ddd ++ 'T' :: rest)) = none := by
  obtain ⟨d1, d2, d3, rfl⟩ := len3 ddd l3
  have e : takeDigits 2 ([d1, d2, d3] ++ 'T' :: rest) = some ([d1, d2], d3 :: 'T' :: rest) := by
    simp [takeDigits, h3 d1 (by simp), h3 d2 (by simp)]
  have n : takeDigits 2 (d3 :: 'T' :: rest) = none := by
    simp [takeDigits, h3 d3 (by simp), show isDig 'T' = false by decide]
  simp only [altForm, Option.bind_eq_bind, takeDigits_digs 4 yy _ h1 l1, Option.bind_some, sep, Bool.false_eq_true,
    if_false, if_true, e, Bool.false_and, n, Option.bind_none]

theorem head_of_len_pos (yy rest : List Char) (h : Digs yy) (l : 0 < yy.length) :
    ∀ t, yy ++ rest ≠ 'T' :: t := by
  intro t e
  cases yy with
  | nil => simp at l
  | cons a as =>
    injection e with e1 _
    have := h.head; rw [e1] at this
    exact absurd this (by decide)

section
variable {ext cal : Bool} {yy mo dd hh mi ss : List Char}
  (h1 : Digs yy) (l1 : yy.length = 4) (h2 : Digs mo) (l2 : mo.length = if cal then 2 else 0)
  (h3 : Digs dd) (l3 : dd.length = if cal then 2 else 3)
  (h4 : Digs hh) (l4 : hh.length = 2) (h5 : Digs mi) (l5 : mi.length = 2) (h6 : Digs ss) (l6 : ss.length = 2)
include h1 l1 h2 l2 h3 l3 h4 l4 h5 l5 h6 l6

theorem altForm_own : altForm ext cal (altText ext cal yy mo dd hh mi ss) =
    some (digitsVal yy, digitsVal mo, digitsVal dd, digitsVal hh, digitsVal mi, digitsVal ss) := by
  have hss := takeDigits_digs 2 ss [] h6 l6
  rw [List.append_nil] at hss
  simp only [altText, altForm, Option.bind_eq_bind, takeDigits_digs 4 yy _ h1 l1, Option.bind_some, sep_sepText,
    takeMonth cal mo _ h2 l2, takeDigits_digs _ dd _ h3 l3, expect_self, takeDigits_digs 2 hh _ h4 l4,
    takeDigits_digs 2 mi _ h5 l5, hss, List.isEmpty_nil, if_true]

/-- The forms `altParse` tries before it refuse that spelling. -/
theorem altParse_altText : altParse (altText ext cal yy mo dd hh mi ss) =
    some (digitsVal yy, digitsVal mo, digitsVal dd, digitsVal hh, digitsVal mi, digitsVal ss) := by
  have own := altForm_own (ext := ext) h1 l1 h2 l2 h3 l3 h4 l4 h5 l5 h6 l6
  cases ext with
  | true =>
    cases cal with
    | true => simp only [altParse, own]
    | false =>
      obtain rfl := List.length_eq_zero_iff.mp l2
      have n : altForm true true (altText true false yy [] dd hh mi ss) = none :=
        altForm_XC_ord yy dd _ h1 l1 h3 l3
      simp only [altParse, n, own]
  | false =>
    cases cal with
    | true =>
      have n : ∀ c, altForm true c (altText false true yy mo dd hh mi ss) = none := fun c =>
        altForm_ext_none c yy _ h1 l1 (expect_digs '-' mo _ h2 (by intro e; rw [e] at l2; cases l2) (by decide))
      simp only [altParse, n, own]
    | false =>
      obtain rfl := List.length_eq_zero_iff.mp l2
      have n : ∀ c, altForm true c (altText false false yy [] dd hh mi ss) = none := fun c =>
        altForm_ext_none c yy _ h1 l1 (expect_digs '-' dd _ h3 (by intro e; rw [e] at l3; cases l3) (by decide))
      have n' : altForm false true (altText false false yy [] dd hh mi ss) = none :=
        altForm_BC_ord yy dd _ h1 l1 h3 l3
      simp only [altParse, n, n', own]

theorem parse_altText (m : Mode) : parse m ('P' :: altText ext cal yy mo dd hh mi ss) =
    .ok (.units (digitsVal yy) (digitsVal mo) (digitsVal dd) (digitsVal hh) (digitsVal mi) (digitsVal ss)) := by
  have hsep : ∀ on c, c.toNat < 128 → ∀ x ∈ sepText on c, x.toNat < 128 := by
    intro on c hc x hx
    cases on
    · cases hx
    · rw [List.mem_singleton.mp hx]; exact hc
  refine parse_alt m _ _ ?_ (firstMatch_alt_none _ ?_ ?_ ?_)
    (altParse_altText (ext := ext) h1 l1 h2 l2 h3 l3 h4 l4 h5 l5 h6 l6)
  · exact ascii_append (ascii_digs h1) (ascii_append (hsep _ _ (by decide)) (ascii_append (ascii_digs h2)
      (ascii_append (hsep _ _ (by decide)) (ascii_append (ascii_digs h3) (ascii_cons (by decide)
      (ascii_append (ascii_digs h4) (ascii_append (hsep _ _ (by decide)) (ascii_append (ascii_digs h5)
      (ascii_append (hsep _ _ (by decide)) (ascii_digs h6))))))))))
  · simp [altText]
  · unfold altText
    rw [fnd_digs_append _ _ h1]
    cases ext
    · right
      rw [show sepText false '-' = [] from rfl, List.nil_append, fnd_digs_append _ _ h2,
        show sepText (false && cal) '-' = [] from rfl, List.nil_append, fnd_digs_append _ _ h3]
      exact fnd_cons_nondig _ _ (by decide)
    · left; exact fnd_cons_nondig _ _ (by decide)
  · exact head_of_len_pos yy _ h1 (by omega)

end

/-- Extended calendar form `YYYY-MM-DDThh:mm:ss`. -/
def altXC (yy mm dd hh mi ss : List Char) : List Char :=
  yy ++ '-' :: (mm ++ '-' :: (dd ++ 'T' :: (hh ++ ':' :: (mi ++ ':' :: ss))))
/-- Basic calendar form `YYYYMMDDThhmmss`. -/
def altBC (yy mm dd hh mi ss : List Char) : List Char := yy ++ (mm ++ (dd ++ 'T' :: (hh ++ (mi ++ ss))))
/-- Extended ordinal form `YYYY-DDDThh:mm:ss`. -/
def altXO (yy ddd hh mi ss : List Char) : List Char :=
  yy ++ '-' :: (ddd ++ 'T' :: (hh ++ ':' :: (mi ++ ':' :: ss)))
/-- Basic ordinal form `YYYYDDDThhmmss`. -/
def altBO (yy ddd hh mi ss : List Char) : List Char := yy ++ (ddd ++ 'T' :: (hh ++ (mi ++ ss)))

theorem renderW_length (w v : Nat) : (renderW w v).length = w := by
  induction w with
  | zero => rfl
  | succ w ih => simp [renderW, ih]

theorem renderW_digs (w v : Nat) : Digs (renderW w v) := by
  induction w with
  | zero => exact Digs.nil
  | succ w ih => exact Digs.cons (dch_spec _ (Nat.mod_lt _ (by decide))).2 ih

theorem digitsVal_renderW (w v : Nat) : digitsVal (renderW w v) = v % 10 ^ w := by
  induction w with
  | zero => simp [renderW, digitsVal, Nat.mod_one]
  | succ w ih =>
    have hd := (dch_spec (v / 10 ^ w % 10) (Nat.mod_lt _ (by decide))).1
    rw [renderW, digitsVal_cons, ih, renderW_length, hd]
    have : 48 + v / 10 ^ w % 10 - 48 = v / 10 ^ w % 10 := by omega
    rw [this, Nat.pow_succ, Nat.mod_mul, Nat.add_comm, Nat.mul_comm]

end IsoDT.Lemmas.DurText
