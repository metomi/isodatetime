/-
  IsoDT.Lemmas.TextCustomParse — the parser half of the custom-format clause of C08 / C06: the
  specified text `customText` of a valid whole-second point, in ANY of the complete custom formats, is
  read back by `TimePointParser.parse` as exactly that point (`Props/C08c`, `C08_custom_parse`) — with a
  `0` fraction on the second when the format has a decimal part.

  The text is recognised as a rendering of three listed regular expressions of the parser's tables
  (found by kernel evaluation over the regenerated tables, `date_entry_all` …), spelling the values
  `valsOf q ['0']`; `C07_parse` (every documented non-truncated form decodes to the spelled values) does
  the rest (`parse_rendered`).
-/
import IsoDT.Lemmas.TextCustomExpr
import IsoDT.Lemmas.TextRoundDec
import IsoDT.Props.C07b

namespace IsoDT.Text.Custom
open IsoDT IsoDT.Model IsoDT.Lemmas IsoDT.Text
open IsoDT.Spec (Date TZ TP)
open _root_.IsoDT.Gen.Templates (timeDesignator parserTables)

def fmtKey (ext : Bool) : FormatKey := if ext then .extended else .basic

def yearTmplC (x : Bool) (n : Nat) : Template :=
  if x then [.sign .yearSign, .digits .expandedYear n, .digits .century 2, .digits .yearOfCentury 2]
  else [.digits .century 2, .digits .yearOfCentury 2]

def bodyTmpl : Bool → DateKind → Template
  | true, .cal => [.lit '-', .digits .monthOfYear 2, .lit '-', .digits .dayOfMonth 2]
  | true, .ord => [.lit '-', .digits .dayOfYear 3]
  | true, .week => [.lit '-', .lit 'W', .digits .weekOfYear 2, .lit '-', .digits .dayOfWeek 1]
  | false, .cal => [.digits .monthOfYear 2, .digits .dayOfMonth 2]
  | false, .ord => [.digits .dayOfYear 3]
  | false, .week => [.lit 'W', .digits .weekOfYear 2, .digits .dayOfWeek 1]

def dateTmplC (x : Bool) (n : Nat) (ext : Bool) (k : DateKind) : Template := yearTmplC x n ++ bodyTmpl ext k

def clockTmpl (ext : Bool) : Template :=
  if ext then [.digits .hourOfDay 2, .lit ':', .digits .minuteOfHour 2, .lit ':', .digits .secondOfMinute 2]
  else [.digits .hourOfDay 2, .digits .minuteOfHour 2, .digits .secondOfMinute 2]

def fracTmpl : Frac → Template
  | .none => []
  | .comma => [.lit ',', .digitsPlus .secondDec]
  | .point => [.lit '.', .digitsPlus .secondDec]

def timeTmplC (ext : Bool) (fr : Frac) : Template := clockTmpl ext ++ fracTmpl fr

/-- The style of a zone expression: `none` for `Z`. -/
def ZSpec.style : ZSpec → Option ZStyle
  | .utc => none
  | .own s => some s
  | .lit s _ => some s

def zoneTmplS (ext : Bool) : Option ZStyle → Template
  | none => zTmplUtc
  | some s => zoneTmplOf ext s

theorem date_entry_all : ∀ pt ∈ parserTables, ∀ x ∈ [true, false], ∀ ext ∈ [true, false],
    ∀ k ∈ [DateKind.cal, .ord, .week], (ext = true → pt.basicOnly = false) →
    ∃ e ∈ pt.dateEntries, e.tmpl = dateTmplC x pt.ned ext k ∧ e.typ = .complete ∧ e.fmt = fmtKey ext := by
  decide +kernel

theorem time_entry_all : ∀ pt ∈ parserTables, ∀ ext ∈ [true, false], ∀ fr ∈ [Frac.none, .comma, .point],
    (ext = true → pt.basicOnly = false) →
    ∃ e ∈ pt.timeEntries, e.tmpl = timeTmplC ext fr ∧ e.typ = .complete ∧ e.fmt = fmtKey ext := by
  decide +kernel

theorem zone_entry_all : ∀ pt ∈ parserTables, ∀ ext ∈ [true, false],
    ∀ s ∈ [none, some ZStyle.hm, some ZStyle.h], (ext = true → pt.basicOnly = false) →
    ∃ e ∈ pt.zoneEntries, e.tmpl = zoneTmplS ext s ∧ e.fmt = fmtKey ext := by
  decide +kernel

/-- The field values of a point, as digit groups spell them; `ds` is the fraction of its last unit as
    printed (`['0']` for a whole-second point). -/
def valsOf (q : TP) (ds : List Char) : Vals :=
  { yearNeg := decide (dateYear q.date < 0)
    x := (dateYear q.date).natAbs / 10000
    cc := (dateYear q.date).natAbs / 100 % 100
    yy := (dateYear q.date).natAbs % 100
    month := match q.date with | .cal _ mo _ => mo.toNat | _ => 0
    day := match q.date with | .cal _ _ d => d.toNat | _ => 0
    doy := match q.date with | .ord _ doy => doy.toNat | _ => 0
    week := match q.date with | .week _ w _ => w.toNat | _ => 0
    dow := match q.date with | .week _ _ d => d.toNat | _ => 0
    hour := q.hh.toNat, minute := q.mi.toNat, second := q.ss.toNat
    hourDec := ds, minuteDec := ds, secondDec := ds
    tzNeg := decide (q.tz.h < 0 ∨ q.tz.mi < 0), tzHour := q.tz.h.natAbs, tzMinute := q.tz.mi.natAbs }

-- Stated per field so that `simp` reads a field off without unfolding the `match q.date` of the others.
section projections
variable (q : TP) (ds : List Char)
theorem valsOf_yearNeg : (valsOf q ds).yearNeg = decide (dateYear q.date < 0) := rfl
theorem valsOf_x : (valsOf q ds).x = (dateYear q.date).natAbs / 10000 := rfl
theorem valsOf_cc : (valsOf q ds).cc = (dateYear q.date).natAbs / 100 % 100 := rfl
theorem valsOf_yy : (valsOf q ds).yy = (dateYear q.date).natAbs % 100 := rfl
theorem valsOf_hour : (valsOf q ds).hour = q.hh.toNat := rfl
theorem valsOf_minute : (valsOf q ds).minute = q.mi.toNat := rfl
theorem valsOf_second : (valsOf q ds).second = q.ss.toNat := rfl
theorem valsOf_hourDec : (valsOf q ds).hourDec = ds := rfl
theorem valsOf_minuteDec : (valsOf q ds).minuteDec = ds := rfl
theorem valsOf_secondDec : (valsOf q ds).secondDec = ds := rfl
theorem valsOf_tzNeg : (valsOf q ds).tzNeg = decide (q.tz.h < 0 ∨ q.tz.mi < 0) := rfl
theorem valsOf_tzHour : (valsOf q ds).tzHour = q.tz.h.natAbs := rfl
theorem valsOf_tzMinute : (valsOf q ds).tzMinute = q.tz.mi.natAbs := rfl
end projections

theorem trender_envOf_append (a b : Template) (v : Vals) :
    trender (a ++ b) (envOf (a ++ b) v) = trender a (envOf a v) ++ trender b (envOf b v) := by
  induction a with
  | nil => rfl
  | cons it a ih => cases it <;> simp [trender, envOf, ih]

theorem yearText_render (x : Bool) (n : Nat) (hxn : x = true → n ≠ 0) (q : TP) (ds : List Char) :
    yearText (yd x n) (dateYear q.date) =
      trender (yearTmplC x n) (envOf (yearTmplC x n) (valsOf q ds)) := by
  cases x with
  | false =>
    simp [yearText, yearTmplC, trender, envOf, Vals.nat, valsOf_cc, valsOf_yy, renderNat_four, renderNat_mod100]
  | true =>
    simp [yearText, yearTmplC, trender, envOf, Vals.nat, Vals.neg, valsOf_x, valsOf_cc, valsOf_yy, valsOf_yearNeg,
      renderNat_year, hxn rfl]

theorem bodyText_render (ext : Bool) (k : DateKind) (q : TP) (ds : List Char) (hr : q.date.rep = k.k) :
    bodyText ext q.date = trender (bodyTmpl ext k) (envOf (bodyTmpl ext k) (valsOf q ds)) := by
  obtain ⟨d, hh, mi, ss, tz⟩ := q
  rcases rep_kind hr with ⟨rfl, y, mo, dd, rfl⟩ | ⟨rfl, y, doy, rfl⟩ | ⟨rfl, y, w, dd, rfl⟩ <;> cases ext <;>
    simp [bodyText, bodyTmpl, dsep, trender, envOf, valsOf, Vals.nat]

theorem clockText_render (ext : Bool) (fr : Frac) (q : TP) :
    clockText ext q ++ fracText fr = trender (timeTmplC ext fr) (envOf (timeTmplC ext fr) (valsOf q ['0'])) := by
  cases ext <;> cases fr <;>
    simp [clockText, fracText, timeTmplC, clockTmpl, fracTmpl, csep, trender, envOf, Vals.nat, Vals.dec,
      valsOf_hour, valsOf_minute, valsOf_second, valsOf_secondDec]

theorem zoneText_render (ext : Bool) (zs : ZSpec) (q : TP) (ds : List Char) :
    zoneText ext zs q.tz = trender (zoneTmplS ext zs.style) (envOf (zoneTmplS ext zs.style) (valsOf q ds)) := by
  have key : ∀ s, zsign q.tz :: zoneDigits ext s q.tz =
      trender (zoneTmplOf ext s) (envOf (zoneTmplOf ext s) (valsOf q ds)) := by
    intro s
    cases s <;> cases ext <;>
      simp [zsign, zoneDigits, zoneTmplOf, zTmplOff, zTmplBasic, zTmplHour, trender, envOf, Vals.nat, Vals.neg,
        valsOf_tzNeg, valsOf_tzHour, valsOf_tzMinute]
  cases zs with
  | utc => rfl
  | own s => exact key s
  | lit s z => exact key s

theorem customText_render (ned : Nat) (f : CFmt) (hxn : f.expanded = true → ned ≠ 0) (q : TP)
    (hr : q.date.rep = f.kind.k) :
    customText ned f q =
      trender (dateTmplC f.expanded ned f.ext f.kind) (envOf (dateTmplC f.expanded ned f.ext f.kind) (valsOf q ['0'])) ++
        'T' :: (trender (timeTmplC f.ext f.frac) (envOf (timeTmplC f.ext f.frac) (valsOf q ['0'])) ++
          trender (zoneTmplS f.ext f.zone.style) (envOf (zoneTmplS f.ext f.zone.style) (valsOf q ['0']))) := by
  unfold customText dateTmplC
  rw [trender_envOf_append, ← yearText_render f.expanded ned hxn q, ← bodyText_render f.ext f.kind q _ hr,
    ← clockText_render, ← zoneText_render]
  rfl

def yearFlds (x : Bool) : List Fld :=
  if x then [.yearSign, .expandedYear, .century, .yearOfCentury] else [.century, .yearOfCentury]

def bodyFlds : DateKind → List Fld
  | .cal => [.monthOfYear, .dayOfMonth]
  | .ord => [.dayOfYear]
  | .week => [.weekOfYear, .dayOfWeek]

def fracFlds : Frac → List Fld
  | .none => []
  | _ => [.secondDec]

theorem groupFields_date (x : Bool) (n : Nat) (ext : Bool) (k : DateKind) :
    groupFields (dateTmplC x n ext k) = yearFlds x ++ bodyFlds k := by
  cases x <;> cases ext <;> cases k <;> rfl

theorem groupFields_time (ext : Bool) (fr : Frac) :
    groupFields (timeTmplC ext fr) = [.hourOfDay, .minuteOfHour, .secondOfMinute] ++ fracFlds fr := by
  cases ext <;> cases fr <;> rfl

theorem groupFields_zone (ext : Bool) (s : Option ZStyle) :
    groupFields (zoneTmplS ext s) =
      match s with
      | none => [.tzUtc]
      | some .hm => [.tzSign, .tzHour, .tzMinute]
      | some .h => [.tzSign, .tzHour] := by
  cases s with
  | none => rfl
  | some s => cases s <;> cases ext <;> rfl

theorem hasGroup_year (x : Bool) (n : Nat) (ext : Bool) (k : DateKind) :
    hasGroup (dateTmplC x n ext k) .yearSign = x ∧ hasGroup (dateTmplC x n ext k) .expandedYear = x ∧
    hasGroup (dateTmplC x n ext k) .century = true ∧ hasGroup (dateTmplC x n ext k) .yearOfCentury = true := by
  simp only [hasGroup, groupFields_date]
  cases x <;> cases k <;> exact ⟨rfl, rfl, rfl, rfl⟩

theorem hasGroup_body (x : Bool) (n : Nat) (ext : Bool) (k : DateKind) :
    hasGroup (dateTmplC x n ext k) .monthOfYear = decide (k = .cal) ∧
    hasGroup (dateTmplC x n ext k) .dayOfMonth = decide (k = .cal) ∧
    hasGroup (dateTmplC x n ext k) .dayOfYear = decide (k = .ord) ∧
    hasGroup (dateTmplC x n ext k) .weekOfYear = decide (k = .week) ∧
    hasGroup (dateTmplC x n ext k) .dayOfWeek = decide (k = .week) := by
  simp only [hasGroup, groupFields_date]
  cases x <;> cases k <;> exact ⟨rfl, rfl, rfl, rfl, rfl⟩

theorem dateShape_custom (x : Bool) (n : Nat) (ext : Bool) (k : DateKind) :
    dateShapeOK (dateTmplC x n ext k) = true := by
  obtain ⟨h1, h2, h3, h4, h5⟩ := hasGroup_body x n ext k
  simp only [dateShapeOK, datePattern, h1, h2, h3, h4, h5]
  cases k <;> rfl

def Spells (s : Option ZStyle) (tz : TZ) : Prop :=
  match s with
  | none => tz = ⟨0, 0⟩
  | some .hm => True
  | some .h => tz.mi = 0

/-- The zone of the text is the zone of the point: `Z` spells a zero offset, the hours-only style an
    offset of whole hours (`Spells f.zone.style q.tz`). -/
def ZoneFaithful (f : CFmt) (q : TP) : Prop :=
  match f.zone.style with
  | none => q.tz = ⟨0, 0⟩
  | some .hm => True
  | some .h => q.tz.mi = 0

/-- The zone expression spells the offset `tz` itself: no re-zoning. -/
def ZSpec.Same (tz : TZ) : ZSpec → Prop
  | .utc => tz = ⟨0, 0⟩
  | .own _ => True
  | .lit _ z => z = tz

instance (tz : TZ) (zs : ZSpec) : Decidable (zs.Same tz) := by
  cases zs <;> unfold ZSpec.Same <;> infer_instance

/-- A zone expression that spells the offset `tz` itself spells it faithfully, as long as an hours-only
    placeholder meets an offset of whole hours (a well-formed hours-only literal always does). -/
theorem faithful_of_same (zs : ZSpec) (tz : TZ) (hw : zs.WF) (hs : zs.Same tz)
    (hown : zs = .own .h → tz.mi = 0) : Spells zs.style tz := by
  cases zs with
  | utc => exact hs
  | own s =>
    cases s with
    | hm => trivial
    | h => exact hown rfl
  | lit s z =>
    cases s with
    | hm => trivial
    | h => obtain rfl : z = tz := hs; exact hw.2 rfl

/-- The point the text denotes: `q` itself — with a decimal part in the format, `q` with the fraction
    `0` attached to its second (the same number of seconds). -/
def readBack (n : Nat) (fr : Frac) (q : TP) : XTP :=
  match fr with
  | .none => XTP.ofTP n q
  | _ => DTP.toXTP n ⟨q.date, .second q.hh q.mi q.ss ['0'], q.tz⟩

theorem pointOf_withTime (cfg : Cfg) (de te : Template) (v : Vals) (tz : TZ) :
    pointOf cfg de te v tz = (pointOf cfg de [] v tz).withTime
      (some (if hasGroup te .hourOfDay then (v.hour : Int) else 0))
      (if hasGroup te .hourDec then none else some (if hasGroup te .minuteOfHour then (v.minute : Int) else 0))
      (if hasGroup te .hourDec || hasGroup te .minuteDec then none
       else some (if hasGroup te .secondOfMinute then (v.second : Int) else 0))
      (decOf te .hourDec v.hourDec) (decOf te .minuteDec v.minuteDec) (decOf te .secondDec v.secondDec) := rfl

theorem pointOf_dateBase (cfg : Cfg) (de : Template) (v : Vals) (tz : TZ) (hd : dateShapeOK de = true) :
    pointOf cfg de [] v tz =
      dateBase (if hasGroup de .expandedYear then cfg.pt.ned else 0) (dateOf de v) tz := by
  have hd := dateShape_cases de hd
  simp only [datePattern, Prod.mk.injEq] at hd
  rcases hd with ⟨d1, d2, d3, d4, d5⟩ | ⟨d1, d2, d3, d4, d5⟩ | ⟨d1, d2, d3, d4, d5⟩ | ⟨d1, d2, d3, d4, d5⟩ |
      ⟨d1, d2, d3, d4, d5⟩ | ⟨d1, d2, d3, d4, d5⟩ <;>
    simp [pointOf, dateOf, dateBase, XTP.ofTP, fieldOf, decOf, show ∀ f, hasGroup [] f = false from fun _ => rfl,
      d1, d2, d3, d4, d5]

/-- A year is its expanded digits, its century and its year of century. -/
theorem year_digits_sum (a : Nat) : 10000 * (a / 10000) + 100 * (a / 100 % 100) + a % 100 = a := by
  have h2 := Nat.div_add_mod (a % 10000) 100
  rw [show a % 10000 / 100 = a / 100 % 100 from Nat.mod_mul_right_div_self a 100 100,
    Nat.mod_mod_of_dvd a (by decide : 100 ∣ 10000)] at h2
  rw [Nat.add_assoc, h2, Nat.div_add_mod]

theorem signed_natAbs (y : Int) : (if y < 0 then -(y.natAbs : Int) else y.natAbs) = y := by
  by_cases h : y < 0
  · rw [if_pos h, Int.ofNat_natAbs_of_nonpos (Int.le_of_lt h), Int.neg_neg]
  · rw [if_neg h, Int.natAbs_of_nonneg (Int.not_lt.mp h)]

theorem yearOf_custom (x : Bool) (n : Nat) (ext : Bool) (k : DateKind) (q : TP) (ds : List Char)
    (hy : YearInRange (yd x n) (dateYear q.date)) :
    yearOf (dateTmplC x n ext k) (valsOf q ds) = dateYear q.date := by
  obtain ⟨h1, h2, h3, h4⟩ := hasGroup_year x n ext k
  simp only [yearOf, h1, h2, h3, h4, valsOf_x, valsOf_cc, valsOf_yy, valsOf_yearNeg, if_true]
  generalize dateYear q.date = y at hy ⊢
  have hp := year_digits_sum y.natAbs
  cases x with
  | false =>
    -- without `+X` the year is 0000–9999: no expanded digits, no sign
    simp only [yd_false, YearInRange, if_true] at hy
    have h0 : y.natAbs / 10000 = 0 :=
      Nat.div_eq_of_lt (Nat.lt_succ_of_le (natAbs_le (Int.le_trans (by decide) hy.1) hy.2))
    rw [h0] at hp
    simp only [Bool.false_and, Bool.false_eq_true, if_false, Nat.mul_zero, Nat.zero_add] at hp ⊢
    rw [hp, Int.natAbs_of_nonneg hy.1]
  | true =>
    simp only [Bool.true_and, decide_eq_true_eq, if_true, hp]
    exact signed_natAbs y

theorem dateOf_custom (x : Bool) (n : Nat) (ext : Bool) (k : DateKind) (q : TP) (ds : List Char)
    (hr : q.date.rep = k.k) (hy : YearInRange (yd x n) (dateYear q.date)) (hf : FieldsFit q) :
    dateOf (dateTmplC x n ext k) (valsOf q ds) = q.date := by
  obtain ⟨h1, h2, h3, h4, h5⟩ := hasGroup_body x n ext k
  simp only [dateOf, yearOf_custom x n ext k q ds hy, h1, h2, h3, h4, h5]
  obtain ⟨d, hh, mi, ss, tz⟩ := q
  obtain ⟨hd, _⟩ := hf
  rcases rep_kind hr with ⟨rfl, y, mo, dd, rfl⟩ | ⟨rfl, y, doy, rfl⟩ | ⟨rfl, y, w, dd, rfl⟩
  · simp [valsOf, dateYear, Int.toNat_of_nonneg hd.1, Int.toNat_of_nonneg hd.2.2.1]
  · simp [valsOf, dateYear, Int.toNat_of_nonneg hd.1]
  · simp [valsOf, dateYear, Int.toNat_of_nonneg hd.1, Int.toNat_of_nonneg hd.2.2.1]

theorem pointOf_custom (cfg : Cfg) (x : Bool) (ext : Bool) (k : DateKind) (fr : Frac) (q : TP)
    (hr : q.date.rep = k.k) (hy : YearInRange (yd x cfg.pt.ned) (dateYear q.date))
    (hf : FieldsFit q) :
    pointOf cfg (dateTmplC x cfg.pt.ned ext k) (timeTmplC ext fr) (valsOf q ['0']) q.tz =
      readBack (yd x cfg.pt.ned) fr q := by
  rw [pointOf_withTime, pointOf_dateBase cfg _ _ _ (dateShape_custom _ _ _ _),
    dateOf_custom x cfg.pt.ned ext k q _ hr hy hf, (hasGroup_year x cfg.pt.ned ext k).2.1]
  obtain ⟨d, hh, mi, ss, tz⟩ := q
  obtain ⟨_, h1, _, h2, _, h3, _⟩ := hf
  simp only at h1 h2 h3
  have e1 : ((hh.toNat : Nat) : Int) = hh := Int.toNat_of_nonneg h1
  have e2 : ((mi.toNat : Nat) : Int) = mi := Int.toNat_of_nonneg h2
  have e3 : ((ss.toNat : Nat) : Int) = ss := Int.toNat_of_nonneg h3
  cases fr <;>
    simp [hasGroup, groupFields_time, fracFlds, decOf, valsOf_hour, valsOf_minute, valsOf_second, valsOf_secondDec,
      readBack, ofTP_withTime, DTP.toXTP, yd, e1, e2, e3]

theorem valsOf_fit (m : Mode) (n : Nat) (q : TP) (ds : List Char) (hv : q.Valid m)
    (hx : (dateYear q.date).natAbs / 10000 < 10 ^ n) (hds : ds ≠ [] ∧ ds.all isDigit = true) :
    (valsOf q ds).Fit n := by
  obtain ⟨hd, a1, a2, a3, a4, a5, a6⟩ := fieldsFit_of_valid m q hv
  obtain ⟨z1, z2, z3, z4, _, _⟩ := valid_tz hv
  have hdate : (valsOf q ds).month < 100 ∧ (valsOf q ds).day < 100 ∧ (valsOf q ds).doy < 1000 ∧
      (valsOf q ds).week < 100 ∧ (valsOf q ds).dow < 10 := by
    obtain ⟨d, hh, mi, ss, tz⟩ := q
    cases d with
    | cal y mo dd =>
      exact ⟨toNat_lt hd.1 hd.2.1, toNat_lt hd.2.2.1 hd.2.2.2, Nat.zero_lt_succ _, Nat.zero_lt_succ _,
        Nat.zero_lt_succ _⟩
    | ord y doy =>
      exact ⟨Nat.zero_lt_succ _, Nat.zero_lt_succ _, toNat_lt hd.1 hd.2, Nat.zero_lt_succ _, Nat.zero_lt_succ _⟩
    | week y w dd =>
      exact ⟨Nat.zero_lt_succ _, Nat.zero_lt_succ _, Nat.zero_lt_succ _, toNat_lt hd.1 hd.2.1,
        toNat_lt hd.2.2.1 hd.2.2.2⟩
  exact ⟨hx, Nat.mod_lt _ (by decide), Nat.mod_lt _ (by decide), hdate.1, hdate.2.1, hdate.2.2.1, hdate.2.2.2.1,
    hdate.2.2.2.2, toNat_lt a1 a2, toNat_lt a3 a4, toNat_lt a5 a6, Nat.lt_succ_of_le (natAbs_le z1 z2),
    Nat.lt_of_le_of_lt (natAbs_le z3 z4) (by decide), hds, hds, hds⟩

theorem zoneOf_style (zd : ZoneDefault) (ext : Bool) (s : Option ZStyle) (q : TP) (ds : List Char)
    (hz : q.tz.Valid) (hs : Spells s q.tz) :
    (zoneOf zd (some (zoneTmplS ext s)) (valsOf q ds)).hour.getD 0 = q.tz.h ∧
    (zoneOf zd (some (zoneTmplS ext s)) (valsOf q ds)).minute.getD 0 = q.tz.mi := by
  obtain ⟨e1, e2⟩ := tz_signed q.tz hz
  simp only [zoneOf, hasGroup, groupFields_zone, valsOf_tzNeg, valsOf_tzHour, valsOf_tzMinute]
  match s, hs with
  | none, hs => rw [hs]; exact ⟨rfl, rfl⟩
  | some .hm, _ => simpa using ⟨e1, e2⟩
  | some .h, hs => have hs : q.tz.mi = 0 := hs; simpa [hs] using e1

/-- A unit the expression does not have counts as 0. -/
theorem timeValid_of_vals (te : Template) (v : Vals)
    (h : (v.hour < 24 ∧ v.minute < 60 ∧ v.second < 60) ∨
      (v.hour = 24 ∧ v.minute = 0 ∧ v.second = 0 ∧ fracZero v.hourDec = true ∧ fracZero v.minuteDec = true ∧
        fracZero v.secondDec = true)) : TimeValid te v := by
  unfold TimeValid hourOf minuteOf secondOf
  rcases h with ⟨h1, h2, h3⟩ | ⟨h1, h2, h3, h4, h5, h6⟩
  · left
    refine ⟨?_, ?_, ?_⟩ <;> split <;> omega
  · cases hasGroup te .hourOfDay with
    | false => left; refine ⟨by simp, ?_, ?_⟩ <;> split <;> omega
    | true => right; exact ⟨h1, by split <;> omega, by split <;> omega, fun _ => h4, fun _ => h5, fun _ => h6⟩

theorem timeValid_custom (m : Mode) (te : Template) (q : TP) (ds : List Char) (hv : q.Valid m)
    (hfz : q.hh = 24 → fracZero ds = true) : TimeValid te (valsOf q ds) := by
  obtain ⟨_, b1, b2, b3, b4, b5, b6, b7, _⟩ := hv
  apply timeValid_of_vals
  simp only [valsOf_hour, valsOf_minute, valsOf_second, valsOf_hourDec, valsOf_minuteDec, valsOf_secondDec]
  by_cases h24 : q.hh = 24
  · right
    obtain ⟨c1, c2⟩ := b7 h24
    rw [h24, c1, c2]
    exact ⟨rfl, rfl, rfl, hfz h24, hfz h24, hfz h24⟩
  · left; omega

/-- `C07_parse` on a date and a zone expression of the class and any listed complete time expression
    `T` of the same notation: the text these expressions spell for a valid point `q` (fraction `ds`, zero
    at hour 24) whose year and offset they can spell is read as `pointOf` of the values of `q`. -/
theorem parse_rendered (cfg : Cfg) (hpt : cfg.pt ∈ parserTables) (x ext : Bool) (k : DateKind)
    (s : Option ZStyle) (hb : ext = true → cfg.pt.basicOnly = false) (hx : x = true → cfg.pt.ned ≠ 0)
    (T : Template) (hT : ∃ e ∈ cfg.pt.timeEntries, e.tmpl = T ∧ e.typ = .complete ∧ e.fmt = fmtKey ext)
    (q : TP) (ds : List Char) (hv : q.Valid cfg.mode) (hr : q.date.rep = k.k)
    (hy : YearInRange (yd x cfg.pt.ned) (dateYear q.date))
    (hds : ds ≠ [] ∧ ds.all isDigit = true) (hfz : q.hh = 24 → fracZero ds = true) (hs : Spells s q.tz) :
    parse cfg (trender (dateTmplC x cfg.pt.ned ext k) (envOf (dateTmplC x cfg.pt.ned ext k) (valsOf q ds)) ++
        'T' :: (trender T (envOf T (valsOf q ds)) ++
          trender (zoneTmplS ext s) (envOf (zoneTmplS ext s) (valsOf q ds)))) false =
      some (pointOf cfg (dateTmplC x cfg.pt.ned ext k) T (valsOf q ds) q.tz) := by
  obtain ⟨de, hde, hdt, hdc, hdf⟩ := date_entry_all cfg.pt hpt x (by cases x <;> simp)
    ext (by cases ext <;> simp) k (by cases k <;> simp) hb
  obtain ⟨te, hte, htt, htc, htf⟩ := hT
  obtain ⟨ze, hze, hzt, hzf⟩ := zone_entry_all cfg.pt hpt ext (by cases ext <;> simp)
    s (by cases s with | none => simp | some s => cases s <;> simp) hb
  have hX : cfg.pt.ned = 0 → hasGroup de.tmpl .expandedYear = false := by
    intro h0
    rw [hdt, (hasGroup_year x cfg.pt.ned ext k).2.1]
    cases x with
    | false => rfl
    | true => exact absurd h0 (hx rfl)
  have hz := valid_tz hv
  have hzone := zoneOf_style cfg.zone ext s q ds hz hs
  have key := Props.C07.C07_parse cfg hpt de hde hdc hX te hte (by rw [htc]; decide) (htf.trans hdf.symm)
    (some ze) (by intro z hz; obtain rfl := Option.some.inj hz; exact ⟨hze, hzf.trans hdf.symm⟩)
    (valsOf q ds) (valsOf_fit cfg.mode _ q ds hv (yearInRange_x _ _ hx _ hy) hds) q.tz (by
      simp only [Option.map_some, hzt, hzone.1, hzone.2]
      exact Lemmas.ConstructTrunc.mkTZOpt_of_valid cfg.mode q.tz hz)
  rw [hdt, htt, dateOf_custom x cfg.pt.ned ext k q ds hr hy (fieldsFit_of_valid cfg.mode q hv),
    if_pos ⟨hv.1, timeValid_custom cfg.mode _ q ds hv hfz⟩] at key
  rw [← key]
  show parse cfg (_ ++ 'T' :: (_ ++ trender (zoneTmplS ext s) _)) false = _
  rw [← hzt]
  rfl

end IsoDT.Text.Custom
