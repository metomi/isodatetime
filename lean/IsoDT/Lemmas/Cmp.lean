/-
  IsoDT.Lemmas.Cmp — re-zoning, comparison, hashing, point difference and the conversions from and
  to Unix time in terms of instants.
-/
import IsoDT.Lemmas.Tick
import IsoDT.Model.LocalTZ

namespace IsoDT.Lemmas
open IsoDT IsoDT.Model
open IsoDT.Spec (Date TZ TP)

/-- Python's `-1`/`0`/`1` comparison result (`_cmp`). -/
def sgn (x : Int) : Int := if x < 0 then -1 else if x > 0 then 1 else 0

theorem sgn_neg_iff (x : Int) : sgn x = -1 ↔ x < 0 := by unfold sgn; omega
theorem sgn_zero_iff (x : Int) : sgn x = 0 ↔ x = 0 := by unfold sgn; omega
theorem sgn_one_iff (x : Int) : sgn x = 1 ↔ x > 0 := by unfold sgn; omega
theorem sgn_pos_iff (x : Int) : sgn x > 0 ↔ x > 0 := by unfold sgn; omega
theorem sgn_neg (x : Int) : sgn (-x) = - sgn x := by unfold sgn; grind

theorem toTimeZone_spec (m : Mode) (p : TP) (z : TZ) (hv : p.Valid m) (hz : z.Valid) :
    ∃ q, toTimeZone m p z = some q ∧ q.inst m = p.inst m ∧ q.tz = z ∧ q.date.rep = p.date.rep ∧
      q.Valid m ∧ (p.hh < 24 → q.hh < 24) := by
  unfold toTimeZone
  by_cases c : z.h = p.tz.h ∧ z.mi = p.tz.mi
  · rw [if_pos c]
    refine ⟨p, rfl, rfl, ?_, rfl, hv, fun h => h⟩
    obtain ⟨zh, zm⟩ := z
    obtain ⟨pd, ph, pm, ps, ⟨th, tm⟩⟩ := p
    simp only at c
    simp only [c.1, c.2]
  · rw [if_neg c]
    obtain ⟨q, he, g⟩ := addDur_exact_units m p 0 (z.h - p.tz.h) (z.mi - p.tz.mi) 0 hv
    rw [he]
    refine ⟨{ q with tz := z }, rfl, ?_, rfl, g.rep, ?_, fun _ => g.strict.2⟩
    · have := g.inst
      have ht := g.tz
      simp only [TP.inst, TZ.seconds, TP.secOfDay] at this ⊢
      rw [ht] at this
      grind
    · obtain ⟨⟨a, b, c', d, e, f, g', h, _⟩, _⟩ := g.strict
      exact ⟨a, b, c', d, e, f, g', h, hz⟩

theorem strict_hms (m : Mode) (p : TP) (h : p.Strict m) :
    (0 ≤ p.hh ∧ p.hh < 24) ∧ (0 ≤ p.mi ∧ p.mi < 60) ∧ (0 ≤ p.ss ∧ p.ss < 60) :=
  ⟨⟨h.1.2.1, h.2⟩, ⟨h.1.2.2.2.1, h.1.2.2.2.2.1⟩, h.1.2.2.2.2.2.1, h.1.2.2.2.2.2.2.1⟩

theorem strict_sod (m : Mode) (p : TP) (h : p.Strict m) : 0 ≤ p.secOfDay ∧ p.secOfDay < 86400 := by
  have := strict_hms m p h
  unfold TP.secOfDay; omega

theorem inst_order (m : Mode) (a b : TP) (ha : a.Strict m) (hb : b.Strict m) (htz : a.tz = b.tz) :
    (a.inst m < b.inst m ↔ a.date.dayNum m < b.date.dayNum m ∨
      (a.date.dayNum m = b.date.dayNum m ∧ a.secOfDay < b.secOfDay)) ∧
    (a.inst m = b.inst m ↔ a.date.dayNum m = b.date.dayNum m ∧ a.secOfDay = b.secOfDay) := by
  have := strict_sod m a ha
  have := strict_sod m b hb
  unfold TP.inst; rw [htz]; omega

/-- Minutes and seconds in `[0, 60)` are the base-60 digits of the second of day. -/
theorem hms_unique (h1 m1 s1 h2 m2 s2 : Int) (a : (0 ≤ m1 ∧ m1 < 60) ∧ (0 ≤ s1 ∧ s1 < 60))
    (b : (0 ≤ m2 ∧ m2 < 60) ∧ (0 ≤ s2 ∧ s2 < 60))
    (e : 3600 * h1 + 60 * m1 + s1 = 3600 * h2 + 60 * m2 + s2) : h1 = h2 ∧ m1 = m2 ∧ s1 = s2 := by
  grind

theorem strict_unique (m : Mode) (a b : TP) (ha : a.Strict m) (hb : b.Strict m)
    (hr : a.date.rep = b.date.rep) (htz : a.tz = b.tz) (hi : a.inst m = b.inst m) : a = b := by
  obtain ⟨hd, hs⟩ := (inst_order m a b ha hb htz).2.mp hi
  have hdate := date_unique m a.date b.date ha.1.1 hb.1.1 hr hd
  obtain ⟨eh, em, es⟩ := hms_unique a.hh a.mi a.ss b.hh b.mi b.ss (strict_hms m a ha).2
    (strict_hms m b hb).2 hs
  obtain ⟨ad, ah, am, as, atz⟩ := a
  obtain ⟨bd, bh, bm, bs, btz⟩ := b
  dsimp only at hdate eh em es htz
  subst hdate eh em es htz
  rfl

theorem tickOver_strict (m : Mode) (p : TP) (h : p.Strict m) : tickOver m p = some p := by
  obtain ⟨q, he, g⟩ := tick_good m p p 0 (preValid_of_valid m _ h.1.1) h.1.tz rfl rfl
    (Int.add_zero _).symm
  rw [he, strict_unique m q p g.strict h g.rep g.tz (g.inst.trans (Int.add_zero _))]

theorem cmpList_cal (m : Mode) (y1 mo1 d1 s1 y2 mo2 d2 s2 : Int)
    (h1 : Spec.ValidCal m y1 mo1 d1) (h2 : Spec.ValidCal m y2 mo2 d2) :
    cmpList [y1, mo1, d1, s1] [y2, mo2, d2, s2] =
      if Spec.dayNumCal m y1 mo1 d1 < Spec.dayNumCal m y2 mo2 d2 then -1
      else if Spec.dayNumCal m y1 mo1 d1 > Spec.dayNumCal m y2 mo2 d2 then 1
      else if s1 < s2 then -1 else if s1 > s2 then 1 else 0 := by
  have l1 := lexLt_iff m (y1, mo1, d1) (y2, mo2, d2) h1 h2
  have l2 := lexLt_iff m (y2, mo2, d2) (y1, mo1, d1) h2 h1
  simp only [lexLt, Bool.or_eq_true, Bool.and_eq_true, decide_eq_true_eq, beq_iff_eq] at l1 l2
  simp only [cmpList]
  rcases Int.lt_trichotomy (Spec.dayNumCal m y1 mo1 d1) (Spec.dayNumCal m y2 mo2 d2) with c | c | c
  · rw [if_pos c]
    rcases l1.mpr c with h | ⟨rfl, h | ⟨rfl, h⟩⟩ <;> simp only [h, Int.lt_irrefl, gt_iff_lt, ↓reduceIte]
  · obtain ⟨rfl, rfl, rfl⟩ := cal_unique m _ _ _ _ _ _ h1 h2 c
    simp only [Int.lt_irrefl, gt_iff_lt, ↓reduceIte]
  · rw [if_neg (Int.lt_asymm c), if_pos c]
    rcases l2.mpr c with h | ⟨rfl, h | ⟨rfl, h⟩⟩ <;>
      simp only [h, Int.lt_asymm h, Int.lt_irrefl, gt_iff_lt, ↓reduceIte]

theorem dayNumOrd_lt_of_year_lt (m : Mode) (y1 n1 y2 n2 : Int) (h1 : Spec.ValidOrd m y1 n1)
    (h2 : Spec.ValidOrd m y2 n2) (hlt : y1 < y2) : Spec.dayNumOrd m y1 n1 < Spec.dayNumOrd m y2 n2 := by
  have := (dayNumOrd_range m y1 n1 h1).2
  have := (dayNumOrd_range m y2 n2 h2).1
  have := (dby_mono m (y1 + 1) y2 (by omega)).1
  omega

theorem cmpList_ord (m : Mode) (y1 n1 s1 y2 n2 s2 : Int)
    (h1 : Spec.ValidOrd m y1 n1) (h2 : Spec.ValidOrd m y2 n2) :
    cmpList [y1, n1, s1] [y2, n2, s2] =
      if Spec.dayNumOrd m y1 n1 < Spec.dayNumOrd m y2 n2 then -1
      else if Spec.dayNumOrd m y1 n1 > Spec.dayNumOrd m y2 n2 then 1
      else if s1 < s2 then -1 else if s1 > s2 then 1 else 0 := by
  simp only [cmpList]
  rcases Int.lt_trichotomy y1 y2 with c | rfl | c
  · rw [if_pos c, if_pos (dayNumOrd_lt_of_year_lt m _ _ _ _ h1 h2 c)]
  · simp only [Spec.dayNumOrd, Int.lt_irrefl, gt_iff_lt, ↓reduceIte]
    grind
  · have := dayNumOrd_lt_of_year_lt m _ _ _ _ h2 h1 c
    rw [if_neg (Int.lt_asymm c), if_pos c, if_neg (Int.lt_asymm this), if_pos this]

theorem normalise24_strict (m : Mode) (p : TP) (h : p.Strict m) : normalise24 m p = some p := by
  unfold normalise24; rw [hoursInDay_eq]
  have : ¬ p.hh = 24 := by have := h.2; omega
  rw [if_neg this]

/-- The common prefix of `_cmp` and `__sub__`: both operands as strict points in the first
    operand's offset, instants unchanged. -/
theorem align_spec (m : Mode) (a b : TP) (ha : a.Valid m) (hb : b.Valid m) :
    ∃ b1 a2 b2, toTimeZone m b a.tz = some b1 ∧ normalise24 m b1 = some b2 ∧ normalise24 m a = some a2 ∧
      a2.Strict m ∧ b2.Strict m ∧ a2.tz = b2.tz ∧ a2.inst m = a.inst m ∧ b2.inst m = b.inst m := by
  obtain ⟨b1, e1, i1, t1, _, v1, _⟩ := toTimeZone_spec m b a.tz hb ha.tz
  obtain ⟨b2, e2, g2⟩ := normalise24_spec m b1 v1
  obtain ⟨a2, e3, g3⟩ := normalise24_spec m a ha
  refine ⟨b1, a2, b2, e1, e2, e3, g3.strict, g2.strict, ?_, ?_, ?_⟩
  · rw [g3.tz, g2.tz, t1]
  · rw [g3.inst, Int.add_zero]
  · rw [g2.inst, i1, Int.add_zero]

/-- With seconds of day in `[0, 86400)`, comparing (day number, second of day) lexicographically is
    comparing `86400 * day + second`. -/
theorem cmpPair_sgn (na nb sa sb : Int) (h1 : 0 ≤ sa ∧ sa < 86400) (h2 : 0 ≤ sb ∧ sb < 86400) :
    (if na < nb then -1 else if na > nb then 1 else if sa < sb then -1 else if sa > sb then 1 else 0)
      = sgn (86400 * (na - nb) + (sa - sb)) := by
  unfold sgn; grind

theorem inst_diff (m : Mode) (a b : TP) (htz : a.tz = b.tz) :
    a.inst m - b.inst m = 86400 * (a.date.dayNum m - b.date.dayNum m) + (a.secOfDay - b.secOfDay) := by
  unfold TP.inst; rw [htz]; grind

theorem cmp_spec (m : Mode) (a b : TP) (ha : a.Valid m) (hb : b.Valid m) :
    cmp m a b = some (sgn (a.inst m - b.inst m)) := by
  unfold cmp
  split
  · next c => subst c; rw [Int.sub_self]; rfl
  · obtain ⟨b1, a2, b2, eb1, eb, ea, sa, sb, htz, ia, ib⟩ := align_spec m a b ha hb
    have hd := inst_diff m a2 b2 htz
    rw [ia, ib] at hd
    rw [hd]
    simp only [Option.bind_eq_bind, Option.bind_some, eb1, eb, ea]
    by_cases k0 : a2.date.rep = 0
    · obtain ⟨y1, mo1, d1, ea', va, na⟩ := convert_to_cal m a2.date sa.1.1
      obtain ⟨y2, mo2, d2, eb', vb, nb⟩ := convert_to_cal m b2.date sb.1.1
      simp only [if_pos k0, ea', eb', ← na, ← nb]
      exact congrArg some ((cmpList_cal m _ _ _ _ _ _ _ _ va vb).trans
        (cmpPair_sgn _ _ _ _ (strict_sod m a2 sa) (strict_sod m b2 sb)))
    · obtain ⟨y1, n1, ea', va, na⟩ := convert_to_ord m a2.date sa.1.1
      obtain ⟨y2, n2, eb', vb, nb⟩ := convert_to_ord m b2.date sb.1.1
      simp only [if_neg k0, ea', eb', ← na, ← nb]
      exact congrArg some ((cmpList_ord m _ _ _ _ _ _ va vb).trans
        (cmpPair_sgn _ _ _ _ (strict_sod m a2 sa) (strict_sod m b2 sb)))

theorem cmp_of_inst_eq (m : Mode) (a b : TP) (ha : a.Valid m) (hb : b.Valid m)
    (h : a.inst m = b.inst m) : cmp m a b = some 0 := by
  rw [cmp_spec m a b ha hb, h, Int.sub_self]; rfl

theorem utc_valid : (⟨0, 0⟩ : TZ).Valid := by decide

/-- The hash key lists the fields of the strict UTC calendar-date point of the same instant. -/
theorem hashKey_some (m : Mode) (p : TP) (hv : p.Valid m) :
    ∃ y mo d hh mi ss, hashKey m p = some [y, mo, d, hh, mi, ss] ∧
      (⟨.cal y mo d, hh, mi, ss, ⟨0, 0⟩⟩ : TP).Strict m ∧
      (⟨.cal y mo d, hh, mi, ss, ⟨0, 0⟩⟩ : TP).inst m = p.inst m := by
  obtain ⟨u, e1, i1, t1, _, v1, _⟩ := toTimeZone_spec m p ⟨0, 0⟩ hv utc_valid
  obtain ⟨u2, e2, g2⟩ := normalise24_spec m u v1
  obtain ⟨y, mo, d, e3, v3, n3⟩ := convert_to_cal m u2.date g2.strict.1.1
  have ht : u2.tz = ⟨0, 0⟩ := g2.tz.trans t1
  refine ⟨y, mo, d, u2.hh, u2.mi, u2.ss, ?_, ⟨⟨v3, ht ▸ g2.strict.1.2⟩, g2.strict.2⟩, ?_⟩
  · unfold hashKey toUtc
    simp only [e1, Option.bind_eq_bind, Option.bind_some, e2, e3]
  · rw [← i1, ← Int.add_zero (u.inst m), ← g2.inst, TP.inst, TP.inst, ht, ← n3]
    rfl

theorem hashKey_isSome (m : Mode) (p : TP) (hv : p.Valid m) : (hashKey m p).isSome := by
  obtain ⟨_, _, _, _, _, _, e, _⟩ := hashKey_some m p hv
  rw [e]; rfl

theorem hashKey_eq_of_inst_eq (m : Mode) (p q : TP) (hp : p.Valid m) (hq : q.Valid m)
    (h : p.inst m = q.inst m) : hashKey m p = hashKey m q ∧ (hashKey m p).isSome := by
  obtain ⟨y1, mo1, d1, h1, mi1, ss1, e1, s1, i1⟩ := hashKey_some m p hp
  obtain ⟨y2, mo2, d2, h2, mi2, ss2, e2, s2, i2⟩ := hashKey_some m q hq
  cases strict_unique m _ _ s1 s2 rfl rfl (i1.trans (h.trans i2.symm))
  exact ⟨e1.trans e2.symm, hashKey_isSome m p hp⟩

/-- One borrow: a low part in `[-b, b)` is brought into `[0, b)` at the expense of the high part. -/
theorem borrow_spec (b hi lo : Int) (h1 : -b ≤ lo) (h2 : lo < b) :
    b * (if lo < 0 then hi - 1 else hi) + (if lo < 0 then lo + b else lo) = b * hi + lo ∧
    (0 ≤ (if lo < 0 then lo + b else lo) ∧ (if lo < 0 then lo + b else lo) < b) ∧
    hi - 1 ≤ (if lo < 0 then hi - 1 else hi) ∧ (if lo < 0 then hi - 1 else hi) ≤ hi := by
  split
  · rw [Int.mul_sub, Int.mul_one]; omega
  · omega

/-- The day count of `__sub__`: ordinal days apart plus the whole years between. -/
theorem ordDiff_eq (m : Mode) (y1 n1 y2 n2 : Int) :
    (if y1 > y2 then n1 - n2 + daysInYearRange m y2 (y1 - 1)
      else n1 - n2 - daysInYearRange m y1 (y2 - 1)) =
    Spec.dayNumOrd m y1 n1 - Spec.dayNumOrd m y2 n2 := by
  simp only [daysInYearRange_eq, Spec.dayNumOrd, Int.sub_add_cancel]
  split
  · rw [if_pos (by omega)]; grind
  · split
    · grind
    · obtain rfl : y1 = y2 := by omega
      grind

theorem sub_range (b x y : Int) (hx : 0 ≤ x ∧ x < b) (hy : 0 ≤ y ∧ y < b) : -b < x - y ∧ x - y < b := by
  omega

theorem subCore_spec (m : Mode) (a b : TP) (ha : a.Valid m) (hb : b.Valid m) :
    ∃ dd hh mm ss, subCore m a b = some (.units 0 0 dd hh mm ss) ∧
      86400 * dd + 3600 * hh + 60 * mm + ss = a.inst m - b.inst m ∧
      0 ≤ hh ∧ hh < 24 ∧ 0 ≤ mm ∧ mm < 60 ∧ 0 ≤ ss ∧ ss < 60 := by
  obtain ⟨b1, a2, b2, eb1, eb, ea, sa, sb, htz, ia, ib⟩ := align_spec m a b ha hb
  obtain ⟨y1, n1, ea', va, na⟩ := convert_to_ord m a2.date sa.1.1
  obtain ⟨y2, n2, eb', vb, nb⟩ := convert_to_ord m b2.date sb.1.1
  obtain ⟨ah, am, as⟩ := strict_hms m a2 sa
  obtain ⟨bh, bm, bs⟩ := strict_hms m b2 sb
  have rh := sub_range 24 _ _ ah bh
  have rm := sub_range 60 _ _ am bm
  have rs := sub_range 60 _ _ as bs
  -- the three borrows: seconds from minutes, minutes from hours, hours from days; a difference
  -- that was borrowed from drops by at most one, so it is still in `[-b, b)` for the next borrow
  obtain ⟨cs, s3, l1, l2⟩ := borrow_spec 60 (a2.mi - b2.mi) (a2.ss - b2.ss) (Int.le_of_lt rs.1) rs.2
  obtain ⟨cm, m3, k1, k2⟩ := borrow_spec 60 (a2.hh - b2.hh) _
    (Int.le_trans (Int.le_sub_one_of_lt rm.1) l1) (Int.lt_of_le_of_lt l2 rm.2)
  obtain ⟨ch, h3, _⟩ := borrow_spec 24 (Spec.dayNumOrd m y1 n1 - Spec.dayNumOrd m y2 n2) _
    (Int.le_trans (Int.le_sub_one_of_lt rh.1) k1) (Int.lt_of_le_of_lt k2 rh.2)
  unfold subCore
  simp only [Option.bind_eq_bind, eb1, eb, ea, ea', eb', Option.bind_some, secondsInMinute_eq,
    minutesInHour_eq, hoursInDay_eq, ordDiff_eq]
  refine ⟨_, _, _, _, rfl, ?_, h3.1, h3.2, m3.1, m3.2, s3⟩
  rw [← ia, ← ib, inst_diff m a2 b2 htz, ← na, ← nb]
  simp only [TP.secOfDay]
  grind

/-- The shape of a difference `a - b`: `|h| < 24`, `|m| < 60`, `|s| < 60` and one sign throughout. -/
def OneSigned (d h mi s : Int) : Prop :=
  (-24 < h ∧ h < 24 ∧ -60 < mi ∧ mi < 60 ∧ -60 < s ∧ s < 60) ∧
  ((0 ≤ d ∧ 0 ≤ h ∧ 0 ≤ mi ∧ 0 ≤ s) ∨ (d ≤ 0 ∧ h ≤ 0 ∧ mi ≤ 0 ∧ s ≤ 0))

theorem oneSigned_zero : OneSigned 0 0 0 0 := ⟨by decide, Or.inl (by decide)⟩

theorem oneSigned_of_floor (d h mi s : Int) (r : 0 ≤ h ∧ h < 24 ∧ 0 ≤ mi ∧ mi < 60 ∧ 0 ≤ s ∧ s < 60)
    (hx : 0 ≤ 86400 * d + 3600 * h + 60 * mi + s) : OneSigned d h mi s :=
  ⟨by omega, Or.inl (by omega)⟩

/-- Such a tuple is determined by its length: within one sign the fields are the mixed-radix digits
    of the length, and two tuples of opposite signs have length `0`. -/
theorem dhms_unique (d h mi s d' h' mi' s' : Int)
    (e : 86400 * d + 3600 * h + 60 * mi + s = 86400 * d' + 3600 * h' + 60 * mi' + s')
    (p : OneSigned d h mi s) (p' : OneSigned d' h' mi' s') : d = d' ∧ h = h' ∧ mi = mi' ∧ s = s' := by
  unfold OneSigned at p p'
  grind

/-- Negating every field (`* -1`, as `Dur.neg` spells it) gives such a tuple, of the opposite
    length. -/
theorem dhms_neg (d h mi s x : Int) (e : 86400 * d + 3600 * h + 60 * mi + s = x)
    (p : OneSigned d h mi s) :
    86400 * (d * -1) + 3600 * (h * -1) + 60 * (mi * -1) + s * -1 = -x ∧
    OneSigned (d * -1) (h * -1) (mi * -1) (s * -1) := by
  unfold OneSigned at p ⊢
  grind

theorem subTP_spec (m : Mode) (a b : TP) (ha : a.Valid m) (hb : b.Valid m) :
    ∃ dd hh mm ss, subTP m a b = some (.units 0 0 dd hh mm ss) ∧
      86400 * dd + 3600 * hh + 60 * mm + ss = a.inst m - b.inst m ∧
      (-24 < hh ∧ hh < 24 ∧ -60 < mm ∧ mm < 60 ∧ -60 < ss ∧ ss < 60) ∧
      ((0 ≤ dd ∧ 0 ≤ hh ∧ 0 ≤ mm ∧ 0 ≤ ss) ∨ (dd ≤ 0 ∧ hh ≤ 0 ∧ mm ≤ 0 ∧ ss ≤ 0)) := by
  unfold subTP
  rw [cmp_spec m b a hb ha]
  simp only [Option.bind_eq_bind, Option.bind_some, sgn_pos_iff]
  -- `subCore` is called with the later point first, so it splits a length `≥ 0`
  split
  · next c =>
    obtain ⟨dd, hh, mm, ss, e, hl, r⟩ := subCore_spec m b a hb ha
    obtain ⟨l', p'⟩ := dhms_neg dd hh mm ss _ hl (oneSigned_of_floor dd hh mm ss r (by omega))
    rw [e]
    exact ⟨_, _, _, _, rfl, l'.trans (Int.neg_sub _ _), p'⟩
  · next c =>
    obtain ⟨dd, hh, mm, ss, e, hl, r⟩ := subCore_spec m a b ha hb
    rw [e]
    exact ⟨dd, hh, mm, ss, rfl, hl, oneSigned_of_floor dd hh mm ss r (by omega)⟩

/-- `a - b` is the one-signed tuple whose length is the distance between the instants. -/
theorem subTP_unique (m : Mode) (a b : TP) (ha : a.Valid m) (hb : b.Valid m) (d h mi s : Int)
    (e : 86400 * d + 3600 * h + 60 * mi + s = a.inst m - b.inst m) (p : OneSigned d h mi s) :
    subTP m a b = some (.units 0 0 d h mi s) := by
  obtain ⟨d', h', mi', s', e', l', p'⟩ := subTP_spec m a b ha hb
  obtain ⟨rfl, rfl, rfl, rfl⟩ := dhms_unique d h mi s d' h' mi' s' (e.trans l'.symm) p p'
  exact e'

theorem subCore_units (m : Mode) (a b : TP) (d : Dur) (h : subCore m a b = some d) :
    ∃ dd hh mi ss, d = .units 0 0 dd hh mi ss := by
  unfold subCore at h
  obtain ⟨b1, _, h⟩ := Option.bind_eq_some_iff.1 h
  obtain ⟨b2, _, h⟩ := Option.bind_eq_some_iff.1 h
  obtain ⟨a2, _, h⟩ := Option.bind_eq_some_iff.1 h
  split at h
  · cases h; exact ⟨_, _, _, _, rfl⟩
  · cases h

theorem subTP_units (m : Mode) (a b : TP) (d : Dur) (h : subTP m a b = some d) :
    ∃ dd hh mi ss, d = .units 0 0 dd hh mi ss := by
  unfold subTP at h
  obtain ⟨c, _, h⟩ := Option.bind_eq_some_iff.1 h
  split at h
  · rw [Option.map_eq_some_iff] at h
    obtain ⟨d0, h1, rfl⟩ := h
    obtain ⟨dd, hh, mi, ss, rfl⟩ := subCore_units m b a d0 h1
    exact ⟨_, _, _, _, rfl⟩
  · exact subCore_units m a b d h

theorem unixEpoch_eq : unixEpoch = ⟨.cal 1970 1 1, 0, 0, 0, ⟨0, 0⟩⟩ := by decide

theorem unixEpoch_valid (m : Mode) : unixEpoch.Valid m := by
  rw [unixEpoch_eq]; cases m <;> decide

theorem fromUnix_spec (m : Mode) (n : Int) (z : Option TZ) (hz : ∀ zz, z = some zz → zz.Valid) :
    ∃ q, fromUnix m n z = some q ∧ q.inst m = unixEpoch.inst m + n ∧ q.Strict m ∧
      q.tz = z.getD ⟨0, 0⟩ ∧ q.date.rep = 0 := by
  cases z with
  | none =>
    obtain ⟨q, e, g⟩ := addDur_exact_units m unixEpoch 0 0 0 n (unixEpoch_valid m)
    refine ⟨q, e, by rw [g.inst]; omega, g.strict, ?_, ?_⟩
    · rw [g.tz, unixEpoch_eq]; rfl
    · rw [g.rep, unixEpoch_eq]; rfl
  | some zz =>
    obtain ⟨r, e1, i1, t1, r1, v1, _⟩ := toTimeZone_spec m unixEpoch zz (unixEpoch_valid m) (hz zz rfl)
    obtain ⟨q, e, g⟩ := addDur_exact_units m r 0 0 0 n v1
    refine ⟨q, ?_, by rw [g.inst, i1]; omega, g.strict, ?_, ?_⟩
    · simp only [fromUnix, e1, Option.bind_some, e]
    · rw [g.tz, t1]; rfl
    · rw [g.rep, r1, unixEpoch_eq]; rfl

theorem secondsSinceUnixEpoch_spec (m : Mode) (p : TP) (hp : p.Valid m) :
    secondsSinceUnixEpoch m p = some (p.inst m - unixEpoch.inst m) := by
  obtain ⟨dd, hh, mm, ss, e, hl, _, _⟩ := subTP_spec m p unixEpoch hp (unixEpoch_valid m)
  have hd := (das_exact m (.units 0 0 dd hh mm ss) rfl).1
  rw [exactSeconds_units, hl] at hd
  simp only [secondsSinceUnixEpoch, e, Option.map_some, secondsInDay_eq, Option.some.injEq]
  omega

end IsoDT.Lemmas
