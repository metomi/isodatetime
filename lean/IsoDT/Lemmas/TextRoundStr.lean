/-
  IsoDT.Lemmas.TextRoundStr — the dumper half of the C08 round trip: `str` of a point made of a valid
  date, a legal zone and any time-of-day fields is the specified date, `T`, the time as its format
  renders, and the specified zone (`str_withTime`); for a valid whole-second point that is exactly
  `stdText` (`str_eq_stdText`).

  `_get_dump_format` writes the year's digits literally into the format string, so the dumper's
  chain of regex substitutions runs over a string with a symbolic block of digits in it.  The block
  is handled once and for all: no rule of the tables mentions a digit, so every rule acts on
  `fill O S` (the working string `S` with the marker `hole` replaced by the digit block `O`) as it
  acts on `S`, leaving the block alone (`compile_fill`).  The rest is evaluation of the concrete
  tables on concrete strings containing the marker.
-/
import IsoDT.Lemmas.TextRoundDefs
import IsoDT.Lemmas.Text
import IsoDT.Lemmas.TextParse
import IsoDT.Lemmas.Week

namespace IsoDT.Text
open IsoDT IsoDT.Model
open IsoDT.Spec (Date TZ TP)
open _root_.IsoDT.Gen.Templates (timeDesignator dumper_0 dumper_2 dumper_3 dumpTables)

-- `str` answers in `Except`; the test vectors above this file compare such answers by evaluation.
deriving instance DecidableEq for Except

/-! ## An opaque block of digits inside the working string -/

/-- The marker standing for the block: any piece will do that no substitution produces (`outSegs`
    turns a literal into `raw`) and no pattern matches (patterns match `raw` pieces only).  A marked
    string is only ever compiled, never rendered. -/
def hole : Seg := .dir (.lit '#')

def fill (O : List Char) : List Seg → List Seg
  | [] => []
  | s :: rest => if s = hole then O.map Seg.raw ++ fill O rest else s :: fill O rest

def noDigit (l : List Char) : Bool := l.all fun c => !isDigit c

def goodRule (r : DumpRule) : Bool := noDigit r.pat && noDigit r.ahead && noDigit r.behind

theorem fill_append (O : List Char) (a b : List Seg) : fill O (a ++ b) = fill O a ++ fill O b := by
  induction a with
  | nil => rfl
  | cons s a ih =>
    simp only [List.cons_append, fill, ih]
    split <;> simp

theorem fill_raw (O : List Char) (l : List Char) : fill O (l.map Seg.raw) = l.map Seg.raw := by
  induction l with
  | nil => rfl
  | cons c l ih => simp [fill, hole, ih]

theorem fill_outSegs (O : List Char) (out : List OutItem) : fill O (outSegs out) = outSegs out := by
  unfold outSegs
  induction out with
  | nil => rfl
  | cons o out ih =>
    simp only [List.map_cons, fill, ih]
    cases o <;> simp [hole]

theorem fill_hole (O : List Char) (rest : List Seg) : fill O (hole :: rest) = O.map Seg.raw ++ fill O rest := by
  simp [fill]

theorem fill_cons (O : List Char) {s : Seg} (hs : s ≠ hole) (rest : List Seg) :
    fill O (s :: rest) = s :: fill O rest := by
  simp only [fill, if_neg hs]

theorem matchRaw_some (pat : List Char) (S a : List Seg) (h : matchRaw pat S = some a) :
    S = pat.map Seg.raw ++ a := by
  induction pat generalizing S with
  | nil => simp [matchRaw] at h; simp [h]
  | cons c cs ih =>
    cases S with
    | nil => simp [matchRaw] at h
    | cons s S =>
      cases s with
      | dir o => simp [matchRaw] at h
      | raw x =>
        simp only [matchRaw] at h
        split at h
        · rename_i e; subst e; simp [ih S h]
        · exact absurd h (by simp)

theorem matchRaw_append (pat : List Char) (a : List Seg) : matchRaw pat (pat.map Seg.raw ++ a) = some a := by
  induction pat with
  | nil => rfl
  | cons c cs ih => simp [matchRaw, ih]

theorem matchRaw_fill (O : List Char) (hO : O ≠ []) (hd : O.all isDigit = true) (pat : List Char)
    (hp : noDigit pat = true) (S : List Seg) :
    matchRaw pat (fill O S) = (matchRaw pat S).map (fill O) := by
  induction pat generalizing S with
  | nil => simp [matchRaw]
  | cons c cs ih =>
    simp only [noDigit, List.all_cons, Bool.and_eq_true, Bool.not_eq_true'] at hp
    have hcs : noDigit cs = true := by simpa [noDigit] using hp.2
    cases S with
    | nil => simp [fill, matchRaw]
    | cons s S =>
      by_cases hs : s = hole
      · subst hs
        cases O with
        | nil => exact absurd rfl hO
        | cons d O =>
          simp only [List.all_cons, Bool.and_eq_true] at hd
          have hcd : c ≠ d := by
            intro e; subst e; rw [hd.1] at hp; exact absurd hp.1 (by simp)
          simp [fill, matchRaw, hole, hcd]
      · cases s with
        | dir o => simp [fill, hs, matchRaw]
        | raw x =>
          simp only [fill, hs, if_false, matchRaw]
          split
          · exact ih hcs S
          · rfl

theorem matchesAt_fill (O : List Char) (hO : O ≠ []) (hd : O.all isDigit = true) (r : DumpRule)
    (hr : goodRule r = true) (S : List Seg) : matchesAt r (fill O S) = matchesAt r S := by
  simp only [goodRule, Bool.and_eq_true] at hr
  unfold matchesAt
  rw [matchRaw_fill O hO hd r.pat hr.1.1 S]
  cases h : matchRaw r.pat S with
  | none => rfl
  | some a =>
    simp only [Option.map_some]
    rw [matchRaw_fill O hO hd r.ahead hr.1.2 a]
    cases matchRaw r.ahead a <;> rfl

theorem matchesAt_hole (r : DumpRule) (hne : r.pat ≠ []) (rest : List Seg) :
    matchesAt r (hole :: rest) = false := by
  unfold matchesAt
  cases hp : r.pat with
  | nil => exact absurd hp hne
  | cons c cs => rfl

theorem matchesAt_cons_fill (O : List Char) (hO : O ≠ []) (hd : O.all isDigit = true) (r : DumpRule)
    (hr : goodRule r = true) {s : Seg} (hs : s ≠ hole) (rest : List Seg) :
    matchesAt r (s :: fill O rest) = matchesAt r (s :: rest) := by
  rw [← fill_cons O hs, matchesAt_fill O hO hd r hr]

theorem matchesAt_digit (r : DumpRule) (hr : goodRule r = true) (hne : r.pat ≠ []) (d : Char)
    (hd : isDigit d = true) (S : List Seg) : matchesAt r (Seg.raw d :: S) = false := by
  simp only [goodRule, Bool.and_eq_true] at hr
  unfold matchesAt
  cases hp : r.pat with
  | nil => exact absurd hp hne
  | cons c cs =>
    have h1 := hr.1.1
    rw [hp] at h1
    simp only [noDigit, List.all_cons, Bool.and_eq_true, Bool.not_eq_true'] at h1
    have hcd : c ≠ d := by
      intro e; subst e; rw [hd] at h1; exact absurd h1.1 (by simp)
    simp [matchRaw, hcd]

theorem scan_digits (r : DumpRule) (hr : goodRule r = true) (hne : r.pat ≠ []) (O : List Char)
    (hd : O.all isDigit = true) (S : List Seg) :
    scan r 0 (O.map Seg.raw ++ S) = O.map Seg.raw ++ scan r 0 S := by
  induction O with
  | nil => rfl
  | cons d O ih =>
    simp only [List.all_cons, Bool.and_eq_true] at hd
    simp [scan, matchesAt_digit r hr hne d hd.1, ih hd.2]

theorem occurs_digits (r : DumpRule) (hr : goodRule r = true) (hne : r.pat ≠ []) (O : List Char)
    (hd : O.all isDigit = true) (S : List Seg) :
    occurs r (O.map Seg.raw ++ S) = occurs r S := by
  induction O with
  | nil => rfl
  | cons d O ih =>
    simp only [List.all_cons, Bool.and_eq_true] at hd
    simp [occurs, matchesAt_digit r hr hne d hd.1, ih hd.2]

theorem matchesAt_some (r : DumpRule) (S : List Seg) (h : matchesAt r S = true) :
    ∃ a, S = r.pat.map Seg.raw ++ a := by
  unfold matchesAt at h
  cases hm : matchRaw r.pat S with
  | none => simp [hm] at h
  | some a => exact ⟨a, matchRaw_some _ _ _ hm⟩

/-- One unanchored substitution pass leaves the block alone; `k` characters of a match, none of them
    the marker, are still to be dropped. -/
theorem scan_fill (O : List Char) (hO : O ≠ []) (hd : O.all isDigit = true) (r : DumpRule)
    (hr : goodRule r = true) (hne : r.pat ≠ []) :
    ∀ (S : List Seg) (k : Nat), (∀ s ∈ S.take k, s ≠ hole) → scan r k (fill O S) = fill O (scan r k S) := by
  intro S
  induction S with
  | nil => intro k _; cases k <;> rfl
  | cons s rest ih =>
    intro k hk
    cases k with
    | succ k =>
      rw [fill_cons O (hk s (by simp))]
      exact ih k (fun x hx => hk x (by simp [hx]))
    | zero =>
      by_cases hs : s = hole
      · subst hs
        rw [fill_hole, scan_digits r hr hne O hd, ih 0 (by simp)]
        simp only [scan, matchesAt_hole r hne, Bool.false_eq_true, if_false, fill_hole]
      · rw [fill_cons O hs]
        simp only [scan, matchesAt_cons_fill O hO hd r hr hs]
        cases hm : matchesAt r (s :: rest) with
        | false => simp only [Bool.false_eq_true, if_false, fill_cons O hs, ih 0 (by simp)]
        | true =>
          obtain ⟨a, ha⟩ := matchesAt_some r _ hm
          have hnh : ∀ x ∈ rest.take (r.pat.length - 1), x ≠ hole := by
            cases hp : r.pat with
            | nil => exact absurd hp hne
            | cons c cs =>
              rw [hp] at ha
              simp only [List.map_cons, List.cons_append, List.cons.injEq] at ha
              rw [ha.2]
              intro x hx
              have ht : (List.map Seg.raw cs ++ a).take ((c :: cs).length - 1) = cs.map Seg.raw := by simp
              rw [ht] at hx
              obtain ⟨y, _, rfl⟩ := List.mem_map.mp hx
              exact fun h => Seg.noConfusion h
          simp only [if_true, ih _ hnh, fill_append, fill_outSegs]

theorem occurs_fill (O : List Char) (hO : O ≠ []) (hd : O.all isDigit = true) (r : DumpRule)
    (hr : goodRule r = true) (hne : r.pat ≠ []) (S : List Seg) :
    occurs r (fill O S) = occurs r S := by
  induction S with
  | nil => rfl
  | cons s rest ih =>
    by_cases hs : s = hole
    · subst hs
      rw [fill_hole, occurs_digits r hr hne O hd, ih]
      simp only [occurs, matchesAt_hole r hne, Bool.false_or]
    · simp only [fill_cons O hs, occurs, matchesAt_cons_fill O hO hd r hr hs, ih]

theorem applyRule_fill (O : List Char) (hO : O ≠ []) (hd : O.all isDigit = true) (r : DumpRule)
    (hr : goodRule r = true) (S : List Seg) :
    applyRule r (fill O S) = (fill O (applyRule r S).1, (applyRule r S).2) := by
  unfold applyRule
  by_cases hne : r.pat = []
  · simp [hne]
  · have hE : r.pat.isEmpty = false := by simpa using hne
    simp only [hE, Bool.false_eq_true, if_false]
    cases ha : r.anchored with
    | false =>
      simp only [Bool.false_eq_true, if_false]
      rw [scan_fill O hO hd r hr hne S 0 (by simp), occurs_fill O hO hd r hr hne]
    | true =>
      simp only [if_true]
      have hb : noDigit r.behind = true := by
        simp only [goodRule, Bool.and_eq_true] at hr; exact hr.2
      rw [matchRaw_fill O hO hd r.behind hb S]
      cases hmb : matchRaw r.behind S with
      | none => rfl
      | some after =>
        simp only [Option.map_some]
        rw [matchesAt_fill O hO hd r hr after]
        cases hm : matchesAt r after with
        | false => rfl
        | true =>
          obtain ⟨a, ha⟩ := matchesAt_some r _ hm
          simp only [if_true]
          rw [ha, fill_append, fill_raw, fill_append, fill_append, fill_raw, fill_outSegs]
          simp

theorem compile_fill (O : List Char) (hO : O ≠ []) (hd : O.all isDigit = true) (rs : List DumpRule)
    (hrs : rs.all goodRule = true) (S : List Seg) :
    compile rs (fill O S) = (fill O (compile rs S).1, (compile rs S).2) := by
  induction rs generalizing S with
  | nil => rfl
  | cons r rs ih =>
    simp only [List.all_cons, Bool.and_eq_true] at hrs
    simp only [compile]
    rw [applyRule_fill O hO hd r hrs.1 S, ih hrs.2]

/-! ## The concrete tables on the marked strings -/

theorem dateRules_good : ∀ dt ∈ dumpTables, dt.date.all goodRule = true := by decide +kernel

/-- The date part of the default format after the year, by representation number. -/
def dateSuffixK : Nat → List Char
  | 0 => ['-', 'M', 'M', '-', 'D', 'D']
  | 1 => ['-', 'D', 'D', 'D']
  | _ => ['-', 'W', 'w', 'w', '-', 'D']

def dateSegsK : Nat → List Seg
  | 0 => [.raw '-', .dir (.int .monthOfYear 2), .raw '-', .dir (.int .dayOfMonth 2)]
  | 1 => [.raw '-', .dir (.int .dayOfYear 3)]
  | _ => [.raw '-', .raw 'W', .dir (.int .weekOfYear 2), .raw '-', .dir (.int .dayOfWeek 1)]

def datePropsK : Nat → List DProp
  | 0 => [.monthOfYear, .dayOfMonth]
  | 1 => [.dayOfYear]
  | _ => [.weekOfYear, .dayOfWeek]

theorem rep_mem (d : Date) : d.rep ∈ [0, 1, 2] := by cases d <;> simp [Date.rep]

theorem compile_date_marked : ∀ dt ∈ dumpTables, ∀ pre ∈ [[], ['+'], ['-']], ∀ k ∈ [0, 1, 2],
    compile dt.date (pre.map Seg.raw ++ hole :: (dateSuffixK k).map Seg.raw) =
      (pre.map Seg.raw ++ hole :: dateSegsK k, datePropsK k) := by decide +kernel

theorem fill_dateSegsK (O : List Char) : ∀ k ∈ [0, 1, 2], fill O (dateSegsK k) = dateSegsK k := by
  intro k hk
  simp only [List.mem_cons, List.not_mem_nil, or_false] at hk
  rcases hk with rfl | rfl | rfl <;> simp [dateSegsK, fill, hole]

theorem compile_date (dt : DumpTables) (hdt : dt ∈ dumpTables) (pre : List Char)
    (hpre : pre ∈ [[], ['+'], ['-']]) (k : Nat) (hk : k ∈ [0, 1, 2]) (O : List Char) (hO : O ≠ [])
    (hd : O.all isDigit = true) :
    compile dt.date ((pre ++ O ++ dateSuffixK k).map Seg.raw) =
      (pre.map Seg.raw ++ O.map Seg.raw ++ dateSegsK k, datePropsK k) := by
  have e : (pre ++ O ++ dateSuffixK k).map Seg.raw =
      fill O (pre.map Seg.raw ++ hole :: (dateSuffixK k).map Seg.raw) := by
    rw [fill_append, fill_raw, fill_hole, fill_raw]; simp
  rw [e, compile_fill O hO hd dt.date (dateRules_good dt hdt), compile_date_marked dt hdt pre hpre k hk]
  simp only
  rw [fill_append, fill_raw, fill_hole, fill_dateSegsK O k hk]; simp

/-! ## `_get_expression_and_properties` on a format with a time part -/

/-- The split of the text after the `T` into time, zone and literal zone, as `getExpr` does it. -/
def tzSplit (time0 : List Char) : Option (List Char × List Char × Option (Int × Int)) :=
  if time0.getLast? = some 'Z' then some (time0.dropLast, ['Z'], some (0, 0))
  else if hasInfix ['+', 'h', 'h'] time0 then
    match splitOnChar '+' time0 with
    | [a, b] => some (a, '+' :: b, none)
    | _ => none
  else if time0.contains '+' then
    match splitOnChar '+' time0 with
    | [a, b] => some (a, '+' :: b, getTimeZone ('+' :: b))
    | _ => none
  else if (time0.dropWhile (· = '-')).contains '-' then
    match splitOnChar '-' time0 with
    | [a, b] => some (a, '-' :: b, getTimeZone ('-' :: b))
    | _ => none
  else some (time0, [], none)

/-- What `getExpr` does with the text after the `T`: the split, the compiled time and zone and the
    literal zone. -/
def timeZonePart (dt : DumpTables) (time0 : List Char) :
    Option (List Seg × List DProp × Option (Int × Int)) :=
  match tzSplit time0 with
  | none => none
  | some (timeS, zoneS, custom) =>
    some ((compile dt.time (timeS.map Seg.raw)).1 ++ (compile dt.zone (zoneS.map Seg.raw)).1,
          (compile dt.time (timeS.map Seg.raw)).2 ++ (compile dt.zone (zoneS.map Seg.raw)).2, custom)

theorem getExpr_T (dt : DumpTables) (D R : List Char) (hD : 'T' ∉ D) (hR : 'T' ∉ R) :
    getExpr dt (D ++ 'T' :: R) =
      (timeZonePart dt R).map fun x =>
        { segs := (compile dt.date (D.map Seg.raw)).1 ++ Seg.raw 'T' :: x.1,
          props := (compile dt.date (D.map Seg.raw)).2 ++ x.2.1, customTZ := x.2.2 } := by
  unfold getExpr timeZonePart
  simp only [timeDesignator, splitOnChar_one 'T' D R hD hR]
  simp only [List.headD_cons, List.length_cons, List.length_nil, List.getD_cons_succ,
    List.getD_cons_zero, Nat.zero_add, Nat.reduceAdd, Nat.reduceLT, gt_iff_lt, decide_true,
    Bool.not_true, Bool.false_eq_true, if_false, if_true]
  split
  · rename_i h
    have h' : tzSplit R = none := h
    rw [h']; rfl
  · rename_i timeS zoneS custom h
    have h' : tzSplit R = some (timeS, zoneS, custom) := h
    rw [h']; simp only [Option.map_some, List.append_assoc]

/-! ## The time and zone halves of the default format (concrete) -/

def hmsFmt : List Char := ['h', 'h', ':', 'm', 'm', ':', 's', 's']

def timeSegs : List Seg :=
  [.dir (.int .hourOfDay 2), .raw ':', .dir (.int .minuteOfHour 2), .raw ':', .dir (.int .secondOfMinute 2)]

/-- In the order in which the rules of the time table fire. -/
def timeProps : List DProp := [.minuteOfHour, .hourOfDay, .secondOfMinute]

def offFmt : List Char := ['+', 'h', 'h', ':', 'm', 'm']
def offSegs : List Seg := [.dir (.str .tzSign), .dir (.int .tzHourAbs 2), .raw ':', .dir (.int .tzMinuteAbs 2)]
def offProps : List DProp := [.tzMinuteAbs, .tzHourAbs, .tzSign]

/-- The zone of the default format, what it compiles to, and the literal zone it carries: `Z` at
    offset zero, else `+hh:mm`. -/
def zoneSuffix (z : TZ) : List Char := if z.h = 0 ∧ z.mi = 0 then ['Z'] else offFmt

def zoneSegs (z : TZ) : List Seg := if z.h = 0 ∧ z.mi = 0 then [.raw 'Z'] else offSegs

def zoneProps (z : TZ) : List DProp := if z.h = 0 ∧ z.mi = 0 then [] else offProps

def zoneCustom (z : TZ) : Option (Int × Int) := if z.h = 0 ∧ z.mi = 0 then some (0, 0) else none

/-- What the dumper makes of one time format followed by `Z` / by `+hh:mm`, for every table. -/
def timeCompiles (F : List Char) (TS : List Seg) (TPr : List DProp) : Bool :=
  dumpTables.all fun dt =>
    decide (timeZonePart dt (F ++ ['Z']) = some (TS ++ [.raw 'Z'], TPr ++ [], some (0, 0))) &&
    decide (timeZonePart dt (F ++ offFmt) = some (TS ++ offSegs, TPr ++ offProps, none))

theorem compiles_hms : timeCompiles hmsFmt timeSegs timeProps = true := by decide +kernel

theorem timeZonePart_of (F : List Char) (TS : List Seg) (TPr : List DProp) (hc : timeCompiles F TS TPr = true)
    (dt : DumpTables) (hdt : dt ∈ dumpTables) (z : TZ) :
    timeZonePart dt (F ++ zoneSuffix z) = some (TS ++ zoneSegs z, TPr ++ zoneProps z, zoneCustom z) := by
  have hc := List.all_eq_true.mp hc dt hdt
  simp only [Bool.and_eq_true, decide_eq_true_eq] at hc
  unfold zoneSuffix zoneSegs zoneProps zoneCustom
  split
  · exact hc.1
  · exact hc.2

/-- The properties of an expression ask for no change of representation of a point whose week flag
    is `w`: week properties exactly when `w`, and no month, day or day-of-year on a week point. -/
def KeepsRep (props : List DProp) (w : Bool) : Prop :=
  (props.contains .weekOfYear || props.contains .dayOfWeek) = w ∧
  (w && (props.contains .monthOfYear || props.contains .dayOfMonth || props.contains .dayOfYear)) = false

/-- The properties a time format contributes do not disturb the representation / year checks of
    `_dump_expression_with_properties`. -/
def propsOK (TPr : List DProp) : Bool :=
  [0, 1, 2].all fun k => [[], offProps].all fun zp =>
    let ps := datePropsK k ++ (TPr ++ zp)
    ((ps.contains .weekOfYear || ps.contains .dayOfWeek) == decide (k = 2)) &&
    ((decide (k = 2) &&
      (ps.contains .monthOfYear || ps.contains .dayOfMonth || ps.contains .dayOfYear)) == false) &&
    (ps.contains .century == false) && (ps.contains .expandedYearDigits == false)

theorem zoneProps_mem (z : TZ) : zoneProps z ∈ [[], offProps] := by
  unfold zoneProps; split <;> simp

theorem propsOK_spec (TPr : List DProp) (h : propsOK TPr = true) (d : Date) (z : TZ) :
    KeepsRep (datePropsK d.rep ++ (TPr ++ zoneProps z)) (decide (d.rep = 2)) ∧
    (datePropsK d.rep ++ (TPr ++ zoneProps z)).contains .century = false ∧
    (datePropsK d.rep ++ (TPr ++ zoneProps z)).contains .expandedYearDigits = false := by
  unfold propsOK at h
  have h1 := List.all_eq_true.mp h d.rep (rep_mem d)
  have h2 := List.all_eq_true.mp h1 (zoneProps z) (zoneProps_mem z)
  simp only [Bool.and_eq_true, beq_iff_eq] at h2
  obtain ⟨⟨⟨a, b⟩, c⟩, e⟩ := h2
  exact ⟨⟨a, b⟩, c, e⟩

section fields
variable (ned : Nat) (P : TP)

theorem ofTP_ned : (XTP.ofTP ned P).ned = ned := by
  obtain ⟨d, hh, mi, ss, tz⟩ := P; cases d <;> rfl
theorem ofTP_year : (XTP.ofTP ned P).year = some (dateYear P.date) := by
  obtain ⟨d, hh, mi, ss, tz⟩ := P; cases d <;> rfl
theorem ofTP_hour : (XTP.ofTP ned P).hour = some P.hh := by
  obtain ⟨d, hh, mi, ss, tz⟩ := P; cases d <;> rfl
theorem ofTP_minute : (XTP.ofTP ned P).minute = some P.mi := by
  obtain ⟨d, hh, mi, ss, tz⟩ := P; cases d <;> rfl
theorem ofTP_second : (XTP.ofTP ned P).second = some P.ss := by
  obtain ⟨d, hh, mi, ss, tz⟩ := P; cases d <;> rfl
theorem ofTP_tz : (XTP.ofTP ned P).tz = P.tz := by
  obtain ⟨d, hh, mi, ss, tz⟩ := P; cases d <;> rfl
theorem ofTP_tzUnknown : (XTP.ofTP ned P).tzUnknown = false := by
  obtain ⟨d, hh, mi, ss, tz⟩ := P; cases d <;> rfl
theorem ofTP_truncated : (XTP.ofTP ned P).truncated = false := by
  obtain ⟨d, hh, mi, ss, tz⟩ := P; cases d <;> rfl
theorem ofTP_dumpFmt : (XTP.ofTP ned P).dumpFmt = none := by
  obtain ⟨d, hh, mi, ss, tz⟩ := P; cases d <;> rfl
theorem ofTP_isWeek : (XTP.ofTP ned P).isWeek = decide (P.date.rep = 2) := by
  obtain ⟨d, hh, mi, ss, tz⟩ := P; cases d <;> rfl
theorem ofTP_toTP : (XTP.ofTP ned P).toTP? = some P := by
  obtain ⟨d, hh, mi, ss, tz⟩ := P; cases d <;> rfl

end fields

theorem xtp_toTimeZone (m : Mode) (ned : Nat) (P Q : TP) (z : TZ)
    (hq : Model.toTimeZone m P z = some Q) :
    (XTP.ofTP ned P).toTimeZone m z = .ok (XTP.ofTP ned Q) := by
  unfold XTP.toTimeZone
  rw [ofTP_tzUnknown, ofTP_tz]
  by_cases h : P.tz = z
  · have hQ : Q = P := by
      unfold Model.toTimeZone at hq
      rw [if_pos ⟨by rw [h], by rw [h]⟩] at hq
      exact (Option.some.inj hq).symm
    subst hQ
    simp [h]
  · simp only [h, Bool.not_false, Bool.true_and, decide_false, Bool.false_eq_true, if_false]
    simp only [ofTP_toTP, hq, ofTP_ned, ofTP_dumpFmt]
    congr 1
    obtain ⟨d, hh, mi, ss, tz⟩ := Q; cases d <;> rfl

/-! ## Points given by a date, a zone and any time-of-day fields -/

def XTP.withTime (p : XTP) (h mi s : Option Int) (hd md sd : Option (List Char)) : XTP :=
  { p with hour := h, minute := mi, second := s, hourDec := hd, minuteDec := md, secondDec := sd }

def dateBase (ned : Nat) (date : Date) (tz : TZ) : XTP := XTP.ofTP ned ⟨date, 0, 0, 0, tz⟩

theorem ofTP_withTime (ned : Nat) (date : Date) (hh mi ss : Int) (tz : TZ) :
    XTP.ofTP ned ⟨date, hh, mi, ss, tz⟩ =
      (dateBase ned date tz).withTime (some hh) (some mi) (some ss) none none none := by
  cases date <;> rfl

theorem withTime_fields (ned : Nat) (date : Date) (tz : TZ) (h mi s : Option Int)
    (hd md sd : Option (List Char)) (p : XTP) (hp : p = (dateBase ned date tz).withTime h mi s hd md sd) :
    p.ned = ned ∧ p.dumpFmt = none ∧ p.truncated = false ∧ p.year = some (dateYear date) ∧
    p.tzUnknown = false ∧ p.isWeek = decide (date.rep = 2) ∧ p.tz = tz := by
  subst hp
  cases date <;> exact ⟨rfl, rfl, rfl, rfl, rfl, rfl, rfl⟩

/-- The sign `_get_dump_format` writes: only with expanded year digits. -/
def ySign (ned : Nat) (y : Int) : List Char := if ned = 0 then [] else [if y < 0 then '-' else '+']

/-- The year digits `_get_dump_format` writes for a year in range. -/
def yDigits (ned : Nat) (y : Int) : List Char := renderNat (4 + ned) y.natAbs

theorem padNat_eq (w v : Nat) (h : v < 10 ^ w) (hw : w ≠ 0 := by omega) : padNat w v = renderNat w v := by
  simp [padNat, h, hw]

theorem pad2 (v : Int) (h0 : 0 ≤ v) (h1 : v < 100) : padNat 2 v.toNat = renderNat 2 v.toNat :=
  padNat_eq _ _ (by simp only [Nat.reducePow]; omega)

theorem ySign_mem (ned : Nat) (y : Int) : ySign ned y ∈ [[], ['+'], ['-']] := by
  unfold ySign; split
  · simp
  · split <;> simp

theorem yDigits_ne (ned : Nat) (y : Int) : yDigits ned y ≠ [] := by
  intro h
  have := congrArg List.length h
  simp [yDigits, renderNat_length] at this

theorem yDigits_digits (ned : Nat) (y : Int) : (yDigits ned y).all isDigit = true :=
  renderNat_digits _ _

/-- The time part of the default format, by which units are present. -/
def timeFmt (mi s : Option Int) (sd : Option (List Char)) : List Char :=
  ['h', 'h'] ++
    (if mi.isNone then [',', 'i', 'i']
     else [':', 'm', 'm'] ++
       (if s.isNone then [',', 'n', 'n']
        else [':', 's', 's'] ++
          (if (sd.map fun s => !fracZero s).getD false then [',', 't', 't'] else [])))

/-- The year as `_get_dump_format` writes it, for a year the agreed digits can spell. -/
theorem yearFmt_ok (ned : Nat) (y : Int) (hy : YearInRange ned y) :
    (if ned ≠ 0 then Except.ok ((if y < 0 then '-' else '+') :: padNat (4 + ned) y.natAbs)
     else if y < 0 then Except.error DumpErr.overflow else Except.ok (padNat 4 y.natAbs)) =
      Except.ok (ySign ned y ++ yDigits ned y) := by
  unfold ySign yDigits
  unfold YearInRange at hy
  by_cases hn : ned = 0
  · subst hn
    rw [if_pos rfl] at hy
    rw [if_neg (by decide), if_neg (Int.not_lt.mpr hy.1), if_pos rfl, padNat_eq 4 _ (by omega)]; rfl
  · rw [if_neg hn] at hy
    rw [if_pos hn, if_neg hn, padNat_eq _ _ hy]; rfl

/-- `_get_dump_format` of a point that shows a year and a date: the year text (or its overflow),
    the date tokens, the time tokens by the units present, the zone tokens. -/
theorem getDumpFormat_eq (p : XTP) (y : Int) (ds : List Char) (hy : p.year = some y)
    (hds : (if p.month.isSome then some ['-', 'M', 'M', '-', 'D', 'D']
      else if p.doy.isSome then some ['-', 'D', 'D', 'D']
      else if p.week.isSome then some ['-', 'W', 'w', 'w', '-', 'D'] else none) = some ds) :
    getDumpFormat p =
      match (if p.ned ≠ 0 then Except.ok ((if y < 0 then '-' else '+') :: padNat (4 + p.ned) y.natAbs)
        else if y < 0 then Except.error DumpErr.overflow else Except.ok (padNat 4 y.natAbs)) with
      | .error e => .error e
      | .ok ys => .ok ((ys ++ ds) ++ 'T' :: (timeFmt p.minute p.second p.secondDec ++ zoneSuffix p.tz)) := by
  unfold getDumpFormat
  rw [hy]
  simp only []
  split
  · rename_i h; rw [h]
  · rename_i h; rw [h, hds]
    simp only [timeFmt, zoneSuffix, offFmt, List.append_assoc, List.cons_append, List.nil_append]

theorem dumpFormat_withTime (ned : Nat) (date : Date) (tz : TZ) (hy : YearInRange ned (dateYear date))
    (h mi s : Option Int) (hd md sd : Option (List Char)) :
    getDumpFormat ((dateBase ned date tz).withTime h mi s hd md sd) =
      .ok ((ySign ned (dateYear date) ++ yDigits ned (dateYear date) ++ dateSuffixK date.rep) ++
        'T' :: (timeFmt mi s sd ++ zoneSuffix tz)) := by
  obtain ⟨hned, _, _, hyr, _, _, htz⟩ := withTime_fields ned date tz h mi s hd md sd _ rfl
  rw [getDumpFormat_eq _ (dateYear date) (dateSuffixK date.rep) hyr (by cases date <;> rfl), hned,
    yearFmt_ok ned _ hy, htz]
  rfl

/-! ## `expression % property_map` -/

theorem renderSegs_raw (m : Mode) (p : XTP) (l : List Char) : renderSegs m p (l.map Seg.raw) = some l := by
  induction l with
  | nil => rfl
  | cons c l ih => simp [renderSegs, ih]

theorem renderSegs_append (m : Mode) (p : XTP) (a b : List Seg) (x y : List Char)
    (ha : renderSegs m p a = some x) (hb : renderSegs m p b = some y) :
    renderSegs m p (a ++ b) = some (x ++ y) := by
  induction a generalizing x with
  | nil => simp only [renderSegs, Option.some.injEq] at ha; subst ha; simpa using hb
  | cons s a ih =>
    cases hr : renderSegs m p a with
    | none =>
      cases s with
      | raw c => simp [renderSegs, hr] at ha
      | dir o => cases o <;> simp [renderSegs, hr] at ha
    | some x' =>
      have ih' := ih x' hr
      cases s with
      | raw c =>
        simp only [renderSegs, hr, Option.map_some, Option.some.injEq] at ha
        subst ha; simp [renderSegs, ih']
      | dir o =>
        cases o with
        | lit c =>
          simp only [renderSegs, hr, Option.map_some, Option.some.injEq] at ha
          subst ha; simp [renderSegs, ih']
        | int pr w =>
          cases hi : intProp m p pr with
          | none => simp [renderSegs, hi] at ha
          | some v =>
            simp only [renderSegs, hr, hi, Option.some.injEq] at ha
            subst ha; simp [renderSegs, ih', hi]
        | str pr =>
          cases hi : strProp p pr with
          | none => simp [renderSegs, hi] at ha
          | some v =>
            simp only [renderSegs, hr, hi, Option.some.injEq] at ha
            subst ha; simp [renderSegs, ih', hi]

/-- The date groups after the year, as `stdText` spells them. -/
def dateRestTmpl : Date → Template
  | .cal .. => [.lit '-', .digits .monthOfYear 2, .lit '-', .digits .dayOfMonth 2]
  | .ord .. => [.lit '-', .digits .dayOfYear 3]
  | .week .. => [.lit '-', .lit 'W', .digits .weekOfYear 2, .lit '-', .digits .dayOfWeek 1]

def dateRestEnv : Date → Env
  | .cal _ mo d => [(.monthOfYear, renderNat 2 mo.toNat), (.dayOfMonth, renderNat 2 d.toNat)]
  | .ord _ doy => [(.dayOfYear, renderNat 3 doy.toNat)]
  | .week _ w d => [(.weekOfYear, renderNat 2 w.toNat), (.dayOfWeek, renderNat 1 d.toNat)]

theorem dateTmpl_eq (ned : Nat) (d : Date) : dateTmpl ned d = yearTmpl ned ++ dateRestTmpl d := by
  cases d <;> rfl

theorem dateEnv_eq (ned : Nat) (d : Date) :
    dateEnv ned d = yearEnv ned (dateYear d) ++ dateRestEnv d := by
  cases d <;> rfl

/-- The date fields are spelled by their digit groups without loss. -/
def DateFit : Date → Prop
  | .cal _ mo d => 0 ≤ mo ∧ mo < 100 ∧ 0 ≤ d ∧ d < 100
  | .ord _ doy => 0 ≤ doy ∧ doy < 1000
  | .week _ w d => 0 ≤ w ∧ w < 100 ∧ 0 ≤ d ∧ d < 10

theorem dateFit_of_valid (m : Mode) (date : Date) (hd : date.Valid m) : DateFit date := by
  cases date with
  | cal y mo d =>
    obtain ⟨v1, v2, v3, v4⟩ := hd
    have := (IsoDT.Lemmas.monthLen_bounds m y mo v1 v2).2
    exact ⟨by omega, by omega, by omega, by omega⟩
  | ord y doy =>
    obtain ⟨v1, v2⟩ := hd
    have := (IsoDT.Lemmas.yearLen_bounds m y).2
    exact ⟨by omega, by omega⟩
  | week y w d =>
    obtain ⟨v1, v2, v3, v4⟩ := hd
    have := (IsoDT.Lemmas.weeksInYear_bounds m y).2
    exact ⟨by omega, by omega, by omega, by omega⟩

theorem render_date (m : Mode) (ned : Nat) (P : TP) (hv : P.date.Valid m) :
    renderSegs m (XTP.ofTP ned P) (dateSegsK P.date.rep) =
      some (trender (dateRestTmpl P.date) (dateRestEnv P.date)) := by
  have hf := dateFit_of_valid m P.date hv
  obtain ⟨d, hh, mi, ss, tz⟩ := P
  cases d with
  | cal y mo d =>
    obtain ⟨p1, q1, p2, q2⟩ := hf
    have e1 := pad2 mo p1 q1
    have e2 := pad2 d p2 q2
    simp [Date.rep, dateSegsK, dateRestTmpl, dateRestEnv, renderSegs, intProp, XTP.ofTP, trender, e1, e2, p1, p2]
  | ord y doy =>
    obtain ⟨p1, q1⟩ := hf
    have e1 : padNat 3 doy.toNat = renderNat 3 doy.toNat := padNat_eq _ _ (by simp only [Nat.reducePow]; omega)
    simp [Date.rep, dateSegsK, dateRestTmpl, dateRestEnv, renderSegs, intProp, XTP.ofTP, trender, e1, p1]
  | week y w d =>
    obtain ⟨p1, q1, p2, q2⟩ := hf
    have e1 := pad2 w p1 q1
    have e2 : padNat 1 d.toNat = renderNat 1 d.toNat := padNat_eq _ _ (by simp only [Nat.reducePow]; omega)
    simp [Date.rep, dateSegsK, dateRestTmpl, dateRestEnv, renderSegs, intProp, XTP.ofTP, trender, e1, e2, p1, p2]

theorem render_time (m : Mode) (ned : Nat) (P : TP) (h0 : 0 ≤ P.hh) (h1 : P.hh ≤ 24) (h2 : 0 ≤ P.mi)
    (h3 : P.mi < 60) (h4 : 0 ≤ P.ss) (h5 : P.ss < 60) :
    renderSegs m (XTP.ofTP ned P) timeSegs = some (trender timeTmpl (timeEnv P)) := by
  have e1 := pad2 P.hh h0 (by omega)
  have e2 := pad2 P.mi h2 (by omega)
  have e3 := pad2 P.ss h4 (by omega)
  simp [timeSegs, timeTmpl, timeEnv, renderSegs, intProp, ofTP_hour, ofTP_minute, ofTP_second, trender,
    e1, e2, e3, h0, h2, h4]

theorem render_zone (m : Mode) (ned : Nat) (P : TP) (hz : P.tz.Valid) :
    renderSegs m (XTP.ofTP ned P) (zoneSegs P.tz) = some (trender (zoneTmpl P.tz) (zoneEnv P.tz)) := by
  obtain ⟨h1, h2, h3, h4, _, _⟩ := hz
  unfold zoneSegs zoneTmpl zoneEnv offSegs
  by_cases h0 : P.tz.h = 0 ∧ P.tz.mi = 0
  · simp [h0, renderSegs, trender]
  · have e1 : padNat 2 P.tz.h.natAbs = renderNat 2 P.tz.h.natAbs :=
      padNat_eq _ _ (by simp only [Nat.reducePow]; omega)
    have e2 : padNat 2 P.tz.mi.natAbs = renderNat 2 P.tz.mi.natAbs :=
      padNat_eq _ _ (by simp only [Nat.reducePow]; omega)
    simp only [h0, if_false]
    simp only [renderSegs, intProp, strProp, ofTP_tz, e2, trender]
    by_cases hs : P.tz.h < 0 ∨ P.tz.mi < 0 <;> simp [hs, e1]

theorem renderNat_year (ned n : Nat) :
    renderNat (4 + ned) n =
      renderNat ned (n / 10000) ++ (renderNat 2 (n / 100 % 100) ++ renderNat 2 (n % 100)) := by
  have h1 := renderNat_split ned 4 n
  have h2 := renderNat_mod 2 (n / 100)
  simp only [Nat.reducePow] at h1 h2
  rw [Nat.add_comm, h1, renderNat_four, h2]

theorem renderNat_two (v : Nat) :
    ∃ a b, renderNat 2 v = [a, b] ∧ isDigit a = true ∧ isDigit b = true := by
  have hl := renderNat_length 2 v
  have hd := renderNat_digits 2 v
  match h : renderNat 2 v, hl, hd with
  | [a, b], _, hd =>
    simp only [List.all_cons, List.all_nil, Bool.and_true, Bool.and_eq_true] at hd
    exact ⟨a, b, rfl, hd.1, hd.2⟩

/-- The year groups of `stdText` are the sign and digits `_get_dump_format` wrote. -/
theorem trender_year (ned : Nat) (y : Int) (rest : Template) (env : Env) :
    trender (yearTmpl ned ++ rest) (yearEnv ned y ++ env) =
      ySign ned y ++ yDigits ned y ++ trender rest env := by
  unfold yearTmpl yearEnv ySign yDigits
  by_cases hn : ned = 0
  · subst hn
    simp [trender, renderNat_four]
  · simp [hn, trender, renderNat_year]

/-! ## Dumper half: pieces that do not read the time of day -/

def timeFree : Seg → Bool
  | .dir (.int pr _) => !(pr == .hourOfDay || pr == .minuteOfHour || pr == .secondOfMinute)
  | .dir (.str pr) => !(pr == .hourDecStr || pr == .minuteDecStr || pr == .secondDecStr)
  | _ => true

theorem intProp_withTime (m : Mode) (p : XTP) (h mi s : Option Int) (hd md sd : Option (List Char))
    (pr : DProp) (w : Nat) (hp : timeFree (.dir (.int pr w)) = true) :
    intProp m (p.withTime h mi s hd md sd) pr = intProp m p pr := by
  cases pr <;> first | rfl | (revert hp; simp [timeFree])

theorem strProp_withTime (p : XTP) (h mi s : Option Int) (hd md sd : Option (List Char))
    (pr : DProp) (hp : timeFree (.dir (.str pr)) = true) :
    strProp (p.withTime h mi s hd md sd) pr = strProp p pr := by
  cases pr <;> first | rfl | exact absurd hp (by decide)

theorem renderSegs_withTime (m : Mode) (p : XTP) (h mi s : Option Int) (hd md sd : Option (List Char))
    (segs : List Seg) (hs : segs.all timeFree = true) :
    renderSegs m (p.withTime h mi s hd md sd) segs = renderSegs m p segs := by
  induction segs with
  | nil => rfl
  | cons sg rest ih =>
    simp only [List.all_cons, Bool.and_eq_true] at hs
    have ih := ih hs.2
    cases sg with
    | raw c => simp only [renderSegs, ih]
    | dir o =>
      cases o with
      | lit c => simp only [renderSegs, ih]
      | int pr w => simp only [renderSegs, ih, intProp_withTime m p h mi s hd md sd pr w hs.1]
      | str pr => simp only [renderSegs, ih, strProp_withTime p h mi s hd md sd pr hs.1]

theorem dateSegsK_timeFree : ∀ k ∈ [0, 1, 2], (dateSegsK k).all timeFree = true := by decide

theorem zoneSegs_timeFree (z : TZ) : (zoneSegs z).all timeFree = true := by
  unfold zoneSegs; split <;> decide

/-! ## `_dump_expression_with_properties` when nothing has to change -/

/-- `p2` is `p` taken to the literal zone the expression carries (`custom_time_zone`), if any. -/
def Rezoned (m : Mode) (p : XTP) : Option (Int × Int) → XTP → Prop
  | none, p2 => p2 = p
  | some (h, mi), p2 => ∃ z, mkTZ m h mi = some z ∧ p.toTimeZone m z = .ok p2

/-- `_dump_expression_with_properties` on a non-truncated point whose representation the expression's
    properties do not ask to change, given the re-zoned point `p2` and its year: the two year checks,
    then the rendering of `p2`. -/
theorem dumpExpr_sameRep (m : Mode) (dt : DumpTables) (p p2 : XTP) (y : Int) (segs : List Seg)
    (props : List DProp) (custom : Option (Int × Int))
    (htr : p.truncated = false) (hrep : KeepsRep props p.isWeek)
    (hp2 : Rezoned m p custom p2) (hy : p2.year = some y) :
    dumpExpr m dt p ⟨segs, props, custom⟩ =
      if props.contains .century && (!props.contains .expandedYearDigits || dt.ned = 0) &&
          !(0 ≤ y && y ≤ 9999) then .error .err
      else if props.contains .expandedYearDigits &&
          !(-((10 : Int) ^ (dt.ned + 4) - 1) ≤ y && y ≤ (10 : Int) ^ (dt.ned + 4) - 1) then .error .err
      else
        match renderSegs m p2 segs with
        | some s => .ok s
        | none => .error .unsupported := by
  obtain ⟨hW, hC⟩ := hrep
  unfold dumpExpr
  simp only [htr, Bool.false_eq_true, if_false, hW]
  cases hw : p.isWeek
  · simp only [Bool.false_eq_true, if_false, Bool.false_and]
    cases custom with
    | none => obtain rfl := hp2; simp only [bind, Except.bind, hy]; rfl
    | some c =>
      obtain ⟨h, mi⟩ := c
      obtain ⟨z, hmk, htz⟩ := hp2
      simp only [bind, Except.bind, hmk, htz, hy]; rfl
  · rw [hw] at hC
    simp only [Bool.true_and] at hC
    simp only [hC, Bool.or_true, if_true]
    cases custom with
    | none => obtain rfl := hp2; simp only [bind, Except.bind, hy]; rfl
    | some c =>
      obtain ⟨h, mi⟩ := c
      obtain ⟨z, hmk, htz⟩ := hp2
      simp only [bind, Except.bind, hmk, htz, hy]; rfl

theorem notMem_D (c : Char) (hc : isDigit c = false) (hp : c ≠ '+') (hm : c ≠ '-')
    (hs : ∀ k ∈ [0, 1, 2], c ∉ dateSuffixK k) (ned : Nat) (y : Int) (k : Nat) (hk : k ∈ [0, 1, 2]) :
    c ∉ ySign ned y ++ yDigits ned y ++ dateSuffixK k := by
  simp only [List.mem_append, not_or]
  refine ⟨⟨?_, fun h => ?_⟩, hs k hk⟩
  · have := ySign_mem ned y
    simp only [List.mem_cons, List.not_mem_nil, or_false] at this
    rcases this with h | h | h <;> rw [h] <;> simp [hp, hm]
  · have := all_digits_mem _ (yDigits_digits ned y) c h
    rw [hc] at this; exact absurd this (by simp)

/-- The zone of the default format leaves the point where it is: it carries no literal zone, or `Z`
    for a point that is at `+00:00` already. -/
theorem rezoned_zoneCustom (m : Mode) (p : XTP) (tz : TZ) (hunk : p.tzUnknown = false) (htz : p.tz = tz) :
    Rezoned m p (zoneCustom tz) p := by
  unfold zoneCustom
  split
  · rename_i h0
    have e : tz = ⟨0, 0⟩ := by
      obtain ⟨zh, zm⟩ := tz
      simp only at h0
      rw [h0.1, h0.2]
    refine ⟨⟨0, 0⟩, mkTZ_zero m, ?_⟩
    unfold XTP.toTimeZone
    simp [hunk, htz, e]
  · rfl

def textAround (ned : Nat) (date : Date) (tz : TZ) (T : List Char) : List Char :=
  trender (dateTmpl ned date) (dateEnv ned date) ++ 'T' :: (T ++ trender (zoneTmpl tz) (zoneEnv tz))

/-- `str` of a point made of a valid date, a legal zone and ANY time-of-day fields whose default
    format has the time part `F`: if the dumper compiles `F` to `TS` with properties `TPr` that leave
    the representation and year checks alone, and `TS` renders as the text `T`, the result is the
    specified date, the designator, `T`, and the specified zone. -/
theorem str_withTime (m : Mode) (ned : Nat) (dt : DumpTables) (htab : dumpTablesFor ned = some dt)
    (date : Date) (tz : TZ) (hdate : date.Valid m) (hz : tz.Valid) (hy : YearInRange ned (dateYear date))
    {h mi s : Option Int} {hd md sd : Option (List Char)}
    {F : List Char} {TS : List Seg} {TPr : List DProp} {T : List Char}
    (hc : timeCompiles F TS TPr = true) (hprops : propsOK TPr = true)
    (hF : timeFmt mi s sd = F) (hFT : 'T' ∉ F) (hFp : '%' ∉ F)
    (hrender : renderSegs m ((dateBase ned date tz).withTime h mi s hd md sd) TS = some T) :
    str m ((dateBase ned date tz).withTime h mi s hd md sd) = .ok (textAround ned date tz T) := by
  have hk := rep_mem date
  have hdt : dt ∈ dumpTables := List.mem_of_find?_eq_some htab
  obtain ⟨hned, hfm, htr, hyr, hunk, hwk, htz⟩ := withTime_fields ned date tz h mi s hd md sd _ rfl
  have hfmt := dumpFormat_withTime ned date tz hy h mi s hd md sd
  have hrd := (renderSegs_withTime m (dateBase ned date tz) h mi s hd md sd _ (dateSegsK_timeFree _ hk)).trans
    (render_date m ned ⟨date, 0, 0, 0, tz⟩ hdate)
  have hrz := (renderSegs_withTime m (dateBase ned date tz) h mi s hd md sd _ (zoneSegs_timeFree tz)).trans
    (render_zone m ned ⟨date, 0, 0, 0, tz⟩ hz)
  generalize (dateBase ned date tz).withTime h mi s hd md sd = p at *
  -- the format has neither a second `T` nor a `%`
  have hT_D : 'T' ∉ ySign ned (dateYear date) ++ yDigits ned (dateYear date) ++ dateSuffixK date.rep :=
    notMem_D 'T' (by decide) (by decide) (by decide) (by decide) _ _ _ hk
  have hzs : ∀ c : Char, c ∉ ['Z'] → c ∉ offFmt → c ∉ zoneSuffix tz := by
    intro c h1 h2; unfold zoneSuffix; split
    · exact h1
    · exact h2
  have hT_R : 'T' ∉ F ++ zoneSuffix tz := by
    simp only [List.mem_append, not_or]
    exact ⟨hFT, hzs 'T' (by decide) (by decide)⟩
  have hcont : ((ySign ned (dateYear date) ++ yDigits ned (dateYear date) ++ dateSuffixK date.rep) ++
      'T' :: (F ++ zoneSuffix tz)).contains '%' = false := by
    have a := notMem_D '%' (by decide) (by decide) (by decide) (by decide) ned (dateYear date) _ hk
    have b := hzs '%' (by decide) (by decide)
    have : '%' ∉ (ySign ned (dateYear date) ++ yDigits ned (dateYear date) ++ dateSuffixK date.rep) ++
        'T' :: (F ++ zoneSuffix tz) := by
      simp only [List.mem_append, List.mem_cons, not_or] at a ⊢
      exact ⟨a, by decide, hFp, b⟩
    simpa using this
  have hr : renderSegs m p
      (((ySign ned (dateYear date)).map Seg.raw ++ (yDigits ned (dateYear date)).map Seg.raw ++
          dateSegsK date.rep) ++ Seg.raw 'T' :: (TS ++ zoneSegs tz)) = some (textAround ned date tz T) := by
    unfold textAround
    rw [dateTmpl_eq, dateEnv_eq, trender_year]
    refine renderSegs_append _ _ _ _ _ _
      (renderSegs_append _ _ _ _ _ _
        (renderSegs_append _ _ _ _ _ _ (renderSegs_raw _ _ _) (renderSegs_raw _ _ _)) hrd) ?_
    have := renderSegs_append m _ _ _ _ _ hrender hrz
    simp only [renderSegs, this, Option.map_some]
  obtain ⟨prep, pcent, px⟩ := propsOK_spec TPr hprops date tz
  unfold str
  rw [hned, htab]
  simp only [hfm, htr, Bool.false_eq_true, if_false]
  rw [hfmt, hF]
  show dump m dt _ _ = _
  unfold dump
  rw [hcont, getExpr_T dt _ _ hT_D hT_R, timeZonePart_of F TS TPr hc dt hdt,
    compile_date dt hdt _ (ySign_mem _ _) _ hk _ (yDigits_ne _ _) (yDigits_digits _ _)]
  simp only [Bool.false_eq_true, if_false, Option.map_some]
  rw [dumpExpr_sameRep m dt p p (dateYear date) _ _ _ htr (hwk ▸ prep) ?_ hyr, pcent, px, hr]
  · rfl
  · exact rezoned_zoneCustom m p tz hunk htz

/-- The dump tables regenerated: one for each of 0, 2 and 3 expanded year digits. -/
theorem dumpTablesFor_some (ned : Nat) (hned : ned = 0 ∨ ned = 2 ∨ ned = 3) :
    ∃ dt, dumpTablesFor ned = some dt := by
  rcases hned with rfl | rfl | rfl <;> exact ⟨_, rfl⟩

/-- **C08, dumper half**: `str` of a valid whole-second point — any of the three date representations,
    any calendar mode, any legal UTC offset, `24:00:00` included — whose year the agreed digits can
    spell is exactly the specified text. -/
theorem str_eq_stdText (m : Mode) (ned : Nat) (hned : ned = 0 ∨ ned = 2 ∨ ned = 3) (p : TP) (hv : p.Valid m)
    (hy : YearInRange ned (dateYear p.date)) :
    str m (XTP.ofTP ned p) = .ok (stdText ned p) := by
  obtain ⟨dt, htab⟩ := dumpTablesFor_some ned hned
  obtain ⟨date, hh, mi, ss, tz⟩ := p
  obtain ⟨hdate, h0, h1, h2, h3, h4, h5, _, hz⟩ := hv
  rw [ofTP_withTime]
  exact str_withTime m ned dt htab date tz hdate hz hy compiles_hms (by decide) rfl (by decide) (by decide)
    (by rw [← ofTP_withTime]; exact render_time m ned _ h0 h1 h2 h3 h4 h5)

end IsoDT.Text
