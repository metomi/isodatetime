/-
  IsoDT.Lemmas.TextTruncInfo — `get_info` on rendered TRUNCATED forms (`allow_truncated=True`): a
  truncated date (or no date at all) followed by `T`, any time form the date admits — a truncated time
  form (`-mm`, `-mmss`, `--ss`, …) only after a date that carries the truncation marker or after an
  empty date — and any zone form or none.  After a truncated date `get_info` excludes NO format
  (`bad_formats = []`), so basic and extended time and zone forms are all tried; the split of
  `time_time_zone` has to cope with the leading hyphens of a truncated time (`rsplit("-", 1)` and the
  "is this just a truncated time" retry).
-/
import IsoDT.Lemmas.TextTrunc

namespace IsoDT.Text
open IsoDT
open _root_.IsoDT.Gen.Templates (timeDesignator dateTypeOrder parserTables)

/-- A truncated time expression: the marker group `-` or `--`, then digits, `:`, `,`, `.` only. -/
def truncTimeOK (e : Entry) : Bool :=
  match e.tmpl with
  | .group .truncated ls :: rest =>
    (ls == ['-'] || ls == ['-', '-']) && (litChars rest).all (fun c => c == ':' || c == ',' || c == '.')
  | _ => false

/-- A truncated date expression: not empty; marked, or implicitly truncated by a year of century (the
    table has no century group at all); items of the truncated kinds; one documented date pattern. -/
def truncDateOK (e : Entry) : Bool :=
  (tmatch e.tmpl []).isNone && (hasGroup e.tmpl .truncated || hasGroup e.tmpl .yearOfCentury) &&
    e.tmpl.all tItemOK && tdateShapeOK e.tmpl

/-- Everything the truncated-form theorems need to know about one configuration's tables. -/
def truncTableOK (pt : ParserTables) : Bool :=
  pt.dateEntries.all (fun e => e.typ != .truncated || truncDateOK e) &&
  pt.timeEntries.all (fun e => e.typ != .truncated || truncTimeOK e) &&
  pt.timeEntries.all (fun e => (tmatch e.tmpl []).isNone && (tmatch e.tmpl ['-']).isNone &&
    e.tmpl.all tItemOK && ttimeShapeOK e.tmpl)

theorem trunc_tables_ok : parserTables.all truncTableOK = true := by decide +kernel

structure TruncFacts (pt : ParserTables) : Prop where
  dates : ∀ e ∈ pt.dateEntries, e.typ = .truncated →
    (tmatch e.tmpl []).isNone = true ∧
    (hasGroup e.tmpl .truncated = true ∨ hasGroup e.tmpl .yearOfCentury = true) ∧
    e.tmpl.all tItemOK = true ∧ tdateShapeOK e.tmpl = true
  ttimes : ∀ e ∈ pt.timeEntries, e.typ = .truncated → truncTimeOK e = true
  times : ∀ e ∈ pt.timeEntries, tmatch e.tmpl [] = none ∧ tmatch e.tmpl ['-'] = none ∧
    e.tmpl.all tItemOK = true ∧ ttimeShapeOK e.tmpl = true

theorem truncFacts (pt : ParserTables) (h : pt ∈ parserTables) : TruncFacts pt := by
  have hk := List.all_eq_true.mp trunc_tables_ok pt h
  simp only [truncTableOK, Bool.and_eq_true, List.all_eq_true, Bool.or_eq_true, bne_iff_ne, ne_eq,
    Option.isNone_iff_eq_none] at hk
  obtain ⟨⟨h1, h2⟩, h3⟩ := hk
  refine ⟨fun e he ht => ?_, fun e he ht => ?_, fun e he => ?_⟩
  · rcases h1 e he with h | h
    · exact absurd ht h
    · simp only [truncDateOK, Bool.and_eq_true, Bool.or_eq_true, Option.isNone_iff_eq_none] at h
      exact ⟨by rw [h.1.1.1]; rfl, h.1.1.2, h.1.2, h.2⟩
  · rcases h2 e he with h | h
    · exact absurd ht h
    · exact h
  · have := h3 e he
    exact ⟨this.1.1.1, this.1.1.2, List.all_eq_true.mpr this.1.2, this.2⟩

/-- The text a listed time form spells contains no `Z` and no `+`; if it contains `-` at all (a
    truncated time form), `rsplit("-", 1)` leaves nothing or a single `-` on the left. -/
theorem timeText_ok (pt : ParserTables) (tf : TableFacts pt) (uf : TruncFacts pt) (te : Entry)
    (hte : te ∈ pt.timeEntries) (tenv : Env) (hft : fits te.tmpl tenv = true) :
    'Z' ∉ trender te.tmpl tenv ∧ '+' ∉ trender te.tmpl tenv ∧
      ∀ a b, splitLast '-' (trender te.tmpl tenv) = some (a, b) → a = [] ∨ a = ['-'] := by
  by_cases htt : te.typ = .truncated
  · have hk := uf.ttimes te hte htt
    unfold truncTimeOK at hk
    split at hk
    · rename_i ls rest htm
      simp only [Bool.and_eq_true, Bool.or_eq_true, beq_iff_eq, List.all_eq_true] at hk
      obtain ⟨hls, hrest⟩ := hk
      rw [htm] at hft ⊢
      cases tenv with
      | nil => simp [fits] at hft
      | cons gs env =>
        obtain ⟨g, s⟩ := gs
        simp only [fits, Bool.and_eq_true, decide_eq_true_eq] at hft
        obtain ⟨⟨_, rfl⟩, hf⟩ := hft
        have hbody : ∀ c ∈ trender rest env, Plain c := by
          intro c hc
          rcases trender_chars rest env hf c hc with h | h
          · exact digit_plain c h
          · rcases hrest c h with (rfl | rfl) | rfl <;> exact ⟨by decide, by decide, by decide⟩
        have hbm : '-' ∉ trender rest env := fun h => (hbody _ h).2.2 rfl
        -- the marker is `pre ++ "-"` with `pre` empty or `-`
        obtain ⟨pre, rfl, hpre⟩ : ∃ pre, s = pre ++ ['-'] ∧ (pre = [] ∨ pre = ['-']) := by
          rcases hls with rfl | rfl
          · exact ⟨[], rfl, Or.inl rfl⟩
          · exact ⟨['-'], rfl, Or.inr rfl⟩
        have hpm : ∀ c, c ≠ '-' → c ∉ pre ++ ['-'] := by
          intro c hc h
          rcases hpre with rfl | rfl <;> simp at h <;> exact hc h
        simp only [trender]
        refine ⟨?_, ?_, fun a b hs => ?_⟩
        · intro h
          rcases List.mem_append.mp h with h | h
          · exact hpm _ (by decide) h
          · exact (hbody _ h).1 rfl
        · intro h
          rcases List.mem_append.mp h with h | h
          · exact hpm _ (by decide) h
          · exact (hbody _ h).2.1 rfl
        · rw [List.append_assoc, List.singleton_append, splitLast_append '-' pre _ hbm] at hs
          simp only [Option.some.injEq, Prod.mk.injEq] at hs
          exact hs.1 ▸ hpre
    · cases hk
  · obtain ⟨hplain, _, _⟩ := plain_time te (tf.plain te hte htt) tenv hft
    refine ⟨fun h => (hplain _ h).1 rfl, fun h => (hplain _ h).2.1 rfl, fun a b hs => ?_⟩
    have hm : '-' ∉ trender te.tmpl tenv := fun h => (hplain _ h).2.2 rfl
    rw [splitLast_none '-' _ hm] at hs
    cases hs

theorem getTimeInfo_stub (cfg : Cfg) (uf : TruncFacts cfg.pt) (bf : List FormatKey) (bt : List TypeKey)
    (a : List Char) (ha : a = [] ∨ a = ['-']) : getTimeInfo cfg a bf bt = none := by
  unfold getTimeInfo timeOrder
  apply firstMatch_none
  intro e he
  have hm := (List.mem_filter.mp he).1
  rcases ha with rfl | rfl
  · exact (uf.times e hm).1
  · exact (uf.times e hm).2.1

/-- `get_date_info(date, bad_types=["reduced"])` on a rendered truncated date. -/
theorem getDateInfo_truncated (cfg : Cfg) (hat : cfg.allowTruncated = true) (tf : TableFacts cfg.pt)
    (de : Entry) (hde : de ∈ cfg.pt.dateEntries) (hdt : de.typ = .truncated) (denv : Env)
    (hfd : fits de.tmpl denv = true) :
    ∃ e', getDateInfo cfg (trender de.tmpl denv) [.reduced] = some (e', denv) ∧ e'.expr = de.expr ∧
      e'.typ = .truncated := by
  unfold getDateInfo
  rw [firstMatch_eq, hat]
  have hmem : de ∈ dateOrder cfg.pt (dateTypes true [.reduced]) :=
    mem_dateOrder _ _ de hde (tf.dates de hde).2.2 (by rw [hdt]; decide)
  obtain ⟨e', _, h2, _, h4, h5, _⟩ := firstBy_prec Entry.tmpl okPair SameDate okPair_spec
    (fun e => ⟨rfl, rfl, fun _ => rfl⟩) _
    (fun x hx => (tf.dates x (dateOrder_sub _ _ x hx)).1) de hmem
    (prec_of_allAfter okPair _ tf.orderTimeT de hmem) _ denv (tmatch_trender de.tmpl denv hfd)
  exact ⟨e', h2, h4, h5.trans hdt⟩

/-- What `get_info` does after the date part is known (format, type, expression text, groups, marked). -/
def infoRest (cfg : Cfg) (ttz : List Char) (fmt : Option FormatKey) (typ : TypeKey) (dexpr : List Char)
    (denv : Env) (dtrunc : Bool) : Option Info :=
  let badFormats : List FormatKey := badFormatsOf fmt typ
  let badTypes : List TypeKey := if dtrunc then [] else [.truncated]
  match splitZone cfg badFormats badTypes ttz with
  | none => none
  | some (time, zone?) =>
    let zres : Option (List Char × ZoneInfo) :=
      match zone? with
      | none => (processZone cfg.zone []).map fun z => ([], z)
      | some ztext =>
        match getZoneInfo cfg.pt ztext badFormats with
        | none => none
        | some (ze, zenv) => (processZone cfg.zone zenv).map fun z => (ze.expr, z)
    match zres with
    | none => none
    | some (zexpr, z) =>
      match getTimeInfo cfg time badFormats badTypes with
      | none => none
      | some (te, tenv) =>
        some { dateEnv := denv, dateTrunc := dtrunc, timeEnv := tenv, zone := z,
               expr := dexpr ++ timeDesignator :: (te.expr ++ zexpr) }

theorem getInfo_emptyDate (cfg : Cfg) (hat : cfg.allowTruncated = true) (s ttz : List Char)
    (hs : splitOnChar timeDesignator s = [[], ttz]) :
    getInfo cfg s = infoRest cfg ttz none .truncated [] [] true := by
  unfold getInfo
  rw [hs]
  simp only [List.isEmpty_nil, hat, Bool.and_self, if_true]
  rfl

theorem getInfo_withDate (cfg : Cfg) (s date ttz : List Char)
    (hs : splitOnChar timeDesignator s = [date, ttz]) (hne : date.isEmpty = false) (e : Entry) (denv : Env)
    (hd : getDateInfo cfg date [.reduced] = some (e, denv)) :
    getInfo cfg s = infoRest cfg ttz (some e.fmt) e.typ e.expr denv (Env.has denv .truncated) := by
  unfold getInfo
  rw [hs]
  simp only [hne, Bool.false_and, Bool.false_eq_true, if_false, hd]
  rfl

/-- **`get_info` on a truncated text**: for truncated forms enabled, a truncated date form or no date,
    any listed time form (a truncated one only if the date part is marked) and any listed zone form or
    none, `get_info` of the rendered `date T time zone` returns exactly the rendered groups of the three
    parts, the zone processed by `process_time_zone_info`, and the concatenated expression text. -/
theorem getInfo_trunc (cfg : Cfg) (hpt : cfg.pt ∈ parserTables) (hat : cfg.allowTruncated = true)
    (dt : Template) (dx : List Char) (dm : Bool) (denv : Env)
    (hdp : (dt = [] ∧ dx = [] ∧ dm = true ∧ denv = []) ∨
      ∃ de ∈ cfg.pt.dateEntries, de.typ = .truncated ∧ dt = de.tmpl ∧ dx = de.expr ∧
        dm = hasGroup de.tmpl .truncated ∧ fits de.tmpl denv = true)
    (te : Entry) (hte : te ∈ cfg.pt.timeEntries) (htm : te.typ = .truncated → dm = true)
    (zo : Option (ZEntry × Env))
    (hzo : ∀ ze zenv, zo = some (ze, zenv) → ze ∈ cfg.pt.zoneEntries ∧ fits ze.tmpl zenv = true)
    (tenv : Env) (hft : fits te.tmpl tenv = true) :
    getInfo cfg (trender dt denv ++ timeDesignator :: (trender te.tmpl tenv ++ zoneTextOf zo)) =
      (processZone cfg.zone (zoneEnvOf zo)).map fun z =>
        { dateEnv := denv, dateTrunc := dm, timeEnv := tenv, zone := z,
          expr := dx ++ timeDesignator :: (te.expr ++ zoneExprOf zo) } := by
  have tf := tableFacts cfg.pt hpt
  have uf := truncFacts cfg.pt hpt
  obtain ⟨_, htn⟩ := tf.times te hte
  obtain ⟨htZ, htp, hsl⟩ := timeText_ok cfg.pt tf uf te hte tenv hft
  have hzt : ZoneText (zoneTextOf zo) ∧ timeDesignator ∉ zoneTextOf zo := by
    cases zo with
    | none => exact ⟨Or.inl rfl, by simp [zoneTextOf]⟩
    | some p =>
      obtain ⟨ze, zenv⟩ := p
      obtain ⟨h1, h3⟩ := hzo ze zenv rfl
      obtain ⟨_, h5, h6⟩ := tf.zones ze h1
      exact ⟨(zone_text ze.tmpl h6 zenv h3).1, no_designator ze.tmpl h5 zenv h3⟩
  have hD : timeDesignator ∉ trender dt denv := by
    rcases hdp with ⟨rfl, _, _, rfl⟩ | ⟨de, h1, _, rfl, _, _, h3⟩
    · simp [trender]
    · exact no_designator de.tmpl (tf.dates de h1).2.1 denv h3
  have hT : timeDesignator ∉ trender te.tmpl tenv ++ zoneTextOf zo := by
    intro h
    rcases List.mem_append.mp h with h | h
    · exact no_designator te.tmpl htn tenv hft h
    · exact hzt.2 h
  have hsplit := splitOnChar_one timeDesignator _ _ hD hT
  -- the filters the date part implies
  obtain ⟨bt, hbt_eq⟩ : ∃ bt : List TypeKey, bt = (if dm then [] else [.truncated]) := ⟨_, rfl⟩
  have hbt : bt.contains te.typ = false := by
    rw [hbt_eq]
    cases hm : dm
    · simp only [Bool.false_eq_true, if_false]
      cases hty : te.typ <;> first | rfl | (rw [htm hty] at hm; cases hm)
    · rfl
  obtain ⟨te', htime, htexpr⟩ :=
    getTimeInfo_rendered cfg tf te hte [] bt rfl hbt tenv hft
  have hzone : ∀ ze zenv, zo = some (ze, zenv) →
      ∃ ze', getZoneInfo cfg.pt (trender ze.tmpl zenv) [] = some (ze', zenv) ∧ ze'.expr = ze.expr := by
    intro ze zenv hz
    obtain ⟨h1, h3⟩ := hzo ze zenv hz
    exact getZoneInfo_rendered cfg.pt tf ze h1 _ rfl zenv h3
  have hsz := splitZone_hyphens cfg [] bt (trender te.tmpl tenv) (zoneTextOf zo) htZ htp
    (fun a b hs => by rw [getTimeInfo_stub cfg uf [] bt a (hsl a b hs)]; rfl) hzt.1 (by
      intro body hb
      refine ⟨by rw [htime]; rfl, ?_⟩
      cases zo with
      | none => simp [zoneTextOf] at hb
      | some p =>
        obtain ⟨ze, zenv⟩ := p
        obtain ⟨ze', hz, _⟩ := hzone ze zenv rfl
        simp only [zoneTextOf] at hb ⊢
        rw [hz]; rfl)
  have hbf : ∀ f : Option FormatKey, badFormatsOf f .truncated = [] := fun f => by simp [badFormatsOf]
  have hrest : ∀ fmt : Option FormatKey,
      infoRest cfg (trender te.tmpl tenv ++ zoneTextOf zo) fmt .truncated dx denv dm =
      (processZone cfg.zone (zoneEnvOf zo)).map fun z =>
        { dateEnv := denv, dateTrunc := dm, timeEnv := tenv, zone := z,
          expr := dx ++ timeDesignator :: (te.expr ++ zoneExprOf zo) } := by
    intro fmt
    unfold infoRest
    dsimp only
    rw [hbf, ← hbt_eq, hsz]
    cases zo with
    | none =>
      simp only [zoneTextOf, zoneEnvOf, zoneExprOf, if_true, htime, htexpr]
      cases processZone cfg.zone [] <;> rfl
    | some p =>
      obtain ⟨ze, zenv⟩ := p
      obtain ⟨ze', hz, hzexpr⟩ := hzone ze zenv rfl
      obtain ⟨h1, h3⟩ := hzo ze zenv rfl
      have hzne : (trender ze.tmpl zenv = []) = False := by
        simp only [eq_iff_iff, iff_false]
        exact (zone_text ze.tmpl (tf.zones ze h1).2.2 zenv h3).2
      simp only [zoneTextOf, zoneEnvOf, zoneExprOf, hzne, if_false, hz, htime, htexpr, hzexpr]
      cases processZone cfg.zone zenv <;> rfl
  rcases hdp with ⟨rfl, rfl, rfl, rfl⟩ | ⟨de, h1, h2, rfl, rfl, rfl, h3⟩
  · rw [getInfo_emptyDate cfg hat _ _ hsplit]
    exact hrest none
  · obtain ⟨de', hget, hexpr, htyp⟩ := getDateInfo_truncated cfg hat tf de h1 h2 denv h3
    have hne : (trender de.tmpl denv).isEmpty = false := by
      cases hx : trender de.tmpl denv with
      | nil =>
        have := tmatch_trender de.tmpl denv h3
        rw [hx] at this
        have hn := (uf.dates de h1 h2).1
        rw [this] at hn
        simp at hn
      | cons _ _ => rfl
    have hdtr : Env.has denv .truncated = hasGroup de.tmpl .truncated := Env.has_fits de.tmpl denv h3 _
    rw [getInfo_withDate cfg _ _ _ hsplit hne de' denv hget, htyp, hexpr, hdtr]
    exact hrest (some de'.fmt)

end IsoDT.Text
