/-
  IsoDT.Lemmas.RecurrenceQFirst — `get_first_after` on rational recurrences
  (`Model.RecurrenceQFirst`): the closed form for an exact positive interval in terms of rational
  instants — the candidate is the grid point `inst(start) + K·L`, `K = ⌊(inst p − inst start)/L⌋ + 1`
  (`inside`) —, the statement by cases for a series of known length (`core`), where the result lies
  (`result_on_grid`), and the pieces of the agreement with the whole-second model
  (`getFirstAfter` of `Model.Recurrence`) on embedded inputs.
-/
import IsoDT.Model.RecurrenceQFirst
import IsoDT.Lemmas.RecurrenceQQuery
import IsoDT.Lemmas.RecurrenceQInt

namespace IsoDT.Lemmas.RecurrenceQFirst
open IsoDT IsoDT.Model IsoDT.Lemmas IsoDT.Lemmas.DQ
open IsoDT.Spec (Date TZ TP)

variable {m : Mode} {r : RecQ} {d : DurationQ} {L : Rat}

/-- `get_seconds` of an exact duration is its exact length. -/
theorem seconds_exact (m : Mode) (a : DurationQ) (h : a.isExact = true) : a.seconds m = len a := by
  unfold DurationQ.seconds; rw [if_pos h, exactSeconds_eq]

theorem pyDivmodQ_ne (x L : Rat) (h : L ≠ 0) :
    pyDivmodQ x L = some ((x / L).floor, x - ((x / L).floor : Rat) * L) := by
  unfold pyDivmodQ; rw [if_neg h]

/-- The index `K = ⌊(ip − is)/L⌋ + 1` of the first grid point `is + K·L` strictly after `ip ≥ is`. -/
theorem floor_succ_nat (is ip L : Rat) (hL : 0 < L) (hge : is ≤ ip) :
    ∃ K : Nat, (K : Int) = ((ip - is) / L).floor + 1 ∧ 1 ≤ K ∧
      (K : Rat) = (((ip - is) / L).floor : Rat) + 1 ∧
      is + ((K - 1 : Nat) : Rat) * L ≤ ip ∧ ip < is + (K : Rat) * L := by
  have h0 : (0 : Rat) ≤ (ip - is) / L := by
    rw [Rat.div_def]
    exact Rat.mul_nonneg ((Rat.le_iff_sub_nonneg is ip).1 hge) (Rat.le_of_lt (Rat.inv_pos.2 hL))
  obtain ⟨k, hk⟩ := Int.eq_ofNat_of_zero_le (Rat.le_floor_iff.2 h0)
  obtain ⟨f1, f2⟩ := floor_div_spec (ip - is) L hL
  have hkq : (((ip - is) / L).floor : Rat) = (k : Rat) := by rw [hk, Rat.intCast_natCast]
  rw [hkq] at f1 f2
  refine ⟨k + 1, by rw [hk]; rfl, Nat.le_add_left 1 k, by rw [hkq, Rat.natCast_add]; rfl, ?_, ?_⟩
  · rw [Rat.add_comm]; exact Rat.le_sub_iff.1 f1
  · rw [natCast_succ_mul, Rat.add_comm L, Rat.add_comm]; exact Rat.sub_lt_iff.1 f2

/-! ### the duration that is added -/

theorem sub_seconds_exact (m : Mode) (d : DurationQ) (c : Rat) (h : d.isExact = true) :
    (DurationQ.sub m d (.units 0 0 0 0 0 c)).isExact = true := by
  rw [isExact_iff] at h ⊢
  unfold DurationQ.sub
  rw [add_ym, mul_ym, h]
  rfl

theorem sub_seconds_len (m : Mode) (d : DurationQ) (c : Rat) :
    len (DurationQ.sub m d (.units 0 0 0 0 0 c)) = len d - c := by
  unfold DurationQ.sub
  rw [add_len, mul_len]
  have : ((-1 : Int) : Rat) = -1 := rfl
  simp only [len, this, Rat.intCast_zero]
  grind

/-- The remainder `divmod` returns: `x − ⌊x/L⌋·L`. -/
def remQ (x L : Rat) : Rat := x - ((x / L).floor : Rat) * L

/-- `get_first_after` on a probe within the bounds of a recurrence with an exact positive
    interval, unfolded: the candidate is `p + (d − Duration(seconds=adj(rem)))` where
    `rem = x − ⌊x/L⌋·L`, `x = inst p − inst s`; it is returned iff it is within the bounds. -/
theorem closed_form_unfold (adj : Rat → Rat) (hr : ExactRecQ m r d L) {s : TPQ} (hs : r.start = some s)
    {p : TPQ} (hp : p.Valid m) (fuel : Nat)
    (hb : inBoundsQ m r p = true) :
    getFirstAfterWithQ adj m r p fuel =
      match addDurationQ m p (DurationQ.sub m d (.units 0 0 0 0 0 (adj (remQ (p.inst m - s.inst m) L)))) with
      | some q => if inBoundsQ m r q then some q else none
      | none => none := by
  have hsv := hr.startValid s hs
  obtain ⟨dd, hI, mI, sR, hd, hl, _, _⟩ := subTPQ_spec m p s hp hsv
  have hxsec : (DurationQ.ofDurQ ⟨dd, (hI : Rat), (mI : Rat), sR⟩).seconds m = p.inst m - s.inst m := by
    rw [seconds_exact m _ rfl]; simp only [DurationQ.ofDurQ, len]; exact hl
  have hLsec : d.seconds m = L := by rw [seconds_exact m d hr.exact, hr.len]
  have hne : L ≠ 0 := Rat.ne_of_gt hr.pos
  unfold getFirstAfterWithQ remQ
  simp only [hs, hb, ↓reduceIte, hr.dur, hr.exact, hd, hxsec, hLsec, pyDivmodQ_ne _ _ hne]
  rfl

/-- A probe out of bounds: the start if the probe is before it, otherwise `None`. -/
theorem outside (adj : Rat → Rat) {s p : TPQ} (hs : r.start = some s) (hb : inBoundsQ m r p = false)
    (fuel : Nat) : getFirstAfterWithQ adj m r p fuel = if tpLtQ m p s then some s else none := by
  unfold getFirstAfterWithQ
  simp only [hs, hb, Bool.false_eq_true, ↓reduceIte]

/-- A probe within the bounds (current Python): with `K = ⌊(inst p − inst s)/L⌋ + 1` the candidate
    is the point `t` at `inst s + K·L` in the probe's form, strictly after `p` and at most `L` after
    it; it is returned iff it is within the bounds. -/
theorem inside (hr : ExactRecQ m r d L) {s : TPQ}
    (hs : r.start = some s) {p : TPQ} (hp : p.Valid m) (fuel : Nat) (hb : inBoundsQ m r p = true) :
    ∃ (K : Nat) (t : TPQ), (K : Int) = ((p.inst m - s.inst m) / L).floor + 1 ∧ 1 ≤ K ∧
      s.inst m + ((K - 1 : Nat) : Rat) * L ≤ p.inst m ∧ p.inst m < s.inst m + (K : Rat) * L ∧
      t.inst m = s.inst m + (K : Rat) * L ∧ GoodQ m p t (s.inst m + (K : Rat) * L - p.inst m) ∧
      getFirstAfterQ m r p fuel = if inBoundsQ m r t then some t else none := by
  obtain ⟨t, ht, g⟩ := addDurationQ_exact
    (DurationQ.sub m d (.units 0 0 0 0 0 (remQ (p.inst m - s.inst m) L))) hp (sub_seconds_exact m d _ hr.exact)
  rw [sub_seconds_len, hr.len] at g
  have hfa : getFirstAfterQ m r p fuel = if inBoundsQ m r t then some t else none := by
    rw [getFirstAfterQ, closed_form_unfold _ hr hs hp fuel hb, ht]
  have hge := ((inBoundsQ_iff hp hr.startValid hr.endValid).1 hb).1 s hs
  obtain ⟨K, hK, hK1, hKq, hprev, hnext⟩ := floor_succ_nat (s.inst m) (p.inst m) L hr.pos hge
  -- the candidate `p + (L − rem)` is the grid point after `⌊(inst p − inst s)/L⌋`
  have e : p.inst m + (L - remQ (p.inst m - s.inst m) L) = s.inst m + (K : Rat) * L := by
    rw [remQ, hKq]; grind
  refine ⟨K, t, hK, hK1, hprev, hnext, g.inst.trans e, ?_, hfa⟩
  rw [← e, Rat.add_comm, Rat.add_sub_cancel]
  exact g

/-- **The core statement.**  A recurrence with exact interval `L > 0` and start `s`, whose series
    has `n` members (`N = some n`: the end point is at `inst s + (n−1)·L`) or is unbounded
    (`N = none`).  For any legal probe `p`:
    before the start → the start; after the last member → `None`; otherwise, with
    `K = ⌊(inst p − inst s)/L⌋ + 1`, the instant `inst s + K·L` is strictly later than `p`, the
    member before it (`K − 1`) is at or before `p` — so no grid instant lies strictly between — and
    the result is the point at that instant in `p`'s zone, representation and precision form when
    `K` is a member index, `None` when it is not. -/
theorem core (hr : ExactRecQ m r d L) {s : TPQ} (hs : r.start = some s) (N : Option Nat)
    (hend : ∀ n, N = some n → ∃ e, r.end_ = some e ∧ e.inst m = s.inst m + ((n - 1 : Nat) : Rat) * L)
    (hunb : N = none → r.end_ = none) {p : TPQ} (hp : p.Valid m) (fuel : Nat) :
    (p.inst m < s.inst m → getFirstAfterQ m r p fuel = some s) ∧
    (∀ n, N = some n → s.inst m + ((n - 1 : Nat) : Rat) * L < p.inst m →
      getFirstAfterQ m r p fuel = none) ∧
    (s.inst m ≤ p.inst m → (∀ n, N = some n → p.inst m ≤ s.inst m + ((n - 1 : Nat) : Rat) * L) →
      ∃ K : Nat, (K : Int) = ((p.inst m - s.inst m) / L).floor + 1 ∧ 1 ≤ K ∧
        s.inst m + ((K - 1 : Nat) : Rat) * L ≤ p.inst m ∧
        p.inst m < s.inst m + (K : Rat) * L ∧
        (∀ k : Nat, p.inst m < s.inst m + (k : Rat) * L → s.inst m + (K : Rat) * L ≤ s.inst m + (k : Rat) * L) ∧
        ((∀ n, N = some n → K < n) →
          ∃ q, getFirstAfterQ m r p fuel = some q ∧ q.inst m = s.inst m + (K : Rat) * L ∧
            GoodQ m p q (s.inst m + (K : Rat) * L - p.inst m) ∧ inBoundsQ m r q = true) ∧
        (getFirstAfterQ m r p fuel = none ↔ ∃ n, N = some n ∧ n ≤ K)) := by
  have hsv := hr.startValid s hs
  have hpos := hr.pos
  -- the bounds, read through the member count
  have hbN : ∀ x, InBoundsAt m r x ↔
      s.inst m ≤ x ∧ ∀ n, N = some n → x ≤ s.inst m + ((n - 1 : Nat) : Rat) * L := by
    intro x
    unfold InBoundsAt
    rw [hs]
    refine and_congr ⟨fun h => h s rfl, fun h => of_some_eq h⟩ ?_
    cases N with
    | none => rw [hunb rfl]; exact ⟨fun _ => of_none_eq, fun _ => of_none_eq⟩
    | some n =>
      obtain ⟨e, he, hei⟩ := hend n rfl
      rw [he]
      exact ⟨fun h => of_some_eq (hei ▸ h e rfl), fun h => of_some_eq (hei ▸ h n rfl)⟩
  have hbp := (inBoundsQ_iff hp hr.startValid hr.endValid).trans (hbN (p.inst m))
  refine ⟨fun hlt => ?_, fun n hn hlt => ?_, fun hge hle => ?_⟩
  · exact (outside _ hs (Bool.eq_false_iff.2 fun c => Rat.not_lt.2 (hbp.1 c).1 hlt) fuel).trans
      (if_pos ((tpLtQ_iff m p s hp hsv).2 hlt))
  · have hsp := Std.lt_of_le_of_lt (le_add_natCast_mul (s.inst m) (n - 1) hpos) hlt
    exact (outside _ hs (Bool.eq_false_iff.2 fun c => Rat.not_lt.2 ((hbp.1 c).2 n hn) hlt) fuel).trans
      (if_neg fun c => Rat.not_lt.2 (Rat.le_of_lt hsp) ((tpLtQ_iff m p s hp hsv).1 c))
  · obtain ⟨K, t, hK, hK1, hprev, hnext, hti, g, hfa⟩ := inside hr hs hp fuel (hbp.2 ⟨hge, hle⟩)
    -- the candidate is within the bounds iff `K` is a member index
    have hKn : ∀ n, K ≤ n - 1 ↔ K < n := fun n => by omega
    have hbt : inBoundsQ m r t = true ↔ ∀ n, N = some n → K < n := by
      rw [inBoundsQ_iff g.valid hr.startValid hr.endValid, hti, hbN]
      exact ⟨fun h n hn => (hKn n).1 ((natCast_mul_le_iff K (n - 1) hpos).1 (Rat.add_le_add_left.1 (h.2 n hn))),
        fun h => ⟨le_add_natCast_mul _ K hpos, fun n hn =>
          Rat.add_le_add_left.2 ((natCast_mul_le_iff K (n - 1) hpos).2 ((hKn n).2 (h n hn)))⟩⟩
    refine ⟨K, hK, hK1, hprev, hnext, fun k hk => ?_, fun hmem => ?_, ?_⟩
    · have hlt : K - 1 < k := grid_lt hpos (K - 1) k hprev hk
      exact Rat.add_le_add_left.2 ((natCast_mul_le_iff K k hpos).2 (Nat.le_of_pred_lt hlt))
    · exact ⟨t, by rw [hfa, if_pos (hbt.2 hmem)], hti, g, hbt.2 hmem⟩
    · rw [hfa]
      cases N with
      | none =>
        rw [if_pos (hbt.2 fun n h => nomatch h)]
        exact ⟨fun h => (nomatch h), fun ⟨_, h, _⟩ => (nomatch h)⟩
      | some n =>
        by_cases c : K < n
        · rw [if_pos (hbt.2 fun n' h => Option.some.inj h ▸ c)]
          exact ⟨fun h => (nomatch h), fun ⟨n', h, h'⟩ => absurd c (Nat.not_lt.2 (Option.some.inj h ▸ h'))⟩
        · rw [if_neg fun h => c (hbt.1 h n rfl)]
          exact ⟨fun _ => ⟨n, rfl, Nat.le_of_not_lt c⟩, fun _ => rfl⟩

/-- Whatever `get_first_after` returns on a recurrence with an exact positive interval whose start
    is not after its end is at a grid instant, legal and within the bounds. -/
theorem result_on_grid (hr : ExactRecQ m r d L) {s : TPQ}
    (hs : r.start = some s) (hse : ∀ e, r.end_ = some e → s.inst m ≤ e.inst m) {p : TPQ} (hp : p.Valid m)
    {fuel : Nat} {q : TPQ} (h : getFirstAfterQ m r p fuel = some q) :
    q.Valid m ∧ inBoundsQ m r q = true ∧ p.inst m < q.inst m ∧
      ∃ K : Nat, q.inst m = s.inst m + (K : Rat) * L := by
  have hsv := hr.startValid s hs
  cases hb : inBoundsQ m r p with
  | true =>
    obtain ⟨K, t, _, _, _, hnext, hti, g, hfa⟩ := inside hr hs hp fuel hb
    rw [hfa] at h
    cases c : inBoundsQ m r t with
    | true => rw [c] at h; cases h; exact ⟨g.valid, c, by rw [hti]; exact hnext, K, hti⟩
    | false => rw [c] at h; exact nomatch h
  | false =>
    cases c : tpLtQ m p s with
    | true =>
      rw [getFirstAfterQ, outside _ hs hb fuel, if_pos c] at h
      cases h
      refine ⟨hsv, ?_, (tpLtQ_iff m p s hp hsv).1 c, 0, by rw [natCast_zero_mul, Rat.add_zero]⟩
      rw [inBoundsQ_iff hsv hr.startValid hr.endValid]
      exact ⟨fun s' h' => by rw [hs] at h'; cases h'; exact Rat.le_refl, hse⟩
    | false =>
      rw [getFirstAfterQ, outside _ hs hb fuel, c] at h
      exact nomatch h

theorem firstAfterLoopQ_ofRec (m : Mode) (r : Rec) (p : TP) : ∀ (fuel : Nat) (c : Option TP),
    firstAfterLoopQ m (RecQ.ofRec r) (TPQ.ofTP p) fuel (c.map TPQ.ofTP) =
      (firstAfterLoop m r p fuel c).map TPQ.ofTP := by
  intro fuel
  induction fuel with
  | zero => intro c; cases c <;> rfl
  | succ fuel ih =>
    intro c
    cases c with
    | none => rfl
    | some c =>
      simp only [Option.map_some, firstAfterLoopQ, firstAfterLoop, tpLeQ_ofTP, getNextQ_ofRec]
      by_cases k : tpLe m c p = true
      · rw [if_pos k, if_pos k]; exact ih _
      · rw [if_neg k, if_neg k]; rfl

theorem pyDivmodQ_intCast (a b : Int) :
    pyDivmodQ (a : Rat) (b : Rat) = if b = 0 then none else some (Int.fdiv a b, ((Int.fmod a b : Int) : Rat)) := by
  by_cases hb : b = 0
  · subst hb; rw [if_pos rfl]; unfold pyDivmodQ; rw [if_pos (by simp)]
  · rw [if_neg hb]
    have hne : (b : Rat) ≠ 0 := fun h0 => hb (Rat.intCast_inj.1 (by simpa using h0))
    rw [pyDivmodQ_ne _ _ hne, floor_intCast_div a b hb, ← Rat.intCast_mul, ← Rat.intCast_sub]
    congr 3
    rw [Int.fmod_def, Int.mul_comm]

end IsoDT.Lemmas.RecurrenceQFirst
