/-
  IsoDT.Lemmas.Conv — the six conversions of `Model.Calendar` are total on valid dates, give
  valid dates and preserve the Spec day number.  A valid date being determined by its
  representation and day number, that fixes the result of every conversion.
-/
import IsoDT.Lemmas.Week

namespace IsoDT.Lemmas
open IsoDT IsoDT.Model

theorem dby_strictMono (m : Mode) (a b : Int) (h : a < b) : Spec.dby m a < Spec.dby m b := by
  have := dby_mono m a b (by omega); omega

theorem year_unique (m : Mode) (a b n : Int)
    (ha : Spec.dby m a ≤ n ∧ n < Spec.dby m (a + 1)) (hb : Spec.dby m b ≤ n ∧ n < Spec.dby m (b + 1)) :
    a = b := by
  rcases Int.lt_trichotomy a b with h | h | h
  · have := dby_mono m (a + 1) b (by omega); omega
  · exact h
  · have := dby_mono m (b + 1) a (by omega); omega

theorem calFromOrd_spec (m : Mode) (y doy : Int) (h : Spec.ValidOrd m y doy) :
    ∃ mo d, calFromOrd m y doy = some (y, mo, d) ∧ Spec.ValidCal m y mo d ∧
      Spec.dayNumCal m y mo d = Spec.dayNumOrd m y doy := by
  obtain ⟨h1, h2⟩ := h
  obtain ⟨mo, d, heq, hm1, hm2, hd1, hd2, hsum⟩ :=
    walkFwd_spec m (isLeapYear y) doy h1 (by rw [yearLenB_leapYear]; exact h2)
  refine ⟨mo, d, ?_, ?_, ?_⟩
  · unfold calFromOrd; rw [heq]; rfl
  · rw [monthLenB_leapYear] at hd2; exact ⟨hm1, hm2, hd1, hd2⟩
  · rw [dbmB_leapYear] at hsum
    unfold Spec.dayNumCal Spec.dayNumOrd; omega

theorem posOf_valid (m : Mode) (y mo d : Int) (h : Spec.ValidCal m y mo d) :
    posOf (indexed m (isLeapYear y)) mo d = some (Spec.dbm m y mo + d) := by
  rw [posOf_indexed, monthLenB_leapYear, dbmB_leapYear]
  exact if_pos h

theorem ordFromCal_spec (m : Mode) (y mo d : Int) (h : Spec.ValidCal m y mo d) :
    ∃ doy, ordFromCal m y mo d = some (y, doy) ∧ Spec.ValidOrd m y doy ∧
      Spec.dayNumOrd m y doy = Spec.dayNumCal m y mo d :=
  ⟨_, by unfold ordFromCal; rw [posOf_valid m y mo d h]; rfl, validOrd_of_cal m y mo d h⟩

theorem weekStartCal_year (m : Mode) (y : Int) :
    (weekStartCal m y).1 = y ∨ (weekStartCal m y).1 = y - 1 := by
  obtain ⟨hv, hn⟩ := weekStartCal_spec m y
  have hr := dayNumCal_range m _ _ _ hv
  have hb := weekYearStart_bounds m y
  have h1 := dby_succ m y
  have h2 := dby_succ m (y - 1)
  have h3 := yearLen_bounds m y
  have h4 := yearLen_bounds m (y - 1)
  have e : y - 1 + 1 = y := by omega
  rw [e] at h2
  by_cases hc : Spec.dby m y ≤ Spec.weekYearStart m y
  · left
    exact year_unique m _ y (Spec.weekYearStart m y) (by omega) (by omega)
  · right
    exact year_unique m _ (y - 1) (Spec.weekYearStart m y) (by omega) (by rw [e]; omega)

theorem ordWeekStart_eq (m : Mode) (y : Int) :
    ordWeekStart m y = ((weekStartCal m y).1,
      Spec.dbm m (weekStartCal m y).1 (weekStartCal m y).2.1 + (weekStartCal m y).2.2) := by
  obtain ⟨hv, _⟩ := weekStartCal_spec m y
  have hp := posOf_valid m _ _ _ hv
  unfold ordWeekStart
  simp only [hp]

theorem ordWeekStart_spec (m : Mode) (y : Int) :
    (ordWeekStart m y).1 = (weekStartCal m y).1 ∧
    Spec.ValidOrd m (ordWeekStart m y).1 (ordWeekStart m y).2 ∧
    Spec.dayNumOrd m (ordWeekStart m y).1 (ordWeekStart m y).2 = Spec.weekYearStart m y := by
  obtain ⟨hv, hn⟩ := weekStartCal_spec m y
  obtain ⟨ho, hd⟩ := validOrd_of_cal m _ _ _ hv
  rw [ordWeekStart_eq]
  exact ⟨rfl, ho, hd.trans hn⟩

theorem weeksInYear_eq (m : Mode) (y : Int) : weeksInYear m y = Spec.weeksInYear m y := by
  obtain ⟨hy1, hv1, hn1⟩ := ordWeekStart_spec m y
  obtain ⟨hy2, hv2, hn2⟩ := ordWeekStart_spec m (y + 1)
  have ha := weekStartCal_year m y
  have hb := weekStartCal_year m (y + 1)
  have hle : (ordWeekStart m y).1 ≤ (ordWeekStart m (y + 1)).1 := by omega
  unfold weeksInYear
  simp only [daysInWeek_eq]
  rw [sumYears_eq m _ _ hle]
  unfold Spec.weeksInYear
  rw [← hn1, ← hn2]
  unfold Spec.dayNumOrd
  congr 1; omega

theorem calFromOrd_of_dayNum (m : Mode) (Y T N : Int)
    (h : Spec.dby m Y + T - 1 = N ∧ Spec.dby m Y ≤ N ∧ N < Spec.dby m (Y + 1)) :
    ∃ cy mo cd, calFromOrd m Y T = some (cy, mo, cd) ∧ Spec.ValidCal m cy mo cd ∧
      Spec.dayNumCal m cy mo cd = N := by
  have := dby_succ m Y
  obtain ⟨mo, cd, he, hv, hn⟩ := calFromOrd_spec m Y T ⟨by omega, by omega⟩
  exact ⟨Y, mo, cd, he, hv, by rw [hn]; exact h.1⟩

theorem calFromWeek_spec (m : Mode) (y w d : Int) (h : Spec.ValidWeek m y w d) :
    ∃ cy mo cd, calFromWeek m y w d = some (cy, mo, cd) ∧ Spec.ValidCal m cy mo cd ∧
      Spec.dayNumCal m cy mo cd = Spec.dayNumWeek m y w d := by
  obtain ⟨hw1, hw2, hd1, hd2⟩ := h
  obtain ⟨hv, hn⟩ := weekStartCal_spec m y
  have hp := posOf_valid m _ _ _ hv
  have hyr := weekStartCal_year m y
  have hsucc := weekYearStart_succ m y
  have hb1 := weekYearStart_bounds m (y + 1)
  have hrange := dayNumCal_range m _ _ _ hv
  rw [hn] at hrange
  generalize hs : weekStartCal m y = s at *
  obtain ⟨sy, smo, sd⟩ := s
  unfold Spec.dayNumCal at hn
  simp only at hv hn hp hyr hrange
  unfold calFromWeek Spec.dayNumWeek
  simp only [daysInWeek_eq, hs, hp, daysInYear_eq]
  by_cases hn0 : (w - 1) * 7 + d - 1 = 0
  · rw [if_pos hn0]
    exact ⟨sy, smo, sd, rfl, hv, by unfold Spec.dayNumCal; omega⟩
  · rw [if_neg hn0, if_neg (by omega)]
    -- the day lies in the start's calendar year or one of the next two; in each case its ordinal
    -- there is what the code computes, by `dby_succ`
    have s0 := dby_succ m sy
    by_cases ht : Spec.dbm m sy smo + sd + ((w - 1) * 7 + d - 1) ≤ Spec.yearLen m sy
    · rw [if_pos ht]
      exact calFromOrd_of_dayNum m _ _ _ (by omega)
    · rw [if_neg ht]
      have s1 := dby_succ m (sy + 1)
      have l1 := yearLen_bounds m (sy + 1)
      rcases hyr with hyr | hyr
      · subst hyr
        rw [if_neg (by omega)]
        exact calFromOrd_of_dayNum m _ _ _ (by omega)
      · have hy : y = sy + 1 := by omega
        subst hy
        rw [if_pos (by omega)]
        split
        · exact calFromOrd_of_dayNum m _ _ _ (by omega)
        · have s2 := dby_succ m (sy + 1 + 1)
          have l2 := yearLen_bounds m (sy + 1 + 1)
          exact calFromOrd_of_dayNum m _ _ _ (by omega)

/-- Python's tuple order on valid calendar dates is the order of their day numbers: years lie one
    after the other (`dby_mono`), and within a year the months do (`dbmB_mono`). -/
theorem lexLt_iff (m : Mode) (a b : Int × Int × Int)
    (ha : Spec.ValidCal m a.1 a.2.1 a.2.2) (hb : Spec.ValidCal m b.1 b.2.1 b.2.2) :
    lexLt a b = true ↔ Spec.dayNumCal m a.1 a.2.1 a.2.2 < Spec.dayNumCal m b.1 b.2.1 b.2.2 := by
  obtain ⟨ay, amo, ad⟩ := a
  obtain ⟨by_, bmo, bd⟩ := b
  simp only at ha hb ⊢
  have ra := dayNumCal_range m _ _ _ ha
  have rb := dayNumCal_range m _ _ _ hb
  obtain ⟨ha1, ha2, ha3, ha4⟩ := ha
  obtain ⟨hb1, hb2, hb3, hb4⟩ := hb
  unfold lexLt
  simp only [Bool.or_eq_true, Bool.and_eq_true, decide_eq_true_eq, beq_iff_eq]
  rcases Int.lt_trichotomy ay by_ with h | h | h
  · have := dby_mono m (ay + 1) by_ (by omega)
    constructor
    · intro _; omega
    · intro _; left; exact h
  · subst h
    rcases Int.lt_trichotomy amo bmo with h | h | h
    · have := dbmB_mono m (Spec.leap m ay) amo bmo ha1 h hb2
      unfold Spec.dayNumCal Spec.dbm Spec.monthLen at *
      constructor
      · intro _; omega
      · intro _; right; exact ⟨rfl, Or.inl h⟩
    · subst h
      unfold Spec.dayNumCal
      constructor
      · rintro (h | ⟨_, h | ⟨_, h⟩⟩) <;> omega
      · intro h; right; exact ⟨rfl, Or.inr ⟨rfl, by omega⟩⟩
    · have := dbmB_mono m (Spec.leap m ay) bmo amo hb1 h ha2
      unfold Spec.dayNumCal Spec.dbm Spec.monthLen at *
      constructor
      · rintro (h | ⟨_, h | ⟨_, h⟩⟩) <;> omega
      · intro _; omega
  · have := dby_mono m (by_ + 1) ay (by omega)
    constructor
    · rintro (h | ⟨_, _⟩) <;> omega
    · intro _; omega

theorem lexLe_iff (m : Mode) (a b : Int × Int × Int)
    (ha : Spec.ValidCal m a.1 a.2.1 a.2.2) (hb : Spec.ValidCal m b.1 b.2.1 b.2.2) :
    lexLe a b = true ↔ Spec.dayNumCal m a.1 a.2.1 a.2.2 ≤ Spec.dayNumCal m b.1 b.2.1 b.2.2 := by
  unfold lexLe
  have := lexLt_iff m b a hb ha
  cases h : lexLt b a <;> simp_all <;> omega

/-- The three loops count the days between the two ordinal dates. -/
theorem daysFromStart_eq (m : Mode) (y od sy so : Int) (h : sy = y ∨ sy + 1 = y ∨ sy + 2 = y) :
    daysFromStart m y od sy so = some (Spec.dayNumOrd m y od - Spec.dayNumOrd m sy so) := by
  have h1 := dby_succ m sy
  have h2 := dby_succ m (sy + 1)
  unfold daysFromStart Spec.dayNumOrd
  simp only [daysInYear_eq]
  rcases h with e | e | e
  · subst e; rw [if_pos rfl]; congr 1; omega
  · subst e; rw [if_neg (by omega), if_pos rfl]; congr 1; omega
  · have e' : sy + 1 + 1 = y := by omega
    subst e'; rw [if_neg (by omega), if_neg (by omega), if_pos (by omega)]; congr 1; omega

theorem weekFromCalAt_spec (m : Mode) (y mo d : Int) (s : Int × Int × Int) (wy : Int)
    (h : Spec.ValidCal m y mo d) (hs : Spec.ValidCal m s.1 s.2.1 s.2.2)
    (hS : Spec.dayNumCal m s.1 s.2.1 s.2.2 = Spec.weekYearStart m wy)
    (hle : Spec.weekYearStart m wy ≤ Spec.dayNumCal m y mo d)
    (hlt : Spec.dayNumCal m y mo d < Spec.weekYearStart m (wy + 1)) :
    ∃ w wd, weekFromCalAt m y mo d s wy = some (wy, w, wd) ∧ Spec.ValidWeek m wy w wd ∧
      Spec.dayNumWeek m wy w wd = Spec.dayNumCal m y mo d := by
  obtain ⟨sy, smo, sd⟩ := s
  simp only at hs hS
  have r1 := dayNumCal_range m _ _ _ h
  have r2 := dayNumCal_range m _ _ _ hs
  have hsucc := weekYearStart_succ m wy
  have hwb := weeksInYear_bounds m wy
  -- the start lies in y, y - 1 or y - 2: the week-year spans at most 53 weeks = 371 days
  have hyr : sy = y ∨ sy + 1 = y ∨ sy + 2 = y := by
    by_cases c1 : y < sy
    · have := dby_mono m (y + 1) sy (by omega); omega
    · by_cases c2 : sy + 2 < y
      · have h1 := dby_mono m (sy + 1) (y - 1) (by omega)
        have h2 := dby_succ m (y - 1)
        have h3 := yearLen_bounds m (y - 1)
        rw [show y - 1 + 1 = y by omega] at h2
        omega
      · omega
  have ht : Spec.dayNumOrd m y (Spec.dbm m y mo + d) - Spec.dayNumOrd m sy (Spec.dbm m sy smo + sd) =
      Spec.dayNumCal m y mo d - Spec.weekYearStart m wy := by
    rw [← hS]; unfold Spec.dayNumOrd Spec.dayNumCal; omega
  unfold weekFromCalAt
  simp only [posOf_valid m y mo d h, posOf_valid m sy smo sd hs, daysFromStart_eq m y _ sy _ hyr, ht,
    daysInWeek_eq]
  rw [if_neg (by omega)]
  exact ⟨_, _, rfl, by unfold Spec.ValidWeek; omega, by unfold Spec.dayNumWeek; omega⟩

theorem weekFromCal_spec (m : Mode) (y mo d : Int) (h : Spec.ValidCal m y mo d) :
    ∃ wy w wd, weekFromCal m y mo d = some (wy, w, wd) ∧ Spec.ValidWeek m wy w wd ∧
      Spec.dayNumWeek m wy w wd = Spec.dayNumCal m y mo d := by
  obtain ⟨hv0, hn0⟩ := weekStartCal_spec m (y - 1)
  obtain ⟨hv1, hn1⟩ := weekStartCal_spec m y
  obtain ⟨hv2, hn2⟩ := weekStartCal_spec m (y + 1)
  have c0 := lexLe_iff m (weekStartCal m (y - 1)) (y, mo, d) hv0 h
  have c1 := lexLt_iff m (y, mo, d) (weekStartCal m y) h hv1
  have c2 := lexLe_iff m (weekStartCal m y) (y, mo, d) hv1 h
  have c3 := lexLt_iff m (y, mo, d) (weekStartCal m (y + 1)) h hv2
  rw [hn0] at c0; rw [hn1] at c1 c2; rw [hn2] at c3
  have e : y - 1 + 1 = y := by omega
  unfold weekFromCal
  simp only [Bool.and_eq_true, c0, c1, c2, c3]
  split
  · rename_i k
    exact ⟨_, weekFromCalAt_spec m y mo d _ (y - 1) h hv0 hn0 k.1 (by rw [e]; exact k.2)⟩
  · split
    · rename_i k
      exact ⟨_, weekFromCalAt_spec m y mo d _ y h hv1 hn1 k.1 k.2⟩
    · -- a day of year `y` lies after the start of week-year `y - 1` and before that of `y + 2`
      rename_i k1 k2
      have r := dayNumCal_range m _ _ _ h
      have b0 := weekYearStart_bounds m (y - 1)
      have b3 := weekYearStart_bounds m (y + 1 + 1)
      have s0 := dby_succ m (y - 1)
      have s1 := dby_succ m (y + 1)
      have l0 := yearLen_bounds m (y - 1)
      have l1 := yearLen_bounds m (y + 1)
      rw [e] at s0
      exact ⟨_, weekFromCalAt_spec m y mo d _ (y + 1) h hv2 hn2 (by omega) (by omega)⟩

theorem ordFromWeek_spec (m : Mode) (y w d : Int) (h : Spec.ValidWeek m y w d) :
    ∃ oy doy, ordFromWeek m y w d = some (oy, doy) ∧ Spec.ValidOrd m oy doy ∧
      Spec.dayNumOrd m oy doy = Spec.dayNumWeek m y w d := by
  obtain ⟨cy, mo, cd, he, hv, hn⟩ := calFromWeek_spec m y w d h
  obtain ⟨doy, he2, hv2, hn2⟩ := ordFromCal_spec m cy mo cd hv
  refine ⟨cy, doy, ?_, hv2, by rw [hn2, hn]⟩
  unfold ordFromWeek; rw [he]; exact he2

theorem weekFromOrd_spec (m : Mode) (y doy : Int) (h : Spec.ValidOrd m y doy) :
    ∃ wy w wd, weekFromOrd m y doy = some (wy, w, wd) ∧ Spec.ValidWeek m wy w wd ∧
      Spec.dayNumWeek m wy w wd = Spec.dayNumOrd m y doy := by
  obtain ⟨mo, cd, he, hv, hn⟩ := calFromOrd_spec m y doy h
  obtain ⟨wy, w, wd, he2, hv2, hn2⟩ := weekFromCal_spec m y mo cd hv
  refine ⟨wy, w, wd, ?_, hv2, by rw [hn2, hn]⟩
  unfold weekFromOrd; rw [he]; exact he2

/-! ### a valid date is determined by its day number -/

theorem ord_unique (m : Mode) (a1 a2 b1 b2 : Int) (ha : Spec.ValidOrd m a1 a2) (hb : Spec.ValidOrd m b1 b2)
    (hn : Spec.dayNumOrd m a1 a2 = Spec.dayNumOrd m b1 b2) : a1 = b1 ∧ a2 = b2 := by
  have ra := dayNumOrd_range m _ _ ha
  have rb := dayNumOrd_range m _ _ hb
  have hy := year_unique m a1 b1 (Spec.dayNumOrd m a1 a2) ra (by rw [hn]; exact rb)
  subst hy
  unfold Spec.dayNumOrd at hn
  exact ⟨rfl, by omega⟩

theorem cal_unique (m : Mode) (a1 a2 a3 b1 b2 b3 : Int) (ha : Spec.ValidCal m a1 a2 a3)
    (hb : Spec.ValidCal m b1 b2 b3) (hn : Spec.dayNumCal m a1 a2 a3 = Spec.dayNumCal m b1 b2 b3) :
    a1 = b1 ∧ a2 = b2 ∧ a3 = b3 := by
  -- neither date precedes the other in the tuple order
  have h1 := mt (lexLt_iff m (a1, a2, a3) (b1, b2, b3) ha hb).mp (by simp only; omega)
  have h2 := mt (lexLt_iff m (b1, b2, b3) (a1, a2, a3) hb ha).mp (by simp only; omega)
  simp only [lexLt, Bool.or_eq_true, Bool.and_eq_true, decide_eq_true_eq, beq_iff_eq] at h1 h2
  omega

theorem weekYearStart_le_of_lt (m : Mode) (a b : Int) (h : a < b) :
    Spec.weekYearStart m (a + 1) ≤ Spec.weekYearStart m b := by
  by_cases e : a + 1 = b
  · rw [e]; exact Int.le_refl _
  · have := dby_mono m (a + 1) b (by omega)
    have := weekYearStart_bounds m (a + 1)
    have := weekYearStart_bounds m b
    omega

theorem week_unique (m : Mode) (a1 a2 a3 b1 b2 b3 : Int) (ha : Spec.ValidWeek m a1 a2 a3)
    (hb : Spec.ValidWeek m b1 b2 b3) (hn : Spec.dayNumWeek m a1 a2 a3 = Spec.dayNumWeek m b1 b2 b3) :
    a1 = b1 ∧ a2 = b2 ∧ a3 = b3 := by
  obtain ⟨ha1, ha2, ha3, ha4⟩ := ha
  obtain ⟨hb1, hb2, hb3, hb4⟩ := hb
  have sa := weekYearStart_succ m a1
  have sb := weekYearStart_succ m b1
  unfold Spec.dayNumWeek at hn
  have hy : a1 = b1 := by
    rcases Int.lt_trichotomy a1 b1 with h | h | h
    · have := weekYearStart_le_of_lt m a1 b1 h; omega
    · exact h
    · have := weekYearStart_le_of_lt m b1 a1 h; omega
  subst hy
  exact ⟨rfl, by omega, by omega⟩

theorem weekStartCal_eq_of (m : Mode) (y : Int) (s : Int × Int × Int)
    (hv : Spec.ValidCal m s.1 s.2.1 s.2.2)
    (hn : Spec.dayNumCal m s.1 s.2.1 s.2.2 = Spec.weekYearStart m y) : weekStartCal m y = s := by
  obtain ⟨hv', hn'⟩ := weekStartCal_spec m y
  obtain ⟨h1, h2, h3⟩ := cal_unique m _ _ _ _ _ _ hv' hv (hn'.trans hn.symm)
  exact Prod.ext h1 (Prod.ext h2 h3)

theorem weekFromCal_eq_of (m : Mode) (y mo d wy w wd : Int) (h : Spec.ValidCal m y mo d)
    (hv : Spec.ValidWeek m wy w wd) (hn : Spec.dayNumWeek m wy w wd = Spec.dayNumCal m y mo d) :
    weekFromCal m y mo d = some (wy, w, wd) := by
  obtain ⟨wy', w', wd', he, hv', hn'⟩ := weekFromCal_spec m y mo d h
  obtain ⟨h1, h2, h3⟩ := week_unique m _ _ _ _ _ _ hv' hv (hn'.trans hn.symm)
  rw [he, h1, h2, h3]

theorem date_unique (m : Mode) (a b : Spec.Date) (ha : a.Valid m) (hb : b.Valid m)
    (hr : a.rep = b.rep) (hn : a.dayNum m = b.dayNum m) : a = b := by
  cases a <;> cases b <;> simp [Spec.Date.rep] at hr
  · obtain ⟨h1, h2, h3⟩ := cal_unique m _ _ _ _ _ _ ha hb hn; subst h1 h2 h3; rfl
  · obtain ⟨h1, h2⟩ := ord_unique m _ _ _ _ ha hb hn; subst h1 h2; rfl
  · obtain ⟨h1, h2, h3⟩ := week_unique m _ _ _ _ _ _ ha hb hn; subst h1 h2 h3; rfl

theorem convert_spec (m : Mode) (k : Nat) (hk : k < 3) (dt : Spec.Date) (h : dt.Valid m) :
    ∃ r, convert m k dt = some r ∧ r.Valid m ∧ r.rep = k ∧ r.dayNum m = dt.dayNum m := by
  match k, dt with
  | 0, .cal .. | 1, .ord .. | 2, .week .. => exact ⟨_, rfl, h, rfl, rfl⟩
  | 0, .ord y doy =>
    obtain ⟨mo, d, he, hv, hn⟩ := calFromOrd_spec m y doy h
    exact ⟨.cal y mo d, by simp [convert, he], hv, rfl, hn⟩
  | 0, .week y w d =>
    obtain ⟨cy, mo, cd, he, hv, hn⟩ := calFromWeek_spec m y w d h
    exact ⟨.cal cy mo cd, by simp [convert, he], hv, rfl, hn⟩
  | 1, .cal y mo d =>
    obtain ⟨doy, he, hv, hn⟩ := ordFromCal_spec m y mo d h
    exact ⟨.ord y doy, by simp [convert, he], hv, rfl, hn⟩
  | 1, .week y w d =>
    obtain ⟨oy, doy, he, hv, hn⟩ := ordFromWeek_spec m y w d h
    exact ⟨.ord oy doy, by simp [convert, he], hv, rfl, hn⟩
  | 2, .cal y mo d =>
    obtain ⟨wy, w, wd, he, hv, hn⟩ := weekFromCal_spec m y mo d h
    exact ⟨.week wy w wd, by simp [convert, he], hv, rfl, hn⟩
  | 2, .ord y doy =>
    obtain ⟨wy, w, wd, he, hv, hn⟩ := weekFromOrd_spec m y doy h
    exact ⟨.week wy w wd, by simp [convert, he], hv, rfl, hn⟩
  | k + 3, _ => omega

theorem convert_eq_of (m : Mode) (k : Nat) (hk : k < 3) (dt r : Spec.Date) (h : dt.Valid m)
    (hv : r.Valid m) (hr : r.rep = k) (hn : r.dayNum m = dt.dayNum m) : convert m k dt = some r := by
  obtain ⟨r0, he, hv0, hr0, hn0⟩ := convert_spec m k hk dt h
  rw [he, date_unique m r0 r hv0 hv (hr0.trans hr.symm) (hn0.trans hn.symm)]

theorem rep_lt_three (dt : Spec.Date) : dt.rep < 3 := by cases dt <;> simp [Spec.Date.rep]

theorem rep0_cal (d : Spec.Date) (h : d.rep = 0) : ∃ y mo dd, d = .cal y mo dd := by
  cases d <;> simp [Spec.Date.rep] at h
  exact ⟨_, _, _, rfl⟩

theorem rep1_ord (d : Spec.Date) (h : d.rep = 1) : ∃ y n, d = .ord y n := by
  cases d <;> simp [Spec.Date.rep] at h
  exact ⟨_, _, rfl⟩

theorem rep2_week (d : Spec.Date) (h : d.rep = 2) : ∃ y w dd, d = .week y w dd := by
  cases d <;> simp [Spec.Date.rep] at h
  exact ⟨_, _, _, rfl⟩

theorem convert_to_cal (m : Mode) (dt : Spec.Date) (h : dt.Valid m) :
    ∃ y mo d, convert m 0 dt = some (.cal y mo d) ∧ Spec.ValidCal m y mo d ∧
      Spec.dayNumCal m y mo d = dt.dayNum m := by
  obtain ⟨r, e, v, rr, n⟩ := convert_spec m 0 (by decide) dt h
  obtain ⟨y, mo, d, rfl⟩ := rep0_cal r rr
  exact ⟨y, mo, d, e, v, n⟩

theorem convert_to_ord (m : Mode) (dt : Spec.Date) (h : dt.Valid m) :
    ∃ y n, convert m 1 dt = some (.ord y n) ∧ Spec.ValidOrd m y n ∧ Spec.dayNumOrd m y n = dt.dayNum m := by
  obtain ⟨r, e, v, rr, n⟩ := convert_spec m 1 (by decide) dt h
  obtain ⟨y, d, rfl⟩ := rep1_ord r rr
  exact ⟨y, d, e, v, n⟩

theorem convert_back (m : Mode) (k : Nat) (hk : k < 3) (dt r : Spec.Date) (h : dt.Valid m)
    (he : convert m k dt = some r) : convert m dt.rep r = some dt ∧ r.Valid m ∧ r.rep = k ∧
      r.dayNum m = dt.dayNum m := by
  obtain ⟨r0, he0, hv, hr, hn⟩ := convert_spec m k hk dt h
  cases he.symm.trans he0
  exact ⟨convert_eq_of m dt.rep (rep_lt_three dt) r dt hv h rfl hn.symm, hv, hr, hn⟩

theorem convert_self (m : Mode) (dt : Spec.Date) : convert m dt.rep dt = some dt := by
  cases dt <;> rfl

end IsoDT.Lemmas
