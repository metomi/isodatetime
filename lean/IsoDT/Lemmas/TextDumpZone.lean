/-
  IsoDT.Lemmas.TextDumpZone — dumping with a format that carries a LITERAL `±hh:mm` zone
  (`CCYY-MM-DDThh:mm:ss+05:30` and its ordinal / week siblings) by the dumper without expanded year
  digits, and reading the printed text back (any number of expanded digits).

  `_get_expression_and_properties` splits the zone off the time, asks the default parser for the
  offset it spells (`get_time_zone`), and runs the zone substitution rules over the literal text
  (which only turn a leading `+` into the point's zone sign); `_dump_expression_with_properties`
  re-zones the point to that offset (`to_time_zone`), checks the year and prints.  All of that is
  proved for every complete custom format in `Lemmas/TextCustomDump` (`dump_custom`); here the format
  is shown to be the custom format "own representation, extended, no decimals, literal `±hh:mm`", its
  specified point to be the re-zoned point and its specified text to be `zonedText`.
-/
import IsoDT.Lemmas.TextCustomDump

namespace IsoDT.Text
open IsoDT IsoDT.Model IsoDT.Lemmas IsoDT.Text.Custom
open IsoDT.Spec (Date TZ TP)
open _root_.IsoDT.Gen.Templates (timeDesignator dumper_0 parserTables)

/-- The literal zone of a format string: sign (`-` iff the offset is negative), two digits of the
    hours, `:`, two digits of the minutes. -/
def litZoneText (z : TZ) : List Char :=
  (if z.h < 0 ∨ z.mi < 0 then '-' else '+') ::
    (renderNat 2 z.h.natAbs ++ ':' :: renderNat 2 z.mi.natAbs)

/-- The complete extended date tokens for the representation of `d`. -/
def litDateFmt : Date → List Char
  | .cal .. => ['C', 'C', 'Y', 'Y', '-', 'M', 'M', '-', 'D', 'D']
  | .ord .. => ['C', 'C', 'Y', 'Y', '-', 'D', 'D', 'D']
  | .week .. => ['C', 'C', 'Y', 'Y', '-', 'W', 'w', 'w', '-', 'D']

/-- `CCYY-MM-DDThh:mm:ss±hh:mm` (resp. `CCYY-DDD…`, `CCYY-Www-D…`) with the literal zone `z`. -/
def litFormat (d : Date) (z : TZ) : List Char :=
  litDateFmt d ++ ['T', 'h', 'h', ':', 'm', 'm', ':', 's', 's'] ++ litZoneText z

/-- Date and time of `q` as `stdText ned q` spells them, followed by the literal zone `z`. -/
def zonedTextN (ned : Nat) (q : TP) (z : TZ) : List Char :=
  trender (dateTmpl ned q.date) (dateEnv ned q.date) ++
    'T' :: (trender timeTmpl (timeEnv q) ++ litZoneText z)

/-- Date and time of `q` as `stdText 0 q` spells them (four year digits), followed by the literal
    zone `z`. -/
def zonedText (q : TP) (z : TZ) : List Char := zonedTextN 0 q z

example : zonedText ⟨.cal 2000 2 29, 5, 7, 9, ⟨0, 0⟩⟩ ⟨0, 0⟩ = "2000-02-29T05:07:09+00:00".toList := by
  decide +kernel

example : litFormat (.cal 0 0 0) ⟨5, 30⟩ = "CCYY-MM-DDThh:mm:ss+05:30".toList := by decide +kernel
example : litFormat (.week 0 0 0) ⟨0, -30⟩ = "CCYY-Www-DThh:mm:ss-00:30".toList := by decide +kernel
example : litFormat (.ord 0 0) ⟨0, 0⟩ = "CCYY-DDDThh:mm:ss+00:00".toList := by decide +kernel

/-- For a non-zero offset the literal-zone text is the specified text of the re-zoned point: the literal
    zone is the `±hh:mm` form of `stdText`. -/
theorem zonedText_eq_stdText (q : TP) (h0 : q.tz ≠ ⟨0, 0⟩) : zonedText q q.tz = stdText 0 q := by
  obtain ⟨d, hh, mi, ss, zh, zm⟩ := q
  simp only [ne_eq, TZ.mk.injEq] at h0
  unfold zonedText zonedTextN stdText
  simp [litZoneText, zoneTmpl, zoneEnv, h0, trender]

theorem litFormat_custom (d : Date) (k : DateKind) (hk : d.rep = k.k) (z : TZ) :
    litFormat d z = (CFmt.mk false k true .none (.lit .hm z)).text := by
  rcases rep_kind hk with ⟨rfl, _, _, _, rfl⟩ | ⟨rfl, _, _, rfl⟩ | ⟨rfl, _, _, _, rfl⟩ <;> rfl

/-- What `to_time_zone` guarantees of a given result (`toTimeZone_spec`). -/
theorem toTimeZone_some (m : Mode) (p q : TP) (z : TZ) (hv : p.Valid m) (hz : z.Valid)
    (hq : Model.toTimeZone m p z = some q) :
    q.inst m = p.inst m ∧ q.tz = z ∧ q.date.rep = p.date.rep ∧ q.Valid m := by
  obtain ⟨q', hq', h⟩ := toTimeZone_spec m p z hv hz
  obtain rfl := Option.some.inj (hq.symm.trans hq')
  exact ⟨h.1, h.2.1, h.2.2.1, h.2.2.2.1⟩

theorem target_litZone (m : Mode) (p q : TP) (z : TZ) (hv : p.Valid m) (hz : z.Valid)
    (hq : Model.toTimeZone m p z = some q) (k : DateKind) (hk : p.date.rep = k.k) :
    (CFmt.mk false k true .none (.lit .hm z)).target m p = some q := by
  obtain ⟨_, _, hrep, _⟩ := toTimeZone_some m p q z hv hz hq
  unfold CFmt.target
  rw [show (ZSpec.lit .hm z).target p = z from rfl, hq, Option.bind_some, ← hk, ← hrep, convert_self]
  rfl

theorem customText_zoned (k : DateKind) (z : TZ) (q : TP) :
    customText 0 ⟨false, k, true, .none, .lit .hm z⟩ q = zonedText q q.tz := by
  have hb : bodyText true q.date = trender (dateRestTmpl q.date) (dateRestEnv q.date) := by
    cases q.date <;> simp [bodyText, dsep, dateRestTmpl, dateRestEnv, trender]
  unfold zonedText zonedTextN
  rw [dateTmpl_eq, dateEnv_eq, trender_year, ← hb]
  simp [customText, CFmt.yd, yearText, clockText, csep, fracText, zoneText, zsign, zoneDigits, litZoneText, ySign,
    yDigits, timeTmpl, timeEnv, trender]

/-- **Dump with a literal zone**: the format `CCYY-MM-DDThh:mm:ss±hh:mm` (or its ordinal / week
    sibling, matching the point's representation) prints the point re-zoned to the literal offset,
    date and time as `stdText` spells them, followed by the literal zone text — provided the year of
    the RE-ZONED point is within 0000–9999; otherwise it is the dumper's bounds error. -/
theorem dump_litZone (m : Mode) (p q : TP) (hv : p.Valid m) (z : TZ) (hz : z.Valid)
    (hq : Model.toTimeZone m p z = some q) :
    dump m dumper_0 (XTP.ofTP 0 p) (litFormat p.date z) =
      if 0 ≤ dateYear q.date ∧ dateYear q.date ≤ 9999 then .ok (zonedText q z) else .error .err := by
  obtain ⟨_, htz, _⟩ := toTimeZone_some m p q z hv hz hq
  obtain ⟨k, hk⟩ := exists_kind p.date
  rw [litFormat_custom p.date k hk z,
    dump_custom m dumper_0 (.head _) 0 ⟨false, k, true, .none, .lit .hm z⟩ ⟨nofun, hz, nofun⟩ p q hv
      (target_litZone m p q z hv hz hq k hk),
    show customText dumper_0.ned _ q = zonedText q z from htz ▸ customText_zoned k z q]
  -- `YearInRange 0 y` unfolds to `0 ≤ y ∧ y ≤ 9999`
  rfl

theorem litZoneText_render (z : TZ) : litZoneText z = trender zTmplOff (litZoneEnv z) := by
  simp [litZoneText, zTmplOff, litZoneEnv, trender]

/-- The parser decodes date, time and a `±hh:mm` zone (also spelled `+00:00`) to exactly the point
    carrying that offset. -/
theorem parse_zonedText (cfg : Cfg) (hpt : cfg.pt ∈ parserTables) (hb : cfg.pt.basicOnly = false)
    (p : TP) (hv : p.Valid cfg.mode) (hy : YearInRange cfg.pt.ned (dateYear p.date)) :
    parse cfg (zonedTextN cfg.pt.ned p p.tz) false = some (XTP.ofTP cfg.pt.ned p) := by
  rw [zonedTextN, litZoneText_render]
  exact parse_anyZone cfg hpt hb _ (.inl rfl) p (std_date cfg.pt hpt hb p.date) hv hy zTmplOff
    (std_off cfg.pt hpt hb) (litZoneEnv p.tz) (fits_litZone _)
    (processZone_litZoneEnv cfg.zone p.tz (valid_tz hv))

end IsoDT.Text
