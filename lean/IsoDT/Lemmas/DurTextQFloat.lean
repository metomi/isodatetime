/-
  IsoDT.Lemmas.DurTextQFloat — the concrete `pyFloat` / `reprDec` of `Model.DurTextQ` on decimal
  texts `digits` and `digits.digits`, and the instances of the float laws on the eighths
  `k/8, k < 2^20` (`floatText_eighths`, `floatDec_eighths`): the hypotheses of the C10 theorems on
  decimal components are satisfiable by the functions the driver is validated with.
-/
import IsoDT.Lemmas.DurTextQ

namespace IsoDT.Lemmas.DurTextQFloat
open IsoDT IsoDT.Model IsoDT.Model.DurText IsoDT.Model.DurTextQ IsoDT.Gen IsoDT.Lemmas IsoDT.Lemmas.DurText
  IsoDT.Lemmas.DurTextQ

/-! ### `float(text)` on a clean decimal text -/

def DecCh (c : Char) : Prop := isDig c = true ∨ c = '.'

theorem decCh_not_ws (c : Char) (h : DecCh c) : isWs c = false := by
  rcases h with h | rfl
  · have := (isDig_iff c).mp h
    simp only [isWs, Bool.or_eq_false_iff, Bool.and_eq_false_iff, decide_eq_false_iff_not, beq_eq_false_iff_ne]
    omega
  · decide

theorem decCh_ne_us (c : Char) (h : DecCh c) : c ≠ '_' := by
  rcases h with h | rfl
  · exact dig_ne_of c _ h (by decide)
  · decide

theorem dropWhile_ws_id (t : List Char) (h : ∀ c ∈ t, DecCh c) : t.dropWhile isWs = t := by
  cases t with
  | nil => rfl
  | cons c cs => simp [List.dropWhile, decCh_not_ws c (h c (by simp))]

theorem dropTrailWs_id (t : List Char) (h : ∀ c ∈ t, DecCh c) : dropTrailWs t = t := by
  induction t with
  | nil => rfl
  | cons c cs ih =>
    have ih' := ih (fun x hx => h x (by simp [hx]))
    have hc := decCh_not_ws c (h c (by simp))
    unfold dropTrailWs
    rw [ih']
    cases cs with
    | nil => simp [hc]
    | cons d ds => rfl

theorem stripWs_id (t : List Char) (h : ∀ c ∈ t, DecCh c) : stripWs t = t := by
  unfold stripWs
  rw [dropWhile_ws_id t h, dropTrailWs_id t h]

theorem deUnderscore_id (t : List Char) (h : ∀ c ∈ t, DecCh c) (prev : Char) (hp : prev ≠ '_') :
    deUnderscore prev t = some t := by
  induction t generalizing prev with
  | nil => simp [deUnderscore, hp]
  | cons c cs ih =>
    have hc := decCh_ne_us c (h c (by simp))
    have := ih (fun x hx => h x (by simp [hx])) c hc
    simp [deUnderscore, hc, hp, this]

theorem takeWhile_digs (a : List Char) (c : Char) (r : List Char) (ha : Digs a) (hc : isDig c = false) :
    (a ++ c :: r).takeWhile isDig = a ∧ (a ++ c :: r).dropWhile isDig = c :: r := by
  induction a with
  | nil => simp [hc]
  | cons d ds ih =>
    have := ih ha.tail
    simp [ha.head, this]

theorem takeWhile_digs_all (a : List Char) (ha : Digs a) :
    a.takeWhile isDig = a ∧ a.dropWhile isDig = [] := by
  induction a with
  | nil => simp
  | cons d ds ih =>
    have := ih ha.tail
    simp [ha.head, this]

theorem takeSign_dig (d : Char) (r : List Char) (h : isDig d = true) : takeSign (d :: r) = (false, d :: r) := by
  have h1 : d ≠ '-' := dig_ne_of d _ h (by decide)
  have h2 : d ≠ '+' := dig_ne_of d _ h (by decide)
  unfold takeSign
  split
  · rename_i heq; injection heq with e _; exact absurd e h1
  · rename_i heq; injection heq with e _; exact absurd e h2
  · rfl

theorem parseDecLit_point (a b : List Char) (ha : Digs a) (hne : a ≠ []) (hb : Digs b) :
    parseDecLit (a ++ '.' :: b) = some ⟨false, a, b, 0⟩ := by
  cases a with
  | nil => exact absurd rfl hne
  | cons d a' =>
    have t1 := takeWhile_digs (d :: a') '.' b ha (by decide)
    have t2 := takeWhile_digs_all b hb
    unfold parseDecLit
    rw [show (d :: a') ++ '.' :: b = d :: (a' ++ '.' :: b) from rfl, takeSign_dig d _ ha.head]
    simp only [List.cons_append] at t1
    simp only [t1.1, t1.2, t2.1, t2.2]
    simp

theorem parseDecLit_digits (a : List Char) (ha : Digs a) (hne : a ≠ []) :
    parseDecLit a = some ⟨false, a, [], 0⟩ := by
  cases a with
  | nil => exact absurd rfl hne
  | cons d a' =>
    have t2 := takeWhile_digs_all (d :: a') ha
    unfold parseDecLit
    rw [takeSign_dig d _ ha.head]
    simp only [t2.1, t2.2]
    simp

theorem pyFloat_point (a b : List Char) (ha : Digs a) (hne : a ≠ []) (hb : Digs b) :
    pyFloat (a ++ '.' :: b) = decToF64 false (digitsVal (a ++ b)) (a ++ b).length (0 - (b.length : Int)) := by
  have hch : ∀ c ∈ a ++ '.' :: b, DecCh c := by
    intro c hc
    simp only [List.mem_append, List.mem_cons] at hc
    rcases hc with hc | hc | hc
    · exact Or.inl (ha c hc)
    · exact Or.inr hc
    · exact Or.inl (hb c hc)
  unfold pyFloat
  rw [stripWs_id _ hch, deUnderscore_id _ hch _ (by decide)]
  simp only [parseDecLit_point a b ha hne hb]

theorem pyFloat_digits (a : List Char) (ha : Digs a) (hne : a ≠ []) :
    pyFloat a = decToF64 false (digitsVal a) a.length 0 := by
  have hch : ∀ c ∈ a, DecCh c := fun c hc => Or.inl (ha c hc)
  unfold pyFloat
  rw [stripWs_id _ hch, deUnderscore_id _ hch _ (by decide)]
  simp only [parseDecLit_digits a ha hne, List.append_nil, List.length_nil]
  rfl

/-! ### the value of a decimal text -/

theorem pow10_neg (k : Nat) : pow10 (0 - (k : Int)) = mkRat 1 (10 ^ k) := by
  unfold pow10
  by_cases hk : k = 0
  · subst hk; simp only [Nat.pow_zero]
    exact (Rat.mkRat_self 1).symm
  · rw [if_neg (by omega)]
    congr 2
    omega

theorem mul_pow10_neg (m k : Nat) : (m : Rat) * pow10 (0 - (k : Int)) = mkRat m (10 ^ k) := by
  rw [pow10_neg, Rat.mkRat_eq_div, Rat.mkRat_eq_div]
  simp only [Rat.intCast_natCast]
  grind

theorem decToF64_exact (m len k : Nat) (hk : k ≤ len) (hx : isF64 (mkRat m (10 ^ k)) = true) :
    decToF64 false m len (0 - (k : Int)) = .val (mkRat m (10 ^ k)) := by
  unfold decToF64
  by_cases hm : m = 0
  · subst hm; simp
  · rw [if_neg hm]
    have h1 : ¬ (310 : Int) < 0 - (k : Int) := by omega
    have h2 : ¬ (0 - (k : Int) < -(330 + (len : Int))) := by omega
    simp only [h1, h2, ↓reduceIte, Bool.false_eq_true, mul_pow10_neg]
    unfold roundPos
    rw [if_pos hx]

theorem pyFloat_point_exact (a b : List Char) (ha : Digs a) (hne : a ≠ []) (hb : Digs b)
    (hx : isF64 (decVal a b) = true) : pyFloat (a ++ '.' :: b) = .val (decVal a b) := by
  rw [pyFloat_point a b ha hne hb]
  exact decToF64_exact _ _ _ (by simp) hx

theorem pyFloat_digits_exact (a : List Char) (ha : Digs a) (hne : a ≠ [])
    (hx : isF64 (digitsVal a : Rat) = true) : pyFloat a = .val (digitsVal a : Rat) := by
  rw [pyFloat_digits a ha hne]
  have e : ((digitsVal a : Nat) : Rat) = mkRat (digitsVal a) (10 ^ 0) := by
    rw [Rat.mkRat_eq_div]; simp only [Nat.pow_zero, Rat.intCast_natCast]; grind
  have := decToF64_exact (digitsVal a) a.length 0 (by omega) (by rw [← e]; exact hx)
  rw [e]
  exact this

/-! ### the eighths `k/8`, `k < 2^20` -/

/-- The domain of the non-vacuity instance: `0, 1/8, 2/8, …` below `2^17` (binary64 values, inside the
    plain-layout range of `repr`, at most 9 significant digits). -/
def Eighth (q : Rat) : Prop := ∃ k : Nat, k < 2 ^ 20 ∧ q = mkRat k 8

theorem eighth_den (q : Rat) (h : Eighth q) : q.den ∣ 8 := by
  obtain ⟨k, _, rfl⟩ := h
  rw [Rat.den_mkRat]
  simp only [Nat.reduceEqDiff, ↓reduceIte]
  exact Nat.div_dvd_of_dvd (Nat.gcd_dvd_left 8 _)

theorem eighth_num (q : Rat) (h : Eighth q) : 0 ≤ q.num ∧ q.num.natAbs < 2 ^ 20 := by
  obtain ⟨k, hk, rfl⟩ := h
  rw [Rat.num_mkRat, if_neg (by decide)]
  simp only [Int.natAbs_natCast]
  -- the numerator in lowest terms is `k / gcd 8 k`, between 0 and `k`
  have h1 : (0 : Int) ≤ (k : Int) / ((Nat.gcd 8 k : Nat) : Int) := Int.ediv_nonneg (by omega) (by omega)
  have h2 : (k : Int) / ((Nat.gcd 8 k : Nat) : Int) ≤ k := Int.ediv_le_self _ (by omega)
  omega

theorem eighth_nonneg (q : Rat) (h : Eighth q) : 0 ≤ q := Rat.num_nonneg.mp (eighth_num q h).1

theorem eighth_isF64 (q : Rat) (h : Eighth q) : isF64 q = true := by
  have hd := eighth_den q h
  have hn := (eighth_num q h).2
  unfold isF64
  have h8 : (2 : Nat) ^ 3 ∣ 2 ^ 1074 := Nat.pow_dvd_pow 2 (m := 3) (n := 1074) (by decide)
  have : 2 ^ 1074 % q.den = 0 := Nat.mod_eq_zero_of_dvd (Nat.dvd_trans hd h8)
  simp only [this, beq_self_eq_true, Bool.true_and, decide_eq_true_eq]
  have : (2 : Nat) ^ 20 ≤ 2 ^ 53 := Nat.pow_le_pow_right (by decide) (by decide)
  omega

theorem eighth_den_mem (q : Rat) (h : Eighth q) : q.den ∈ [1, 2, 4, 8] := by
  have hd := eighth_den q h
  have hle : q.den ≤ 8 := Nat.le_of_dvd (by decide) hd
  have : ∀ d, d ≤ 8 → d ∣ 8 → d ∈ [1, 2, 4, 8] := by decide
  exact this _ hle hd

/-! ### `reprDec` on the eighths -/

/-- The fraction digits `reprDec` prints (`0` for a whole value). -/
def fracB (den r : Nat) : List Char :=
  let fr := fracDigits (Nat.log2 den + 1) r den
  if fr = [] then ['0'] else fr

/-- The long division of `r/den`, `den ∈ {1, 2, 4, 8}`, terminates within its fuel and is exact. -/
theorem frac_table : ∀ den ∈ [1, 2, 4, 8], ∀ r, r < den →
    (∀ c ∈ fracB den r, isDig c = true) ∧ fracB den r ≠ [] ∧
      digitsVal (fracB den r) * den = r * 10 ^ (fracB den r).length := by decide +kernel

theorem reprDec_eighth (q : Rat) (h : Eighth q) :
    ∃ a b, reprDec q = a ++ '.' :: b ∧ Digs a ∧ a ≠ [] ∧ Digs b ∧ b ≠ [] ∧ decVal a b = q := by
  have hnn := eighth_nonneg q h
  have hnum := (eighth_num q h).1
  obtain ⟨t1, t2, t3⟩ := frac_table q.den (eighth_den_mem q h) (q.num.natAbs % q.den)
    (Nat.mod_lt _ q.den_pos)
  refine ⟨natDigits (q.num.natAbs / q.den), fracB q.den (q.num.natAbs % q.den), ?_, natDigits_digs _,
    natDigits_ne_nil _, t1, t2, ?_⟩
  · unfold reprDec decExpansion
    simp only
    rw [if_neg (by grind)]
    rfl
  · unfold decVal
    have hq : mkRat q.num q.den = q := Rat.mkRat_self q
    refine Eq.trans ?_ hq
    rw [Rat.mkRat_eq_iff (by exact Nat.ne_of_gt (Nat.pow_pos (by decide))) q.den_nz]
    rw [digitsVal_append, digitsVal_natDigits]
    have hn : q.num.natAbs / q.den * q.den + q.num.natAbs % q.den = q.num.natAbs := Nat.div_add_mod' _ _
    have key : (q.num.natAbs / q.den * 10 ^ (fracB q.den (q.num.natAbs % q.den)).length +
        digitsVal (fracB q.den (q.num.natAbs % q.den))) * q.den =
        q.num.natAbs * 10 ^ (fracB q.den (q.num.natAbs % q.den)).length := by
      generalize (fracB q.den (q.num.natAbs % q.den)).length = L at t3 ⊢
      generalize digitsVal (fracB q.den (q.num.natAbs % q.den)) = vb at t3 ⊢
      generalize 10 ^ L = T at t3 ⊢
      grind
    have e : (q.num.natAbs : Int) = q.num := by omega
    rw [← e]
    exact_mod_cast key

theorem floatDec_eighths : FloatDec pyFloat Eighth where
  read_digits := fun ds hd hne hD => pyFloat_digits_exact ds hd hne (eighth_isF64 _ hD)
  read_point := fun a b ha hne hb hD => pyFloat_point_exact a b ha hne hb (eighth_isF64 _ hD)

theorem floatPlain_eighths : FloatPlain reprDec Eighth := by
  intro q hq _
  obtain ⟨a, b, e, ha, hne, hb, hbne, _⟩ := reprDec_eighth q hq
  exact ⟨a, b, e, ha, hne, hb, hbne⟩

theorem floatText_eighths : FloatText reprDec pyFloat Eighth :=
  .of_dec floatDec_eighths fun q hq =>
    let ⟨a, b, e, ha, hne, hb, _, hv⟩ := reprDec_eighth q hq
    ⟨a, b, e, ha, hne, hb, hv⟩

end IsoDT.Lemmas.DurTextQFloat
