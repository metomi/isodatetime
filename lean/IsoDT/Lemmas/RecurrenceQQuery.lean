/-
  IsoDT.Lemmas.RecurrenceQQuery — `get_is_valid` on rational recurrences with an exact interval
  (`Model.RecurrenceQ`): the scan with its two early exits decides membership of
  the iterated series by rational instant.  `Lemmas/RecQuery.lean` is the whole-second counterpart.
-/
import IsoDT.Lemmas.RecurrenceQ

namespace IsoDT.Lemmas
open IsoDT IsoDT.Model IsoDT.Lemmas.DQ
open IsoDT.Spec (Date TZ TP)

variable {m : Mode} {r : RecQ} {d : DurationQ} {L : Rat}

theorem seriesQ_tail_side {p0 q : TPQ} {rest : List TPQ} {i0 step : Rat}
    (hs : SeriesOKQ m p0 (q :: rest) i0 step) (x : TPQ) (hx : x ∈ rest) :
    (0 ≤ step → q.inst m ≤ x.inst m) ∧ (step ≤ 0 → x.inst m ≤ q.inst m) := by
  obtain ⟨h1, _, _, h4⟩ := hs
  obtain ⟨k, _, hk⟩ := (seriesQ_mem_iff h4 (x.inst m)).1 ⟨x, hx, rfl⟩
  rw [h1, hk, Rat.add_assoc, ← natCast_succ_mul]
  exact add_natCast_mul_side i0 step (k + 1)

/-- The scan of `get_is_valid` over a series: true exactly when some listed point is at the probe's
    instant.  Each early exit is taken only when the bound on that side is missing, and is sound
    when the series then runs away from the probe: downwards if there is no start, upwards if
    there is no end. -/
theorem scanValidQ_series {p : TPQ} (hp : p.Valid m) {p0 : TPQ} :
    ∀ {l : List TPQ} {i0 step : Rat}, SeriesOKQ m p0 l i0 step →
      (r.start.isNone = true → step ≤ 0) → (r.end_.isNone = true → 0 ≤ step) →
      (scanValidQ m r p l = true ↔ ∃ q ∈ l, q.inst m = p.inst m) := by
  intro l
  induction l with
  | nil => intro _ _ _ _ _; exact ⟨fun h => (nomatch h), fun ⟨_, h, _⟩ => (nomatch h)⟩
  | cons q rest ih =>
    intro i0 step hs hdown hup
    have hrest := seriesQ_tail_side hs
    obtain ⟨_, hv, _, h5⟩ := hs
    rw [scanValidQ]
    simp only [List.mem_cons, exists_eq_or_imp]
    by_cases c1 : tpEqQ m q p = true
    · rw [if_pos c1]
      exact ⟨fun _ => Or.inl ((tpEqQ_iff m q p hv hp).1 c1), fun _ => rfl⟩
    · have hne : q.inst m ≠ p.inst m := fun h => c1 ((tpEqQ_iff m q p hv hp).2 h)
      rw [if_neg c1]
      by_cases c2 : (r.start.isNone && tpLtQ m q p) = true
      · rw [if_pos c2]
        rw [Bool.and_eq_true] at c2
        have hlt := (tpLtQ_iff m q p hv hp).1 c2.2
        have hstep := hdown c2.1
        refine ⟨fun h => (nomatch h), fun h => h.elim (absurd · hne) fun ⟨x, hx, hxe⟩ => ?_⟩
        exact absurd hlt (Rat.not_lt.2 (hxe ▸ (hrest x hx).2 hstep))
      · rw [if_neg c2]
        by_cases c3 : (r.end_.isNone && tpGtQ m q p) = true
        · rw [if_pos c3]
          rw [Bool.and_eq_true] at c3
          have hgt := (tpGtQ_iff m q p hv hp).1 c3.2
          have hstep := hup c3.1
          refine ⟨fun h => (nomatch h), fun h => h.elim (absurd · hne) fun ⟨x, hx, hxe⟩ => ?_⟩
          exact absurd hgt (Rat.not_lt.2 (hxe ▸ (hrest x hx).1 hstep))
        · rw [if_neg c3, ih h5 hdown hup]
          exact ⟨Or.inr, fun h => h.elim (absurd · hne) id⟩

end IsoDT.Lemmas
