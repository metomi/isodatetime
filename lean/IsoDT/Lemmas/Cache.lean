/-
  IsoDT.Lemmas.Cache — proofs about the cache state machine of IsoDT.Model.Cache:
  monotonicity of the cache-free semantics in the call-depth bound, independence of the mode for
  functions outside the dependent set, soundness and completeness of memoised evaluation with
  respect to the cache-free semantics under the key discipline.
-/
import IsoDT.Model.Cache

namespace IsoDT.Lemmas.Cache
open IsoDT.Gen.Cache (FnRec Site Table)
open IsoDT.Model.Cache

variable {V : Type}

/-! ## What `KeyDiscipline` gives -/

theorem fnOf_ge (T : Table) (f : Fn) (h : ¬ f < T.fns.length) : fnOf T f = noFn := by
  unfold fnOf
  have hle : T.fns.length ≤ f := Nat.le_of_not_lt h
  rw [List.getD_eq_getElem?_getD, List.getElem?_eq_none hle]
  rfl

theorem discipline_closed (T : Table) (hd : KeyDiscipline T = true) (f : Fn)
    (hf : modeDep T f = false) :
    (∀ a, a ∈ (fnOf T f).reads → a ∈ T.indepAttrs) ∧
    (∀ g, g ∈ (fnOf T f).calls → modeDep T g = false) := by
  by_cases hlt : f < T.fns.length
  · unfold KeyDiscipline at hd
    simp only [Bool.and_eq_true] at hd
    have hc := hd.1.1
    unfold closedOK at hc
    rw [List.all_eq_true] at hc
    have := hc f (List.mem_range.mpr hlt)
    simp only [hf, Bool.false_or, Bool.and_eq_true, List.all_eq_true, decide_eq_true_eq,
      Bool.not_eq_true', List.contains_iff_mem] at this
    exact ⟨fun a ha => this.1 a ha, fun g hg => (this.2 g hg).2⟩
  · rw [fnOf_ge T f hlt]
    exact ⟨fun a ha => by simp [noFn] at ha, fun g hg => by simp [noFn] at hg⟩

theorem discipline_keyed (T : Table) (hd : KeyDiscipline T = true) (f : Fn)
    (hm : isMemo T f = true) (hk : effKeyed T f = false) : modeDep T f = false := by
  by_cases hlt : f < T.fns.length
  · unfold KeyDiscipline at hd
    simp only [Bool.and_eq_true] at hd
    have hc := hd.1.2
    unfold keyedOK at hc
    rw [List.all_eq_true] at hc
    have := hc f (List.mem_range.mpr hlt)
    simp only [hm, hk, Bool.true_and, Bool.or_false, Bool.not_eq_true'] at this
    exact this
  · unfold isMemo at hm
    rw [fnOf_ge T f hlt] at hm
    simp [noFn] at hm

/-! ## The cache-free semantics is monotone in the depth bound, hence deterministic -/

theorem runP_mono (ev ev' : Fn → List V → Option V) (e : Attr → V)
    (h : ∀ g b w, ev g b = some w → ev' g b = some w) :
    ∀ (p : Prog V) (v : V), runP ev e p = some v → runP ev' e p = some v := by
  intro p
  induction p with
  | ret w => intro v hv; simpa [runP] using hv
  | read a k ih => intro v hv; simp only [runP] at hv ⊢; exact ih _ v hv
  | call g b k ih =>
    intro v hv
    simp only [runP] at hv ⊢
    cases hg : ev g b with
    | none => simp [hg] at hv
    | some w =>
      rw [hg] at hv
      rw [h g b w hg]
      exact ih w v hv

theorem evalP_succ (S : Sys V) (s : Spelling) :
    ∀ n f a v, evalP S s n f a = some v → evalP S s (n + 1) f a = some v := by
  intro n
  induction n with
  | zero => intro f a v h; simp [evalP] at h
  | succ n ih =>
    intro f a v h
    rw [evalP] at h ⊢
    exact runP_mono _ _ _ (fun g b w hw => ih g b w hw) _ v h

theorem evalP_mono (S : Sys V) (s : Spelling) {n m : Nat} (hnm : n ≤ m) (f : Fn) (a : List V)
    (v : V) (h : evalP S s n f a = some v) : evalP S s m f a = some v := by
  induction hnm with
  | refl => exact h
  | step _ ih => exact evalP_succ S s _ f a v ih

theorem pureVal_unique (S : Sys V) (s : Spelling) (f : Fn) (a : List V) (v v' : V)
    (h : PureVal S s f a v) (h' : PureVal S s f a v') : v = v' := by
  obtain ⟨n, hn⟩ := h
  obtain ⟨m, hm⟩ := h'
  have h1 := evalP_mono S s (Nat.le_max_left n m) f a v hn
  have h2 := evalP_mono S s (Nat.le_max_right n m) f a v' hm
  rw [h1] at h2
  exact Option.some.inj h2

/-! ## Functions outside the dependent set compute the same in every mode -/

theorem runP_indep (T : Table) (f : Fn) (ev ev' : Fn → List V → Option V) (e e' : Attr → V)
    (hr : ∀ a, a ∈ (fnOf T f).reads → e a = e' a)
    (hc : ∀ g, g ∈ (fnOf T f).calls → ∀ b, ev g b = ev' g b) :
    ∀ p : Prog V, ConfP T f p → runP ev e p = runP ev' e' p := by
  intro p
  induction p with
  | ret w => intro _; rfl
  | read a k ih =>
    intro hp
    simp only [ConfP] at hp
    simp only [runP]
    rw [hr a hp.1]
    exact ih _ (hp.2 _)
  | call g b k ih =>
    intro hp
    simp only [ConfP] at hp
    simp only [runP]
    rw [hc g hp.1 b]
    cases ev' g b with
    | none => rfl
    | some w => exact ih w (hp.2 w)

theorem evalP_indep (S : Sys V) (hd : KeyDiscipline S.T = true) (he : EnvOK S) (hc : Conf S)
    (s s' : Spelling) :
    ∀ n f a, modeDep S.T f = false → evalP S s n f a = evalP S s' n f a := by
  intro n
  induction n with
  | zero => intro f a _; rfl
  | succ n ih =>
    intro f a hf
    obtain ⟨hreads, hcalls⟩ := discipline_closed S.T hd f hf
    rw [evalP, evalP]
    exact runP_indep S.T f _ _ _ _ (fun x hx => he x (hreads x hx) s s')
      (fun g hg b => ih g b (hcalls g hg)) _ (hc f a)

theorem pureVal_indep (S : Sys V) (hd : KeyDiscipline S.T = true) (he : EnvOK S) (hc : Conf S)
    (s s' : Spelling) (f : Fn) (a : List V) (v : V) (hf : modeDep S.T f = false)
    (h : PureVal S s f a v) : PureVal S s' f a v := by
  obtain ⟨n, hn⟩ := h
  exact ⟨n, by rw [← evalP_indep S hd he hc s s' n f a hf]; exact hn⟩

section memo
variable [DecidableEq V]

theorem lookup_good (S : Sys V) (c : Cache V) (hc : CacheOK S c) (f : Fn) (a : List V)
    (key : Option Spelling) (v : V) (hl : lookup c f a key = some v) : GoodAt S f a v key := by
  unfold lookup at hl
  cases hfind : c.find? (fun e => e.hit f a key) with
  | none => simp [hfind] at hl
  | some e =>
    simp only [hfind, Option.map_some, Option.some.injEq] at hl
    have hmem := List.mem_of_find?_eq_some hfind
    have hp := List.find?_some hfind
    simp only [Entry.hit, Bool.and_eq_true, beq_iff_eq] at hp
    obtain ⟨⟨hf, ha⟩, hk⟩ := hp
    have hg := hc e hmem
    unfold Good at hg
    rw [hf, ha, hk, hl] at hg
    exact hg

omit [DecidableEq V] in
theorem good_insert (S : Sys V) (hd : KeyDiscipline S.T = true) (he : EnvOK S) (hc : Conf S)
    (s : Spelling) (f : Fn) (a : List V) (v : V) (hm : isMemo S.T f = true)
    (hv : PureVal S s f a v) : GoodAt S f a v (keyOf S.T s f) := by
  unfold keyOf
  cases hk : effKeyed S.T f with
  | true => simpa [GoodAt] using hv
  | false =>
    have hf := discipline_keyed S.T hd f hm hk
    simp only [Bool.false_eq_true, if_false, GoodAt]
    exact fun s' => pureVal_indep S hd he hc s s' f a v hf hv

omit [DecidableEq V] in
theorem good_use (S : Sys V) (s : Spelling) (f : Fn) (a : List V) (v : V)
    (h : GoodAt S f a v (keyOf S.T s f)) : PureVal S s f a v := by
  unfold keyOf at h
  cases hk : effKeyed S.T f with
  | true => simpa [hk, GoodAt] using h
  | false =>
    simp only [hk, Bool.false_eq_true, if_false, GoodAt] at h
    exact h s

omit [DecidableEq V] in
theorem runM_sound (S : Sys V) (s : Spelling)
    (ev : Cache V → Fn → List V → Option (V × Cache V))
    (hev : ∀ c g b w c', CacheOK S c → ev c g b = some (w, c') →
      CacheOK S c' ∧ PureVal S s g b w) :
    ∀ (p : Prog V) (c : Cache V) (v : V) (c' : Cache V), CacheOK S c →
      runM ev (S.env s) c p = some (v, c') →
      CacheOK S c' ∧ ∃ m, runP (evalP S s m) (S.env s) p = some v := by
  intro p
  induction p with
  | ret w =>
    intro c v c' hc h
    simp only [runM, Option.some.injEq, Prod.mk.injEq] at h
    exact ⟨h.2 ▸ hc, 0, by simp [runP, h.1]⟩
  | read a k ih =>
    intro c v c' hc h
    simp only [runM] at h
    obtain ⟨h1, m, hm⟩ := ih _ c v c' hc h
    exact ⟨h1, m, by simpa [runP] using hm⟩
  | call g b k ih =>
    intro c v c' hc h
    simp only [runM] at h
    cases hg : ev c g b with
    | none => simp [hg] at h
    | some r =>
      obtain ⟨w, c1⟩ := r
      simp only [hg] at h
      obtain ⟨hc1, m1, hm1⟩ := hev c g b w c1 hc hg
      obtain ⟨hc', m2, hm2⟩ := ih w c1 v c' hc1 h
      refine ⟨hc', max m1 m2, ?_⟩
      simp only [runP]
      rw [evalP_mono S s (Nat.le_max_left m1 m2) g b w hm1]
      exact runP_mono _ _ _
        (fun g' b' w' hw' => evalP_mono S s (Nat.le_max_right m1 m2) g' b' w' hw') _ v hm2

theorem evalM_sound (S : Sys V) (hd : KeyDiscipline S.T = true) (he : EnvOK S) (hcf : Conf S)
    (s : Spelling) :
    ∀ n c f a v c', CacheOK S c → evalM S s n c f a = some (v, c') →
      CacheOK S c' ∧ PureVal S s f a v := by
  intro n
  induction n with
  | zero => intro c f a v c' _ h; simp [evalM] at h
  | succ n ih =>
    intro c f a v c' hc h
    rw [evalM] at h
    by_cases hm : isMemo S.T f = true
    · simp only [hm, if_true] at h
      cases hl : lookup c f a (keyOf S.T s f) with
      | some w =>
        simp only [hl, Option.some.injEq, Prod.mk.injEq] at h
        have := good_use S s f a w (lookup_good S c hc f a _ w hl)
        exact ⟨h.2 ▸ hc, h.1 ▸ this⟩
      | none =>
        simp only [hl] at h
        cases hr : runM (evalM S s n) (S.env s) c (S.body f a) with
        | none => simp [hr] at h
        | some r =>
          obtain ⟨w, c1⟩ := r
          simp only [hr, Option.some.injEq, Prod.mk.injEq] at h
          obtain ⟨hc1, m, hmv⟩ := runM_sound S s (evalM S s n) ih (S.body f a) c w c1 hc hr
          have hp : PureVal S s f a w := ⟨m + 1, by rw [evalP]; exact hmv⟩
          refine ⟨?_, h.1 ▸ hp⟩
          rw [← h.2]
          intro e hemem
          rcases List.mem_cons.mp hemem with rfl | hmem
          · exact good_insert S hd he hcf s f a w hm hp
          · exact hc1 e hmem
    · simp only [hm] at h
      obtain ⟨hc1, m, hmv⟩ := runM_sound S s (evalM S s n) ih (S.body f a) c v c' hc h
      exact ⟨hc1, m + 1, by rw [evalP]; exact hmv⟩

/-- Completeness: against a sound cache, memoised evaluation needs no more depth than the
    cache-free one (hits only shorten it) and returns the same value. -/
theorem runM_complete (S : Sys V) (s : Spelling) (n : Nat)
    (hsound : ∀ c g b w c', CacheOK S c → evalM S s n c g b = some (w, c') →
      CacheOK S c' ∧ PureVal S s g b w)
    (hcompl : ∀ c g b w, CacheOK S c → evalP S s n g b = some w →
      ∃ c', evalM S s n c g b = some (w, c')) :
    ∀ (p : Prog V) (c : Cache V) (v : V), CacheOK S c →
      runP (evalP S s n) (S.env s) p = some v →
      ∃ c', runM (evalM S s n) (S.env s) c p = some (v, c') := by
  intro p
  induction p with
  | ret w => intro c v _ h; simp only [runP, Option.some.injEq] at h; exact ⟨c, by simp [runM, h]⟩
  | read a k ih => intro c v hc h; simp only [runP] at h; simp only [runM]; exact ih _ c v hc h
  | call g b k ih =>
    intro c v hc h
    simp only [runP] at h
    cases hg : evalP S s n g b with
    | none => simp [hg] at h
    | some w =>
      simp only [hg] at h
      obtain ⟨c1, hc1⟩ := hcompl c g b w hc hg
      have hok := (hsound c g b w c1 hc hc1).1
      obtain ⟨c', hc'⟩ := ih w c1 v hok h
      exact ⟨c', by simp only [runM, hc1]; exact hc'⟩

theorem evalM_complete (S : Sys V) (hd : KeyDiscipline S.T = true) (he : EnvOK S) (hcf : Conf S)
    (s : Spelling) :
    ∀ n c f a v, CacheOK S c → evalP S s n f a = some v →
      ∃ c', evalM S s n c f a = some (v, c') := by
  intro n
  induction n with
  | zero => intro c f a v _ h; simp [evalP] at h
  | succ n ih =>
    intro c f a v hc h
    have hpv : PureVal S s f a v := ⟨n + 1, h⟩
    rw [evalP] at h
    obtain ⟨c1, hc1⟩ := runM_complete S s n (evalM_sound S hd he hcf s n) ih (S.body f a) c v hc h
    rw [evalM]
    by_cases hm : isMemo S.T f = true
    · simp only [hm, if_true]
      cases hl : lookup c f a (keyOf S.T s f) with
      | some w =>
        have := good_use S s f a w (lookup_good S c hc f a _ w hl)
        exact ⟨c, by rw [pureVal_unique S s f a w v this hpv]⟩
      | none =>
        exact ⟨{ fn := f, args := a, key := keyOf S.T s f, val := v } :: c1, by simp only [hc1]⟩
    · simp only [hm]
      exact ⟨c1, hc1⟩

theorem step_ok (S : Sys V) (hd : KeyDiscipline S.T = true) (he : EnvOK S) (hcf : Conf S)
    (fuel : Nat) (st : State V) (op : Op V) (h : CacheOK S st.cache) :
    CacheOK S (step S fuel st op).1.cache := by
  cases op with
  | setMode s =>
    simp only [step]
    split <;> exact h
  | call f a =>
    simp only [step]
    cases hr : evalM S st.mode fuel st.cache f a with
    | none => exact h
    | some r =>
      obtain ⟨v, c⟩ := r
      exact (evalM_sound S hd he hcf st.mode fuel st.cache f a v c h hr).1

theorem run_ok (S : Sys V) (hd : KeyDiscipline S.T = true) (he : EnvOK S) (hcf : Conf S)
    (fuel : Nat) : ∀ (ops : List (Op V)) (st : State V), CacheOK S st.cache →
      CacheOK S (run S fuel st ops).cache := by
  intro ops
  induction ops with
  | nil => intro st h; exact h
  | cons op ops ih =>
    intro st h
    simp only [run]
    exact ih _ (step_ok S hd he hcf fuel st op h)

theorem step_call_out (S : Sys V) (fuel : Nat) (st : State V) (f : Fn) (a : List V) (v : V)
    (h : (step S fuel st (.call f a)).2 = some v) :
    ∃ c, evalM S st.mode fuel st.cache f a = some (v, c) := by
  simp only [step] at h
  cases hr : evalM S st.mode fuel st.cache f a with
  | none => simp [hr] at h
  | some r =>
    obtain ⟨w, c⟩ := r
    simp only [hr, Option.some.injEq] at h
    exact ⟨c, by rw [h]⟩

end memo

end IsoDT.Lemmas.Cache
