/-
  IsoDT.Lemmas.TextRoundParse — the parser half of the text round trip, in its three steps for the
  specified date followed by any listed time and zone form: `get_info` finds the rendered groups
  (`getInfo_rendered` of `TextDecode`), `_create_timepoint_from_info` decodes them (`assemble_date`) —
  together `parse_around` — and `TimePoint(...)` accepts a valid date with a legal time of day
  (`ctor_withTime`).  For the specified text `stdText` of a valid whole-second point the result is
  that point, field for field (`parse_stdText`).
-/
import IsoDT.Lemmas.TextRoundStr
import IsoDT.Lemmas.TextDecodeAll
import IsoDT.Lemmas.Conv
import IsoDT.Lemmas.ConstructTrunc

namespace IsoDT.Text
open IsoDT IsoDT.Model IsoDT.Lemmas
open IsoDT.Spec (Date TZ TP)
open _root_.IsoDT.Gen.Templates (timeDesignator dateTypeOrder parserTables)

def zTmplUtc : Template := [.group .tzUtc ['Z']]
def zTmplOff : Template := [.sign .tzSign, .digits .tzHour 2, .lit ':', .digits .tzMinute 2]

def Lists (es : List Entry) (t : Template) : Prop :=
  ∃ e ∈ es, e.tmpl = t ∧ e.typ = .complete ∧ e.fmt = .extended

def ListsZone (zes : List ZEntry) (t : Template) : Prop := ∃ ze ∈ zes, ze.tmpl = t ∧ ze.fmt = .extended

/-- `Lists` as a test to run over the tables (`hasZone`: `ListsZone`). -/
def listsForm (es : List Entry) (t : Template) : Bool :=
  es.any fun e => decide (e.tmpl = t) && decide (e.typ = .complete) && decide (e.fmt = .extended)

theorem listsForm_spec {es : List Entry} {t : Template} (h : listsForm es t = true) : Lists es t := by
  simpa only [Lists, listsForm, List.any_eq_true, Bool.and_eq_true, decide_eq_true_eq, and_assoc] using h

def hasDate (pt : ParserTables) (d : Date) : Bool := listsForm pt.dateEntries (dateTmpl pt.ned d)

def hasZone (pt : ParserTables) (t : Template) : Bool :=
  pt.zoneEntries.any fun e => decide (e.tmpl = t) && decide (e.fmt = .extended)

theorem hasZone_spec {pt : ParserTables} {t : Template} (h : hasZone pt t = true) :
    ListsZone pt.zoneEntries t := by
  simpa only [ListsZone, hasZone, List.any_eq_true, Bool.and_eq_true, decide_eq_true_eq] using h

/-- Every configuration that allows extended notation lists the three complete extended date forms,
    `hh:mm:ss`, `Z` and `±hh:mm`. -/
def stdOK (pt : ParserTables) : Bool :=
  pt.basicOnly ||
    (hasDate pt (.cal 0 0 0) && hasDate pt (.ord 0 0) && hasDate pt (.week 0 0 0) &&
     listsForm pt.timeEntries timeTmpl && hasZone pt zTmplUtc && hasZone pt zTmplOff)

theorem std_tables : parserTables.all stdOK = true := by decide +kernel

/-- `TimePointParser()`, which the dumper asks for the offset a literal zone spells, has the tables for
    two expanded year digits. -/
theorem defaultTables_eq : defaultTables = Gen.Templates.parser_2_all := rfl

theorem defaultTables_mem : defaultTables ∈ parserTables := by
  rw [defaultTables_eq]; exact .tail _ (.tail _ (.head _))

theorem defaultTables_ext : defaultTables.basicOnly = false := by decide +kernel

/-- Every parser table carries 0, 2 or 3 expanded year digits (the configurations regenerated). -/
theorem tables_ned : ∀ pt ∈ parserTables, pt.ned = 0 ∨ pt.ned = 2 ∨ pt.ned = 3 := by
  decide +kernel

theorem dateTmpl_rep (ned : Nat) (d : Date) :
    dateTmpl ned d = dateTmpl ned (.cal 0 0 0) ∨ dateTmpl ned d = dateTmpl ned (.ord 0 0) ∨
      dateTmpl ned d = dateTmpl ned (.week 0 0 0) := by
  cases d
  · exact Or.inl rfl
  · exact Or.inr (Or.inl rfl)
  · exact Or.inr (Or.inr rfl)

theorem std_entries (pt : ParserTables) (h : pt ∈ parserTables) (hb : pt.basicOnly = false) (d : Date) :
    (∃ de ∈ pt.dateEntries, de.tmpl = dateTmpl pt.ned d ∧ de.typ = .complete ∧ de.fmt = .extended) ∧
    (∃ te ∈ pt.timeEntries, te.tmpl = timeTmpl ∧ te.typ = .complete ∧ te.fmt = .extended) ∧
    (∃ ze ∈ pt.zoneEntries, ze.tmpl = zTmplUtc ∧ ze.fmt = .extended) ∧
    (∃ ze ∈ pt.zoneEntries, ze.tmpl = zTmplOff ∧ ze.fmt = .extended) := by
  have hk := List.all_eq_true.mp std_tables pt h
  simp only [stdOK, hb, Bool.false_or, Bool.and_eq_true] at hk
  obtain ⟨⟨⟨⟨⟨h1, h2⟩, h3⟩, h4⟩, h5⟩, h6⟩ := hk
  have hd : listsForm pt.dateEntries (dateTmpl pt.ned d) = true := by
    cases d
    · exact h1
    · exact h2
    · exact h3
  exact ⟨listsForm_spec hd, listsForm_spec h4, hasZone_spec h5, hasZone_spec h6⟩

theorem std_date (pt : ParserTables) (h : pt ∈ parserTables) (hb : pt.basicOnly = false) (d : Date) :
    Lists pt.dateEntries (dateTmpl pt.ned d) := (std_entries pt h hb d).1

theorem std_time (pt : ParserTables) (h : pt ∈ parserTables) (hb : pt.basicOnly = false) :
    Lists pt.timeEntries timeTmpl := (std_entries pt h hb (.cal 0 0 0)).2.1

theorem std_off (pt : ParserTables) (h : pt ∈ parserTables) (hb : pt.basicOnly = false) :
    ListsZone pt.zoneEntries zTmplOff := (std_entries pt h hb (.cal 0 0 0)).2.2.2

theorem fits_date (ned : Nat) (d : Date) : fits (dateTmpl ned d) (dateEnv ned d) = true := by
  cases d <;> by_cases h0 : ned = 0 <;>
    simp [dateTmpl, dateEnv, yearTmpl, yearEnv, h0, fits, renderNat_length, renderNat_digits] <;>
    omega

theorem fits_time (p : TP) : fits timeTmpl (timeEnv p) = true := by
  simp [timeTmpl, timeEnv, fits, renderNat_length, renderNat_digits]

/-- The groups of a `±hh:mm` zone spelling the offset `z` (also `+00:00`): the second branch of
    `zoneEnv`. -/
def litZoneEnv (z : TZ) : Env :=
  [(.tzSign, [if z.h < 0 ∨ z.mi < 0 then '-' else '+']), (.tzHour, renderNat 2 z.h.natAbs),
   (.tzMinute, renderNat 2 z.mi.natAbs)]

theorem fits_litZone (z : TZ) : fits zTmplOff (litZoneEnv z) = true := by
  simp [zTmplOff, litZoneEnv, fits, renderNat_length, renderNat_digits]
  omega

theorem fits_zone (z : TZ) : fits (zoneTmpl z) (zoneEnv z) = true := by
  unfold zoneTmpl zoneEnv
  split
  · rfl
  · exact fits_litZone z

/-- `process_time_zone_info` on the groups of a `±hh:mm` zone (also when it spells `+00:00`). -/
theorem processZone_litZoneEnv (zd : ZoneDefault) (z : TZ) (hz : z.Valid) :
    processZone zd (litZoneEnv z) = some ⟨some z.h, some z.mi⟩ := by
  unfold TZ.Valid at hz
  have hh : intOf? (renderNat 2 z.h.natAbs) = some (z.h.natAbs : Int) :=
    intOf_renderNat 2 _ (by decide) (by omega)
  have hm : intOf? (renderNat 2 z.mi.natAbs) = some (z.mi.natAbs : Int) :=
    intOf_renderNat 2 _ (by decide) (by omega)
  by_cases hneg : z.h < 0 ∨ z.mi < 0
  · simp [litZoneEnv, processZone, Env.has, Env.get?, hh, hm, hneg]
    constructor <;> omega
  · simp [litZoneEnv, processZone, Env.has, Env.get?, hh, hm, hneg]
    constructor <;> omega

theorem processZone_zoneEnv (zd : ZoneDefault) (z : TZ) (hz : z.Valid) :
    processZone zd (zoneEnv z) = some ⟨some z.h, some z.mi⟩ := by
  unfold zoneEnv
  by_cases h : z.h = 0 ∧ z.mi = 0
  · rw [if_pos h, h.1, h.2]; rfl
  · rw [if_neg h]; exact processZone_litZoneEnv zd z hz

theorem std_zone_entry (pt : ParserTables) (h : pt ∈ parserTables) (hb : pt.basicOnly = false) (z : TZ) :
    ∃ ze ∈ pt.zoneEntries, ze.tmpl = zoneTmpl z ∧ ze.fmt = .extended := by
  obtain ⟨_, _, hu, ho⟩ := std_entries pt h hb (.cal 0 0 0)
  unfold zoneTmpl
  by_cases hz : z.h = 0 ∧ z.mi = 0
  · rw [if_pos hz]; exact hu
  · rw [if_neg hz]; exact ho

/-- The keyword arguments for a complete date in its own representation, given time-of-day
    arguments and a processed zone. -/
def dateArgs (ned : Nat) (date : Date) (hh mi ss : Option Int) (hd md sd : Option (List Char))
    (z : ZoneInfo) : Args :=
  let base : Args := { ned := ned, hour := hh, minute := mi, second := ss, hourDec := hd,
                       minuteDec := md, secondDec := sd, tzHour := z.hour, tzMinute := z.minute }
  match date with
  | .cal y mo d => { base with year := some y, month := some mo, day := some d }
  | .ord y doy => { base with year := some y, doy := some doy }
  | .week y w d => { base with year := some y, week := some w, dow := some d }

/-- What `_create_timepoint_from_info` hands to `TimePoint(...)` for the specified text of `p`. -/
def stdArgs (ned : Nat) (p : TP) : Args :=
  dateArgs ned p.date (some p.hh) (some p.mi) (some p.ss) none none none ⟨some p.tz.h, some p.tz.mi⟩

/-- The fields are spelled by their digit groups without loss. -/
def FieldsFit (p : TP) : Prop :=
  DateFit p.date ∧ 0 ≤ p.hh ∧ p.hh < 100 ∧ 0 ≤ p.mi ∧ p.mi < 100 ∧ 0 ≤ p.ss ∧ p.ss < 100

theorem fieldsFit_of_valid (m : Mode) (p : TP) (hv : p.Valid m) : FieldsFit p := by
  obtain ⟨hd, b1, b2, b3, b4, b5, b6, _, _⟩ := hv
  exact ⟨dateFit_of_valid m p.date hd, b1, by omega, b3, by omega, b5, by omega⟩

theorem intOf_render_int (w : Nat) (v : Int) (hw : 0 < w) (h0 : 0 ≤ v) (h1 : v.toNat < 10 ^ w) :
    intOf? (renderNat w v.toNat) = some v := by
  rw [intOf_renderNat w _ hw h1, Int.toNat_of_nonneg h0]

theorem year_digits0 (y : Int) (hy : 0 ≤ y ∧ y ≤ 9999) :
    intOf? (renderNat 2 (y.natAbs / 100)) = some ((y.natAbs / 100 : Nat) : Int) ∧
    intOf? (renderNat 2 (y.natAbs % 100)) = some ((y.natAbs % 100 : Nat) : Int) :=
  ⟨intOf_renderNat 2 _ (by decide) (by omega), intOf_renderNat 2 _ (by decide) (by omega)⟩

theorem year_digitsX (ned : Nat) (h0 : ¬ ned = 0) (y : Int) (hy : y.natAbs < 10 ^ (4 + ned)) :
    intOf? (renderNat ned (y.natAbs / 10000)) = some ((y.natAbs / 10000 : Nat) : Int) ∧
    intOf? (renderNat 2 (y.natAbs / 100 % 100)) = some ((y.natAbs / 100 % 100 : Nat) : Int) ∧
    intOf? (renderNat 2 (y.natAbs % 100)) = some ((y.natAbs % 100 : Nat) : Int) := by
  have hlt : y.natAbs / 10000 < 10 ^ ned := by
    rw [Nat.pow_add] at hy
    generalize 10 ^ ned = K at hy ⊢
    omega
  exact ⟨intOf_renderNat ned _ (by omega) hlt, intOf_renderNat 2 _ (by decide) (by omega),
    intOf_renderNat 2 _ (by decide) (by omega)⟩

/-- `_create_timepoint_from_info` on a non-truncated date with a century group and no year-of-decade
    group, given what the groups decode to. -/
theorem assemble_complete (cfg : Cfg) (d t : Env) (z : ZoneInfo) (e : List Char) (dump : Option (List Char))
    (xx cc yy mo dd doy wk dow hh mi ss : Option Int) (nd : Nat) (yr : Int)
    (hcc : Env.has d .century = true) (hdec : Env.get? d .yearOfDecade = none)
    (eX : optInt d .expandedYear = some xx) (eC : optInt d .century = some cc)
    (eY : optInt d .yearOfCentury = some yy) (eM : optInt d .monthOfYear = some mo)
    (eD : optInt d .dayOfMonth = some dd) (eO : optInt d .dayOfYear = some doy)
    (eW : optInt d .weekOfYear = some wk) (eK : optInt d .dayOfWeek = some dow)
    (eh : optInt t .hourOfDay = some hh) (em : optInt t .minuteOfHour = some mi)
    (es : optInt t .secondOfMinute = some ss)
    (hnd : (if Env.has d .expandedYear then cfg.pt.ned else 0) = nd)
    (hyr : (if Env.get? d .yearSign == some ['-']
      then -(yy.getD 0 + 100 * cc.getD 0 + 10000 * xx.getD 0)
      else yy.getD 0 + 100 * cc.getD 0 + 10000 * xx.getD 0) = yr) :
    assemble cfg ⟨d, false, t, z, e⟩ dump = some
      { ned := nd, year := some yr, month := mo, day := dd, doy := doy, week := wk, dow := dow
        hour := hh, minute := mi, second := ss
        hourDec := Env.get? t .hourDec, minuteDec := Env.get? t .minuteDec, secondDec := Env.get? t .secondDec
        tzHour := z.hour, tzMinute := z.minute, truncated := Env.has t .truncated, truncProp := none
        dumpFmt := dump } := by
  have eZ : optInt d .yearOfDecade = some none := by unfold optInt; rw [hdec]
  have hZ : Env.has d .yearOfDecade = false := by unfold Env.has; rw [hdec]; rfl
  subst hnd hyr
  unfold assemble
  simp only [hcc, hZ, eZ, eX, eC, eY, eM, eD, eO, eW, eK, eh, em, es, Bool.not_true, Bool.false_and,
    Bool.false_or, Bool.or_false, Bool.not_false, Bool.true_or, Bool.true_and, Bool.false_eq_true, if_false,
    if_true, Option.getD_none, Int.zero_add]

/-- The year from its sign and three digit groups. -/
theorem signed_year (y : Int) :
    (if (some [if y < 0 then '-' else '+'] == some ['-']) = true
     then -(((y.natAbs % 100 : Nat) : Int) + 100 * ((y.natAbs / 100 % 100 : Nat) : Int) +
        10000 * ((y.natAbs / 10000 : Nat) : Int))
     else ((y.natAbs % 100 : Nat) : Int) + 100 * ((y.natAbs / 100 % 100 : Nat) : Int) +
        10000 * ((y.natAbs / 10000 : Nat) : Int)) = y := by
  have hn : ∀ n : Nat, ((n % 100 : Nat) : Int) + 100 * ((n / 100 % 100 : Nat) : Int) +
      10000 * ((n / 10000 : Nat) : Int) = (n : Int) := fun n => by omega
  rw [hn]
  by_cases h : y < 0
  · rw [if_pos h, if_pos (by decide)]; omega
  · rw [if_neg h, if_neg (by decide)]; omega

/-- `_create_timepoint_from_info` on the specified year groups, spelled with the parser's number `ned`
    of expanded digits or with none, followed by any groups `R` that are not year groups: the year is
    decoded, the rest as `R` and the time groups decode.  (The parser's own number is consulted only
    when there is an expanded-year group.) -/
theorem assemble_yearEnv (cfg : Cfg) (ned : Nat) (hned : ned = cfg.pt.ned ∨ ned = 0) (y : Int)
    (hy : YearInRange ned y) (R t : Env) (z : ZoneInfo)
    (e : List Char) (dump : Option (List Char)) (mo dd doy wk dow hh mi ss : Option Int)
    (hR : Env.get? R .yearOfDecade = none ∧ Env.get? R .expandedYear = none ∧ Env.get? R .yearSign = none)
    (eM : optInt R .monthOfYear = some mo) (eD : optInt R .dayOfMonth = some dd)
    (eO : optInt R .dayOfYear = some doy) (eW : optInt R .weekOfYear = some wk)
    (eK : optInt R .dayOfWeek = some dow) (eh : optInt t .hourOfDay = some hh)
    (em : optInt t .minuteOfHour = some mi) (es : optInt t .secondOfMinute = some ss) :
    assemble cfg ⟨yearEnv ned y ++ R, false, t, z, e⟩ dump = some
      { ned := ned, year := some y, month := mo, day := dd, doy := doy, week := wk, dow := dow
        hour := hh, minute := mi, second := ss
        hourDec := Env.get? t .hourDec, minuteDec := Env.get? t .minuteDec, secondDec := Env.get? t .secondDec
        tzHour := z.hour, tzMinute := z.minute, truncated := Env.has t .truncated, truncProp := none
        dumpFmt := dump } := by
  by_cases h0 : ned = 0
  · subst h0
    simp only [YearInRange, if_true] at hy
    obtain ⟨ecc, eyy⟩ := year_digits0 y hy
    refine assemble_complete cfg _ t z e dump none (some ((y.natAbs / 100 : Nat) : Int))
      (some ((y.natAbs % 100 : Nat) : Int)) mo dd doy wk dow hh mi ss 0 y rfl hR.1 ?_
      (congrArg (Option.map some) ecc) (congrArg (Option.map some) eyy) eM eD eO eW eK eh em es ?_ ?_
    · show optInt R .expandedYear = some none
      unfold optInt; rw [hR.2.1]
    · show (if (Env.get? R .expandedYear).isSome = true then _ else 0) = 0
      rw [hR.2.1]; rfl
    · show (if (Env.get? R .yearSign == some ['-']) = true then _ else
        ((y.natAbs % 100 : Nat) : Int) + 100 * ((y.natAbs / 100 : Nat) : Int) + 10000 * 0) = y
      rw [hR.2.2]
      show _ + _ + 10000 * 0 = y
      omega
  · obtain rfl := hned.resolve_right h0
    simp only [YearInRange, h0, if_false] at hy
    obtain ⟨exx, ecc, eyy⟩ := year_digitsX _ h0 y hy
    rw [show yearEnv cfg.pt.ned y = _ from if_neg h0]
    exact assemble_complete cfg _ t z e dump _ _ _ mo dd doy wk dow hh mi ss cfg.pt.ned y rfl hR.1
      (congrArg (Option.map some) exx) (congrArg (Option.map some) ecc) (congrArg (Option.map some) eyy)
      eM eD eO eW eK eh em es rfl (signed_year y)

/-- `_create_timepoint_from_info` on the specified date groups and ANY non-truncated time groups:
    the date fields of the point, the time fields as the time groups decode. -/
theorem assemble_date (cfg : Cfg) (ned : Nat) (hned : ned = cfg.pt.ned ∨ ned = 0) (date : Date)
    (hf : DateFit date) (hy : YearInRange ned (dateYear date)) (tenv : Env) (z : ZoneInfo) (e : List Char)
    (hh mi ss : Option Int)
    (h1 : optInt tenv .hourOfDay = some hh) (h2 : optInt tenv .minuteOfHour = some mi)
    (h3 : optInt tenv .secondOfMinute = some ss) (ht : Env.has tenv .truncated = false) :
    assemble cfg { dateEnv := dateEnv ned date, dateTrunc := false, timeEnv := tenv,
                   zone := z, expr := e } none =
      some (dateArgs ned date hh mi ss (Env.get? tenv .hourDec) (Env.get? tenv .minuteDec)
        (Env.get? tenv .secondDec) z) := by
  have key := assemble_yearEnv cfg ned hned (dateYear date) hy (dateRestEnv date) tenv z e none
  rw [dateEnv_eq]
  cases date with
  | cal y mo d =>
    rw [key (some mo) (some d) none none none hh mi ss ⟨rfl, rfl, rfl⟩
      (congrArg (Option.map some) (intOf_render_int 2 mo (by decide) hf.1 (by have := hf.2.1; omega)))
      (congrArg (Option.map some) (intOf_render_int 2 d (by decide) hf.2.2.1 (by have := hf.2.2.2; omega)))
      rfl rfl rfl h1 h2 h3, ht]
    rfl
  | ord y doy =>
    rw [key none none (some doy) none none hh mi ss ⟨rfl, rfl, rfl⟩ rfl rfl
      (congrArg (Option.map some) (intOf_render_int 3 doy (by decide) hf.1 (by have := hf.2; omega)))
      rfl rfl h1 h2 h3, ht]
    rfl
  | week y w d =>
    rw [key none none none (some w) (some d) hh mi ss ⟨rfl, rfl, rfl⟩ rfl rfl rfl
      (congrArg (Option.map some) (intOf_render_int 2 w (by decide) hf.1 (by have := hf.2.1; omega)))
      (congrArg (Option.map some) (intOf_render_int 1 d (by decide) hf.2.2.1 (by have := hf.2.2.2; omega)))
      h1 h2 h3, ht]
    rfl

/-- **The parser on a specified date, `T`, any listed time form and any listed zone form**: the date
    spelled with the parser's number of expanded digits or with none, the text of a listed complete
    extended time form whose groups decode, and the text of a listed extended zone form whose groups
    process to `z`, are handed to `TimePoint(...)` as the date fields of `date`, the time of day the
    groups spell and the zone `z`. -/
theorem parse_around (cfg : Cfg) (hpt : cfg.pt ∈ parserTables) (ned : Nat) (hned : ned = cfg.pt.ned ∨ ned = 0)
    (date : Date)
    (hde : Lists cfg.pt.dateEntries (dateTmpl ned date))
    (hf : DateFit date) (hy : YearInRange ned (dateYear date))
    (tt : Template) (hte : Lists cfg.pt.timeEntries tt)
    (tenv : Env) (hft : fits tt tenv = true)
    (zt : Template) (hze : ListsZone cfg.pt.zoneEntries zt)
    (zenv : Env) (hfz : fits zt zenv = true) (z : ZoneInfo) (hz : processZone cfg.zone zenv = some z)
    (hh mi ss : Option Int)
    (h1 : optInt tenv .hourOfDay = some hh) (h2 : optInt tenv .minuteOfHour = some mi)
    (h3 : optInt tenv .secondOfMinute = some ss) (ht : Env.has tenv .truncated = false) :
    parse cfg (trender (dateTmpl ned date) (dateEnv ned date) ++
        'T' :: (trender tt tenv ++ trender zt zenv)) false =
      ctor cfg.mode (dateArgs ned date hh mi ss (Env.get? tenv .hourDec) (Env.get? tenv .minuteDec)
        (Env.get? tenv .secondDec) z) := by
  obtain ⟨de, hde, hdt, hdc, hdf⟩ := hde
  obtain ⟨te, hte, rfl, htc, htf⟩ := hte
  obtain ⟨ze, hze, rfl, hzf⟩ := hze
  -- `get_info` finds the rendered groups
  have key := getInfo_rendered cfg hpt de hde hdc te hte (by rw [htc]; decide) (htf.trans hdf.symm)
    (some (ze, zenv))
    (by
      intro ze' zenv' h
      simp only [Option.some.injEq, Prod.mk.injEq] at h
      obtain ⟨rfl, rfl⟩ := h
      exact ⟨hze, hzf.trans hdf.symm, hfz⟩)
    (dateEnv ned date) tenv (by rw [hdt]; exact fits_date _ _) hft
  simp only [zoneTextOf, zoneEnvOf, zoneExprOf] at key
  rw [hdt, designator_eq, hz] at key
  unfold parse
  rw [key]
  simp only [Option.map_some, Bool.false_eq_true, if_false]
  -- `_create_timepoint_from_info` decodes them
  rw [assemble_date cfg ned hned date hf hy tenv z _ hh mi ss h1 h2 h3 ht]

/-- `_check_bounds` of a valid date with any time-of-day fields is the time-of-day check. -/
theorem checkBounds_withTime (m : Mode) (ned : Nat) (date : Date) (tz : TZ) (hdate : date.Valid m)
    (h mi s : Option Int) (hd md sd : Option (List Char)) :
    checkBounds m ((dateBase ned date tz).withTime h mi s hd md sd) = timeBounds m h mi s hd md sd := by
  rw [checkBounds_split]
  cases date with
  | cal y mo d =>
    show (dateBounds m (some y) (some mo) (some d) none none none && timeBounds m h mi s hd md sd) = _
    rw [(dateBounds_cal m y mo d).mpr hdate, Bool.true_and]
  | ord y doy =>
    show (dateBounds m (some y) none none none (some doy) none && timeBounds m h mi s hd md sd) = _
    rw [(dateBounds_ord m y doy).mpr hdate, Bool.true_and]
  | week y w d =>
    show (dateBounds m (some y) none none (some w) none (some d) && timeBounds m h mi s hd md sd) = _
    rw [(dateBounds_week m y w d).mpr hdate, Bool.true_and]

theorem timeBounds_S (m : Mode) (hh mi ss : Int) (sd : Option (List Char)) (h0 : 0 ≤ hh) (h1 : hh ≤ 24)
    (h2 : 0 ≤ mi) (h3 : mi < 60) (h4 : 0 ≤ ss) (h5 : ss < 60)
    (h24 : hh = 24 → mi = 0 ∧ ss = 0 ∧ (sd.map fracZero).getD true = true) :
    timeBounds m (some hh) (some mi) (some ss) none none sd = true := by
  by_cases e : hh = 24
  · subst e; simp [timeBounds, hoursInDay_eq, (h24 rfl).1, (h24 rfl).2.1, (h24 rfl).2.2]
  · simp [timeBounds, hoursInDay_eq, minutesInHour_eq, secondsInMinute_eq, e, h0, h2, h3, h4, h5]; omega

/-- `TimePoint(...)` on a valid date, a legal zone, an hour and any lower time-of-day arguments that
    pass the guards on decimal units (`g1`–`g3`) and leave nothing to be filled in (`f1`, `f2`). -/
theorem ctor_withTime (m : Mode) (ned : Nat) (date : Date) (tz : TZ) (hdate : date.Valid m) (hz : tz.Valid)
    (hh : Int) (mi s : Option Int) (hd md sd : Option (List Char))
    (g1 : (hd.isSome && (mi.isSome || s.isSome)) = false) (g2 : (md.isSome && (mi.isNone || s.isSome)) = false)
    (g3 : (sd.isSome && s.isNone) = false) (f1 : (hd.isNone && mi.isNone) = false)
    (f2 : (hd.isNone && md.isNone && s.isNone) = false)
    (hb : timeBounds m (some hh) mi s hd md sd = true) :
    ctor m (dateArgs ned date (some hh) mi s hd md sd ⟨some tz.h, some tz.mi⟩) =
      some ((dateBase ned date tz).withTime (some hh) mi s hd md sd) := by
  have hc := checkBounds_withTime m ned date tz hdate (some hh) mi s hd md sd
  rw [hb] at hc
  have htz : mkTZ m tz.h tz.mi = some tz := ConstructTrunc.mkTZOpt_of_valid m tz hz
  cases date with
  | cal y mo d =>
    simp only [dateBase, XTP.ofTP, XTP.withTime] at hc
    simp [ctor, dateArgs, dateBase, XTP.ofTP, XTP.withTime, htz, truthy, hc, g1, g2, g3, f1, f2]
  | ord y doy =>
    simp only [dateBase, XTP.ofTP, XTP.withTime] at hc
    simp [ctor, dateArgs, dateBase, XTP.ofTP, XTP.withTime, htz, truthy, hc, g1, g2, g3, f1, f2]
  | week y w d =>
    -- a week number 0 would count as absent (`truthy`)
    have hw : w ≠ 0 := by have := hdate.1; omega
    simp only [dateBase, XTP.ofTP, XTP.withTime] at hc
    simp [ctor, dateArgs, dateBase, XTP.ofTP, XTP.withTime, htz, truthy, hw, hc, g1, g2, g3, f1, f2]

theorem checkBounds_std (m : Mode) (ned : Nat) (p : TP) (hv : p.Valid m) :
    checkBounds m (XTP.ofTP ned p) = true := by
  obtain ⟨date, hh, mi, ss, tz⟩ := p
  obtain ⟨hdate, h0, h1, h2, h3, h4, h5, h24, _⟩ := hv
  rw [ofTP_withTime, checkBounds_withTime m ned date tz hdate]
  exact timeBounds_S m hh mi ss none h0 h1 h2 h3 h4 h5 (fun e => ⟨(h24 e).1, (h24 e).2, rfl⟩)

/-- `TimePoint(...)` on the assembled arguments of a valid point is that point. -/
theorem ctor_std (m : Mode) (ned : Nat) (p : TP) (hv : p.Valid m) :
    ctor m (stdArgs ned p) = some (XTP.ofTP ned p) := by
  obtain ⟨date, hh, mi, ss, tz⟩ := p
  obtain ⟨hdate, h0, h1, h2, h3, h4, h5, h24, hz⟩ := hv
  rw [ofTP_withTime]
  exact ctor_withTime m ned date tz hdate hz hh (some mi) (some ss) none none none rfl rfl rfl rfl rfl
    (timeBounds_S m hh mi ss none h0 h1 h2 h3 h4 h5 fun e => ⟨(h24 e).1, (h24 e).2, rfl⟩)

/-- The parser decodes the specified date (with the parser's number of expanded digits or none) and
    time of a valid whole-second point `p`, followed by the text of any listed extended zone form whose
    groups process to the offset of `p`, to exactly `p`. -/
theorem parse_anyZone (cfg : Cfg) (hpt : cfg.pt ∈ parserTables) (hb : cfg.pt.basicOnly = false)
    (ned : Nat) (hned : ned = cfg.pt.ned ∨ ned = 0) (p : TP)
    (hde : Lists cfg.pt.dateEntries (dateTmpl ned p.date))
    (hv : p.Valid cfg.mode) (hy : YearInRange ned (dateYear p.date))
    (zt : Template) (hze : ListsZone cfg.pt.zoneEntries zt)
    (zenv : Env) (hfz : fits zt zenv = true)
    (hz : processZone cfg.zone zenv = some ⟨some p.tz.h, some p.tz.mi⟩) :
    parse cfg (trender (dateTmpl ned p.date) (dateEnv ned p.date) ++
        'T' :: (trender timeTmpl (timeEnv p) ++ trender zt zenv)) false = some (XTP.ofTP ned p) := by
  obtain ⟨hd, a1, a2, a3, a4, a5, a6⟩ := fieldsFit_of_valid cfg.mode p hv
  rw [parse_around cfg hpt ned hned p.date hde hd hy timeTmpl (std_time cfg.pt hpt hb)
    (timeEnv p) (fits_time p) zt hze zenv hfz _ hz (some p.hh) (some p.mi) (some p.ss)
    (congrArg (Option.map some) (intOf_render_int 2 p.hh (by decide) a1 (by omega)))
    (congrArg (Option.map some) (intOf_render_int 2 p.mi (by decide) a3 (by omega)))
    (congrArg (Option.map some) (intOf_render_int 2 p.ss (by decide) a5 (by omega))) rfl]
  exact ctor_std cfg.mode ned p hv

/-- **Parser half of the round trip**: the parser — with the matching number of expanded year digits,
    extended notation allowed, any `allow_truncated`, any default-zone configuration, any calendar
    mode — decodes the specified text of a valid whole-second point to exactly that point. -/
theorem parse_stdText (cfg : Cfg) (hpt : cfg.pt ∈ Gen.Templates.parserTables) (hb : cfg.pt.basicOnly = false)
    (p : TP) (hv : p.Valid cfg.mode) (hy : YearInRange cfg.pt.ned (dateYear p.date)) :
    parse cfg (stdText cfg.pt.ned p) false = some (XTP.ofTP cfg.pt.ned p) :=
  parse_anyZone cfg hpt hb _ (.inl rfl) p (std_date cfg.pt hpt hb p.date) hv hy _
    (std_zone_entry cfg.pt hpt hb p.tz) (zoneEnv p.tz) (fits_zone _)
    (processZone_zoneEnv cfg.zone p.tz hv.2.2.2.2.2.2.2.2)

/-! ## Non-vacuity: the hypotheses are met by concrete configurations and points
    (the texts are `2000-02-29T24:00:00-00:30`, `-000400-W51-7T00:05:09Z`, `+9999999-366T23:59:59+99:59`;
    the 360-day calendar has no week 53) -/

example : parse ⟨Gen.Templates.parser_0_all, true, .unknown, .greg⟩
      (stdText 0 ⟨.cal 2000 2 29, 24, 0, 0, ⟨0, -30⟩⟩) false =
    some (XTP.ofTP 0 ⟨.cal 2000 2 29, 24, 0, 0, ⟨0, -30⟩⟩) :=
  parse_stdText ⟨Gen.Templates.parser_0_all, true, .unknown, .greg⟩ (.head _) rfl
    ⟨.cal 2000 2 29, 24, 0, 0, ⟨0, -30⟩⟩ (by decide +kernel) (by decide +kernel)

example : parse ⟨Gen.Templates.parser_2_all, false, .assumed 5 30, .d360⟩
      (stdText 2 ⟨.week (-400) 51 7, 0, 5, 9, ⟨0, 0⟩⟩) false =
    some (XTP.ofTP 2 ⟨.week (-400) 51 7, 0, 5, 9, ⟨0, 0⟩⟩) :=
  parse_stdText ⟨Gen.Templates.parser_2_all, false, .assumed 5 30, .d360⟩ (.tail _ (.tail _ (.head _))) rfl
    ⟨.week (-400) 51 7, 0, 5, 9, ⟨0, 0⟩⟩ (by decide +kernel) (by decide +kernel)

example : parse ⟨Gen.Templates.parser_3_all, true, .localOffset 1 0, .d366⟩
      (stdText 3 ⟨.ord 9999999 366, 23, 59, 59, ⟨99, 59⟩⟩) false =
    some (XTP.ofTP 3 ⟨.ord 9999999 366, 23, 59, 59, ⟨99, 59⟩⟩) :=
  parse_stdText ⟨Gen.Templates.parser_3_all, true, .localOffset 1 0, .d366⟩
    (.tail _ (.tail _ (.tail _ (.tail _ (.head _))))) rfl
    ⟨.ord 9999999 366, 23, 59, 59, ⟨99, 59⟩⟩ (by decide +kernel) (by decide +kernel)

end IsoDT.Text
