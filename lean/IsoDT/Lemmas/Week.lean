/-
  IsoDT.Lemmas.Week — ISO week-years: Spec facts (for every year in `Int`, every mode) and the
  refinement of the code-shaped week-start routine to them.
-/
import IsoDT.Lemmas.Calendar

namespace IsoDT.Lemmas
open IsoDT IsoDT.Model

def dowJan1 (m : Mode) (y : Int) : Int := Spec.weekday m (Spec.dby m y)

theorem weekday_range (m : Mode) (n : Int) : 1 ≤ Spec.weekday m n ∧ Spec.weekday m n ≤ 7 := by
  unfold Spec.weekday; omega

theorem weekday_succ (m : Mode) (n : Int) : Spec.weekday m (n + 1) = Spec.weekday m n % 7 + 1 := by
  unfold Spec.weekday; omega

theorem weekday_add7 (m : Mode) (n k : Int) : Spec.weekday m (n + 7 * k) = Spec.weekday m n := by
  unfold Spec.weekday; omega

theorem dowJan1_range (m : Mode) (y : Int) : 1 ≤ dowJan1 m y ∧ dowJan1 m y ≤ 7 := weekday_range m _

/-- The week-year starts on the Monday on or before 4 January: in terms of 1 January's weekday. -/
theorem weekYearStart_of_dow (m : Mode) (y : Int) :
    Spec.weekYearStart m y =
      if dowJan1 m y ≤ 4 then Spec.dby m y - (dowJan1 m y - 1) else Spec.dby m y + 8 - dowJan1 m y := by
  unfold dowJan1 Spec.weekYearStart Spec.weekday Spec.dayNumOrd
  split <;> omega

theorem weekYearStart_bounds (m : Mode) (y : Int) :
    Spec.dby m y - 3 ≤ Spec.weekYearStart m y ∧ Spec.weekYearStart m y ≤ Spec.dby m y + 3 := by
  have := dowJan1_range m y
  rw [weekYearStart_of_dow]; split <;> omega

theorem weekday_weekYearStart (m : Mode) (y : Int) : Spec.weekday m (Spec.weekYearStart m y) = 1 := by
  unfold Spec.weekYearStart Spec.weekday Spec.dayNumOrd; omega

theorem weekday_of_week_date (m : Mode) (wy w d : Int) (h : Spec.ValidWeek m wy w d) :
    Spec.weekday m (Spec.dayNumWeek m wy w d) = d := by
  obtain ⟨_, _, h1, h2⟩ := h
  have := weekday_weekYearStart m wy
  unfold Spec.dayNumWeek Spec.weekday at *; omega

theorem weekYearStart_mod (m : Mode) (y : Int) : (Spec.weekYearStart m y - Spec.weekRef m) % 7 = 0 := by
  have := weekday_weekYearStart m y
  unfold Spec.weekday at this; omega

/-- A week-year is a whole number of weeks: 52 or 53 (51 or 52 in the 360-day calendar). -/
theorem weekYearStart_succ (m : Mode) (y : Int) :
    Spec.weekYearStart m (y + 1) = Spec.weekYearStart m y + 7 * Spec.weeksInYear m y := by
  have h1 := weekYearStart_mod m y
  have h2 := weekYearStart_mod m (y + 1)
  unfold Spec.weeksInYear; omega

/-- A week-year differs from its calendar year by at most three days at either end. -/
theorem weeksInYear_yearLen (m : Mode) (y : Int) :
    Spec.yearLen m y - 6 ≤ 7 * Spec.weeksInYear m y ∧ 7 * Spec.weeksInYear m y ≤ Spec.yearLen m y + 6 := by
  have h1 := weekYearStart_bounds m y
  have h2 := weekYearStart_bounds m (y + 1)
  have h3 := dby_succ m y
  have h5 := weekYearStart_succ m y
  omega

theorem weeksInYear_bounds (m : Mode) (y : Int) : 51 ≤ Spec.weeksInYear m y ∧ Spec.weeksInYear m y ≤ 53 := by
  have := weeksInYear_yearLen m y
  have := yearLen_bounds m y
  omega

theorem weeksInYear_bounds_long (m : Mode) (h : m ≠ .d360) (y : Int) : 52 ≤ Spec.weeksInYear m y := by
  have := weeksInYear_yearLen m y
  have h4 : 365 ≤ Spec.yearLen m y := by
    cases m
    · rw [yearLen_greg]; split <;> omega
    · exact absurd rfl h
    all_goals simp only [yearLen_fixed]; omega
  omega

/-- Every day number lies in exactly one week-year. -/
theorem weekYearStart_strictMono (m : Mode) (y : Int) : Spec.weekYearStart m y < Spec.weekYearStart m (y + 1) := by
  have := weekYearStart_succ m y
  have := weeksInYear_bounds m y
  omega

theorem dayNumCal_jan (m : Mode) (y d : Int) : Spec.dayNumCal m y 1 d = Spec.dby m y + d - 1 := by
  unfold Spec.dayNumCal Spec.dbm; rw [dbmB_one]; omega

theorem monthLen_bounds (m : Mode) (y mo : Int) (h1 : 1 ≤ mo) (h2 : mo ≤ 12) :
    28 ≤ Spec.monthLen m y mo ∧ Spec.monthLen m y mo ≤ 31 := monthLenB_bounds m _ mo h1 h2

theorem dayNumCal_dec (m : Mode) (y k : Int) :
    Spec.dayNumCal m y 12 (Spec.monthLen m y 12 - k + 1) = Spec.dby m (y + 1) - k := by
  have := dbmB_twelve m (Spec.leap m y)
  have := dby_succ m y
  unfold Spec.dayNumCal Spec.dbm Spec.monthLen Spec.yearLen at *; omega

theorem dayNumOrd_range (m : Mode) (y doy : Int) (h : Spec.ValidOrd m y doy) :
    Spec.dby m y ≤ Spec.dayNumOrd m y doy ∧ Spec.dayNumOrd m y doy < Spec.dby m (y + 1) := by
  obtain ⟨h1, h2⟩ := h
  have := dby_succ m y
  unfold Spec.dayNumOrd; omega

theorem validOrd_of_cal (m : Mode) (y mo d : Int) (h : Spec.ValidCal m y mo d) :
    Spec.ValidOrd m y (Spec.dbm m y mo + d) ∧
      Spec.dayNumOrd m y (Spec.dbm m y mo + d) = Spec.dayNumCal m y mo d := by
  obtain ⟨h1, h2, h3, h4⟩ := h
  have := dbmB_range m (Spec.leap m y) mo h1 h2
  unfold Spec.ValidOrd Spec.dayNumOrd Spec.dayNumCal Spec.dbm Spec.monthLen Spec.yearLen at *; omega

theorem dayNumCal_range (m : Mode) (y mo d : Int) (h : Spec.ValidCal m y mo d) :
    Spec.dby m y ≤ Spec.dayNumCal m y mo d ∧ Spec.dayNumCal m y mo d < Spec.dby m (y + 1) := by
  obtain ⟨ho, hd⟩ := validOrd_of_cal m y mo d h
  rw [← hd]; exact dayNumOrd_range m y _ ho

/-- The weekday of 1 January that the code computes from the 2000-01-03 reference. -/
def codeDow (m : Mode) (y : Int) : Int :=
  if y > 2000 then (1 - 3 + daysInYearRange m 2000 (y - 1)) % 7 + 1
  else 7 - (3 - 2 + daysInYearRange m y (2000 - 1)) % 7

theorem codeDow_eq (m : Mode) (y : Int) (h : y ≠ 2000) : codeDow m y = dowJan1 m y := by
  unfold codeDow dowJan1 Spec.weekday Spec.weekRef Spec.dayNumOrd
  rw [daysInYearRange_eq, daysInYearRange_eq]
  by_cases hy : y > 2000
  · have : (2000 : Int) ≤ y - 1 := by omega
    simp only [hy, this, ↓reduceIte]
    have : y - 1 + 1 = y := by omega
    rw [this]; omega
  · have : y ≤ 2000 - 1 := by omega
    simp only [hy, this, ↓reduceIte]
    have : (2000 : Int) - 1 + 1 = 2000 := by omega
    rw [this]; omega

theorem weekStartCal_unfold (m : Mode) (y : Int) :
    weekStartCal m y =
      if y = 2000 then (2000, 1, 3)
      else if codeDow m y = 1 then (y, 1, 1)
      else if codeDow m y > 4 then (y, 1, 1 + (8 - codeDow m y))
      else match walkRev (indexed m (isLeapYear (y - 1))).reverse (codeDow m y - 1) with
        | some (mo, d) => (y - 1, mo, d)
        | none => (y - 1, 0, 0) := by
  unfold weekStartCal codeDow
  simp only [gen_weekRefCal, gen_weekRefOrd, daysInWeek_eq]
  by_cases h0 : y = 2000
  · simp [h0]
  · by_cases hy : y > 2000 <;> simp only [h0, hy, ↓reduceIte] <;> rfl

/-- `get_calendar_date_week_date_start(y)` is a valid calendar date, and it is the Monday that
    starts week-year `y`. -/
theorem weekStartCal_spec (m : Mode) (y : Int) :
    Spec.ValidCal m (weekStartCal m y).1 (weekStartCal m y).2.1 (weekStartCal m y).2.2 ∧
    Spec.dayNumCal m (weekStartCal m y).1 (weekStartCal m y).2.1 (weekStartCal m y).2.2 =
      Spec.weekYearStart m y := by
  rw [weekStartCal_unfold]
  have hj := monthLen_bounds m y 1 (by omega) (by omega)
  have hw := weekYearStart_of_dow m y
  have hr := dowJan1_range m y
  by_cases h0 : y = 2000
  · subst h0
    rw [if_pos rfl]; dsimp only
    rw [dayNumCal_jan]
    refine ⟨by unfold Spec.ValidCal; omega, ?_⟩
    unfold Spec.weekYearStart Spec.weekday Spec.weekRef Spec.dayNumOrd; omega
  · rw [if_neg h0, codeDow_eq m y h0]
    split
    · dsimp only
      rw [dayNumCal_jan]
      exact ⟨by unfold Spec.ValidCal; omega, by split at hw <;> omega⟩
    · split
      · dsimp only
        rw [dayNumCal_jan]
        exact ⟨by unfold Spec.ValidCal; omega, by split at hw <;> omega⟩
      · -- 2..4: the week-year starts in the last days of December of the year before
        rw [walkRev_spec m _ _ (by omega) (by omega), monthLenB_leapYear]
        have hd := monthLen_bounds m (y - 1) 12 (by omega) (by omega)
        dsimp only
        refine ⟨by unfold Spec.ValidCal; omega, ?_⟩
        rw [dayNumCal_dec, show y - 1 + 1 = y by omega]
        split at hw <;> omega

end IsoDT.Lemmas
