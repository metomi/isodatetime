/-
  IsoDT.Lemmas.TextRoundDec — the text round trip for the three DECIMAL forms of a time point
  (`Thh,ii`, `Thh:mm,nn`, `Thh:mm:ss,tt`): the points concerned (`DTP`), their text-layer value
  (`DTP.toXTP`), the text they are specified to print as (`decText`, in the style of `stdText`), the
  point the parser is specified to read back (`DTP.reparsed`: the fraction as printed, i.e. without
  its trailing zeros; a decimal-second point with a zero fraction prints no fraction and reads back as
  the whole-second point), the dumper half `str = decText` (`str_eq_decText`), and what the parser half
  `parse decText = reparsed` (`C08_parse_decimal` of `Props/C08b`) needs per form.

  The dumper half is `str_withTime` (`TextRoundStr`) with the time part of the format concrete per
  form.  The parser half applies `parse_around` and `ctor_withTime` (`TextRoundParse`) per form: here
  are the listed forms, the fit of the group texts and the bounds; a decimal second with a zero
  fraction is the whole-second case (`parse_stdText`).
-/
import IsoDT.Lemmas.TextRoundParse

namespace IsoDT.Text
open IsoDT IsoDT.Model IsoDT.Lemmas
open IsoDT.Spec (Date TZ TP)
open _root_.IsoDT.Gen.Templates (timeDesignator dumper_0 dumper_2 dumper_3 dumpTables parserTables)

/-- The significant digits of a fraction: trailing zeros dropped (possibly nothing left). -/
def sig (s : List Char) : List Char := (s.reverse.dropWhile (· = '0')).reverse

theorem stripZeros_eq (s : List Char) : stripZeros s = if sig s = [] then ['0'] else sig s := by
  unfold stripZeros sig
  simp only [List.isEmpty_iff]

theorem snoc_induction {α : Type} {P : List α → Prop} (h0 : P []) (h1 : ∀ s c, P s → P (s ++ [c])) :
    ∀ s, P s := by
  intro s
  have : ∀ l : List α, P l.reverse := by
    intro l
    induction l with
    | nil => exact h0
    | cons c l ih => rw [List.reverse_cons]; exact h1 _ _ ih
  simpa using this s.reverse

theorem sig_snoc (s : List Char) (c : Char) : sig (s ++ [c]) = if c = '0' then sig s else s ++ [c] := by
  unfold sig
  by_cases h : c = '0'
  · simp [h]
  · simp [h]

theorem sig_nil : sig [] = [] := rfl

theorem sig_decomp : ∀ s : List Char, ∃ k, s = sig s ++ List.replicate k '0' := by
  refine snoc_induction ⟨0, rfl⟩ ?_
  intro s c ⟨k, hk⟩
  rw [sig_snoc]
  by_cases h : c = '0'
  · subst h
    refine ⟨k + 1, ?_⟩
    rw [if_pos rfl, List.replicate_succ', ← List.append_assoc, ← hk]
  · exact ⟨0, by simp [h]⟩

theorem sig_last : ∀ s : List Char, sig s = [] ∨ ∃ r c, sig s = r ++ [c] ∧ c ≠ '0' := by
  refine snoc_induction (Or.inl rfl) ?_
  intro s c ih
  rw [sig_snoc]
  by_cases h : c = '0'
  · rw [if_pos h]; exact ih
  · rw [if_neg h]; exact Or.inr ⟨s, c, rfl, h⟩

theorem sig_sig (s : List Char) : sig (sig s) = sig s := by
  rcases sig_last s with h | ⟨r, c, h, hc⟩
  · rw [h]; rfl
  · rw [h, sig_snoc, if_neg hc]

theorem fracZero_snoc (s : List Char) (c : Char) : fracZero (s ++ [c]) = (fracZero s && decide (c = '0')) := by
  simp [fracZero]

theorem sig_eq_nil_iff : ∀ s : List Char, sig s = [] ↔ fracZero s = true := by
  refine snoc_induction (by simp [sig_nil, fracZero]) ?_
  intro s c ih
  rw [sig_snoc, fracZero_snoc]
  by_cases h : c = '0'
  · simp [h, ih]
  · simp [h]

theorem sig_digits (s : List Char) (h : s.all isDigit = true) : (sig s).all isDigit = true := by
  obtain ⟨k, hk⟩ := sig_decomp s
  rw [hk, List.all_append, Bool.and_eq_true] at h
  exact h.1

theorem sig_length (s : List Char) : (sig s).length ≤ s.length := by
  obtain ⟨k, hk⟩ := sig_decomp s
  have := congrArg List.length hk
  simp at this
  omega

theorem digitsVal_snoc (s : List Char) (c : Char) :
    digitsVal (s ++ [c]) = 10 * digitsVal s + (c.toNat - 48) := by
  simp [digitsVal]

theorem digitsVal_zeros (s : List Char) (k : Nat) :
    digitsVal (s ++ List.replicate k '0') = digitsVal s * 10 ^ k := by
  induction k with
  | zero => simp
  | succ k ih =>
    rw [List.replicate_succ', ← List.append_assoc, digitsVal_snoc, ih, Nat.pow_succ]
    have : ('0' : Char).toNat - 48 = 0 := by decide
    rw [this, Nat.add_zero, Nat.mul_comm 10, Nat.mul_assoc]

theorem stripZeros_ne (s : List Char) : stripZeros s ≠ [] := by
  rw [stripZeros_eq]
  split
  · simp
  · assumption

theorem stripZeros_digits (s : List Char) (h : s.all isDigit = true) :
    (stripZeros s).all isDigit = true := by
  rw [stripZeros_eq]
  split
  · decide
  · exact sig_digits s h

theorem stripZeros_length (s : List Char) (h : s ≠ []) : (stripZeros s).length ≤ s.length := by
  rw [stripZeros_eq]
  split
  · cases s with
    | nil => exact absurd rfl h
    | cons _ _ => simp
  · exact sig_length s

theorem sig_zero : sig ['0'] = [] := by decide

theorem stripZeros_idem (s : List Char) : stripZeros (stripZeros s) = stripZeros s := by
  rw [stripZeros_eq s]
  split
  · decide
  · rename_i h
    rw [stripZeros_eq, sig_sig, if_neg h]

theorem fracZero_stripZeros (s : List Char) : fracZero (stripZeros s) = fracZero s := by
  rw [stripZeros_eq]
  split
  · rename_i h
    rw [(sig_eq_nil_iff s).mp h]; rfl
  · rename_i h
    rw [Bool.eq_false_iff.mpr (mt (sig_eq_nil_iff s).mpr h),
      Bool.eq_false_iff.mpr (mt (sig_eq_nil_iff (sig s)).mpr (by rwa [sig_sig]))]

theorem digitsVal_of_fracZero (s : List Char) (h : fracZero s = true) : digitsVal s = 0 := by
  obtain ⟨k, hk⟩ := sig_decomp s
  rw [(sig_eq_nil_iff s).mpr h, List.nil_append] at hk
  have := digitsVal_zeros [] k
  rw [List.nil_append, ← hk] at this
  rw [this]; simp [digitsVal]

/-- The printed fraction is the same NUMBER as the fraction (numerators cross-multiplied by the
    powers of ten of the two lengths). -/
theorem stripZeros_value (s : List Char) :
    digitsVal (stripZeros s) * 10 ^ s.length = digitsVal s * 10 ^ (stripZeros s).length := by
  rw [stripZeros_eq]
  split
  · rename_i h
    rw [digitsVal_of_fracZero s ((sig_eq_nil_iff s).mp h)]
    simp [digitsVal]
  · obtain ⟨k, hk⟩ := sig_decomp s
    have hv : digitsVal s = digitsVal (sig s) * 10 ^ k := by
      have := digitsVal_zeros (sig s) k
      rw [← hk] at this; exact this
    have hl : s.length = (sig s).length + k := by
      have := congrArg List.length hk
      simpa using this
    rw [hv, hl, Nat.pow_add, Nat.mul_assoc, Nat.mul_comm (10 ^ k)]

/-- The time of day of a point whose LAST given unit carries a decimal fraction `ds` (the digit
    string after the decimal sign); the lower units are absent. -/
inductive DTime where
  /-- `hh,ds`: a decimal hour -/
  | hour (hh : Int) (ds : List Char)
  /-- `hh:mm,ds`: a decimal minute -/
  | minute (hh mi : Int) (ds : List Char)
  /-- `hh:mm:ss,ds`: a decimal second -/
  | second (hh mi ss : Int) (ds : List Char)
  deriving DecidableEq, Repr, Inhabited

structure DTP where
  date : Date
  time : DTime
  tz : TZ
  deriving DecidableEq, Repr, Inhabited

def DTime.hh : DTime → Int
  | .hour hh _ => hh
  | .minute hh _ _ => hh
  | .second hh _ _ _ => hh

def DTime.ds : DTime → List Char
  | .hour _ ds => ds
  | .minute _ _ ds => ds
  | .second _ _ _ ds => ds

/-- A fraction the dumper's six decimal digits can spell: a non-empty string of at most six digits. -/
def FracOK (ds : List Char) : Prop := ds ≠ [] ∧ ds.all isDigit = true ∧ ds.length ≤ 6

instance (ds : List Char) : Decidable (FracOK ds) := by unfold FracOK; infer_instance

/-- Legal time of day: hour 0..23 with minute and second 0..59 and any fraction, or exactly 24 with
    every given lower unit zero and a zero fraction. -/
def DTime.Valid : DTime → Prop
  | .hour hh ds => FracOK ds ∧ 0 ≤ hh ∧ hh ≤ 24 ∧ (hh = 24 → fracZero ds = true)
  | .minute hh mi ds =>
    FracOK ds ∧ 0 ≤ hh ∧ hh ≤ 24 ∧ 0 ≤ mi ∧ mi < 60 ∧ (hh = 24 → mi = 0 ∧ fracZero ds = true)
  | .second hh mi ss ds =>
    FracOK ds ∧ 0 ≤ hh ∧ hh ≤ 24 ∧ 0 ≤ mi ∧ mi < 60 ∧ 0 ≤ ss ∧ ss < 60 ∧
      (hh = 24 → mi = 0 ∧ ss = 0 ∧ fracZero ds = true)

instance (t : DTime) : Decidable t.Valid := by cases t <;> unfold DTime.Valid <;> infer_instance

def DTP.Valid (m : Mode) (d : DTP) : Prop := d.date.Valid m ∧ d.time.Valid ∧ d.tz.Valid

instance (m : Mode) (d : DTP) : Decidable (d.Valid m) := by unfold DTP.Valid; infer_instance

/-- The text-layer value of a decimal point carrying `ned` expanded year digits: the fraction is
    attached to its unit and the lower units are absent. -/
def DTP.toXTP (ned : Nat) (d : DTP) : XTP :=
  match d.time with
  | .hour hh ds => (dateBase ned d.date d.tz).withTime (some hh) none none (some ds) none none
  | .minute hh mi ds => (dateBase ned d.date d.tz).withTime (some hh) (some mi) none none (some ds) none
  | .second hh mi ss ds =>
    (dateBase ned d.date d.tz).withTime (some hh) (some mi) (some ss) none none (some ds)

/-- `hh,FFF` / `hh:mm,FFF` / `hh:mm:ss,FFF` — and `hh:mm:ss` for a decimal second whose fraction is
    zero (`_get_dump_format` then chooses the whole-second format). -/
def dtimeTmpl : DTime → Template
  | .hour .. => [.digits .hourOfDay 2, .lit ',', .digitsPlus .hourDec]
  | .minute .. => [.digits .hourOfDay 2, .lit ':', .digits .minuteOfHour 2, .lit ',', .digitsPlus .minuteDec]
  | .second _ _ _ ds =>
    if fracZero ds then timeTmpl
    else [.digits .hourOfDay 2, .lit ':', .digits .minuteOfHour 2, .lit ':', .digits .secondOfMinute 2,
          .lit ',', .digitsPlus .secondDec]

/-- The group texts: two-digit units, and the fraction as `_decimal_string` prints it (trailing zeros
    stripped, at least one digit). -/
def dtimeEnv : DTime → Env
  | .hour hh ds => [(.hourOfDay, renderNat 2 hh.toNat), (.hourDec, stripZeros ds)]
  | .minute hh mi ds =>
    [(.hourOfDay, renderNat 2 hh.toNat), (.minuteOfHour, renderNat 2 mi.toNat), (.minuteDec, stripZeros ds)]
  | .second hh mi ss ds =>
    if fracZero ds then
      [(.hourOfDay, renderNat 2 hh.toNat), (.minuteOfHour, renderNat 2 mi.toNat),
       (.secondOfMinute, renderNat 2 ss.toNat)]
    else
      [(.hourOfDay, renderNat 2 hh.toNat), (.minuteOfHour, renderNat 2 mi.toNat),
       (.secondOfMinute, renderNat 2 ss.toNat), (.secondDec, stripZeros ds)]

/-- The specified text of a decimal point carrying `ned` expanded year digits: date and zone as
    `stdText`, the time with its fraction. -/
def decText (ned : Nat) (d : DTP) : List Char :=
  trender (dateTmpl ned d.date) (dateEnv ned d.date) ++
    'T' :: (trender (dtimeTmpl d.time) (dtimeEnv d.time) ++ trender (zoneTmpl d.tz) (zoneEnv d.tz))

example : decText 0 ⟨.cal 2000 2 29, .hour 12 "500".toList, ⟨0, -30⟩⟩ = "2000-02-29T12,5-00:30".toList := by
  decide +kernel
example : decText 2 ⟨.week (-400) 53 7, .minute 0 5 "0250".toList, ⟨0, 0⟩⟩ = "-000400-W53-7T00:05,025Z".toList := by
  decide +kernel
example : decText 3 ⟨.ord 9999999 366, .second 23 59 59 "999999".toList, ⟨99, 59⟩⟩ =
    "+9999999-366T23:59:59,999999+99:59".toList := by decide +kernel
example : decText 0 ⟨.cal 2000 2 29, .second 24 0 0 "000".toList, ⟨1, 0⟩⟩ = "2000-02-29T24:00:00+01:00".toList := by
  decide +kernel
example : decText 0 ⟨.cal 2000 2 29, .hour 24 "000".toList, ⟨0, 0⟩⟩ = "2000-02-29T24,0Z".toList := by
  decide +kernel

/-- The fraction as printed. -/
def DTime.norm : DTime → DTime
  | .hour hh ds => .hour hh (stripZeros ds)
  | .minute hh mi ds => .minute hh mi (stripZeros ds)
  | .second hh mi ss ds => .second hh mi ss (stripZeros ds)

def DTP.norm (d : DTP) : DTP := { d with time := d.time.norm }

/-- The point the text of `d` denotes: `d` with its fraction as printed (without trailing zeros) — the
    same unit values and the same fraction as a number (`stripZeros_value`); a decimal-second point
    with a zero fraction prints as, and reads back as, the whole-second point. -/
def DTP.reparsed (ned : Nat) (d : DTP) : XTP :=
  match d.time with
  | .second hh mi ss ds =>
    if fracZero ds then XTP.ofTP ned ⟨d.date, hh, mi, ss, d.tz⟩ else d.norm.toXTP ned
  | _ => d.norm.toXTP ned

def fmtH : List Char := ['h', 'h', ',', 'i', 'i']
def fmtM : List Char := ['h', 'h', ':', 'm', 'm', ',', 'n', 'n']
def fmtS : List Char := ['h', 'h', ':', 'm', 'm', ':', 's', 's', ',', 't', 't']

def segsH : List Seg := [.dir (.int .hourOfDay 2), .raw ',', .dir (.str .hourDecStr)]
def segsM : List Seg :=
  [.dir (.int .hourOfDay 2), .raw ':', .dir (.int .minuteOfHour 2), .raw ',', .dir (.str .minuteDecStr)]
def segsS : List Seg :=
  [.dir (.int .hourOfDay 2), .raw ':', .dir (.int .minuteOfHour 2), .raw ':', .dir (.int .secondOfMinute 2),
   .raw ',', .dir (.str .secondDecStr)]

def propsH : List DProp := [.hourOfDay, .hourDecStr]
def propsM : List DProp := [.minuteOfHour, .hourOfDay, .minuteDecStr]
def propsS : List DProp := [.minuteOfHour, .hourOfDay, .secondOfMinute, .secondDecStr]

theorem compiles_H : timeCompiles fmtH segsH propsH = true := by decide +kernel
theorem compiles_M : timeCompiles fmtM segsM propsM = true := by decide +kernel
theorem compiles_S : timeCompiles fmtS segsS propsS = true := by decide +kernel

theorem decimalString_short (ds : List Char) (hl : ds.length ≤ 6) :
    decimalString (some ds) = stripZeros ds := by
  simp [decimalString, hl]

theorem render_H (m : Mode) (B : XTP) (hh : Int) (ds : List Char) (h0 : 0 ≤ hh) (h1 : hh ≤ 24)
    (hl : ds.length ≤ 6) :
    renderSegs m (B.withTime (some hh) none none (some ds) none none) segsH =
      some (trender (dtimeTmpl (.hour hh ds)) (dtimeEnv (.hour hh ds))) := by
  have e1 := pad2 hh h0 (by omega)
  simp [segsH, renderSegs, intProp, strProp, XTP.withTime, decimalString_short ds hl, dtimeTmpl, dtimeEnv,
    trender, e1, h0]

theorem render_M (m : Mode) (B : XTP) (hh mi : Int) (ds : List Char) (h0 : 0 ≤ hh) (h1 : hh ≤ 24)
    (h2 : 0 ≤ mi) (h3 : mi < 60) (hl : ds.length ≤ 6) :
    renderSegs m (B.withTime (some hh) (some mi) none none (some ds) none) segsM =
      some (trender (dtimeTmpl (.minute hh mi ds)) (dtimeEnv (.minute hh mi ds))) := by
  have e1 := pad2 hh h0 (by omega)
  have e2 := pad2 mi h2 (by omega)
  simp [segsM, renderSegs, intProp, strProp, XTP.withTime, decimalString_short ds hl, dtimeTmpl, dtimeEnv,
    trender, e1, e2, h0, h2]

theorem render_S (m : Mode) (B : XTP) (hh mi ss : Int) (ds : List Char) (h0 : 0 ≤ hh) (h1 : hh ≤ 24)
    (h2 : 0 ≤ mi) (h3 : mi < 60) (h4 : 0 ≤ ss) (h5 : ss < 60) (hl : ds.length ≤ 6)
    (hf : fracZero ds = false) :
    renderSegs m (B.withTime (some hh) (some mi) (some ss) none none (some ds)) segsS =
      some (trender (dtimeTmpl (.second hh mi ss ds)) (dtimeEnv (.second hh mi ss ds))) := by
  have e1 := pad2 hh h0 (by omega)
  have e2 := pad2 mi h2 (by omega)
  have e3 := pad2 ss h4 (by omega)
  simp [segsS, renderSegs, intProp, strProp, XTP.withTime, decimalString_short ds hl, dtimeTmpl, dtimeEnv,
    trender, e1, e2, e3, h0, h2, h4, hf]

theorem render_S0 (m : Mode) (B : XTP) (hh mi ss : Int) (ds : List Char) (h0 : 0 ≤ hh) (h1 : hh ≤ 24)
    (h2 : 0 ≤ mi) (h3 : mi < 60) (h4 : 0 ≤ ss) (h5 : ss < 60) (hf : fracZero ds = true) :
    renderSegs m (B.withTime (some hh) (some mi) (some ss) none none (some ds)) timeSegs =
      some (trender (dtimeTmpl (.second hh mi ss ds)) (dtimeEnv (.second hh mi ss ds))) := by
  have e1 := pad2 hh h0 (by omega)
  have e2 := pad2 mi h2 (by omega)
  have e3 := pad2 ss h4 (by omega)
  simp [timeSegs, timeTmpl, renderSegs, intProp, XTP.withTime, dtimeTmpl, dtimeEnv,
    trender, e1, e2, e3, h0, h2, h4, hf]

/-- **C08, dumper half, decimal forms**: `str` of a valid point with a decimal hour, minute or second
    of at most six digits — any date representation, calendar mode, legal offset, hour 24 with a zero
    fraction included — is exactly the specified text. -/
theorem str_eq_decText (m : Mode) (ned : Nat) (hned : ned = 0 ∨ ned = 2 ∨ ned = 3) (d : DTP)
    (hv : d.Valid m) (hy : YearInRange ned (dateYear d.date)) :
    str m (d.toXTP ned) = .ok (decText ned d) := by
  obtain ⟨dt, htab⟩ := dumpTablesFor_some ned hned
  obtain ⟨date, time, tz⟩ := d
  obtain ⟨hdate, htime, hz⟩ := hv
  simp only at hdate htime hz hy
  show _ = Except.ok (textAround ned date tz (trender (dtimeTmpl time) (dtimeEnv time)))
  cases time with
  | hour hh ds =>
    obtain ⟨⟨_, _, hl⟩, h0, h1, _⟩ := htime
    exact str_withTime m ned dt htab date tz hdate hz hy compiles_H (by decide) rfl (by decide) (by decide)
      (render_H m _ hh ds h0 h1 hl)
  | minute hh mi ds =>
    obtain ⟨⟨_, _, hl⟩, h0, h1, h2, h3, _⟩ := htime
    exact str_withTime m ned dt htab date tz hdate hz hy compiles_M (by decide) rfl (by decide) (by decide)
      (render_M m _ hh mi ds h0 h1 h2 h3 hl)
  | second hh mi ss ds =>
    obtain ⟨⟨_, _, hl⟩, h0, h1, h2, h3, h4, h5, _⟩ := htime
    -- `_get_dump_format` writes `,tt` only for a fraction that is not zero
    cases hf : fracZero ds with
    | false =>
      exact str_withTime m ned dt htab date tz hdate hz hy compiles_S (by decide)
        (by simp [timeFmt, hf, fmtS]) (by decide) (by decide) (render_S m _ hh mi ss ds h0 h1 h2 h3 h4 h5 hl hf)
    | true =>
      exact str_withTime m ned dt htab date tz hdate hz hy compiles_hms (by decide)
        (by simp [timeFmt, hf, hmsFmt]) (by decide) (by decide) (render_S0 m _ hh mi ss ds h0 h1 h2 h3 h4 h5 hf)

def tmplH : Template := [.digits .hourOfDay 2, .lit ',', .digitsPlus .hourDec]
def tmplM : Template :=
  [.digits .hourOfDay 2, .lit ':', .digits .minuteOfHour 2, .lit ',', .digitsPlus .minuteDec]
def tmplS : Template :=
  [.digits .hourOfDay 2, .lit ':', .digits .minuteOfHour 2, .lit ':', .digits .secondOfMinute 2,
   .lit ',', .digitsPlus .secondDec]

/-- Every configuration that allows extended notation lists `hh,ii`, `hh:mm,nn`, `hh:mm:ss,tt` as
    complete extended time forms. -/
def decOK (pt : ParserTables) : Bool :=
  pt.basicOnly || (listsForm pt.timeEntries tmplH && listsForm pt.timeEntries tmplM &&
    listsForm pt.timeEntries tmplS)

theorem dec_tables : parserTables.all decOK = true := by decide +kernel

theorem dec_entry (pt : ParserTables) (h : pt ∈ parserTables) (hb : pt.basicOnly = false) (t : DTime) :
    Lists pt.timeEntries (dtimeTmpl t) := by
  have hk := List.all_eq_true.mp dec_tables pt h
  simp only [decOK, hb, Bool.false_or, Bool.and_eq_true] at hk
  obtain ⟨⟨h1, h2⟩, h3⟩ := hk
  cases t with
  | hour => exact listsForm_spec h1
  | minute => exact listsForm_spec h2
  | second hh mi ss ds =>
    show Lists pt.timeEntries (if fracZero ds = true then timeTmpl else tmplS)
    split
    · exact std_time pt h hb
    · exact listsForm_spec h3

/-- The group texts fit the template (the printed fraction is a non-empty digit string). -/
theorem fits_dtime (t : DTime) (hd : t.ds.all isDigit = true) : fits (dtimeTmpl t) (dtimeEnv t) = true := by
  cases t with
  | hour hh ds =>
    simp [dtimeTmpl, dtimeEnv, fits, renderNat_length, renderNat_digits, stripZeros_ne]
    exact List.all_eq_true.mp (stripZeros_digits ds hd)
  | minute hh mi ds =>
    simp [dtimeTmpl, dtimeEnv, fits, renderNat_length, renderNat_digits, stripZeros_ne]
    exact List.all_eq_true.mp (stripZeros_digits ds hd)
  | second hh mi ss ds =>
    cases hf : fracZero ds
    · simp [dtimeTmpl, dtimeEnv, hf, fits, renderNat_length, renderNat_digits, stripZeros_ne]
      exact List.all_eq_true.mp (stripZeros_digits ds hd)
    · simp [dtimeTmpl, dtimeEnv, hf, fits, timeTmpl, renderNat_length, renderNat_digits]

/-- The whole-second point a decimal second with zero fraction collapses to. -/
def DTP.whole (d : DTP) : Option TP :=
  match d.time with
  | .second hh mi ss ds => if fracZero ds then some ⟨d.date, hh, mi, ss, d.tz⟩ else none
  | _ => none

theorem reparsed_of_whole (ned : Nat) (d : DTP) (p : TP) (h : d.whole = some p) :
    d.reparsed ned = XTP.ofTP ned p ∧ decText ned d = stdText ned p ∧
      (∀ m, d.Valid m → p.Valid m) ∧ p.date = d.date := by
  obtain ⟨date, time, tz⟩ := d
  cases time with
  | hour hh ds => simp [DTP.whole] at h
  | minute hh mi ds => simp [DTP.whole] at h
  | second hh mi ss ds =>
    cases hf : fracZero ds with
    | false => simp [DTP.whole, hf] at h
    | true =>
      simp only [DTP.whole, hf, if_true, Option.some.injEq] at h
      subst h
      refine ⟨by simp [DTP.reparsed, hf], ?_, ?_, rfl⟩
      · simp [decText, stdText, dtimeTmpl, dtimeEnv, hf, timeEnv]
      · rintro m ⟨hdate, ⟨_, h0, h1, h2, h3, h4, h5, h24⟩, hz⟩
        exact ⟨hdate, h0, h1, h2, h3, h4, h5, fun e => ⟨(h24 e).1, (h24 e).2.1⟩, hz⟩

theorem reparsed_of_not_whole (ned : Nat) (d : DTP) (h : d.whole = none) :
    d.reparsed ned = d.norm.toXTP ned := by
  obtain ⟨date, time, tz⟩ := d
  cases time with
  | hour hh ds => rfl
  | minute hh mi ds => rfl
  | second hh mi ss ds =>
    cases hf : fracZero ds with
    | false => simp [DTP.reparsed, hf]
    | true => simp [DTP.whole, hf] at h

theorem timeBounds_H (m : Mode) (hh : Int) (ds : List Char) (h0 : 0 ≤ hh) (h1 : hh ≤ 24)
    (h24 : hh = 24 → fracZero ds = true) :
    timeBounds m (some hh) none none (some ds) none none = true := by
  by_cases e : hh = 24
  · subst e; simp [timeBounds, hoursInDay_eq, h24 rfl]
  · simp [timeBounds, hoursInDay_eq, e, h0]; omega

theorem timeBounds_M (m : Mode) (hh mi : Int) (ds : List Char) (h0 : 0 ≤ hh) (h1 : hh ≤ 24)
    (h2 : 0 ≤ mi) (h3 : mi < 60) (h24 : hh = 24 → mi = 0 ∧ fracZero ds = true) :
    timeBounds m (some hh) (some mi) none none (some ds) none = true := by
  by_cases e : hh = 24
  · subst e; simp [timeBounds, hoursInDay_eq, (h24 rfl).1, (h24 rfl).2]
  · simp [timeBounds, hoursInDay_eq, minutesInHour_eq, e, h0, h2, h3]; omega

/-- The number a fraction's digit string spells: `0.d₁d₂…`. -/
def fracValue (s : List Char) : Rat := mkRat (digitsVal s) (10 ^ s.length)

/-- `_decimal_string` keeps the value of the fraction. -/
theorem fracValue_stripZeros (s : List Char) : fracValue (stripZeros s) = fracValue s := by
  unfold fracValue
  rw [Rat.mkRat_eq_iff (Nat.ne_of_gt (Nat.pow_pos (by decide))) (Nat.ne_of_gt (Nat.pow_pos (by decide)))]
  have := stripZeros_value s
  exact_mod_cast this

theorem fracOK_stripZeros (ds : List Char) (h : FracOK ds) : FracOK (stripZeros ds) := by
  obtain ⟨h1, h2, h3⟩ := h
  exact ⟨stripZeros_ne ds, stripZeros_digits ds h2, Nat.le_trans (stripZeros_length ds h1) h3⟩

theorem norm_valid (m : Mode) (d : DTP) (hv : d.Valid m) : d.norm.Valid m := by
  obtain ⟨date, time, tz⟩ := d
  obtain ⟨hdate, htime, hz⟩ := hv
  refine ⟨hdate, ?_, hz⟩
  cases time with
  | hour hh ds =>
    obtain ⟨hf, h0, h1, h24⟩ := htime
    exact ⟨fracOK_stripZeros ds hf, h0, h1, fun e => by rw [fracZero_stripZeros]; exact h24 e⟩
  | minute hh mi ds =>
    obtain ⟨hf, h0, h1, h2, h3, h24⟩ := htime
    exact ⟨fracOK_stripZeros ds hf, h0, h1, h2, h3,
      fun e => ⟨(h24 e).1, by rw [fracZero_stripZeros]; exact (h24 e).2⟩⟩
  | second hh mi ss ds =>
    obtain ⟨hf, h0, h1, h2, h3, h4, h5, h24⟩ := htime
    exact ⟨fracOK_stripZeros ds hf, h0, h1, h2, h3, h4, h5,
      fun e => ⟨(h24 e).1, (h24 e).2.1, by rw [fracZero_stripZeros]; exact (h24 e).2.2⟩⟩

theorem decText_norm (ned : Nat) (d : DTP) : decText ned d.norm = decText ned d := by
  obtain ⟨date, time, tz⟩ := d
  cases time <;>
    simp [decText, DTP.norm, DTime.norm, dtimeTmpl, dtimeEnv, stripZeros_idem, fracZero_stripZeros]

/-- **Fixpoint**: `str` of the point read back is the same text again. -/
theorem str_reparsed (m : Mode) (ned : Nat) (hned : ned = 0 ∨ ned = 2 ∨ ned = 3) (d : DTP)
    (hv : d.Valid m) (hy : YearInRange ned (dateYear d.date)) :
    str m (d.reparsed ned) = .ok (decText ned d) := by
  cases hw : d.whole with
  | none =>
    rw [reparsed_of_not_whole ned d hw, ← decText_norm]
    exact str_eq_decText m ned hned d.norm (norm_valid m d hv) hy
  | some p =>
    obtain ⟨h1, h2, h3, hpd⟩ := reparsed_of_whole ned d p hw
    rw [h1, h2]
    exact str_eq_stdText m ned hned p (h3 m hv) (by rw [hpd]; exact hy)

end IsoDT.Text
