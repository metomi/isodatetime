/-
  IsoDT.Lemmas.RecNominal — recurrences with a non-negative nominal (month/year) interval: one
  addition of the interval moves every valid point at least a day later (`NominalMono`), so the
  iteration lemmas for climbing steps apply; and what the constructor builds from such an interval.
-/
import IsoDT.Lemmas.RecQuery
import IsoDT.Lemmas.NominalMono

namespace IsoDT.Lemmas
open IsoDT IsoDT.Model
open IsoDT.Spec (Date TZ TP)

theorem climbs_nominal (m : Mode) (d : Dur) (hd : NominalNonneg d) :
    Climbs m d (fun p => p.inst m) 86400 :=
  ⟨by omega, fun p hp => by
    have hnn := nominalNonneg_exactSeconds m d hd
    obtain ⟨q, e, sq, rq, tq, _, lb⟩ := addDur_nominal_lt m p d hp hd
    exact ⟨q, e, sq, rq, tq, by omega⟩⟩

theorem climbs_nominal_neg (m : Mode) (d : Dur) (hd : NominalNonneg d) :
    Climbs m (d.mul (-1)) (fun p => -(p.inst m)) 86400 :=
  ⟨by omega, fun p hp => by
    have hnn := nominalNonneg_exactSeconds m d hd
    obtain ⟨q, e, sq, rq, tq, _, lb⟩ := subDur_nominal_lt m p d hp hd
    exact ⟨q, e, sq, rq, tq, by omega⟩⟩

theorem nominal_nonzero (d : Dur) (hd : NominalNonneg d) : d.nonzero = true := by
  obtain ⟨y, mo, dd, hh, mi, s, rfl, _, _, _, _, _, _, h7⟩ := nominalNonneg_units d hd
  simp only [Dur.nonzero, Bool.or_eq_true, bne_iff_ne, ne_eq]
  omega

theorem nominal_not_exact (d : Dur) (hd : NominalNonneg d) : d.isExact = false := by
  obtain ⟨y, mo, dd, hh, mi, s, rfl, _, _, _, _, _, _, h7⟩ := nominalNonneg_units d hd
  simp only [Dur.isExact, Bool.and_eq_false_iff, beq_eq_false_iff_ne, ne_eq]
  omega

/-- The facts about a constructed recurrence the iteration lemmas need. -/
structure NomRec (m : Mode) (r : Rec) (d : Dur) : Prop where
  dur : r.dur = some d
  nom : NominalNonneg d
  multi : r.reps ≠ some 1
  startValid : ∀ s, r.start = some s → s.Valid m
  endValid : ∀ e, r.end_ = some e → e.Valid m

theorem NomRec.stepRec {m : Mode} {r : Rec} {d : Dur} (hr : NomRec m r d) : StepRec m r d 86400 :=
  ⟨hr.dur, hr.multi, nominal_nonzero d hr.nom, hr.startValid, hr.endValid, climbs_nominal m d hr.nom,
    climbs_nominal_neg m d hr.nom⟩

theorem zero_das (m : Mode) : Dur.zero.daysAndSeconds m = (0, 0) := by cases m <;> decide

/-- A non-negative nominal interval is not `< Duration()` … -/
theorem lt_zero_false_nominal (m : Mode) (d : Dur) (hd : NominalNonneg d) :
    Dur.lt m d Dur.zero = false := by
  obtain ⟨y, mo, dd, hh, mi, s, rfl, h1, h2, h3, h4, h5, h6, _⟩ := nominalNonneg_units d hd
  unfold Dur.lt
  rw [zero_das]
  have hY : 0 ≤ y * (calOf m).roughDaysInYear :=
    Int.mul_nonneg h1 (by rw [roughDaysInYear_eq']; have := yearLenB_bounds m false; omega)
  simp only [Dur.daysAndSeconds, pairLt, roughDaysInMonth_eq', secondsInDay_eq, secondsInHour_eq,
    secondsInMinute_eq, Bool.or_eq_false_iff, Bool.and_eq_false_iff, decide_eq_false_iff_not,
    beq_eq_false_iff_ne]
  constructor
  · omega
  · right; omega

/-- … and not `== Duration()`. -/
theorem isZeroDur_false_nominal (m : Mode) (d : Dur) (hd : NominalNonneg d) : isZeroDur m d = false := by
  obtain ⟨y, mo, dd, hh, mi, s, rfl, _, _, _, _, _, _, h7⟩ := nominalNonneg_units d hd
  refine Bool.eq_false_iff.mpr fun h => ?_
  have := ((dur_eq_iff m _ _).mp h).1
  simp only [durYm, Dur.zero, Prod.mk.injEq] at this
  omega

theorem accepted_nominal (m : Mode) (d : Dur) (hd : NominalNonneg d) : Accepted m d :=
  ⟨lt_zero_false_nominal m d hd, isZeroDur_false_nominal m d hd⟩

theorem mkRec_fmt3_unbounded_nominal (m : Mode) (s : TP) (d : Dur) (hd : NominalNonneg d) :
    mkRec m none (some s) (some d) none = some ⟨none, some s, some d, none, none, 3⟩ :=
  mkRec_fmt3 m none s d (accepted_nominal m d hd) (fun _ h => nomatch h)

theorem mkRec_fmt4_unbounded_nominal (m : Mode) (e : TP) (d : Dur) (hd : NominalNonneg d) :
    mkRec m none none (some d) (some e) = some ⟨none, none, some d, some e, none, 4⟩ :=
  mkRec_fmt4 m none e d (accepted_nominal m d hd) (fun _ h => nomatch h)

/-- start/duration notation, `n ≥ 2`: the end bound is ONE addition of the multiplied interval. -/
theorem mkRec_fmt3_bounded_nominal (m : Mode) (n : Int) (s : TP) (d : Dur) (hn : 2 ≤ n)
    (hs : s.Valid m) (hd : NominalNonneg d) :
    ∃ e, addDur m s (d.mul (n - 1)) = some e ∧
      mkRec m (some n) (some s) (some d) none = some ⟨some n, some s, some d, some e, none, 3⟩ ∧
      e.Strict m ∧ s.inst m < e.inst m ∧ e.date.rep = s.date.rep ∧ e.tz = s.tz := by
  obtain ⟨e, he, se, re, te, lt, _⟩ :=
    addDur_nominal_lt m s (d.mul (n - 1)) hs (nominalNonneg_mul d (n - 1) hd (by omega))
  refine ⟨e, he, ?_, se, lt, re, te⟩
  rw [mkRec_fmt3 m _ s d (accepted_nominal m d hd)
    (fun k h => by cases h; exact hn)]
  dsimp only
  rw [he]; rfl

/-- duration/end notation, `n ≥ 2`: the start bound is ONE subtraction of the multiplied interval. -/
theorem mkRec_fmt4_bounded_nominal (m : Mode) (n : Int) (e : TP) (d : Dur) (hn : 2 ≤ n)
    (he : e.Valid m) (hd : NominalNonneg d) :
    ∃ s, subDur m e (d.mul (n - 1)) = some s ∧
      mkRec m (some n) none (some d) (some e) = some ⟨some n, some s, some d, some e, none, 4⟩ ∧
      s.Strict m ∧ s.inst m < e.inst m ∧ s.date.rep = e.date.rep ∧ s.tz = e.tz := by
  obtain ⟨s, hs, ss, rs, ts, lt, _⟩ :=
    subDur_nominal_lt m e (d.mul (n - 1)) he (nominalNonneg_mul d (n - 1) hd (by omega))
  refine ⟨s, hs, ?_, ss, lt, rs, ts⟩
  rw [mkRec_fmt4 m _ e d (accepted_nominal m d hd)
    (fun k h => by cases h; exact hn)]
  dsimp only
  rw [hs]; rfl

theorem nomRec_fmt3_unbounded (m : Mode) (s : TP) (d : Dur) (hs : s.Valid m) (hd : NominalNonneg d) :
    NomRec m ⟨none, some s, some d, none, none, 3⟩ d :=
  ⟨rfl, hd, by simp, fun s' h => by cases h; exact hs, fun e' h => by cases h⟩

theorem nomRec_fmt4_unbounded (m : Mode) (e : TP) (d : Dur) (he : e.Valid m) (hd : NominalNonneg d) :
    NomRec m ⟨none, none, some d, some e, none, 4⟩ d :=
  ⟨rfl, hd, by simp, fun s' h => (by cases h), fun e' h => by cases h; exact he⟩

theorem nomRec_bounded (m : Mode) (n : Int) (s e : TP) (d : Dur) (f : Nat) (hn : 2 ≤ n) (hs : s.Valid m)
    (he : e.Valid m) (hd : NominalNonneg d) :
    NomRec m ⟨some n, some s, some d, some e, none, f⟩ d :=
  ⟨rfl, hd, some_ne_one hn, fun s' h => by cases h; exact hs, fun e' h => by cases h; exact he⟩

end IsoDT.Lemmas
