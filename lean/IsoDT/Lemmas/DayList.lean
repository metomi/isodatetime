/-
  IsoDT.Lemmas.DayList — the day list that `iter_months_days` returns (`Model.iterMonthsDays`) versus
  the indexed month table that `Model.Calendar` walks: counting along the list (`nthDay`, `dayPos`)
  is the same as `walkFwd` / `posOf` on the table, for EVERY integer argument, by induction on the
  table.  Also the generic scanning loops (count up to a target / look for an element) that the
  Python conversions run over such lists, with their closed forms.
-/
import IsoDT.Lemmas.Conv
import IsoDT.Model.CalendarAux

namespace IsoDT.Lemmas
open IsoDT IsoDT.Model

theorem rangeUp_length (a : Int) (n : Nat) : (rangeUp a n).length = n := by
  induction n generalizing a with
  | zero => rfl
  | succ n ih => simp [rangeUp, ih]

theorem rangeUp_getElem? (a : Int) (n i : Nat) : (rangeUp a n)[i]? = if i < n then some (a + i) else none := by
  induction n generalizing a i with
  | zero => simp [rangeUp]
  | succ n ih =>
    cases i with
    | zero => simp [rangeUp]
    | succ i =>
      simp only [rangeUp, List.getElem?_cons_succ, ih, Nat.add_lt_add_iff_right]
      split
      · congr 1; omega
      · rfl

theorem mem_rangeUp (a : Int) (n : Nat) (x : Int) (h1 : a ≤ x) (h2 : x < a + n) : x ∈ rangeUp a n :=
  List.mem_iff_getElem?.mpr ⟨(x - a).toNat, by rw [rangeUp_getElem?, if_pos (by omega)]; congr 1; omega⟩

theorem rangeUp_drop (a : Int) (n i : Nat) : (rangeUp a n).drop i = rangeUp (a + i) (n - i) := by
  induction i generalizing a n with
  | zero => simp
  | succ i ih =>
    cases n with
    | zero => simp [rangeUp]
    | succ n =>
      simp only [rangeUp, List.drop_succ_cons, ih, Nat.add_sub_add_right]
      congr 1; omega

theorem rangeDn_length (a : Int) (n : Nat) : (rangeDn a n).length = n := by
  induction n generalizing a with
  | zero => rfl
  | succ n ih => simp [rangeDn, ih]

theorem rangeDn_getElem? (a : Int) (n i : Nat) : (rangeDn a n)[i]? = if i < n then some (a - i) else none := by
  induction n generalizing a i with
  | zero => simp [rangeDn]
  | succ n ih =>
    cases i with
    | zero => simp [rangeDn]
    | succ i =>
      simp only [rangeDn, List.getElem?_cons_succ, ih, Nat.add_lt_add_iff_right]
      split
      · congr 1; omega
      · rfl

/-- The forward day list of an indexed month table: what `iter_months_days(year)` returns. -/
def dayListOf (t : List (Int × Int)) : List (Int × Int) :=
  t.flatMap fun p => monthDays p.1 (upTo 1 (p.2 + 1))

def dayList (m : Mode) (lp : Bool) : List (Int × Int) := dayListOf (indexed m lp)

/-- The reverse day list: what `iter_months_days(year, in_reverse=True)` returns. -/
def revListOf (t : List (Int × Int)) : List (Int × Int) :=
  t.reverse.flatMap fun p => monthDays p.1 (downTo p.2 0)

theorem iterMonthsDays_fwd (m : Mode) (lp : Bool) :
    iterMonthsDays m lp none none false = some (dayList m lp) := by
  simp [iterMonthsDays, dayList, dayListOf]

theorem iterMonthsDays_rev (m : Mode) (lp : Bool) :
    iterMonthsDays m lp none none true = some (revListOf (indexed m lp)) := by
  simp [iterMonthsDays, revListOf]

def nthDay (l : List (Int × Int)) (n : Int) : Option (Int × Int) :=
  if 1 ≤ n then l[(n - 1).toNat]? else none

def dayPos : List (Int × Int) → Int → Int → Option Int
  | [], _, _ => none
  | p :: rest, mo, d => if p.1 = mo ∧ p.2 = d then some 1 else (dayPos rest mo d).map (· + 1)

theorem nthDay_none (l : List (Int × Int)) (n : Int) (h : ¬ (1 ≤ n ∧ n ≤ l.length)) : nthDay l n = none := by
  unfold nthDay
  by_cases h1 : 1 ≤ n
  · have : l.length ≤ (n - 1).toNat := by omega
    simp only [h1, ↓reduceIte, List.getElem?_eq_none this]
  · simp only [h1, ↓reduceIte]

theorem nthDay_guard {β : Type} (l : List (Int × Int)) (f : Int × Int → β) (c t : Int) :
    (if c < t ∧ t ≤ c + l.length then (nthDay l (t - c)).map f else none) = (nthDay l (t - c)).map f := by
  split
  · rfl
  · rw [nthDay_none _ _ (by omega)]; rfl

theorem nthDay_drop (l : List (Int × Int)) (k : Nat) (n : Int) (h : 1 ≤ n) :
    nthDay (l.drop k) n = nthDay l (k + n) := by
  unfold nthDay
  have h' : 1 ≤ (k : Int) + n := by omega
  simp only [h, h', ↓reduceIte, List.getElem?_drop]
  congr 1; omega

theorem nthDay_append (a b : List (Int × Int)) (n : Int) :
    nthDay (a ++ b) n = if n ≤ a.length then nthDay a n else nthDay b (n - a.length) := by
  unfold nthDay
  by_cases h1 : 1 ≤ n
  · by_cases h2 : n ≤ a.length
    · simp only [h1, h2, ↓reduceIte]
      exact List.getElem?_append_left (by omega)
    · have h3 : 1 ≤ n - a.length := by omega
      simp only [h1, h2, h3, ↓reduceIte]
      rw [List.getElem?_append_right (by omega)]
      congr 1; omega
  · have h3 : ¬ 1 ≤ n - a.length := by omega
    simp only [h1, h3, ↓reduceIte, ite_self]

theorem dayPos_some {l : List (Int × Int)} {mo d i : Int} (h : dayPos l mo d = some i) :
    1 ≤ i ∧ i ≤ l.length ∧ l[(i - 1).toNat]? = some (mo, d) := by
  induction l generalizing i with
  | nil => cases h
  | cons p rest ih =>
    rw [dayPos] at h
    split at h
    · rename_i hp
      cases h
      exact ⟨by omega, by simp only [List.length_cons]; omega, by simp [← hp.1, ← hp.2]⟩
    · cases hr : dayPos rest mo d with
      | none => rw [hr] at h; cases h
      | some j =>
        simp only [hr, Option.map_some, Option.some.injEq] at h; subst h
        obtain ⟨h1, h2, h3⟩ := ih hr
        refine ⟨by omega, by simp only [List.length_cons]; omega, ?_⟩
        rw [show (j + 1 - 1).toNat = (j - 1).toNat + 1 by omega, List.getElem?_cons_succ]; exact h3

theorem dayPos_of_mem (l : List (Int × Int)) (mo d : Int) (h : (mo, d) ∈ l) : ∃ i, dayPos l mo d = some i := by
  induction l with
  | nil => simp at h
  | cons p rest ih =>
    simp only [dayPos]
    by_cases hp : p.1 = mo ∧ p.2 = d
    · exact ⟨1, by simp [hp]⟩
    · simp only [hp, ↓reduceIte]
      have : (mo, d) ∈ rest := by
        rcases List.mem_cons.mp h with h | h
        · exfalso; apply hp; rw [← h]; exact ⟨rfl, rfl⟩
        · exact h
      obtain ⟨i, hi⟩ := ih this
      exact ⟨i + 1, by simp [hi]⟩

/-! ### the days of one month, and the table walks as walks along the day list -/

theorem month_length (k x : Int) (hx : 0 ≤ x) : ((monthDays k (upTo 1 (x + 1))).length : Int) = x := by
  simp only [monthDays, upTo, List.length_map, rangeUp_length]; omega

theorem nthDay_month (k x n : Int) :
    nthDay (monthDays k (upTo 1 (x + 1))) n = if 1 ≤ n ∧ n ≤ x then some (k, n) else none := by
  unfold nthDay monthDays upTo
  by_cases h1 : 1 ≤ n
  · simp only [h1, ↓reduceIte, List.getElem?_map, rangeUp_getElem?, true_and]
    by_cases h2 : n ≤ x
    · have : (n - 1).toNat < (x + 1 - 1).toNat := by omega
      simp only [this, h2, ↓reduceIte, Option.map_some]; congr 2; omega
    · have : ¬ (n - 1).toNat < (x + 1 - 1).toNat := by omega
      simp only [this, h2, ↓reduceIte, Option.map_none]
  · simp only [h1, false_and, ↓reduceIte]

theorem posOf_some_mem (t : List (Int × Int)) (mo d n : Int) (h : posOf t mo d = some n) :
    ∃ len, (mo, len) ∈ t ∧ 1 ≤ d ∧ d ≤ len := by
  induction t generalizing n with
  | nil => simp [posOf] at h
  | cons p rest ih =>
    obtain ⟨mn, len⟩ := p
    simp only [posOf] at h
    by_cases hp : mn = mo
    · subst hp
      simp only [↓reduceIte] at h
      by_cases hd : 1 ≤ d ∧ d ≤ len
      · exact ⟨len, by simp, hd.1, hd.2⟩
      · simp [hd] at h
    · simp only [hp, ↓reduceIte] at h
      cases hr : posOf rest mo d with
      | none => simp [hr] at h
      | some j =>
        obtain ⟨len', hm, h1, h2⟩ := ih j hr
        exact ⟨len', List.mem_cons_of_mem _ hm, h1, h2⟩

theorem dayListOf_cons (k x : Int) (t : List (Int × Int)) :
    dayListOf ((k, x) :: t) = monthDays k (upTo 1 (x + 1)) ++ dayListOf t := by
  simp only [dayListOf, List.flatMap_cons]

/-- `get_calendar_date_from_ordinal_date`'s table walk is indexing the day list. -/
theorem walkFwd_dayListOf (t : List (Int × Int)) (hnn : ∀ p ∈ t, 0 ≤ p.2) (n : Int) :
    walkFwd t n = nthDay (dayListOf t) n := by
  induction t generalizing n with
  | nil => simp [walkFwd, dayListOf, nthDay]
  | cons p t ih =>
    obtain ⟨k, x⟩ := p
    have hx : 0 ≤ x := hnn (k, x) (by simp)
    rw [dayListOf_cons, nthDay_append, month_length k x hx, nthDay_month, walkFwd,
      ih (fun q hq => hnn q (List.mem_cons_of_mem _ hq))]
    by_cases c : n ≤ x <;> simp [c]

theorem dayListOf_length (l : List Int) (hnn : ∀ x ∈ l, 0 ≤ x) (k : Int) :
    ((dayListOf (number k l)).length : Int) = Spec.sumL l := by
  induction l generalizing k with
  | nil => rfl
  | cons x l ih =>
    have := month_length k x (hnn x (by simp))
    have := ih (fun y hy => hnn y (List.mem_cons_of_mem _ hy)) (k + 1)
    rw [number, dayListOf_cons, List.length_append, sumL_cons]; omega

theorem mem_dayListOf (t : List (Int × Int)) (mo len d : Int) (h : (mo, len) ∈ t) (h1 : 1 ≤ d) (h2 : d ≤ len) :
    (mo, d) ∈ dayListOf t :=
  List.mem_flatMap.mpr ⟨(mo, len), h, List.mem_map.mpr ⟨d, mem_rangeUp 1 _ d h1 (by omega), rfl⟩⟩

theorem posOf_of_getElem? (l : List Int) (hnn : ∀ x ∈ l, 0 ≤ x) (k : Int) (i : Nat) (mo d : Int)
    (h : (dayListOf (number k l))[i]? = some (mo, d)) : posOf (number k l) mo d = some ((i : Int) + 1) := by
  have hi : i < (dayListOf (number k l)).length := by
    rcases Nat.lt_or_ge i (dayListOf (number k l)).length with c | c
    · exact c
    · rw [List.getElem?_eq_none c] at h; cases h
  have hlen := dayListOf_length l hnn k
  refine posOf_of_walkFwd l k _ mo d (by omega) (by omega) ?_
  rw [walkFwd_dayListOf _ (fun p hp => hnn _ (le_of_mem_number l k p hp).2), nthDay,
    if_pos (by omega), show ((i : Int) + 1 - 1).toNat = i by omega, h]

/-- `get_ordinal_date_from_calendar_date`'s table walk is searching the day list: a date found in
    the list sits where `posOf` says, and a date `posOf` finds is in the list. -/
theorem posOf_dayListOf (l : List Int) (hnn : ∀ x ∈ l, 0 ≤ x) (k mo d : Int) :
    posOf (number k l) mo d = dayPos (dayListOf (number k l)) mo d := by
  cases hd : dayPos (dayListOf (number k l)) mo d with
  | some i =>
    obtain ⟨h1, h2, h3⟩ := dayPos_some hd
    rw [posOf_of_getElem? l hnn k _ mo d h3]; congr 1; omega
  | none =>
    cases hx : posOf (number k l) mo d with
    | none => rfl
    | some n =>
      obtain ⟨len, hm, h1, h2⟩ := posOf_some_mem _ _ _ _ hx
      obtain ⟨i, hi⟩ := dayPos_of_mem _ mo d (mem_dayListOf _ mo len d hm h1 h2)
      rw [hd] at hi; cases hi

/-- Starting `iter_months_days` at day `d` of month `mo` drops the days before it (`d` may be one
    past the end of the month). -/
theorem dayListOf_from (l : List Int) (hnn : ∀ x ∈ l, 0 ≤ x) (k mo d : Int) (h1 : k ≤ mo)
    (h2 : mo < k + l.length) (h3 : 1 ≤ d) (h4 : d ≤ l.getD (mo - k).toNat 0 + 1) :
    (((number k l).drop (mo - k).toNat).flatMap fun p =>
        if p.1 = mo then monthDays p.1 (upTo d (p.2 + 1)) else monthDays p.1 (upTo 1 (p.2 + 1))) =
      (dayListOf (number k l)).drop (Spec.sumL (l.take (mo - k).toNat) + d - 1).toNat := by
  induction l generalizing k with
  | nil => simp only [List.length_nil] at h2; omega
  | cons x l ih =>
    have hx : 0 ≤ x := hnn x (by simp)
    have hl := month_length k x hx
    rw [number, dayListOf_cons]
    -- a start in the first month drops `d - 1` of its days (no later month has its number);
    -- a later start drops all its `x` days, and the rest is the induction hypothesis
    by_cases c : k = mo
    · subst c
      have e : (k - k).toNat = 0 := by omega
      simp only [e, List.getD_cons_zero] at h4
      simp only [e, List.drop_zero, List.take_zero, List.flatMap_cons, ↓reduceIte]
      have rest : ((number (k + 1) l).flatMap fun p =>
          if p.1 = k then monthDays p.1 (upTo d (p.2 + 1)) else monthDays p.1 (upTo 1 (p.2 + 1))) =
          dayListOf (number (k + 1) l) := by
        rw [dayListOf, List.flatMap_def, List.flatMap_def]
        congr 1
        apply List.map_congr_left
        intro p hp
        have := (le_of_mem_number l (k + 1) p hp).1
        rw [if_neg (by omega)]
      have s0 : Spec.sumL [] = 0 := rfl
      rw [rest, s0, List.drop_append_of_le_length (by omega)]
      congr 1
      simp only [monthDays, upTo, ← List.map_drop, rangeUp_drop]
      congr 2
      · omega
      · omega
    · have e : (mo - k).toNat = (mo - (k + 1)).toNat + 1 := by omega
      rw [e, List.getD_cons_succ] at h4
      have hs := sumL_take_nonneg l (fun y hy => hnn y (List.mem_cons_of_mem _ hy)) (mo - (k + 1)).toNat
      rw [e, List.drop_succ_cons, List.take_succ_cons, sumL_cons,
        ih (fun y hy => hnn y (List.mem_cons_of_mem _ hy)) (k + 1) (by omega)
          (by simp only [List.length_cons] at h2; omega) h4,
        show (x + Spec.sumL (l.take (mo - (k + 1)).toNat) + d - 1).toNat =
          (monthDays k (upTo 1 (x + 1))).length + (Spec.sumL (l.take (mo - (k + 1)).toNat) + d - 1).toNat by omega,
        List.drop_append, List.drop_eq_nil_of_le (Nat.le_add_right _ _), List.nil_append, Nat.add_sub_cancel_left]

/-! ### the eight day lists of the calendar -/

theorem monthTab_nonneg (m : Mode) (lp : Bool) : ∀ x ∈ Spec.monthTab m lp, 0 ≤ x :=
  fun x hx => by have := monthTab_entries m lp x hx; omega

theorem dayList_eq (m : Mode) (lp : Bool) : dayList m lp = dayListOf (number 1 (Spec.monthTab m lp)) := by
  rw [dayList, indexed_eq]

theorem dayList_length (m : Mode) (y : Int) : ((dayList m (isLeapYear y)).length : Int) = daysInYear m y := by
  rw [dayList_eq, dayListOf_length _ (monthTab_nonneg m _), daysInYear_eq, ← yearLenB_leapYear]; rfl

theorem walkFwd_eq_nthDay (m : Mode) (lp : Bool) (doy : Int) :
    walkFwd (indexed m lp) doy = nthDay (dayList m lp) doy := by
  rw [dayList_eq, indexed_eq]
  exact walkFwd_dayListOf _ (fun p hp => monthTab_nonneg m lp _ (le_of_mem_number _ 1 p hp).2) doy

theorem posOf_eq_dayPos (m : Mode) (lp : Bool) (mo d : Int) :
    posOf (indexed m lp) mo d = dayPos (dayList m lp) mo d := by
  rw [dayList_eq, indexed_eq]
  exact posOf_dayListOf _ (monthTab_nonneg m lp) 1 mo d

/-- The first three days of the reverse list (the week-start routine looks at most three days back
    into the previous year): the last days of December, counted down. -/
theorem revList_get (m : Mode) (lp : Bool) (k : Int) (h1 : 1 ≤ k) (h2 : k ≤ 3) :
    (revListOf (indexed m lp))[(k - 1).toNat]? = some (12, Spec.monthLenB m lp 12 - k + 1) := by
  obtain ⟨rest, hr⟩ := indexed_reverse m lp
  have := monthLenB_bounds m lp 12 (by omega) (by omega)
  have hl : (k - 1).toNat < (monthDays 12 (downTo (Spec.monthLenB m lp 12) 0)).length := by
    simp only [monthDays, downTo, List.length_map, rangeDn_length]; omega
  rw [revListOf, hr, List.flatMap_cons, List.getElem?_append_left hl]
  simp only [monthDays, downTo, List.getElem?_map, rangeDn_getElem?]
  rw [if_pos (by omega)]
  simp only [Option.map_some]; congr 2; omega

/-- Searching the rest of a year's day list: a date occurs once, so it is found iff it lies in the rest. -/
theorem dayPos_drop (m : Mode) (lp : Bool) (k : Nat) (mo d : Int) :
    dayPos ((dayList m lp).drop k) mo d =
      match dayPos (dayList m lp) mo d with
      | some od => if (k : Int) < od then some (od - k) else none
      | none => none := by
  have huniq : ∀ (i : Nat) mo d, (dayList m lp)[i]? = some (mo, d) →
      dayPos (dayList m lp) mo d = some ((i : Int) + 1) := by
    rw [dayList_eq]
    exact fun i mo d h => posOf_dayListOf _ (monthTab_nonneg m lp) 1 mo d ▸
      posOf_of_getElem? _ (monthTab_nonneg m lp) 1 i mo d h
  cases hd : dayPos ((dayList m lp).drop k) mo d with
  | some i =>
    obtain ⟨h1, h2, h3⟩ := dayPos_some hd
    rw [List.getElem?_drop] at h3
    rw [huniq _ _ _ h3]
    have c : (k : Int) < ((k + (i - 1).toNat : Nat) : Int) + 1 := by omega
    simp only [c, ↓reduceIte]
    congr 1; omega
  | none =>
    cases hx : dayPos (dayList m lp) mo d with
    | none => rfl
    | some od =>
      simp only
      by_cases c : (k : Int) < od
      · exfalso
        obtain ⟨h1, h2, h3⟩ := dayPos_some hx
        have hm : (mo, d) ∈ (dayList m lp).drop k := by
          apply List.mem_iff_getElem?.mpr
          refine ⟨(od - 1).toNat - k, ?_⟩
          rw [List.getElem?_drop]
          have e : k + ((od - 1).toNat - k) = (od - 1).toNat := by omega
          rw [e]; exact h3
        obtain ⟨i, hi⟩ := dayPos_of_mem _ mo d hm
        rw [hd] at hi; simp at hi
      · simp only [c, ↓reduceIte]

/-- `iter_months_days(year, month_of_year=mo, day_of_month=d)` is the rest of the year's day list
    from that day on (`d` may be the day after the month's last). -/
theorem iterMonthsDays_from (m : Mode) (lp : Bool) (mo d : Int) (h1 : 1 ≤ mo) (h2 : mo ≤ 12) (h3 : 1 ≤ d)
    (h4 : d ≤ Spec.monthLenB m lp mo + 1) :
    iterMonthsDays m lp (some mo) (some d) false =
      some ((dayList m lp).drop (Spec.dbmB m lp mo + d - 1).toNat) := by
  have h0 : (0 : Int) ≤ mo - 1 := by omega
  unfold Spec.monthLenB at h4
  rw [if_pos h1] at h4
  simp only [iterMonthsDays, sliceFrom, h0, ↓reduceIte, dayList_eq, indexed_eq, Spec.dbmB, ne_eq,
    reduceCtorEq, not_false_eq_true, and_false, Option.some.injEq]
  exact dayListOf_from _ (monthTab_nonneg m lp) 1 mo d h1 (by rw [monthTab_length]; omega) h3 h4

/-- A valid calendar date is found in its year's day list, at its ordinal day `so`; the lists
    `iter_months_days` returns from that day on, and from the day after it. -/
theorem start_lists (m : Mode) (y mo d : Int) (hv : Spec.ValidCal m y mo d) :
    ∃ so, dayPos (dayList m (isLeapYear y)) mo d = some so ∧ 1 ≤ so ∧
      so ≤ (dayList m (isLeapYear y)).length ∧
      iterMonthsDays m (isLeapYear y) (some mo) (some d) false =
        some ((dayList m (isLeapYear y)).drop (so - 1).toNat) ∧
      iterMonthsDays m (isLeapYear y) (some mo) (some (d + 1)) false =
        some ((dayList m (isLeapYear y)).drop so.toNat) := by
  have hp := posOf_valid m y mo d hv
  rw [posOf_eq_dayPos] at hp
  obtain ⟨h1, h2, h3, h4⟩ := hv
  rw [← monthLenB_leapYear] at h4
  rw [← dbmB_leapYear] at hp
  refine ⟨_, hp, (dayPos_some hp).1, (dayPos_some hp).2.1, ?_, ?_⟩
  · rw [iterMonthsDays_from m _ mo d h1 h2 h3 (by omega)]
  · rw [iterMonthsDays_from m _ mo (d + 1) h1 h2 (by omega) (by omega),
      show Spec.dbmB m (isLeapYear y) mo + (d + 1) - 1 = Spec.dbmB m (isLeapYear y) mo + d by omega]

/-! ### the scanning loops of the conversions, in general -/

/-- Count along a day list until the counter reaches `target`; `k` takes over at the end. -/
def scanCount {β : Type} (f : Int × Int → β) (target : Int) (k : Int → Option β) :
    List (Int × Int) → Int → Option β
  | [], c => k c
  | p :: rest, c => if c + 1 = target then some (f p) else scanCount f target k rest (c + 1)

theorem scanCount_eq {β : Type} (f : Int × Int → β) (t : Int) (k : Int → Option β)
    (l : List (Int × Int)) (c : Int) :
    scanCount f t k l c =
      if c < t ∧ t ≤ c + l.length then (nthDay l (t - c)).map f else k (c + l.length) := by
  induction l generalizing c with
  | nil => rw [scanCount, if_neg (by simp only [List.length_nil]; omega)]; simp
  | cons p rest ih =>
    simp only [scanCount, ih, List.length_cons]
    by_cases h1 : c + 1 = t
    · rw [if_pos h1, if_pos (by omega), nthDay, if_pos (by omega), show (t - c - 1).toNat = 0 by omega]; rfl
    · rw [if_neg h1]
      by_cases h2 : c + 1 < t ∧ t ≤ c + 1 + rest.length
      · rw [if_pos h2, if_pos (by omega), nthDay, nthDay, if_pos (by omega), if_pos (by omega),
          show (t - c - 1).toNat = (t - (c + 1) - 1).toNat + 1 by omega]; rfl
      · rw [if_neg h2, if_neg (by omega)]; congr 1; omega

/-- Count along a day list until `(mo, d)` is met (and the guard `G` holds). -/
def scanElem {β : Type} (G : Prop) [Decidable G] (g : Int → β) (mo d : Int) (k : Int → Option β) :
    List (Int × Int) → Int → Option β
  | [], c => k c
  | p :: rest, c =>
    if G ∧ p.1 = mo ∧ p.2 = d then some (g (c + 1)) else scanElem G g mo d k rest (c + 1)

theorem scanElem_eq {β : Type} (G : Prop) [Decidable G] (g : Int → β) (mo d : Int)
    (k : Int → Option β) (l : List (Int × Int)) (c : Int) :
    scanElem G g mo d k l c =
      match (if G then dayPos l mo d else none) with
      | some i => some (g (c + i))
      | none => k (c + l.length) := by
  induction l generalizing c with
  | nil => simp [scanElem, dayPos]
  | cons p rest ih =>
    have e1 : c + 1 + (rest.length : Int) = c + ((rest.length + 1 : Nat) : Int) := by omega
    rw [scanElem, ih, List.length_cons, e1, dayPos]
    by_cases hG : G
    · simp only [hG, true_and, ↓reduceIte]
      split
      · rfl
      · cases dayPos rest mo d with
        | none => rfl
        | some i => simp only [Option.map_some]; congr 2; omega
    · simp only [hG, false_and, ↓reduceIte]

end IsoDT.Lemmas
