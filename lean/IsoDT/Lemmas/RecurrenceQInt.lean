/-
  IsoDT.Lemmas.RecurrenceQInt — the rational recurrence model (`Model.RecurrenceQ`) on whole-second
  points (`TPQ.ofTP`) and whole-number intervals (`DurationQ.ofDur`) is the integer model
  (`Model.Recurrence`), function by function.
-/
import IsoDT.Lemmas.RecurrenceQ

namespace IsoDT.Lemmas
open IsoDT IsoDT.Model IsoDT.Lemmas.DQ
open IsoDT.Spec (Date TZ TP)

theorem tpLtQ_ofTP (m : Mode) (a b : TP) : tpLtQ m (TPQ.ofTP a) (TPQ.ofTP b) = tpLt m a b := by
  unfold tpLtQ tpLt; rw [cmpQ_ofTP]

theorem tpEqQ_ofTP (m : Mode) (a b : TP) : tpEqQ m (TPQ.ofTP a) (TPQ.ofTP b) = tpEq m a b := by
  unfold tpEqQ tpEq; rw [cmpQ_ofTP]

theorem tpGtQ_ofTP (m : Mode) (a b : TP) : tpGtQ m (TPQ.ofTP a) (TPQ.ofTP b) = tpGt m a b := by
  unfold tpGtQ tpGt; rw [cmpQ_ofTP]

theorem tpLeQ_ofTP (m : Mode) (a b : TP) : tpLeQ m (TPQ.ofTP a) (TPQ.ofTP b) = tpLe m a b := by
  unfold tpLeQ tpLe; rw [tpLtQ_ofTP, tpEqQ_ofTP]

theorem toNQ_ofDur (m : Mode) (d : Dur) : (DurationQ.ofDur d).toNQ m = d.toNQ m := by
  cases d <;> rfl

theorem addDurationQ_ofTP (m : Mode) (p : TP) (d : Dur) :
    addDurationQ m (TPQ.ofTP p) (DurationQ.ofDur d) = (addDur m p d).map TPQ.ofTP := by
  unfold addDurationQ; rw [toNQ_ofDur, addDurQ_ofTP]

theorem subDurationQ_ofTP (m : Mode) (p : TP) (d : Dur) :
    subDurationQ m (TPQ.ofTP p) (DurationQ.ofDur d) = (subDur m p d).map TPQ.ofTP := by
  unfold subDurationQ subDur; rw [ofDur_mul, toNQ_ofDur, addDurQ_ofTP]

theorem isZeroDurQ_ofDur (m : Mode) (d : Dur) : isZeroDurQ m (DurationQ.ofDur d) = isZeroDur m d := by
  unfold isZeroDurQ isZeroDur
  rw [← ofDur_zero, ofDur_eq]

theorem inBoundsQ_ofRec (m : Mode) (r : Rec) (p : TP) :
    inBoundsQ m (RecQ.ofRec r) (TPQ.ofTP p) = inBounds m r p := by
  unfold inBoundsQ inBounds
  cases hs : r.start <;> cases he : r.end_ <;>
    simp only [RecQ.ofRec, hs, he, Option.map_some, Option.map_none, tpLtQ_ofTP, tpGtQ_ofTP]

/-- The last step of `get_next` / `get_prev`: the candidate is kept iff it is within the bounds. -/
theorem keepInBounds_ofRec (m : Mode) (r : Rec) (o : Option TP) :
    (match o.map TPQ.ofTP with
      | some q => if inBoundsQ m (RecQ.ofRec r) q then some q else none
      | none => none) =
    (match o with
      | some q => if inBounds m r q then some q else none
      | none => none).map TPQ.ofTP := by
  cases o with
  | none => rfl
  | some q =>
    simp only [Option.map_some, inBoundsQ_ofRec]
    cases inBounds m r q <;> rfl

theorem getNextQ_ofRec (m : Mode) (r : Rec) (p : TP) :
    getNextQ m (RecQ.ofRec r) (TPQ.ofTP p) = (getNext m r p).map TPQ.ofTP := by
  obtain ⟨reps, start, dur, end_, second, fmt⟩ := r
  unfold getNextQ getNext
  rw [apply_ite (Option.map TPQ.ofTP)]
  refine ite_congr rfl (fun _ => rfl) (fun _ => ?_)
  cases dur with
  | none => rfl
  | some d =>
    simp only [RecQ.ofRec, Option.map_some, addDurationQ_ofTP]
    exact keepInBounds_ofRec m ⟨reps, start, some d, end_, second, fmt⟩ (addDur m p d)

theorem getPrevQ_ofRec (m : Mode) (r : Rec) (p : TP) :
    getPrevQ m (RecQ.ofRec r) (TPQ.ofTP p) = (getPrev m r p).map TPQ.ofTP := by
  obtain ⟨reps, start, dur, end_, second, fmt⟩ := r
  unfold getPrevQ getPrev
  rw [apply_ite (Option.map TPQ.ofTP)]
  refine ite_congr rfl (fun _ => rfl) (fun _ => ?_)
  cases dur with
  | none => rfl
  | some d =>
    simp only [RecQ.ofRec, Option.map_some, subDurationQ_ofTP]
    exact keepInBounds_ofRec m ⟨reps, start, some d, end_, second, fmt⟩ (subDur m p d)

theorem iterFromQ_ofRec (m : Mode) (r : Rec) (rev : Bool) : ∀ (fuel : Nat) (p : TP),
    iterFromQ m (RecQ.ofRec r) rev fuel (TPQ.ofTP p) = (iterFrom m r rev fuel p).map TPQ.ofTP := by
  intro fuel
  induction fuel with
  | zero => intro p; rfl
  | succ fuel ih =>
    intro p
    rw [iterFromQ, iterFrom, inBoundsQ_ofRec, getNextQ_ofRec, getPrevQ_ofRec,
      ← apply_ite (Option.map TPQ.ofTP)]
    cases inBounds m r p with
    | false => rfl
    | true =>
      cases (if rev = true then getPrev m r p else getNext m r p) with
      | none => rfl
      | some q => exact congrArg (List.cons (TPQ.ofTP p)) (ih q)

/-- From the anchor on, `__iter__` is the same on both sides, whichever way the one-point test goes. -/
theorem iterQ_body_ofRec (m : Mode) (r : Rec) (rev c : Bool) (fuel : Nat) (p : TP) :
    (if c = true then (if fuel = 0 then [] else
        if inBoundsQ m (RecQ.ofRec r) (TPQ.ofTP p) = true then [TPQ.ofTP p] else [])
      else iterFromQ m (RecQ.ofRec r) rev fuel (TPQ.ofTP p)) =
    List.map TPQ.ofTP (if c = true then (if fuel = 0 then [] else if inBounds m r p = true then [p] else [])
      else iterFrom m r rev fuel p) := by
  rw [inBoundsQ_ofRec, iterFromQ_ofRec]
  cases c with
  | false => rfl
  | true =>
    cases fuel with
    | zero => rfl
    | succ k => cases inBounds m r p <;> rfl

theorem iterQ_ofRec (m : Mode) (r : Rec) (fuel : Nat) :
    iterQ m (RecQ.ofRec r) fuel = (iter m r fuel).map TPQ.ofTP := by
  obtain ⟨reps, start, dur, end_, second, fmt⟩ := r
  unfold iterQ iter
  cases start with
  | some s =>
    cases dur with
    | none => exact iterQ_body_ofRec m ⟨reps, some s, _, end_, second, fmt⟩ false _ fuel s
    | some d =>
      simp only [RecQ.ofRec, Option.map_some, ofDur_nonzero]
      exact iterQ_body_ofRec m ⟨reps, some s, _, end_, second, fmt⟩ false _ fuel s
  | none =>
    cases end_ with
    | none => rfl
    | some e =>
      cases dur with
      | none => exact iterQ_body_ofRec m ⟨reps, none, _, some e, second, fmt⟩ true _ fuel e
      | some d =>
        simp only [RecQ.ofRec, Option.map_some, ofDur_nonzero]
        exact iterQ_body_ofRec m ⟨reps, none, _, some e, second, fmt⟩ true _ fuel e

theorem getItemQ_ofRec (m : Mode) (r : Rec) (i : Nat) :
    getItemQ m (RecQ.ofRec r) i = (getItem m r i).map TPQ.ofTP := by
  unfold getItemQ getItem; rw [iterQ_ofRec, List.getElem?_map]

theorem scanValidQ_ofRec (m : Mode) (r : Rec) (p : TP) : ∀ l : List TP,
    scanValidQ m (RecQ.ofRec r) (TPQ.ofTP p) (l.map TPQ.ofTP) = scanValid m r p l := by
  intro l
  induction l with
  | nil => rfl
  | cons q rest ih =>
    have hstart : (RecQ.ofRec r).start.isNone = r.start.isNone := by simp [RecQ.ofRec]
    have hend : (RecQ.ofRec r).end_.isNone = r.end_.isNone := by simp [RecQ.ofRec]
    simp only [List.map_cons, scanValidQ, scanValid, tpEqQ_ofTP, tpLtQ_ofTP, tpGtQ_ofTP, hstart, hend, ih]

theorem getIsValidQ_ofRec (m : Mode) (r : Rec) (p : TP) (fuel : Nat) :
    getIsValidQ m (RecQ.ofRec r) (TPQ.ofTP p) fuel = getIsValid m r p fuel := by
  unfold getIsValidQ getIsValid
  rw [inBoundsQ_ofRec, iterQ_ofRec, scanValidQ_ofRec]

theorem ofDurQ_durQOf_units (dd hh mi ss : Int) :
    DurationQ.ofDurQ (durQOf (.units 0 0 dd hh mi ss)) = DurationQ.ofDur (.units 0 0 dd hh mi ss) := rfl

/-- `TimeRecurrence.__init__` on whole-second points and whole-number intervals. -/
theorem mkRecQ_ofRec (m : Mode) (reps : Option Int) (start : Option TP) (dur : Option Dur) (end_ : Option TP) :
    mkRecQ m reps (start.map TPQ.ofTP) (dur.map DurationQ.ofDur) (end_.map TPQ.ofTP) =
      (mkRec m reps start dur end_).map RecQ.ofRec := by
  unfold mkRecQ mkRec
  rw [apply_ite (Option.map RecQ.ofRec)]
  refine ite_congr (by cases reps <;> rfl) (fun _ => rfl) (fun _ => ?_)
  cases dur with
  | none =>
    simp only [Option.map_none, Bool.false_eq_true, ↓reduceIte]
    by_cases c1 : reps = some 1
    · rw [if_pos c1, if_pos c1]; rfl
    rw [if_neg c1, if_neg c1]
    cases start with
    | none => rfl
    | some s =>
      cases end_ with
      | none => rfl
      | some e =>
        simp only [Option.map_some, tpEqQ_ofTP, tpLtQ_ofTP, subTPQ_ofTP]
        by_cases c2 : tpEq m s e = true
        · rw [if_pos c2, if_pos c2]; rfl
        rw [if_neg c2, if_neg c2]
        by_cases c3 : tpLt m e s = true
        · rw [if_pos c3, if_pos c3]; rfl
        rw [if_neg c3, if_neg c3]
        cases hd : subTP m e s with
        | none => rfl
        | some d =>
          obtain ⟨dd, hh, mi, ss, rfl⟩ := subTP_units m e s d hd
          cases reps with
          | none => rfl
          | some n =>
            simp only [Option.map_some, ofDurQ_durQOf_units, ofDur_mul, addDurationQ_ofTP]
            cases addDur m s ((Dur.units 0 0 dd hh mi ss).mul (n - 1)) <;> rfl
  | some d =>
    simp only [Option.map_some, ← ofDur_zero, ofDur_lt, isZeroDurQ_ofDur]
    by_cases c1 : Dur.lt m d Dur.zero = true
    · rw [if_pos c1, if_pos c1]; rfl
    rw [if_neg c1, if_neg c1]
    cases start with
    | none =>
      cases end_ with
      | none => rfl
      | some e =>
        simp only [Option.map_some, Option.map_none]
        by_cases c2 : reps = some 1 ∨ isZeroDur m d = true
        · rw [if_pos c2, if_pos c2]; rfl
        rw [if_neg c2, if_neg c2]
        cases reps with
        | none => rfl
        | some n =>
          simp only [ofDur_mul, subDurationQ_ofTP]
          cases subDur m e (d.mul (n - 1)) <;> rfl
    | some s =>
      cases end_ with
      | some e => rfl
      | none =>
        simp only [Option.map_some, Option.map_none]
        by_cases c2 : reps = some 1 ∨ isZeroDur m d = true
        · rw [if_pos c2, if_pos c2]; rfl
        rw [if_neg c2, if_neg c2]
        cases reps with
        | none => rfl
        | some n =>
          simp only [ofDur_mul, addDurationQ_ofTP]
          cases addDur m s (d.mul (n - 1)) <;> rfl

end IsoDT.Lemmas
