/-
  IsoDT.Lemmas.TextTrunc — the VALUE half of parsing for the TRUNCATED date and time forms
  (`allow_truncated=True`): a specification of what the groups of a truncated template spell
  (`TVals`, `tenvOf`), of the keyword arguments `TimePoint(...)` is to receive (`targsOf`) and of the
  truncated point they denote (`tpointOf`), written without reference to `assemble` / `ctor`, and the
  generic theorems that `_create_timepoint_from_info` (`assemble`) and `TimePoint.__init__` (`ctor`)
  compute exactly these (together: `parse_tenvOf`) — for every pair of templates that passes decidable
  shape checks (`tItemOK`, `tdateShapeOK`, `ttimeShapeOK`), which `Props/C07d` discharges over the
  regenerated tables by kernel evaluation.

  Truncated date forms have no sign, expanded-year or century group: the year, if any, is the
  year-of-century `YY` or the year-of-decade `z` alone; a literal `truncated` group (`-`, `--`, `---`)
  marks the omitted higher-order fields.  Truncated time forms are `-mm`, `-mmss`, `--ss` (with an
  optional fraction on the last unit).
-/
import IsoDT.Lemmas.TextDecodeAll

namespace IsoDT.Text
open IsoDT IsoDT.Model IsoDT.Lemmas
open IsoDT.Spec (TZ Date)

/-- `Vals` plus the year of decade `z` that only truncated week forms spell. -/
structure TVals extends Vals where
  z : Nat := 0
  deriving DecidableEq, Repr, Inhabited

/-- The number a digit group spells. -/
def TVals.nat (v : TVals) : Fld → Nat
  | .yearOfDecade => v.z
  | f => v.toVals.nat f

/-- The group texts a (truncated or not) date / time template spells for the values `v`. -/
def tenvOf : Template → TVals → Env
  | [], _ => []
  | .lit _ :: t, v => tenvOf t v
  | .digits f n :: t, v => (f, renderNat n (v.nat f)) :: tenvOf t v
  | .digitsPlus f :: t, v => (f, v.dec f) :: tenvOf t v
  | .sign f :: t, v => (f, [if v.neg f then '-' else '+']) :: tenvOf t v
  | .group f ls :: t, v => (f, ls) :: tenvOf t v

/-- The numeric groups of truncated date forms and of all time forms. -/
def isTIntFld : Fld → Bool
  | .yearOfCentury | .yearOfDecade | .monthOfYear | .dayOfMonth | .dayOfYear | .weekOfYear | .dayOfWeek
  | .hourOfDay | .minuteOfHour | .secondOfMinute => true
  | _ => false

/-- The documented width of each of these digit groups. -/
def tWidth : Fld → Nat
  | .yearOfDecade => 1
  | .dayOfYear => 3
  | .dayOfWeek => 1
  | _ => 2

/-- One item of a truncated date expression or of any time expression: a literal, a digit group of a
    numeric field with its documented width, a decimal group of a fraction field, or the literal
    `truncated` marker group.  No sign group. -/
def tItemOK : Item → Bool
  | .lit _ => true
  | .digits f n => isTIntFld f && n == tWidth f
  | .digitsPlus f => isDecFld f
  | .sign _ => false
  | .group f _ => f == .truncated

def TVals.Fit (ned : Nat) (v : TVals) : Prop := v.toVals.Fit ned ∧ v.z < 10

instance (ned : Nat) (v : TVals) : Decidable (v.Fit ned) := by unfold TVals.Fit; infer_instance

/-- The year a truncated date expression spells: the year of century and/or of decade alone; none if
    the form has neither. -/
def tyearOf (de : Template) (v : TVals) : Option Int :=
  if hasGroup de .yearOfCentury || hasGroup de .yearOfDecade then
    some (((if hasGroup de .yearOfDecade then v.z else 0) +
           (if hasGroup de .yearOfCentury then v.yy else 0) : Nat) : Int)
  else none

/-- `truncated_property`. -/
def tpropOf (de : Template) : Option TruncProp :=
  if hasGroup de .yearOfDecade then some .yearOfDecade
  else if hasGroup de .yearOfCentury then some .yearOfCentury
  else none

/-- The keyword arguments `TimePoint(...)` is to receive for a truncated date expression `de` (`[]`: no
    date, `T...` alone), a time expression `te` (`[]` for a date alone), the processed zone and the
    values `v`: exactly the spelled fields, `truncated=True`. -/
def targsOf (de te : Template) (zone : ZoneInfo) (v : TVals) (dump : Option (List Char)) : Args :=
  { ned := 0
    year := tyearOf de v
    month := fieldOf de .monthOfYear v.month
    day := fieldOf de .dayOfMonth v.day
    doy := fieldOf de .dayOfYear v.doy
    week := fieldOf de .weekOfYear v.week
    dow := fieldOf de .dayOfWeek v.dow
    hour := fieldOf te .hourOfDay v.hour
    minute := fieldOf te .minuteOfHour v.minute
    second := fieldOf te .secondOfMinute v.second
    hourDec := decOf te .hourDec v.hourDec
    minuteDec := decOf te .minuteDec v.minuteDec
    secondDec := decOf te .secondDec v.secondDec
    tzHour := zone.hour
    tzMinute := zone.minute
    truncated := true
    truncProp := tpropOf de
    dumpFmt := dump }

/-- The truncated point the documented semantics prescribes: exactly the spelled fields (its
    "truncated properties"), nothing defaulted, `truncated`, the zone `tz` (unknown iff `unk`). -/
def tpointOf (de te : Template) (v : TVals) (tz : TZ) (unk : Bool) (dump : Option (List Char)) : XTP :=
  { ned := 0
    year := tyearOf de v
    month := fieldOf de .monthOfYear v.month
    day := fieldOf de .dayOfMonth v.day
    doy := fieldOf de .dayOfYear v.doy
    week := fieldOf de .weekOfYear v.week
    dow := fieldOf de .dayOfWeek v.dow
    hour := fieldOf te .hourOfDay v.hour
    minute := fieldOf te .minuteOfHour v.minute
    second := fieldOf te .secondOfMinute v.second
    hourDec := decOf te .hourDec v.hourDec
    minuteDec := decOf te .minuteDec v.minuteDec
    secondDec := decOf te .secondDec v.secondDec
    tz := tz
    tzUnknown := unk
    truncated := true
    truncProp := tpropOf de
    dumpFmt := dump }

/-- The zone of a truncated point is unknown iff neither hour nor minute reached the constructor. -/
def unknownOf (zone : ZoneInfo) : Bool := zone.hour.isNone && zone.minute.isNone

/-- The text of group `f` under `v`, by the class of the field alone (numeric or decimal). -/
def tfldText (v : TVals) (f : Fld) : List Char :=
  if isTIntFld f then renderNat (tWidth f) (v.nat f) else v.dec f

theorem tfit_nat (ned : Nat) (v : TVals) (hv : v.Fit ned) (f : Fld) (hf : isTIntFld f = true) :
    v.nat f < 10 ^ tWidth f := by
  obtain ⟨⟨h1, h2, h3, h4, h5, h6, h7, h8, h9, h10, h11, h12, h13, _⟩, hz⟩ := hv
  cases f <;> first | exact absurd hf (by decide) | (simp only [TVals.nat, Vals.nat, tWidth]; omega)

theorem tenvOf_eq (t : Template) (v : TVals) : tenvOf t v = envBy v.nat v.neg v.dec t := by
  induction t with
  | nil => rfl
  | cons it t ih => cases it <;> simp only [tenvOf, envBy, ih]

theorem tenvOf_fields (t : Template) (v : TVals) : (tenvOf t v).map Prod.fst = groupFields t :=
  tenvOf_eq t v ▸ envBy_fields ..

theorem has_tenvOf (t : Template) (v : TVals) (f : Fld) : Env.has (tenvOf t v) f = hasGroup t f := by
  rw [Env.has_iff, tenvOf_fields]; rfl

theorem tenvOf_frac (t : Template) (v v' : TVals) (hn : ∀ f, v.nat f = v'.nat f)
    (hs : ∀ f, v.neg f = v'.neg f)
    (hd : ∀ f, isDecFld f = true → hasGroup t f = true → v.dec f = v'.dec f) : tenvOf t v = tenvOf t v' := by
  rw [tenvOf_eq, tenvOf_eq]
  exact envBy_frac t _ _ _ _ v.toVals v'.toVals hn hs hd

theorem get_tenvOf (t : Template) (h : t.all tItemOK = true) (v : TVals) (f : Fld) (hf : f ≠ .truncated) :
    Env.get? (tenvOf t v) f = if hasGroup t f then some (tfldText v f) else none := by
  induction t with
  | nil => rfl
  | cons it t ih =>
    simp only [List.all_cons, Bool.and_eq_true] at h
    have ih := ih h.2
    have hit := h.1
    unfold hasGroup at ih ⊢
    cases it with
    | lit c => exact ih
    | digits g n =>
      simp only [tItemOK, Bool.and_eq_true, beq_iff_eq] at hit
      rw [tenvOf, hit.2, show renderNat (tWidth g) (v.nat g) = tfldText v g by simp [tfldText, hit.1]]
      exact get_cons (tfldText v) g f _ _ ih
    | digitsPlus g =>
      have h1 : isTIntFld g = false := by cases g <;> first | rfl | exact absurd hit (by decide)
      rw [tenvOf, show v.dec g = tfldText v g by simp [tfldText, h1]]
      exact get_cons (tfldText v) g f _ _ ih
    | sign g => simp [tItemOK] at hit
    | group g ls =>
      -- the marker group is not the group asked for
      simp only [tItemOK, beq_iff_eq] at hit
      subst hit
      have hg : ¬ (Fld.truncated = f) := fun e => hf e.symm
      have : (f == Fld.truncated) = false := by simp [hf]
      simp only [tenvOf, Env.get?, groupFields, hasGroup_cons, hg, if_false, this, Bool.false_or]
      exact ih

/-- A template whose items are all `tItemOK` has numeric groups of the listed fields, decimal groups and
    the `truncated` marker only (no sign, expanded year, century or zone group). -/
theorem hasGroup_tclass (t : Template) (h : t.all tItemOK = true) (f : Fld)
    (hf : hasGroup t f = true) : isTIntFld f = true ∨ isDecFld f = true ∨ f = .truncated := by
  induction t with
  | nil => simp [hasGroup, groupFields] at hf
  | cons it t ih =>
    simp only [List.all_cons, Bool.and_eq_true] at h
    have ih := ih h.2
    have hit := h.1
    unfold hasGroup at ih hf
    cases it <;>
      simp only [tItemOK, groupFields, hasGroup_cons, Bool.and_eq_true, Bool.or_eq_true, beq_iff_eq] at hit hf
    · exact ih hf
    · exact hf.elim (fun e => e ▸ Or.inl hit.1) ih
    · exact hf.elim (fun e => e ▸ Or.inr (Or.inl hit)) ih
    · cases hit
    · exact hf.elim (fun e => e ▸ Or.inr (Or.inr hit)) ih

theorem hasGroup_tunclassed (t : Template) (h : t.all tItemOK = true) (f : Fld)
    (h1 : isTIntFld f = false) (h2 : isDecFld f = false) (h3 : f ≠ .truncated) :
    hasGroup t f = false := by
  cases hf : hasGroup t f with
  | false => rfl
  | true =>
    rcases hasGroup_tclass t h f hf with e | e | e
    · rw [h1] at e; cases e
    · rw [h2] at e; cases e
    · exact absurd e h3

/-- The rendered groups fit the template: `tmatch` recovers exactly them (`tmatch_trender`). -/
theorem fits_tenvOf (ned : Nat) (t : Template) (hw : wf t = true) (h : t.all tItemOK = true)
    (v : TVals) (hv : v.Fit ned) : fits t (tenvOf t v) = true := by
  induction t with
  | nil => rfl
  | cons it t ih =>
    simp only [List.all_cons, Bool.and_eq_true] at h
    cases it with
    | digitsPlus g =>
      simp only [wf, List.isEmpty_iff] at hw
      subst hw
      obtain ⟨h1, h2⟩ := fit_dec ned v.toVals hv.1 g h.1
      simp [tenvOf, fits, h1, h2]
    | sign g => exact absurd h.1 (by simp [tItemOK])
    | _ => simp [tenvOf, fits, renderNat_length, renderNat_digits, ih hw h.2]

theorem tWidth_pos (f : Fld) : 0 < tWidth f := by cases f <;> decide

theorem optInt_tenvOf (ned : Nat) (t : Template) (h : t.all tItemOK = true) (v : TVals)
    (hv : v.Fit ned) (f : Fld) (hf : isTIntFld f = true) :
    optInt (tenvOf t v) f = some (fieldOf t f (v.nat f)) := by
  have hne : f ≠ .truncated := by intro e; subst e; cases hf
  unfold optInt fieldOf
  rw [get_tenvOf t h v f hne]
  cases hg : hasGroup t f with
  | false => simp
  | true =>
    simp only [if_true, tfldText, hf]
    rw [intOf_renderNat _ _ (tWidth_pos f) (tfit_nat ned v hv f hf)]; rfl

theorem optInt_tabsent (t : Template) (h : t.all tItemOK = true) (v : TVals) (f : Fld)
    (hne : f ≠ .truncated) (hf : hasGroup t f = false) : optInt (tenvOf t v) f = some none := by
  unfold optInt
  rw [get_tenvOf t h v f hne, hf]; rfl

theorem dec_tenvOf (t : Template) (h : t.all tItemOK = true) (v : TVals) (f : Fld)
    (hf : isDecFld f = true) : Env.get? (tenvOf t v) f = decOf t f (v.dec f) := by
  have h1 : isTIntFld f = false := by cases f <;> first | rfl | exact absurd hf (by decide)
  have hne : f ≠ .truncated := by intro e; subst e; cases hf
  rw [get_tenvOf t h v f hne]
  simp [decOf, tfldText, h1]

/-- **Field assembly (truncated)**: on the groups `tenvOf` spells for a truncated date expression (or no
    date at all) and any time expression (or none), `_create_timepoint_from_info` assembles exactly the
    keyword arguments `targsOf` prescribes — provided the date is marked truncated (`dtr`: it has the
    marker group, or is absent) or is implicitly truncated (a year of century without century). -/
theorem assemble_tenvOf (cfg : Cfg) (de te : Template) (dtr : Bool) (zone : ZoneInfo) (expr : List Char)
    (v : TVals) (dump : Option (List Char))
    (hde : de.all tItemOK = true) (hte : te.all tItemOK = true)
    (htr : dtr = true ∨ hasGroup de .yearOfCentury = true) (hv : v.Fit cfg.pt.ned) :
    assemble cfg ⟨tenvOf de v, dtr, tenvOf te v, zone, expr⟩ dump = some (targsOf de te zone v dump) := by
  have eZ := optInt_tenvOf _ de hde v hv .yearOfDecade rfl
  have eY := optInt_tenvOf _ de hde v hv .yearOfCentury rfl
  have eM := optInt_tenvOf _ de hde v hv .monthOfYear rfl
  have eD := optInt_tenvOf _ de hde v hv .dayOfMonth rfl
  have eO := optInt_tenvOf _ de hde v hv .dayOfYear rfl
  have eW := optInt_tenvOf _ de hde v hv .weekOfYear rfl
  have eK := optInt_tenvOf _ de hde v hv .dayOfWeek rfl
  have eh := optInt_tenvOf _ te hte v hv .hourOfDay rfl
  have em := optInt_tenvOf _ te hte v hv .minuteOfHour rfl
  have es := optInt_tenvOf _ te hte v hv .secondOfMinute rfl
  have hC : hasGroup de .century = false := hasGroup_tunclassed de hde _ rfl rfl (by decide)
  have hX : hasGroup de .expandedYear = false := hasGroup_tunclassed de hde _ rfl rfl (by decide)
  have hS : hasGroup de .yearSign = false := hasGroup_tunclassed de hde _ rfl rfl (by decide)
  have eC := optInt_tabsent de hde v .century (by decide) hC
  have eX := optInt_tabsent de hde v .expandedYear (by decide) hX
  have eS : Env.get? (tenvOf de v) .yearSign = none := by
    rw [get_tenvOf de hde v .yearSign (by decide), hS]; rfl
  have dh := dec_tenvOf te hte v .hourDec rfl
  have dm := dec_tenvOf te hte v .minuteDec rfl
  have ds := dec_tenvOf te hte v .secondDec rfl
  unfold assemble
  simp only [eX, eC, eY, eM, eD, eO, eW, eK, eh, em, es, eZ, eS, dh, dm, ds, has_tenvOf, hC, hX, hS]
  simp only [targsOf, tyearOf, tpropOf, fieldOf, TVals.nat, Vals.nat, Vals.dec, Option.some.injEq]
  rcases htr with rfl | hY
  · cases hY : hasGroup de .yearOfCentury <;> cases hZ : hasGroup de .yearOfDecade <;> simp
  · rw [hY]
    cases dtr <;> cases hZ : hasGroup de .yearOfDecade <;> simp

/-- The point `TimePoint(truncated=True, ...)` stores: the arguments as given, nothing defaulted. -/
def pointOfArgs (a : Args) (tz : TZ) : XTP :=
  { ned := a.ned, year := a.year, month := a.month, day := a.day, doy := a.doy, week := a.week,
    dow := a.dow, hour := a.hour, minute := a.minute, second := a.second, hourDec := a.hourDec,
    minuteDec := a.minuteDec, secondDec := a.secondDec, tz := tz,
    tzUnknown := a.tzHour.isNone && a.tzMinute.isNone, truncated := true, truncProp := a.truncProp,
    dumpFmt := a.dumpFmt }

/-- **Constructor (truncated)**: with `truncated=True`, a decimal fraction only on the last given unit
    and at most one of the month/day, week/weekday, ordinal-day families, `TimePoint(...)` stores
    exactly its arguments if the zone and `_check_bounds` accept them, and is an error otherwise. -/
theorem ctor_truncated (m : Mode) (a : Args) (ht : a.truncated = true)
    (h1 : (a.hourDec.isSome && (a.hour.isNone || a.minute.isSome || a.second.isSome)) = false)
    (h2 : (a.minuteDec.isSome && (a.minute.isNone || a.second.isSome)) = false)
    (h3 : (a.secondDec.isSome && a.second.isNone) = false)
    (h5 : ((truthy a.month || truthy a.day) && (truthy a.week || truthy a.dow)) = false)
    (h6 : ((truthy a.month || truthy a.day) && a.doy.isSome) = false)
    (h7 : ((truthy a.week || truthy a.dow) && a.doy.isSome) = false) :
    ctor m a =
      match mkTZ m (a.tzHour.getD 0) (a.tzMinute.getD 0) with
      | none => none
      | some tz => if checkBounds m (pointOfArgs a tz) then some (pointOfArgs a tz) else none := by
  unfold ctor
  simp only [h1, h2, h3, ht, Bool.false_eq_true, if_false, Bool.not_true, Bool.false_and, Bool.true_and]
  cases mkTZ m (a.tzHour.getD 0) (a.tzMinute.getD 0) with
  | none => rfl
  | some tz =>
    simp only [h5, h6, h7, Bool.false_eq_true, if_false]
    rfl

/-- Which of the month / day / day-of-year / week / weekday groups a truncated date expression has: the
    documented patterns (nothing, month, month-day, day, ordinal day, week-weekday, week, weekday). -/
def tdateShapeOK (de : Template) : Bool :=
  [(false, false, false, false, false), (true, false, false, false, false),
   (true, true, false, false, false), (false, true, false, false, false),
   (false, false, true, false, false), (false, false, false, true, true),
   (false, false, false, true, false), (false, false, false, false, true)].contains (datePattern de)

/-- The time patterns: the seven non-truncated ones (`timeShapeOK`) and `-mm`, `-mmss`, `--ss`, each
    with or without a fraction on its last unit. -/
def ttimeShapeOK (te : Template) : Bool :=
  timeShapeOK te ||
  [(false, true, false, false, false, false), (false, true, true, false, false, false),
   (false, false, true, false, false, false), (false, true, false, false, true, false),
   (false, true, true, false, false, true), (false, false, true, false, false, true)].contains
    (timePattern te)

/-- A truncated date expression spells fields of one family only: month and day, or the ordinal day,
    or week and weekday. -/
theorem tdateShape_family (de : Template) (h : tdateShapeOK de = true) :
    (hasGroup de .dayOfYear = false ∧ hasGroup de .weekOfYear = false ∧ hasGroup de .dayOfWeek = false) ∨
    (hasGroup de .monthOfYear = false ∧ hasGroup de .dayOfMonth = false ∧ hasGroup de .weekOfYear = false ∧
      hasGroup de .dayOfWeek = false) ∨
    (hasGroup de .monthOfYear = false ∧ hasGroup de .dayOfMonth = false ∧ hasGroup de .dayOfYear = false) := by
  revert h
  unfold tdateShapeOK datePattern
  generalize hasGroup de .monthOfYear = a
  generalize hasGroup de .dayOfMonth = b
  generalize hasGroup de .dayOfYear = c
  generalize hasGroup de .weekOfYear = d
  generalize hasGroup de .dayOfWeek = e
  revert a b c d e
  decide

/-- In every time pattern a decimal fraction is on the last unit spelled. -/
theorem ttimeShape_frac (te : Template) (h : ttimeShapeOK te = true) :
    (hasGroup te .hourDec && (!hasGroup te .hourOfDay || hasGroup te .minuteOfHour ||
      hasGroup te .secondOfMinute)) = false ∧
    (hasGroup te .minuteDec && (!hasGroup te .minuteOfHour || hasGroup te .secondOfMinute)) = false ∧
    (hasGroup te .secondDec && !hasGroup te .secondOfMinute) = false := by
  revert h
  unfold ttimeShapeOK timeShapeOK timePattern
  generalize hasGroup te .hourOfDay = a
  generalize hasGroup te .minuteOfHour = b
  generalize hasGroup te .secondOfMinute = c
  generalize hasGroup te .hourDec = d
  generalize hasGroup te .minuteDec = e
  generalize hasGroup te .secondDec = f
  revert a b c d e f
  decide

theorem truthy_none : truthy none = false := rfl

/-- **Constructor on `targsOf`**: `TimePoint(...)` on the arguments of a truncated form is `tpointOf` if
    the zone and `_check_bounds` accept it, an error otherwise — for every documented truncated date
    pattern and every time pattern. -/
theorem ctor_targsOf (m : Mode) (de te : Template) (zone : ZoneInfo) (v : TVals) (dump : Option (List Char))
    (hd : tdateShapeOK de = true) (ht : ttimeShapeOK te = true) :
    ctor m (targsOf de te zone v dump) =
      match mkTZ m (zone.hour.getD 0) (zone.minute.getD 0) with
      | none => none
      | some tz =>
        if checkBounds m (tpointOf de te v tz (unknownOf zone) dump) then
          some (tpointOf de te v tz (unknownOf zone) dump)
        else none := by
  obtain ⟨t1, t2, t3⟩ := ttimeShape_frac te ht
  rw [ctor_truncated m (targsOf de te zone v dump) rfl
    (by simpa only [targsOf, isSome_decOf, isSome_fieldOf, isNone_fieldOf] using t1)
    (by simpa only [targsOf, isSome_decOf, isSome_fieldOf, isNone_fieldOf] using t2)
    (by simpa only [targsOf, isSome_decOf, isSome_fieldOf, isNone_fieldOf] using t3)]
  · rfl
  all_goals
    rcases tdateShape_family de hd with h | h | h <;>
      simp only [targsOf, truthy_fieldOf, isSome_fieldOf, h, Bool.or_self, Bool.and_false, Bool.false_and]

/-- **The value half**: a text for which `get_info` returns the groups `tenvOf` spells in a truncated
    (or absent) date expression and a time expression (or none) parses to `tpointOf` if the zone and
    `_check_bounds` accept it, and is an error otherwise. -/
theorem parse_tenvOf (cfg : Cfg) (s : List Char) (de te : Template) (dtr : Bool) (zone : ZoneInfo)
    (expr : List Char) (v : TVals) (asParsed : Bool)
    (hinfo : getInfo cfg s = some ⟨tenvOf de v, dtr, tenvOf te v, zone, expr⟩)
    (hde : de.all tItemOK = true) (hte : te.all tItemOK = true)
    (htr : dtr = true ∨ hasGroup de .yearOfCentury = true) (hv : v.Fit cfg.pt.ned)
    (hd : tdateShapeOK de = true) (ht : ttimeShapeOK te = true) :
    parse cfg s asParsed =
      match mkTZ cfg.mode (zone.hour.getD 0) (zone.minute.getD 0) with
      | none => none
      | some tz =>
        if checkBounds cfg.mode
            (tpointOf de te v tz (unknownOf zone) (if asParsed then some expr else none)) then
          some (tpointOf de te v tz (unknownOf zone) (if asParsed then some expr else none))
        else none := by
  unfold parse
  rw [hinfo]
  simp only []
  rw [assemble_tenvOf cfg de te dtr zone expr v _ hde hte htr hv]
  exact ctor_targsOf cfg.mode de te zone v _ hd ht

/-- The time of day of a truncated point is legal iff `TimeValid` (an absent hour counts as 0 — so the
    minute and second must be below 60). -/
theorem timeBounds_tpointOf (m : Mode) (de te : Template) (v : TVals) (tz : TZ) (unk : Bool)
    (dump : Option (List Char)) (ht : ttimeShapeOK te = true) :
    timeBounds m (tpointOf de te v tz unk dump).hour (tpointOf de te v tz unk dump).minute
      (tpointOf de te v tz unk dump).second (tpointOf de te v tz unk dump).hourDec
      (tpointOf de te v tz unk dump).minuteDec (tpointOf de te v tz unk dump).secondDec = true ↔
    TimeValid te v.toVals := by
  -- pattern by pattern: an absent unit passes every test of `timeBounds` and counts as 0 in `TimeValid`;
  -- what is left is linear arithmetic, after a split on hour 24 where the hour is spelled
  simp [ttimeShapeOK, timeShapeOK, timePattern, or_assoc] at ht
  rcases ht with ⟨t1, t2, t3, t4, t5, t6⟩ | ⟨t1, t2, t3, t4, t5, t6⟩ | ⟨t1, t2, t3, t4, t5, t6⟩ |
      ⟨t1, t2, t3, t4, t5, t6⟩ | ⟨t1, t2, t3, t4, t5, t6⟩ | ⟨t1, t2, t3, t4, t5, t6⟩ | ⟨t1, t2, t3, t4, t5, t6⟩ |
      ⟨t1, t2, t3, t4, t5, t6⟩ | ⟨t1, t2, t3, t4, t5, t6⟩ | ⟨t1, t2, t3, t4, t5, t6⟩ | ⟨t1, t2, t3, t4, t5, t6⟩ |
      ⟨t1, t2, t3, t4, t5, t6⟩ | ⟨t1, t2, t3, t4, t5, t6⟩ <;>
    simp [timeBounds, tpointOf, TimeValid, hourOf, minuteOf, secondOf, decOf, fieldOf, hoursInDay_eq,
      minutesInHour_eq, secondsInMinute_eq, t1, t2, t3, t4, t5, t6]
  all_goals (
    first
    | omega
    | (by_cases h24 : v.hour = 24
       · simp [h24]
       · have h24' : ¬ ((v.hour : Int) = 24) := by omega
         simp [h24, h24']
         omega))

end IsoDT.Text
