/-
  IsoDT.Lemmas.TextCustomExpr — `_get_expression_and_properties` on every complete custom format:
  the printf expression, the property list and the custom time zone (`getExpr_custom`).  Where the text
  after the `T` is cut into time and zone is proved for any time expression (`timeZonePart_zone`,
  `getExpr_class`); what the rule tables make of the date tokens, the time tokens and the placeholder
  zones is evaluated by the kernel; the literal zone is symbolic (`Lemmas/TextCustomZone`).
-/
import IsoDT.Lemmas.TextCustomZone

namespace IsoDT.Text.Custom
open IsoDT IsoDT.Model IsoDT.Lemmas IsoDT.Text
open IsoDT.Spec (Date TZ TP)
open _root_.IsoDT.Gen.Templates (timeDesignator dumper_0 dumper_2 dumper_3 dumpTables parserTables)

theorem kind_lt (k : DateKind) : k.k < 3 := by cases k <;> decide

theorem exists_kind (d : Date) : ∃ k : DateKind, d.rep = k.k := by
  cases d with
  | cal => exact ⟨.cal, rfl⟩
  | ord => exact ⟨.ord, rfl⟩
  | week => exact ⟨.week, rfl⟩

theorem rep_kind {d : Date} {k : DateKind} (h : d.rep = k.k) :
    (k = .cal ∧ ∃ y mo dd, d = .cal y mo dd) ∨ (k = .ord ∧ ∃ y doy, d = .ord y doy) ∨
      (k = .week ∧ ∃ y w dd, d = .week y w dd) := by
  cases d <;> cases k <;> first | (cases h; done) | simp

def yearSegsC (x : Bool) (ned : Nat) : List Seg :=
  if x then [.dir (.str .yearSign), .dir (.int .expandedYearDigits ned), .dir (.int .century 2),
             .dir (.int .yearOfCentury 2)]
  else [.dir (.int .century 2), .dir (.int .yearOfCentury 2)]

def bodySegs : Bool → DateKind → List Seg
  | true, .cal => [.raw '-', .dir (.int .monthOfYear 2), .raw '-', .dir (.int .dayOfMonth 2)]
  | true, .ord => [.raw '-', .dir (.int .dayOfYear 3)]
  | true, .week => [.raw '-', .raw 'W', .dir (.int .weekOfYear 2), .raw '-', .dir (.int .dayOfWeek 1)]
  | false, .cal => [.dir (.int .monthOfYear 2), .dir (.int .dayOfMonth 2)]
  | false, .ord => [.dir (.int .dayOfYear 3)]
  | false, .week => [.raw 'W', .dir (.int .weekOfYear 2), .dir (.int .dayOfWeek 1)]

def kindProps : DateKind → List DProp
  | .cal => [.monthOfYear, .dayOfMonth]
  | .ord => [.dayOfYear]
  | .week => [.weekOfYear, .dayOfWeek]

def datePropsC (x : Bool) (k : DateKind) : List DProp :=
  (if x then [.yearSign] else []) ++ [.century, .yearOfCentury] ++ kindProps k ++
    (if x then [.expandedYearDigits] else [])

def clockSegs (ext : Bool) : List Seg :=
  if ext then
    [.dir (.int .hourOfDay 2), .raw ':', .dir (.int .minuteOfHour 2), .raw ':', .dir (.int .secondOfMinute 2)]
  else [.dir (.int .hourOfDay 2), .dir (.int .minuteOfHour 2), .dir (.int .secondOfMinute 2)]

def fracSegs : Frac → List Seg
  | .none => []
  | .comma => [.raw ',', .dir (.str .secondDecStr)]
  | .point => [.raw '.', .dir (.str .secondDecStr)]

def timePropsC : Frac → List DProp
  | .none => [.minuteOfHour, .hourOfDay, .secondOfMinute]
  | _ => [.minuteOfHour, .hourOfDay, .secondOfMinute, .secondDecStr]

def zoneSegsC (ext : Bool) : ZSpec → List Seg
  | .utc => [.raw 'Z']
  | .own .hm =>
    if ext then [.dir (.str .tzSign), .dir (.int .tzHourAbs 2), .raw ':', .dir (.int .tzMinuteAbs 2)]
    else [.dir (.str .tzSign), .dir (.int .tzHourAbs 2), .dir (.int .tzMinuteAbs 2)]
  | .own .h => [.dir (.str .tzSign), .dir (.int .tzHourAbs 2)]
  | .lit s z => litSegs (zsign z) (zoneDigits ext s z)

def zonePropsC : ZSpec → List DProp
  | .utc => []
  | .own .hm => [.tzMinuteAbs, .tzHourAbs, .tzSign]
  | .own .h => [.tzHourAbs, .tzSign]
  | .lit _ z => litProps (zsign z)

def customC : ZSpec → Option (Int × Int)
  | .utc => some (0, 0)
  | .own _ => none
  | .lit _ z => some (z.h, z.mi)

/-- The compiled format: what `_get_expression_and_properties` returns. -/
def CFmt.expr (f : CFmt) (ned : Nat) : Expr :=
  { segs := (yearSegsC f.expanded ned ++ bodySegs f.ext f.kind) ++
      Seg.raw 'T' :: ((clockSegs f.ext ++ fracSegs f.frac) ++ zoneSegsC f.ext f.zone)
    props := datePropsC f.expanded f.kind ++ (timePropsC f.frac ++ zonePropsC f.zone)
    customTZ := customC f.zone }

theorem compile_dateFmt_all : ∀ dt ∈ dumpTables, ∀ x ∈ [true, false], ∀ e ∈ [true, false],
    ∀ k ∈ [DateKind.cal, .ord, .week],
    compile dt.date ((yearFmt x ++ bodyFmt e k).map Seg.raw) =
      (yearSegsC x dt.ned ++ bodySegs e k, datePropsC x k) := by decide +kernel

theorem compile_timeFmt_all : ∀ e ∈ [true, false], ∀ fr ∈ [Frac.none, .comma, .point],
    compile dumper_0.time ((clockFmt e ++ fracFmt fr).map Seg.raw) =
      (clockSegs e ++ fracSegs fr, timePropsC fr) := by decide +kernel

theorem compile_zoneFmt_all : ∀ e ∈ [true, false], ∀ zs ∈ [ZSpec.utc, .own .hm, .own .h],
    compile dumper_0.zone ((zs.fmt e).map Seg.raw) = (zoneSegsC e zs, zonePropsC zs) := by decide +kernel

/-- **The text after the `T`**: a time expression free of `Z`, `+` and `-`, followed by any zone
    expression of the class, is cut at the zone; the time is compiled by the time rules, the zone by the
    zone rules, and a spelled-out zone is handed on as `custom_time_zone`. -/
theorem timeZonePart_zone (dt : DumpTables) (hdt : dt ∈ dumpTables) (T : List Char) (hne : T ≠ [])
    (hT : ∀ c ∈ T, Plain c) (e : Bool) (zs : ZSpec) (hz : zs.WF) :
    timeZonePart dt (T ++ zs.fmt e) =
      some ((compile dt.time (T.map Seg.raw)).1 ++ zoneSegsC e zs,
            (compile dt.time (T.map Seg.raw)).2 ++ zonePropsC zs, customC zs) := by
  have he : e ∈ [true, false] := by cases e <;> simp
  cases zs with
  | utc =>
    unfold timeZonePart
    rw [show ZSpec.utc.fmt e = ['Z'] from rfl, tzSplit_Z, zone_rules_same dt hdt]
    simp only
    rw [show ['Z'] = ZSpec.utc.fmt e from rfl, compile_zoneFmt_all e he .utc (by simp)]
    rfl
  | own s =>
    obtain ⟨R, hR, hfmt⟩ : ∃ R, (∀ c ∈ R, Plain c) ∧ (ZSpec.own s).fmt e = '+' :: R := by
      cases s <;> cases e <;> exact ⟨_, by decide, rfl⟩
    have hi : hasInfix ['+', 'h', 'h'] ((ZSpec.own s).fmt e) = true := by cases s <;> cases e <;> rfl
    unfold timeZonePart
    rw [hfmt, tzSplit_sign T hne hT '+' (Or.inl rfl) R hR, ← hfmt, hi, zone_rules_same dt hdt]
    simp only
    rw [compile_zoneFmt_all e he (.own s) (by cases s <;> simp)]
    rfl
  | lit s z =>
    obtain ⟨d, L, hL⟩ := zoneDigits_cons e s z
    have hzc := zoneDigits_zchars e s z
    unfold timeZonePart
    simp only [ZSpec.fmt, zoneSegsC, zonePropsC, customC]
    rw [hL] at hzc ⊢
    rw [tzSplit_lit T hne hT (zsign z) (zsign_cases z) d L hzc]
    simp only
    rw [compile_zone_lit dt hdt (zsign z) (zsign_cases z) (d :: L) hzc, ← hL, getTimeZone_litZone e s z hz.1 hz.2]

theorem dateFmt_notMem (x e : Bool) (k : DateKind) : 'T' ∉ yearFmt x ++ bodyFmt e k ∧ '%' ∉ yearFmt x ++ bodyFmt e k := by
  cases x <;> cases e <;> cases k <;> decide

theorem zoneFmt_notMem (e : Bool) (zs : ZSpec) (c : Char) (hc : isDigit c = false)
    (hcs : c ∉ ['+', '-', ':', 'Z', 'h', 'm']) : c ∉ zs.fmt e := by
  simp only [List.mem_cons, List.not_mem_nil, or_false, not_or] at hcs
  obtain ⟨h1, h2, h3, h4, h5, h6⟩ := hcs
  cases zs with
  | utc => simp [ZSpec.fmt, h4]
  | own s => cases s <;> cases e <;> simp [ZSpec.fmt, h1, h3, h5, h6]
  | lit s z =>
    intro h
    rcases List.mem_cons.mp h with h | h
    · rcases zsign_cases z with e' | e' <;> rw [e'] at h
      · exact h1 h
      · exact h2 h
    · exact (zoneDigits_zchars e s z c h).ne c hc h3 rfl

/-- **`_get_expression_and_properties`** on a date expression of the class, `T`, ANY time expression
    free of `Z`, `+`, `-` and `T`, and a zone expression of the class: date, time and zone are compiled
    by their own rules, and a spelled-out zone is handed on as `custom_time_zone`. -/
theorem getExpr_class (dt : DumpTables) (hdt : dt ∈ dumpTables) (x e : Bool) (k : DateKind) (tm : List Char)
    (hne : tm ≠ []) (hp : ∀ c ∈ tm, Plain c ∧ c ≠ 'T') (zs : ZSpec)
    (hz : zs.WF) :
    getExpr dt ((yearFmt x ++ bodyFmt e k) ++ 'T' :: (tm ++ zs.fmt e)) =
      some { segs := (yearSegsC x dt.ned ++ bodySegs e k) ++
               Seg.raw 'T' :: ((compile dt.time (tm.map Seg.raw)).1 ++ zoneSegsC e zs)
             props := datePropsC x k ++ ((compile dt.time (tm.map Seg.raw)).2 ++ zonePropsC zs)
             customTZ := customC zs } := by
  have hR : 'T' ∉ tm ++ zs.fmt e := by
    rw [List.mem_append, not_or]
    exact ⟨fun h => (hp _ h).2 rfl, zoneFmt_notMem e zs 'T' (by decide) (by decide)⟩
  rw [getExpr_T dt _ _ (dateFmt_notMem _ _ _).1 hR, timeZonePart_zone dt hdt tm hne (fun c h => (hp c h).1) e zs hz,
    compile_dateFmt_all dt hdt x (by cases x <;> simp) e (by cases e <;> simp) k (by cases k <;> simp)]
  rfl

/-- Such a format has no `%`: it does not take the strftime path. -/
theorem noPercent_class (x e : Bool) (k : DateKind) (tm : List Char) (htm : '%' ∉ tm) (zs : ZSpec) :
    ((yearFmt x ++ bodyFmt e k) ++ 'T' :: (tm ++ zs.fmt e)).contains '%' = false := by
  have h1 := (dateFmt_notMem x e k).2
  have h2 := zoneFmt_notMem e zs '%' (by decide) (by decide)
  have : '%' ∉ (yearFmt x ++ bodyFmt e k) ++ 'T' :: (tm ++ zs.fmt e) := by
    simp only [List.mem_append, List.mem_cons, not_or] at h1 ⊢
    exact ⟨h1, by decide, htm, h2⟩
  simpa using this

theorem timeFmt_plain (e : Bool) (fr : Frac) :
    clockFmt e ++ fracFmt fr ≠ [] ∧ (∀ c ∈ clockFmt e ++ fracFmt fr, Plain c ∧ c ≠ 'T') ∧
      '%' ∉ clockFmt e ++ fracFmt fr := by
  cases e <;> cases fr <;> decide

/-- **`_get_expression_and_properties`** on a complete custom format. -/
theorem getExpr_custom (dt : DumpTables) (hdt : dt ∈ dumpTables) (f : CFmt) (hf : f.WF dt.ned) :
    getExpr dt f.text = some (f.expr dt.ned) := by
  obtain ⟨hne, hp, _⟩ := timeFmt_plain f.ext f.frac
  unfold CFmt.text
  rw [getExpr_class dt hdt f.expanded f.ext f.kind _ hne hp f.zone hf.2, time_rules_same dt hdt,
    compile_timeFmt_all f.ext (by cases f.ext <;> simp) f.frac (by cases f.frac <;> simp)]
  rfl

theorem dump_compiled (m : Mode) (dt : DumpTables) (p : XTP) (fmt : List Char) (e : Expr)
    (h1 : fmt.contains '%' = false) (h2 : getExpr dt fmt = some e) : dump m dt p fmt = dumpExpr m dt p e := by
  unfold dump
  rw [h1, h2]
  rfl

end IsoDT.Text.Custom
