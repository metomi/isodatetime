/-
  IsoDT.Lemmas.NominalQ — month and year arithmetic over rational hour / minute / second slots
  (`Model.TimePointQ3`).  The nominal part of `__add__` never looks at the time slots: the date of
  the result is the date the whole-second model gives on the point's date at midnight
  (`TPQ.midnight`), and the slots are carried over unchanged (projection lemmas), so the theorems
  of `Lemmas/Nominal.lean` transfer.
-/
import IsoDT.Lemmas.Nominal
import IsoDT.Lemmas.CmpQ
import IsoDT.Model.TimePointQ3

namespace IsoDT.Model
open IsoDT.Spec (Date TZ TP)

/-- The whole-second point on `p`'s date, at 00:00:00, in `p`'s offset: all that the nominal part
    of `__add__` reads of `p`. -/
def TPQ.midnight (p : TPQ) : TP := ⟨p.date, 0, 0, 0, p.tz⟩

def TPQ.withDate (p : TPQ) (dt : Date) : TPQ := { p with date := dt }

end IsoDT.Model

namespace IsoDT.Lemmas
open IsoDT IsoDT.Model
open IsoDT.Spec (Date TZ TP)

theorem addYears_eq_date (m : Mode) (p : TP) (n : Int) :
    addYears m p n = if n = 0 then p else { p with date := addYearsDate m p.date n } := by
  obtain ⟨date, hh, mi, ss, tz⟩ := p
  unfold addYears addYearsDate
  by_cases c : n = 0
  · rw [if_pos c, if_pos c]
  · rw [if_neg c, if_neg c]; cases date <;> rfl

theorem addYearsQ_zero (m : Mode) (p : TPQ) : addYearsQ m p 0 = p := by
  unfold addYearsQ; rw [if_pos rfl]

theorem addYearsQ_proj (m : Mode) (p : TPQ) (n : Int) :
    addYearsQ m p n = p.withDate (addYears m p.midnight n).date := by
  unfold addYearsQ TPQ.withDate
  rw [addYears_eq_date]
  split <;> rfl

theorem addYearsQ_ofTP (m : Mode) (p : TP) (n : Int) :
    addYearsQ m (TPQ.ofTP p) n = TPQ.ofTP (addYears m p n) := by
  unfold addYearsQ
  rw [addYears_eq_date]
  split <;> rfl

/-- Projection for months, unconditional form: whatever the slots hold, `add_months(n)`, `n ≠ 0`,
    is the whole-second `add_months` on the point's date at `24·nd:00:00`, where `nd` is the
    number of days the final `_tick_over()` carries out of the slots, and the slots of the result
    are the ticked-over slots. -/
theorem addMonthsQ_carry (m : Mode) (p : TPQ) (n : Int) (hn : n ≠ 0) (nd : Int) (t : HMS)
    (ht : tickTimeQ m ⟨p.hh, p.mi, p.ss⟩ = some (nd, t)) :
    addMonthsQ m p n =
      (addMonths m ⟨p.date, (calOf m).hoursInDay * nd, 0, 0, p.tz⟩ n).map
        fun q => ⟨q.date, t.hh, t.mi, t.ss, p.tz⟩ := by
  unfold addMonthsQ addMonths
  rw [if_neg hn, if_neg hn]
  cases convert m 0 p.date with
  | none => rfl
  | some c =>
    cases c with
    | ord y doy => rfl
    | week y w d => rfl
    | cal y mo d =>
      simp only [tickOverQ, ht, carryDays]
      cases tickOver m _ with
      | none => rfl
      | some q =>
        simp only [Option.map_some]
        cases convert m p.date.rep q.date <;> rfl

theorem addMonthsQ_zero (m : Mode) (p : TPQ) : addMonthsQ m p 0 = some p := by
  unfold addMonthsQ; rw [if_pos rfl]

/-- A legal point with `hh < 24`: every point `__add__` hands to `add_months`. -/
theorem addMonthsQ_proj (m : Mode) (p : TPQ) (n : Int) (hok : p.hms.Ok) (hlt : p.hh < 24) :
    addMonthsQ m p n = (addMonths m p.midnight n).map fun q => p.withDate q.date := by
  by_cases hn : n = 0
  · rw [hn, addMonthsQ_zero, addMonths_zero]; rfl
  · rw [addMonthsQ_carry m p n hn 0 p.hms (tickTimeQ_ok_id m p.hms hok hlt), Int.mul_zero]; rfl

theorem addMonthsQ_ofTP (m : Mode) (p : TP) (n : Int) :
    addMonthsQ m (TPQ.ofTP p) n = (addMonths m p n).map TPQ.ofTP := by
  unfold addMonthsQ addMonths
  by_cases hn : n = 0
  · rw [if_pos hn, if_pos hn]; rfl
  · rw [if_neg hn, if_neg hn]
    rw [date_ofTP]
    cases convert m 0 p.date with
    | none => rfl
    | some c =>
      cases c with
      | ord y doy => rfl
      | week y w d => rfl
      | cal y mo d =>
        dsimp only
        have e : ∀ dt : Date, ({ TPQ.ofTP p with date := dt } : TPQ) = TPQ.ofTP { p with date := dt } :=
          fun _ => rfl
        rw [e, tickOverQ_ofTP]
        cases tickOver m _ with
        | none => rfl
        | some q =>
          simp only [Option.map_some]
          rw [date_ofTP]
          cases convert m p.date.rep q.date <;> rfl

theorem addDurQ_ofTP (m : Mode) (p : TP) (d : Dur) :
    addDurQ m (TPQ.ofTP p) (d.toNQ m) = (addDur m p d).map TPQ.ofTP := by
  cases d <;>
    simp only [addDurQ, addDur, Dur.toNQ, Dur.toDays, Rat.intCast_zero.symm, addExactQ_ofTP, addMonthsQ_ofTP,
      addYearsQ_ofTP, Option.bind_eq_bind, Option.pure_def, ofTP_map_bind, map_bind_fun, Option.map_some]

end IsoDT.Lemmas
