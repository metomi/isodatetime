/-
  IsoDT.Lemmas.CmpQ — re-zoning, comparison and point difference over rational hour / minute /
  second slots (`Model.TimePointQ2`) in terms of instants (`TPQ.inst`), and the whole hour / whole
  minute / second normal form of `get_hour_minute_second`, through which `__hash__` and `__sub__` go.
  On whole-second points (`TPQ.ofTP`) these operations are those of `IsoDT.Lemmas.Cmp`.
-/
import IsoDT.Lemmas.Cmp
import IsoDT.Lemmas.TickQ
import IsoDT.Model.TimePointQ2

namespace IsoDT.Lemmas
open IsoDT IsoDT.Model
open IsoDT.Spec (Date TZ TP)

def sgnQ (x : Rat) : Int := if x < 0 then -1 else if x > 0 then 1 else 0

theorem sgnQ_sub_iff (a b : Rat) :
    (sgnQ (a - b) = -1 ↔ a < b) ∧ (sgnQ (a - b) = 0 ↔ a = b) ∧ (sgnQ (a - b) = 1 ↔ a > b) := by
  unfold sgnQ; grind

theorem sgnQ_pos_iff (x : Rat) : sgnQ x > 0 ↔ x > 0 := by unfold sgnQ; grind

theorem sgnQ_intCast (x : Int) : sgnQ (x : Rat) = sgn x := by
  unfold sgnQ sgn
  simp only [Rat.intCast_neg_iff, gt_iff_lt, Rat.intCast_pos]

/-- Python's three-way comparison of two numbers. -/
def cmpRat (s1 s2 : Rat) : Int := if s1 < s2 then -1 else if s1 > s2 then 1 else 0

/-- (day number, second of day in `[0, 86400)`): the sign of a difference of instants is decided
    by the days, then by the seconds. -/
theorem sgnQ_lex (na nb : Int) (sa sb : Rat) (h1 : 0 ≤ sa ∧ sa < 86400) (h2 : 0 ≤ sb ∧ sb < 86400) :
    sgnQ ((86400 * (na : Rat) + sa) - (86400 * (nb : Rat) + sb)) =
      if na < nb then -1 else if na > nb then 1 else cmpRat sa sb := by
  have l := radix_lt 86400 na nb sa sb h1 h2
  have g := radix_lt 86400 nb na sb sa h2 h1
  unfold sgnQ cmpRat
  grind

theorem isInt_nonneg {x : Rat} (h : IsInt x) (h0 : 0 ≤ x) : 0 ≤ x.num := by
  rw [h.eq_intCast] at h0
  exact Rat.intCast_nonneg.1 h0

/-! ### `to_time_zone` -/

theorem toTimeZoneQ_spec (m : Mode) (p : TPQ) (z : TZ) (hv : p.Valid m) (hz : z.Valid) :
    ∃ q, toTimeZoneQ m p z = some q ∧ q.inst m = p.inst m ∧ q.tz = z ∧ q.Valid m ∧
      q.date.rep = p.date.rep ∧ q.mi.isSome = p.mi.isSome ∧ q.ss.isSome = p.ss.isSome ∧
      (p.hh < 24 → q.hh < 24) := by
  unfold toTimeZoneQ
  by_cases c : z.h = p.tz.h ∧ z.mi = p.tz.mi
  · rw [if_pos c]
    refine ⟨p, rfl, rfl, ?_, hv, rfl, rfl, rfl, fun h => h⟩
    obtain ⟨zh, zm⟩ := z
    obtain ⟨pd, ph, pm, ps, ⟨th, tm⟩⟩ := p
    simp only at c
    simp only [c.1, c.2]
  · rw [if_neg c]
    obtain ⟨q, he, g⟩ := addExactQ_spec m p
      ⟨0, ((z.h - p.tz.h : Int) : Rat), ((z.mi - p.tz.mi : Int) : Rat), 0⟩ hv
    rw [he]
    refine ⟨{ q with tz := z }, rfl, ?_, rfl, ⟨g.valid.1, hz, g.valid.2.2⟩, g.rep, g.mi, g.ss,
      fun _ => g.lt24⟩
    have hi := g.inst
    simp only [TPQ.inst, TPQ.hms, DurQ.seconds, TZ.seconds, Rat.intCast_add, Rat.intCast_mul, Rat.intCast_sub,
      g.tz, Rat.intCast_ofNat] at hi ⊢
    grind

/-! ### strict points: legal with `hh < 24` -/

def TPQ.Strict (m : Mode) (p : TPQ) : Prop := p.Valid m ∧ p.hh < 24

theorem normalise24Q_strict (m : Mode) (p : TPQ) (h : TPQ.Strict m p) : normalise24Q m p = some p := by
  unfold normalise24Q
  rw [hoursInDay_eq, Rat.intCast_ofNat, if_neg (Rat.ne_of_lt h.2)]

/-- The common prefix of `_cmp`, `__sub__` and `__hash__`: both operands as strict points in the
    first operand's offset, instants unchanged. -/
theorem alignQ_spec (m : Mode) (a b : TPQ) (ha : a.Valid m) (hb : b.Valid m) :
    ∃ b1 a2 b2, toTimeZoneQ m b a.tz = some b1 ∧ normalise24Q m b1 = some b2 ∧
      normalise24Q m a = some a2 ∧ TPQ.Strict m a2 ∧ TPQ.Strict m b2 ∧ a2.tz = b2.tz ∧
      a2.inst m = a.inst m ∧ b2.inst m = b.inst m := by
  obtain ⟨b1, e1, i1, t1, v1, _⟩ := toTimeZoneQ_spec m b a.tz hb ha.2.1
  obtain ⟨b2, e2, g2⟩ := normalise24Q_spec m b1 v1
  obtain ⟨a2, e3, g3⟩ := normalise24Q_spec m a ha
  exact ⟨b1, a2, b2, e1, e2, e3, ⟨g3.valid, g3.lt24⟩, ⟨g2.valid, g2.lt24⟩, by rw [g3.tz, g2.tz, t1],
    by rw [g3.inst, Rat.add_zero], by rw [g2.inst, i1, Rat.add_zero]⟩

/-! ### `get_hour_minute_second` -/

/-- One expansion step of `get_hour_minute_second`: `int(x)` and `60 * (x - int(x))`. -/
theorem expand_step (x : Rat) (n : Int) (h0 : 0 ≤ x) (h1 : x < (n : Rat)) :
    0 ≤ truncQ x ∧ truncQ x ≤ n - 1 ∧ 0 ≤ 60 * (x - (truncQ x : Rat)) ∧ 60 * (x - (truncQ x : Rat)) < 60 := by
  obtain ⟨b, c, a⟩ := (truncQ_bounds x).1 h0
  have : (truncQ x : Rat) < (n : Rat) := by grind
  rw [Rat.intCast_lt_intCast] at this
  exact ⟨a, Int.le_sub_one_of_lt this, by grind⟩

theorem int_of_cast_bounds (H : Int) (n : Int) (h0 : 0 ≤ (H : Rat)) (h1 : (H : Rat) < (n : Rat)) :
    0 ≤ H ∧ H ≤ n - 1 := by
  rw [Rat.intCast_lt_intCast] at h1
  exact ⟨Rat.intCast_nonneg.1 h0, Int.le_sub_one_of_lt h1⟩

theorem hmsQ_spec (m : Mode) (p : TPQ) (h : TPQ.Strict m p) :
    ∃ (H M : Int) (S : Rat), hmsQ m p = some ((H : Rat), (M : Rat), S) ∧ 0 ≤ H ∧ H ≤ 23 ∧ 0 ≤ M ∧
      M ≤ 59 ∧ 0 ≤ S ∧ S < 60 ∧ 3600 * (H : Rat) + 60 * (M : Rat) + S = p.hms.secs := by
  obtain ⟨⟨_, _, hok⟩, hlt⟩ := h
  obtain ⟨date, hh, mi, ss, tz⟩ := p
  have hlt' : hh < ((24 : Int) : Rat) := hlt
  simp only [TPQ.hms] at hok
  cases mi with
  | none =>
    cases ss with
    | some s => exact hok.elim
    | none =>
      obtain ⟨a1, a2, a3, a4⟩ := expand_step hh 24 hok.1 hlt'
      obtain ⟨b1, b2, b3, b4⟩ := expand_step (60 * (hh - (truncQ hh : Rat))) 60 a3 a4
      refine ⟨truncQ hh, truncQ (60 * (hh - (truncQ hh : Rat))), _, ?_, a1, a2, b1, b2, b3, b4, ?_⟩
      · simp only [hmsQ, minutesInHour_eq, secondsInMinute_eq, Rat.intCast_ofNat]
      · simp only [TPQ.hms, HMS.secs, Option.getD_none]; grind
  | some mi =>
    cases ss with
    | none =>
      obtain ⟨i1, h0, _, m0, m1, _⟩ := hok
      obtain ⟨H, rfl⟩ := i1.exists_int
      obtain ⟨g1, g2⟩ := int_of_cast_bounds H 24 h0 hlt'
      obtain ⟨b1, b2, b3, b4⟩ := expand_step mi 60 m0 m1
      refine ⟨H, truncQ mi, _, ?_, g1, g2, b1, b2, b3, b4, ?_⟩
      · simp only [hmsQ, secondsInMinute_eq, Rat.intCast_ofNat]
      · simp only [TPQ.hms, HMS.secs, Option.getD_none, Option.getD_some]; grind
    | some s =>
      obtain ⟨i1, i2, h0, _, m0, m1, s0, s1, _⟩ := hok
      obtain ⟨H, rfl⟩ := i1.exists_int
      obtain ⟨M, rfl⟩ := i2.exists_int
      obtain ⟨g1, g2⟩ := int_of_cast_bounds H 24 h0 hlt'
      obtain ⟨g3, g4⟩ := int_of_cast_bounds M 60 m0 m1
      exact ⟨H, M, s, rfl, g1, g2, g3, g4, s0, s1, rfl⟩

theorem hms_sod (H M : Int) (S : Rat) (hb : 0 ≤ H ∧ H ≤ 23) (mb : 0 ≤ M ∧ M ≤ 59 ∧ 0 ≤ S ∧ S < 60) :
    0 ≤ 3600 * (H : Rat) + 60 * (M : Rat) + S ∧ 3600 * (H : Rat) + 60 * (M : Rat) + S < 86400 := by
  have a1 : (0 : Rat) ≤ H := Rat.intCast_le_intCast.2 hb.1
  have a2 : (H : Rat) ≤ 23 := Rat.intCast_le_intCast.2 hb.2
  have a3 : (0 : Rat) ≤ M := Rat.intCast_le_intCast.2 mb.1
  have a4 : (M : Rat) ≤ 59 := Rat.intCast_le_intCast.2 mb.2.1
  grind

theorem hmsQ_unique (H1 M1 H2 M2 : Int) (S1 S2 : Rat) (a : 0 ≤ M1 ∧ M1 ≤ 59 ∧ 0 ≤ S1 ∧ S1 < 60)
    (b : 0 ≤ M2 ∧ M2 ≤ 59 ∧ 0 ≤ S2 ∧ S2 < 60)
    (e : 3600 * (H1 : Rat) + 60 * (M1 : Rat) + S1 = 3600 * (H2 : Rat) + 60 * (M2 : Rat) + S2) :
    H1 = H2 ∧ M1 = M2 ∧ S1 = S2 := by
  obtain ⟨hk, hs⟩ := radix_eq 60 (60 * H1 + M1) (60 * H2 + M2) S1 S2 a.2.2 b.2.2 (by
    simp only [Rat.intCast_add, Rat.intCast_mul, Rat.intCast_ofNat]; grind)
  exact ⟨by omega, by omega, hs⟩

/-! ### `get_second_of_day` -/

theorem secOfDayQ_eq (m : Mode) (p : TPQ) : p.secOfDayQ m = p.hms.secs := by
  obtain ⟨date, hh, mi, ss, tz⟩ := p
  cases mi <;> cases ss <;>
    simp only [TPQ.secOfDayQ, TPQ.hms, HMS.secs, secondsInMinute_eq, secondsInHour_eq,
      Rat.intCast_ofNat, Option.getD_some, Option.getD_none, Rat.zero_add, Rat.add_zero, Rat.zero_mul,
      Rat.mul_comm, Rat.add_assoc, Rat.add_comm]

theorem strictQ_sod (m : Mode) (p : TPQ) (h : TPQ.Strict m p) : 0 ≤ p.hms.secs ∧ p.hms.secs < 86400 := by
  obtain ⟨H, M, S, _, h0, h1, m0, m1, s0, s1, e⟩ := hmsQ_spec m p h
  rw [← e]
  exact hms_sod H M S ⟨h0, h1⟩ ⟨m0, m1, s0, s1⟩

/-! ### Python list comparison with a rational last element -/

theorem cmpListQ_cons_int (a b : Int) (as bs : List Rat) :
    cmpListQ ((a : Rat) :: as) ((b : Rat) :: bs) =
      if a < b then -1 else if a > b then 1 else cmpListQ as bs := by
  simp only [cmpListQ, gt_iff_lt, Rat.intCast_lt_intCast]

theorem cmpListQ_append (l1 l2 : List Int) (s1 s2 : Rat) (h : l1.length = l2.length) :
    cmpListQ (l1.map (fun x : Int => (x : Rat)) ++ [s1]) (l2.map (fun x : Int => (x : Rat)) ++ [s2]) =
      if cmpList (l1 ++ [0]) (l2 ++ [0]) = 0 then cmpRat s1 s2 else cmpList (l1 ++ [0]) (l2 ++ [0]) := by
  induction l1 generalizing l2 with
  | nil =>
    cases l2 with
    | nil => rfl
    | cons b bs => cases h
  | cons a as ih =>
    cases l2 with
    | nil => cases h
    | cons b bs =>
      simp only [List.map_cons, List.cons_append, cmpListQ_cons_int, cmpList, ih bs (Nat.succ.inj h)]
      by_cases h1 : a < b
      · simp only [if_pos h1]; rfl
      · by_cases h2 : a > b
        · simp only [if_neg h1, if_pos h2]; rfl
        · simp only [if_neg h1, if_neg h2]

theorem ite_lex (p q : Prop) [Decidable p] [Decidable q] (c : Int) :
    (if (if p then (-1 : Int) else if q then 1 else 0) = 0 then c
      else if p then -1 else if q then 1 else 0) = if p then -1 else if q then 1 else c := by
  by_cases hp : p <;> by_cases hq : q <;> simp [hp, hq]

/-! ### `_cmp` -/

theorem instQ_diff (m : Mode) (a b : TPQ) (htz : a.tz = b.tz) :
    a.inst m - b.inst m =
      (86400 * ((a.date.dayNum m : Int) : Rat) + a.hms.secs) - (86400 * ((b.date.dayNum m : Int) : Rat) + b.hms.secs) := by
  unfold TPQ.inst; rw [htz]; grind

theorem cmpQ_spec (m : Mode) (a b : TPQ) (ha : a.Valid m) (hb : b.Valid m) :
    cmpQ m a b = some (sgnQ (a.inst m - b.inst m)) := by
  unfold cmpQ
  by_cases c : a = b
  · subst c
    rw [if_pos rfl, Rat.sub_self]; rfl
  · rw [if_neg c]
    obtain ⟨b1, a2, b2, e1, eb, ea, sa, sb, htz, ia, ib⟩ := alignQ_spec m a b ha hb
    simp only [Option.bind_eq_bind, e1, Option.bind_some, eb, ea]
    rw [← ia, ← ib, instQ_diff m a2 b2 htz, sgnQ_lex _ _ _ _ (strictQ_sod m a2 sa) (strictQ_sod m b2 sb),
      secOfDayQ_eq, secOfDayQ_eq]
    by_cases k0 : a2.date.rep = 0
    · obtain ⟨y1, mo1, d1, ea', va, na⟩ := convert_to_cal m a2.date sa.1.1
      obtain ⟨y2, mo2, d2, eb', vb, nb⟩ := convert_to_cal m b2.date sb.1.1
      rw [if_pos k0, ea', eb', ← na, ← nb]
      refine congrArg some ((cmpListQ_append [y1, mo1, d1] [y2, mo2, d2] _ _ rfl).trans ?_)
      simp only [List.cons_append, List.nil_append, cmpList_cal m _ _ _ _ _ _ _ _ va vb, Int.lt_irrefl,
        ↓reduceIte]
      exact ite_lex _ _ _
    · obtain ⟨y1, n1, ea', va, na⟩ := convert_to_ord m a2.date sa.1.1
      obtain ⟨y2, n2, eb', vb, nb⟩ := convert_to_ord m b2.date sb.1.1
      rw [if_neg k0, ea', eb', ← na, ← nb]
      refine congrArg some ((cmpListQ_append [y1, n1] [y2, n2] _ _ rfl).trans ?_)
      simp only [List.cons_append, List.nil_append, cmpList_ord m _ _ _ _ _ _ va vb, Int.lt_irrefl,
        ↓reduceIte]
      exact ite_lex _ _ _

/-! ### `__sub__(TimePoint)` -/

theorem cast_sub_one (k : Int) : (k : Rat) - 1 = ((k - 1 : Int) : Rat) := by
  rw [Rat.intCast_sub]; rfl

theorem ite_cast (c : Prop) [Decidable c] (a b : Int) :
    (if c then (a : Rat) else (b : Rat)) = ((if c then a else b : Int) : Rat) := by
  split <;> rfl

theorem borrowQ_int (m : Mode) (dd dh dm : Int) (ds : Rat) :
    let dm1 := if ds < 0 then dm - 1 else dm
    let dh1 := if dm1 < 0 then dh - 1 else dh
    borrowQ m dd (dh : Rat) (dm : Rat) ds =
      ⟨if dh1 < 0 then dd - 1 else dd, ((if dh1 < 0 then dh1 + 24 else dh1 : Int) : Rat),
        ((if dm1 < 0 then dm1 + 60 else dm1 : Int) : Rat), if ds < 0 then ds + 60 else ds⟩ := by
  simp only [borrowQ, secondsInMinute_eq, minutesInHour_eq, hoursInDay_eq]
  simp only [cast_sub_one, ite_cast, Rat.intCast_neg_iff, ← Rat.intCast_add]
  rw [Rat.intCast_ofNat]

/-- One borrow: `if lo < 0: hi -= 1; lo += B` keeps `B·hi + lo`. -/
theorem borrow_keeps (B hi lo : Rat) :
    B * (if lo < 0 then hi - 1 else hi) + (if lo < 0 then lo + B else lo) = B * hi + lo := by
  split <;> grind

theorem borrowQ_seconds (m : Mode) (dd : Int) (dh dm ds : Rat) :
    (borrowQ m dd dh dm ds).seconds = 86400 * (dd : Rat) + 3600 * dh + 60 * dm + ds := by
  simp only [borrowQ, DurQ.seconds, secondsInMinute_eq, minutesInHour_eq, hoursInDay_eq,
    Rat.intCast_ofNat]
  have e1 := borrow_keeps 60 dm ds
  generalize (if ds < 0 then dm - 1 else dm) = dm1 at e1 ⊢
  have e2 := borrow_keeps 60 dh dm1
  generalize (if dm1 < 0 then dh - 1 else dh) = dh1 at e2 ⊢
  have e3 := borrow_keeps 24 (dd : Rat) dh1
  simp only [cast_sub_one, ite_cast] at e3
  grind

theorem borrowQ_spec (m : Mode) (dd1 H1 M1 H2 M2 : Int) (S1 S2 : Rat)
    (hb1 : 0 ≤ H1 ∧ H1 ≤ 23) (mb1 : 0 ≤ M1 ∧ M1 ≤ 59 ∧ 0 ≤ S1 ∧ S1 < 60)
    (hb2 : 0 ≤ H2 ∧ H2 ≤ 23) (mb2 : 0 ≤ M2 ∧ M2 ≤ 59 ∧ 0 ≤ S2 ∧ S2 < 60) :
    ∃ (dd hI mI : Int) (s : Rat),
      borrowQ m dd1 ((H1 : Rat) - (H2 : Rat)) ((M1 : Rat) - (M2 : Rat)) (S1 - S2) =
        ⟨dd, (hI : Rat), (mI : Rat), s⟩ ∧
      (0 ≤ hI ∧ hI ≤ 23) ∧ (0 ≤ mI ∧ mI ≤ 59 ∧ 0 ≤ s ∧ s < 60) := by
  have rs : 0 ≤ (if S1 - S2 < 0 then S1 - S2 + 60 else S1 - S2) ∧
      (if S1 - S2 < 0 then S1 - S2 + 60 else S1 - S2) < 60 := by split <;> grind
  rw [← Rat.intCast_sub, ← Rat.intCast_sub, borrowQ_int]
  -- the minutes after the seconds' borrow; then the two whole-number borrows
  generalize e1 : (if S1 - S2 < 0 then M1 - M2 - 1 else M1 - M2) = dm1
  have r1 : -60 ≤ dm1 ∧ dm1 < 60 := by rw [← e1]; split <;> omega
  obtain ⟨_, rm, k1, k2⟩ := borrow_spec 60 (H1 - H2) dm1 r1.1 r1.2
  obtain ⟨_, rh, _⟩ := borrow_spec 24 dd1 (if dm1 < 0 then H1 - H2 - 1 else H1 - H2) (by omega) (by omega)
  exact ⟨_, _, _, _, rfl, ⟨rh.1, Int.lt_add_one_iff.1 rh.2⟩, rm.1, Int.lt_add_one_iff.1 rm.2, rs.1, rs.2⟩

/-- `__sub__` after the swap test: the days / hour / minute / second normal form of the difference
    of the instants (whole hour in 0..23, whole minute in 0..59, second in `[0, 60)`). -/
theorem subCoreQ_spec (m : Mode) (a b : TPQ) (ha : a.Valid m) (hb : b.Valid m) :
    ∃ (dd hI mI : Int) (s : Rat), subCoreQ m a b = some ⟨dd, (hI : Rat), (mI : Rat), s⟩ ∧
      86400 * (dd : Rat) + 3600 * (hI : Rat) + 60 * (mI : Rat) + s = a.inst m - b.inst m ∧
      (0 ≤ hI ∧ hI ≤ 23) ∧ (0 ≤ mI ∧ mI ≤ 59 ∧ 0 ≤ s ∧ s < 60) := by
  obtain ⟨b1, a2, b2, e1, eb, ea, sa, sb, htz, ia, ib⟩ := alignQ_spec m a b ha hb
  obtain ⟨y1, n1, ea', va, na'⟩ := convert_to_ord m a2.date sa.1.1
  obtain ⟨y2, n2, eb', vb, nb'⟩ := convert_to_ord m b2.date sb.1.1
  obtain ⟨H1, M1, S1, t1, hb1, hb1', mb1, mb1', sb1, sb1', hs1⟩ := hmsQ_spec m a2 sa
  obtain ⟨H2, M2, S2, t2, hb2, hb2', mb2, mb2', sb2, sb2', hs2⟩ := hmsQ_spec m b2 sb
  unfold subCoreQ
  simp only [e1, Option.bind_eq_bind, Option.bind_some, eb, ea, ea', eb', t1, t2, ordDiff_eq]
  obtain ⟨dd, hI, mI, s, e, r⟩ := borrowQ_spec m (Spec.dayNumOrd m y1 n1 - Spec.dayNumOrd m y2 n2)
    H1 M1 H2 M2 S1 S2 ⟨hb1, hb1'⟩ ⟨mb1, mb1', sb1, sb1'⟩ ⟨hb2, hb2'⟩ ⟨mb2, mb2', sb2, sb2'⟩
  have hl := borrowQ_seconds m (Spec.dayNumOrd m y1 n1 - Spec.dayNumOrd m y2 n2)
    ((H1 : Rat) - (H2 : Rat)) ((M1 : Rat) - (M2 : Rat)) (S1 - S2)
  rw [e, DurQ.seconds] at hl
  refine ⟨dd, hI, mI, s, congrArg some e, ?_, r⟩
  rw [hl, ← ia, ← ib, instQ_diff m a2 b2 htz, ← hs1, ← hs2, ← na', ← nb', Rat.intCast_sub]
  grind

theorem neg_mul_cast (x : Int) : (x : Rat) * (((-1 : Int) : Int) : Rat) = ((x * -1 : Int) : Rat) := by
  rw [Rat.intCast_mul]

theorem normal_days_nonneg (dd hI mI : Int) (s : Rat) (rh : 0 ≤ hI ∧ hI ≤ 23)
    (rm : 0 ≤ mI ∧ mI ≤ 59 ∧ 0 ≤ s ∧ s < 60)
    (hx : 0 ≤ 86400 * (dd : Rat) + 3600 * (hI : Rat) + 60 * (mI : Rat) + s) : 0 ≤ dd := by
  have := mt (radix_lt 86400 dd 0 _ 0 (hms_sod hI mI s rh rm) (by decide)).2 (by grind)
  omega

theorem subTPQ_spec (m : Mode) (a b : TPQ) (ha : a.Valid m) (hb : b.Valid m) :
    ∃ (dd hI mI : Int) (s : Rat), subTPQ m a b = some ⟨dd, (hI : Rat), (mI : Rat), s⟩ ∧
      86400 * (dd : Rat) + 3600 * (hI : Rat) + 60 * (mI : Rat) + s = a.inst m - b.inst m ∧
      (-24 < hI ∧ hI < 24 ∧ -60 < mI ∧ mI < 60 ∧ -60 < s ∧ s < 60) ∧
      ((0 ≤ dd ∧ 0 ≤ hI ∧ 0 ≤ mI ∧ 0 ≤ s) ∨ (dd ≤ 0 ∧ hI ≤ 0 ∧ mI ≤ 0 ∧ s ≤ 0)) := by
  unfold subTPQ
  rw [cmpQ_spec m b a hb ha]
  simp only [Option.bind_eq_bind, Option.bind_some]
  by_cases c : sgnQ (b.inst m - a.inst m) > 0
  · -- `other > self`: the normal form of `other - self`, every slot times `-1`
    rw [if_pos c]
    obtain ⟨dd, hI, mI, s, e, hl, rh, rm⟩ := subCoreQ_spec m b a hb ha
    have hd := normal_days_nonneg dd hI mI s rh rm (by rw [hl]; exact Rat.le_of_lt ((sgnQ_pos_iff _).1 c))
    have hs : -60 < s * -1 ∧ s * -1 < 60 ∧ s * -1 ≤ 0 := by grind
    have hi : -24 < hI * -1 ∧ hI * -1 < 24 ∧ -60 < mI * -1 ∧ mI * -1 < 60 ∧ dd * -1 ≤ 0 ∧ hI * -1 ≤ 0 ∧
        mI * -1 ≤ 0 := by omega
    refine ⟨dd * -1, hI * -1, mI * -1, s * -1, ?_, ?_, ⟨hi.1, hi.2.1, hi.2.2.1, hi.2.2.2.1, hs.1, hs.2.1⟩,
      Or.inr ⟨hi.2.2.2.2.1, hi.2.2.2.2.2.1, hi.2.2.2.2.2.2, hs.2.2⟩⟩
    · rw [e]
      simp only [Option.map_some, DurQ.neg, DurQ.mul, Rat.intCast_mul, Rat.intCast_neg, Rat.intCast_ofNat]
    · simp only [Rat.intCast_mul, Rat.intCast_neg, Rat.intCast_ofNat]; grind
  · rw [if_neg c]
    obtain ⟨dd, hI, mI, s, e, hl, rh, rm⟩ := subCoreQ_spec m a b ha hb
    have hge : ¬ (b.inst m - a.inst m > 0) := fun h => c ((sgnQ_pos_iff _).2 h)
    have hd := normal_days_nonneg dd hI mI s rh rm (by rw [hl]; grind)
    have hi : -24 < hI ∧ hI < 24 ∧ -60 < mI ∧ mI < 60 := by omega
    exact ⟨dd, hI, mI, s, e, hl, ⟨hi.1, hi.2.1, hi.2.2.1, hi.2.2.2, by grind, rm.2.2.2⟩,
      Or.inl ⟨hd, rh.1, rm.1, rm.2.2.1⟩⟩

/-! ### the rational model extends the whole-second model -/

/-- The exact units of a whole-number `Duration` (years and months dropped; `to_days` on weeks). -/
def durQOf : Dur → DurQ
  | .units _ _ d h mi s => ⟨d, (h : Rat), (mi : Rat), (s : Rat)⟩
  | .weeks w => ⟨7 * w, 0, 0, 0⟩

theorem ofTP_inj (a b : TP) : TPQ.ofTP a = TPQ.ofTP b ↔ a = b := by
  obtain ⟨d1, h1, m1, s1, z1⟩ := a
  obtain ⟨d2, h2, m2, s2, z2⟩ := b
  simp only [TPQ.ofTP, TPQ.mk.injEq, Option.some.injEq, Rat.intCast_inj, TP.mk.injEq]

theorem toTimeZoneQ_ofTP (m : Mode) (p : TP) (z : TZ) :
    toTimeZoneQ m (TPQ.ofTP p) z = (toTimeZone m p z).map TPQ.ofTP := by
  unfold toTimeZoneQ toTimeZone
  have ht : (TPQ.ofTP p).tz = p.tz := rfl
  rw [ht]
  by_cases c : z.h = p.tz.h ∧ z.mi = p.tz.mi
  · rw [if_pos c, if_pos c]; rfl
  · rw [if_neg c, if_neg c, addUnits_eq_addDur]
    have e := addExactQ_ofTP m p 0 (z.h - p.tz.h) (z.mi - p.tz.mi) 0
    rw [Rat.intCast_zero] at e
    rw [e]
    cases addUnits m p 0 (z.h - p.tz.h) (z.mi - p.tz.mi) 0 <;> rfl

theorem secOfDayQ_ofTP (m : Mode) (p : TP) : (TPQ.ofTP p).secOfDayQ m = ((p.secOfDay : Int) : Rat) := by
  rw [secOfDayQ_eq]
  simp only [TPQ.hms, TPQ.ofTP, HMS.secs, Option.getD_some, TP.secOfDay, Rat.intCast_add, Rat.intCast_mul]
  rfl

theorem cmpListQ_map (l1 l2 : List Int) :
    cmpListQ (l1.map fun (x : Int) => (x : Rat)) (l2.map fun (x : Int) => (x : Rat)) = cmpList l1 l2 := by
  induction l1 generalizing l2 with
  | nil => cases l2 <;> rfl
  | cons a as ih =>
    cases l2 with
    | nil => rfl
    | cons b bs =>
      simp only [List.map_cons, cmpListQ_cons_int, cmpList, ih]

theorem cmpQ_ofTP (m : Mode) (a b : TP) : cmpQ m (TPQ.ofTP a) (TPQ.ofTP b) = cmp m a b := by
  unfold cmpQ cmp
  by_cases c : a = b
  · rw [if_pos c, if_pos ((ofTP_inj a b).2 c)]
  · rw [if_neg c, if_neg (fun h => c ((ofTP_inj a b).1 h))]
    have ht : (TPQ.ofTP a).tz = a.tz := rfl
    simp only [Option.bind_eq_bind, ht, toTimeZoneQ_ofTP, normalise24Q_ofTP, ofTP_map_bind]
    refine congrArg _ (funext fun b1 => congrArg _ (funext fun b2 => congrArg _ (funext fun a2 => ?_)))
    simp only [secOfDayQ_ofTP]
    rw [date_ofTP, date_ofTP]
    generalize convert m (if a2.date.rep = 0 then 0 else 1) a2.date = ca
    generalize convert m (if a2.date.rep = 0 then 0 else 1) b2.date = cb
    rcases ca with _ | (⟨y1, mo1, d1⟩ | ⟨y1, n1⟩ | ⟨y1, w1, d1⟩) <;>
      rcases cb with _ | (⟨y2, mo2, d2⟩ | ⟨y2, n2⟩ | ⟨y2, w2, d2⟩) <;> try rfl
    · exact congrArg some (cmpListQ_map [y1, mo1, d1, a2.secOfDay] [y2, mo2, d2, b2.secOfDay])
    · exact congrArg some (cmpListQ_map [y1, n1, a2.secOfDay] [y2, n2, b2.secOfDay])

theorem hmsQ_ofTP (m : Mode) (p : TP) :
    hmsQ m (TPQ.ofTP p) = some ((p.hh : Rat), (p.mi : Rat), (p.ss : Rat)) := rfl

theorem subCoreQ_ofTP (m : Mode) (a b : TP) :
    subCoreQ m (TPQ.ofTP a) (TPQ.ofTP b) = (subCore m a b).map durQOf := by
  unfold subCoreQ subCore
  have ht : (TPQ.ofTP a).tz = a.tz := rfl
  simp only [Option.bind_eq_bind, ht, toTimeZoneQ_ofTP, normalise24Q_ofTP, ofTP_map_bind, map_bind_fun]
  refine congrArg _ (funext fun b1 => congrArg _ (funext fun b2 => congrArg _ (funext fun a2 => ?_)))
  simp only [hmsQ_ofTP, Option.bind_some, date_ofTP]
  generalize convert m 1 a2.date = ca
  generalize convert m 1 b2.date = cb
  rcases ca with _ | (⟨y1, mo1, d1⟩ | ⟨y1, n1⟩ | ⟨y1, w1, d1⟩) <;>
    rcases cb with _ | (⟨y2, mo2, d2⟩ | ⟨y2, n2⟩ | ⟨y2, w2, d2⟩) <;> try rfl
  simp only [Option.map_some, durQOf, ← Rat.intCast_sub, borrowQ_int, Rat.intCast_neg_iff,
    secondsInMinute_eq, minutesInHour_eq, hoursInDay_eq]
  rw [← Rat.intCast_ofNat, ← Rat.intCast_add, ite_cast]

theorem durQOf_neg (d : Dur) : durQOf d.neg = (durQOf d).neg := by
  cases d with
  | weeks w =>
    simp only [Dur.neg, Dur.mul, durQOf, DurQ.neg, DurQ.mul, Rat.zero_mul, DurQ.mk.injEq, and_true]
    omega
  | units y mo d h mi s =>
    simp only [Dur.neg, Dur.mul, durQOf, DurQ.neg, DurQ.mul, Rat.intCast_mul]

theorem subTPQ_ofTP (m : Mode) (a b : TP) :
    subTPQ m (TPQ.ofTP a) (TPQ.ofTP b) = (subTP m a b).map durQOf := by
  unfold subTPQ subTP
  simp only [Option.bind_eq_bind, cmpQ_ofTP, subCoreQ_ofTP]
  cases cmp m b a with
  | none => rfl
  | some c =>
    simp only [Option.bind_some]
    by_cases h : c > 0
    · rw [if_pos h, if_pos h, Option.map_map, Option.map_map]
      cases subCore m b a with
      | none => rfl
      | some d => simp only [Option.map_some, Function.comp, durQOf_neg]
    · rw [if_neg h, if_neg h]

end IsoDT.Lemmas
