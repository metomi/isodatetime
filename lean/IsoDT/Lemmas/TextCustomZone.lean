/-
  IsoDT.Lemmas.TextCustomZone — the LITERAL zone of a custom dump format, in all its spellings
  (`±hh:mm`, `±hhmm`, `±hh`): how `_get_expression_and_properties` cuts a zone that begins with a sign
  off the time (`tzSplit_sign`, `tzSplit_lit`), what `get_time_zone` reads the literal zone as
  (`getTimeZone_litZone`: exactly the offset, `-00:30` / `-0030` included), and what the zone
  substitution rules make of it (`compile_zone_lit`: a leading `+` becomes the point's zone sign, `-`
  and the digits stay).  The digits are symbolic throughout: the lemmas are about a sign followed by
  any non-empty string of digits and colons.
-/
import IsoDT.Lemmas.TextCustomDefs
import IsoDT.Lemmas.TextRoundParse

namespace IsoDT.Text.Custom
open IsoDT IsoDT.Model IsoDT.Lemmas IsoDT.Text
open IsoDT.Spec (Date TZ TP)
open _root_.IsoDT.Gen.Templates (timeDesignator dumper_0 dumper_2 dumper_3 dumpTables parserTables)

theorem toNat_lt {a : Int} {n : Nat} (h0 : 0 ≤ a) (h : a < n) : a.toNat < n := by omega

theorem natAbs_le {a : Int} {n : Nat} (h1 : -(n : Int) ≤ a) (h2 : a ≤ n) : a.natAbs ≤ n := by omega

theorem valid_tz {m : Mode} {p : TP} (hv : p.Valid m) : p.tz.Valid := hv.2.2.2.2.2.2.2.2

theorem renderNat_mod100 (v : Nat) : renderNat 2 (v % 100) = renderNat 2 v := by
  have := renderNat_mod 2 v; simpa using this

/-- The number of expanded year digits a format writes its year with: the dumper's with the `+X` token,
    none without (`CFmt.yd`, `DFmt.yd`). -/
def yd (x : Bool) (ned : Nat) : Nat := if x then ned else 0

@[simp] theorem yd_true (n : Nat) : yd true n = n := rfl
@[simp] theorem yd_false (n : Nat) : yd false n = 0 := rfl

theorem yd_congr (x : Bool) (n n' : Nat) (h : x = true → n' = n) : yd x n = yd x n' := by
  cases x with
  | false => rfl
  | true => exact (h rfl).symm

theorem yearInRange_x (x : Bool) (n : Nat) (hx : x = true → n ≠ 0) (y : Int)
    (hy : YearInRange (yd x n) y) : y.natAbs / 10000 < 10 ^ n := by
  unfold YearInRange yd at hy
  cases x with
  | false =>
    simp only [Bool.false_eq_true, if_false, if_true] at hy
    rw [Nat.div_eq_of_lt (Nat.lt_succ_of_le (natAbs_le (Int.le_trans (by decide) hy.1) hy.2))]
    exact Nat.pow_pos (by decide)
  | true =>
    simp only [if_true, hx rfl, if_false] at hy
    exact Nat.div_lt_of_lt_mul (by rw [← Nat.pow_add 10 4 n]; exact hy)

/-- The sign of an offset sits on its hours and on its minutes alike. -/
theorem tz_signed (z : TZ) (hz : z.Valid) :
    (if z.h < 0 ∨ z.mi < 0 then -(z.h.natAbs : Int) else z.h.natAbs) = z.h ∧
    (if z.h < 0 ∨ z.mi < 0 then -(z.mi.natAbs : Int) else z.mi.natAbs) = z.mi := by
  obtain ⟨_, _, _, _, z5, z6⟩ := hz
  omega

/-- The zone clause of `CFmt.WF` / `DFmt.WF`: a literal zone is a legal offset, and the hours-only
    spelling spells an offset of whole hours. -/
def ZSpec.WF : ZSpec → Prop
  | .lit s z => z.Valid ∧ (s = .h → z.mi = 0)
  | _ => True

/-- A digit or a colon: the characters of a literal zone after its sign. -/
def ZChar (c : Char) : Prop := isDigit c = true ∨ c = ':'

theorem ZChar.ne {c : Char} (h : ZChar c) (x : Char) (hx : isDigit x = false) (hx' : x ≠ ':') : c ≠ x := by
  rcases h with h | h
  · intro e; subst e; rw [h] at hx; cases hx
  · intro e; subst e; exact hx' h

theorem zchars_of_digits (l : List Char) (h : l.all isDigit = true) : ∀ c ∈ l, ZChar c :=
  fun c hc => Or.inl (all_digits_mem l h c hc)

theorem zoneDigits_zchars (ext : Bool) (s : ZStyle) (z : TZ) : ∀ c ∈ zoneDigits ext s z, ZChar c := by
  intro c hc
  unfold zoneDigits at hc
  cases s with
  | h =>
    simp only [List.append_nil] at hc
    exact zchars_of_digits _ (renderNat_digits _ _) c hc
  | hm =>
    simp only [List.mem_append] at hc
    rcases hc with hc | hc | hc
    · exact zchars_of_digits _ (renderNat_digits _ _) c hc
    · cases ext
      · simp at hc
      · simp only [if_true, List.mem_singleton] at hc; exact Or.inr hc
    · exact zchars_of_digits _ (renderNat_digits _ _) c hc

theorem zoneDigits_cons (ext : Bool) (s : ZStyle) (z : TZ) :
    ∃ d rest, zoneDigits ext s z = d :: rest := by
  obtain ⟨a, b, hab, _, _⟩ := renderNat_two z.h.natAbs
  unfold zoneDigits
  rw [hab]
  exact ⟨a, _, rfl⟩

theorem zsign_cases (z : TZ) : zsign z = '+' ∨ zsign z = '-' := by
  unfold zsign; split
  · exact Or.inr rfl
  · exact Or.inl rfl

def zTmplBasic : Template := [.sign .tzSign, .digits .tzHour 2, .digits .tzMinute 2]
def zTmplHour : Template := [.sign .tzSign, .digits .tzHour 2]

def zoneTmplOf (ext : Bool) : ZStyle → Template
  | .hm => if ext then zTmplOff else zTmplBasic
  | .h => zTmplHour

def numZoneEnv (s : ZStyle) (z : TZ) : Env :=
  match s with
  | .hm => litZoneEnv z
  | .h => [(.tzSign, [zsign z]), (.tzHour, renderNat 2 z.h.natAbs)]

theorem litZone_render (ext : Bool) (s : ZStyle) (z : TZ) :
    zsign z :: zoneDigits ext s z = trender (zoneTmplOf ext s) (numZoneEnv s z) := by
  cases s <;> cases ext <;>
    simp [zoneDigits, zoneTmplOf, numZoneEnv, zTmplOff, zTmplBasic, zTmplHour, litZoneEnv, trender, zsign]

theorem fits_numZone (ext : Bool) (s : ZStyle) (z : TZ) :
    fits (zoneTmplOf ext s) (numZoneEnv s z) = true := by
  cases s <;> cases ext <;>
    simp [zoneTmplOf, numZoneEnv, zTmplOff, zTmplBasic, zTmplHour, litZoneEnv, fits, renderNat_length,
      renderNat_digits, zsign] <;> omega

/-- The processed zone: hours and minutes carry the sign; the hours-only style has NO minutes. -/
theorem processZone_numZone (zd : ZoneDefault) (s : ZStyle) (z : TZ) (hz : z.Valid) :
    processZone zd (numZoneEnv s z) =
      some ⟨some z.h, match s with | .hm => some z.mi | .h => none⟩ := by
  cases s with
  | hm => exact processZone_litZoneEnv zd z hz
  | h =>
    have hh : intOf? (renderNat 2 z.h.natAbs) = some (z.h.natAbs : Int) :=
      intOf_renderNat 2 _ (by decide) (Nat.lt_succ_of_le (natAbs_le hz.1 hz.2.1))
    have e1 := (tz_signed z hz).1
    unfold numZoneEnv zsign
    by_cases hneg : z.h < 0 ∨ z.mi < 0
    · rw [if_pos hneg] at e1
      simp [processZone, Env.has, Env.get?, hh, hneg, e1]
    · rw [if_neg hneg] at e1
      simp [processZone, Env.has, Env.get?, hh, hneg, e1]

/-- The default parser (the one `get_time_zone` uses) lists the three numeric zone forms. -/
theorem defaultTables_zone (ext : Bool) (s : ZStyle) :
    ∃ ze ∈ defaultTables.zoneEntries, ze.tmpl = zoneTmplOf ext s := by
  cases s <;> cases ext <;> decide +kernel

/-- **`get_time_zone`** reads a literal numeric zone — `±hh:mm`, `±hhmm` or `±hh`; every legal offset,
    `-00:30` / `-0030` (zero hours, negative minutes) included — as exactly that offset. -/
theorem getTimeZone_litZone (ext : Bool) (s : ZStyle) (z : TZ) (hz : z.Valid) (hs : s = .h → z.mi = 0) :
    getTimeZone (zsign z :: zoneDigits ext s z) = some (z.h, z.mi) := by
  obtain ⟨ze, hze, hzt⟩ := defaultTables_zone ext s
  obtain ⟨e', he', _⟩ := getZoneInfo_rendered defaultTables (tableFacts _ defaultTables_mem) ze hze []
    rfl (numZoneEnv s z) (by rw [hzt]; exact fits_numZone ext s z)
  unfold getTimeZone
  rw [litZone_render, ← hzt, he']
  simp only [processZone_numZone .unknown s z hz]
  cases s with
  | hm => rfl
  | h => simp [hs rfl]

theorem hasInfix_append (p : Char) (ps T R : List Char) (h : p ∉ T) :
    hasInfix (p :: ps) (T ++ R) = hasInfix (p :: ps) R := by
  induction T with
  | nil => rfl
  | cons c T ih =>
    simp only [List.mem_cons, not_or] at h
    show hasInfix (p :: ps) (c :: (T ++ R)) = _
    simp [hasInfix, stripPrefix, h.1, ih h.2]

theorem hasInfix_notMem (p : Char) (ps l : List Char) (h : p ∉ l) : hasInfix (p :: ps) l = false := by
  have := hasInfix_append p ps l [] h
  rwa [List.append_nil] at this

/-- **The split** of the text after the `T`: a zone that begins with a sign and goes on without `Z`,
    `+`, `-` is cut off a time expression without them exactly at the sign; a placeholder (`+hh…`)
    carries no literal zone, anything else is handed to `get_time_zone`. -/
theorem tzSplit_sign (T : List Char) (hne : T ≠ []) (hT : ∀ c ∈ T, Plain c)
    (sg : Char) (hsg : sg = '+' ∨ sg = '-') (R : List Char) (hR : ∀ c ∈ R, Plain c) :
    tzSplit (T ++ sg :: R) =
      some (T, sg :: R, if hasInfix ['+', 'h', 'h'] (sg :: R) then none else getTimeZone (sg :: R)) := by
  -- the first character matters: the code strips leading `-` before it looks for a `-` to split at
  obtain ⟨t0, T, rfl⟩ := List.exists_cons_of_ne_nil hne
  have hTp : '+' ∉ t0 :: T := fun h => (hT _ h).2.1 rfl
  have hTm : '-' ∉ t0 :: T := fun h => (hT _ h).2.2 rfl
  have hRp : '+' ∉ R := fun h => (hR _ h).2.1 rfl
  have hRm : '-' ∉ R := fun h => (hR _ h).2.2 rfl
  have hlast : ¬ (((t0 :: T) ++ sg :: R).getLast? = some 'Z') := by
    intro h
    rcases List.mem_append.mp (List.mem_of_getLast? h) with h | h
    · exact (hT _ h).1 rfl
    · rcases List.mem_cons.mp h with h | h
      · rcases hsg with h' | h' <;> rw [h'] at h <;> exact absurd h (by decide)
      · exact (hR _ h).1 rfl
  unfold tzSplit
  rw [if_neg hlast, hasInfix_append _ _ _ _ hTp]
  rcases hsg with rfl | rfl
  · rw [splitOnChar_one '+' _ _ hTp hRp]
    cases hasInfix ['+', 'h', 'h'] ('+' :: R) <;> simp
  · have hi : hasInfix ['+', 'h', 'h'] ('-' :: R) = false := by
      show ((stripPrefix ['+', 'h', 'h'] ('-' :: R)).isSome || hasInfix ['+', 'h', 'h'] R) = false
      rw [hasInfix_notMem _ _ _ hRp]
      rfl
    have hc : ((t0 :: T) ++ '-' :: R).contains '+' = false := by
      simp only [List.mem_cons, not_or] at hTp
      simp [hTp, hRp]
    have ht0 : t0 ≠ '-' := fun e => hTm (e ▸ List.mem_cons_self)
    have hd : (((t0 :: T) ++ '-' :: R).dropWhile (· = '-')).contains '-' = true := by simp [ht0]
    rw [hi, hc, hd, splitOnChar_one '-' _ _ hTm hRm]
    simp

/-- A literal zone — a sign and a non-empty string of digits and colons — is cut off at its sign and
    handed to `get_time_zone`. -/
theorem tzSplit_lit (T : List Char) (hne : T ≠ []) (hT : ∀ c ∈ T, Plain c)
    (sg : Char) (hsg : sg = '+' ∨ sg = '-') (d : Char) (L : List Char) (hL : ∀ c ∈ d :: L, ZChar c) :
    tzSplit (T ++ sg :: d :: L) = some (T, sg :: d :: L, getTimeZone (sg :: d :: L)) := by
  have hP : ∀ c ∈ d :: L, Plain c := fun c h =>
    ⟨(hL c h).ne 'Z' (by decide) (by decide), (hL c h).ne '+' (by decide) (by decide),
      (hL c h).ne '-' (by decide) (by decide)⟩
  have hi : hasInfix ['+', 'h', 'h'] (sg :: d :: L) = false := by
    have hd' : ¬ 'h' = d := fun e => (hL d List.mem_cons_self).ne 'h' (by decide) (by decide) e.symm
    show ((stripPrefix ['+', 'h', 'h'] (sg :: d :: L)).isSome || hasInfix ['+', 'h', 'h'] (d :: L)) = false
    rw [hasInfix_notMem _ _ _ (fun h => (hP _ h).2.1 rfl)]
    simp [stripPrefix, hd']
  rw [tzSplit_sign T hne hT sg hsg (d :: L) hP, hi]
  rfl

theorem tzSplit_Z (T : List Char) : tzSplit (T ++ ['Z']) = some (T, ['Z'], some (0, 0)) := by
  unfold tzSplit
  simp

theorem matchesAt_head_ne (r : DumpRule) (c : Char) (cs : List Char) (hp : r.pat = c :: cs) (s : Seg)
    (hs : s ≠ Seg.raw c) (rest : List Seg) : matchesAt r (s :: rest) = false := by
  unfold matchesAt
  rw [hp]
  cases s with
  | dir o => simp [matchRaw]
  | raw x =>
    have : ¬ c = x := fun e => hs (by rw [e])
    simp [matchRaw, this]

theorem scan_absent (r : DumpRule) (c : Char) (cs : List Char) (hp : r.pat = c :: cs)
    (S : List Seg) (hS : ∀ s ∈ S, s ≠ Seg.raw c) : scan r 0 S = S := by
  induction S with
  | nil => rfl
  | cons s rest ih =>
    have hm := matchesAt_head_ne r c cs hp s (hS s List.mem_cons_self) rest
    simp only [scan, hm, Bool.false_eq_true, if_false]
    rw [ih (fun x hx => hS x (List.mem_cons_of_mem _ hx))]

theorem occurs_absent (r : DumpRule) (c : Char) (cs : List Char) (hp : r.pat = c :: cs)
    (S : List Seg) (hS : ∀ s ∈ S, s ≠ Seg.raw c) : occurs r S = false := by
  induction S with
  | nil => rfl
  | cons s rest ih =>
    have hm := matchesAt_head_ne r c cs hp s (hS s List.mem_cons_self) rest
    simp only [occurs, hm, Bool.false_or]
    exact ih (fun x hx => hS x (List.mem_cons_of_mem _ hx))

theorem applyRule_absent (r : DumpRule) (c : Char) (cs : List Char) (hp : r.pat = c :: cs)
    (ha : r.anchored = false) (S : List Seg) (hS : ∀ s ∈ S, s ≠ Seg.raw c) :
    applyRule r S = (S, false) := by
  unfold applyRule
  simp [hp, ha, scan_absent r c cs hp S hS, occurs_absent r c cs hp S hS]

/-- The time and zone rules do not depend on the number of expanded year digits. -/
theorem zone_rules_same : ∀ dt ∈ dumpTables, dt.zone = dumper_0.zone := by decide +kernel

theorem time_rules_same : ∀ dt ∈ dumpTables, dt.time = dumper_0.time := by decide +kernel

/-- What the zone rules make of a literal zone: a leading `+` becomes the point's zone sign; a `-`
    and the digits (and colon) stay as they are. -/
def litSegs (sg : Char) (L : List Char) : List Seg :=
  (if sg = '+' then Seg.dir (.str .tzSign) else Seg.raw sg) :: L.map Seg.raw

def litProps (sg : Char) : List DProp := if sg = '+' then [.tzSign] else []

theorem compile_zone_lit (dt : DumpTables) (hdt : dt ∈ dumpTables) (sg : Char) (hsg : sg = '+' ∨ sg = '-')
    (L : List Char) (hL : ∀ c ∈ L, ZChar c) :
    compile dt.zone ((sg :: L).map Seg.raw) = (litSegs sg L, litProps sg) := by
  rw [zone_rules_same dt hdt]
  -- none of `m`, `h`, `+`, `Z` occurs after the sign, and `m`, `h`, `Z` are not the sign
  have tail (x : Char) (hx : isDigit x = false) (hx' : x ≠ ':') : ∀ s ∈ L.map Seg.raw, s ≠ Seg.raw x := by
    intro s hs
    obtain ⟨c, hc, rfl⟩ := List.mem_map.mp hs
    intro e
    injection e with e
    exact (hL c hc).ne x hx hx' e
  have all (x : Char) (hx : x ≠ sg) (h : ∀ s ∈ L.map Seg.raw, s ≠ Seg.raw x) :
      ∀ s ∈ (sg :: L).map Seg.raw, s ≠ Seg.raw x := by
    intro s hs
    simp only [List.map_cons, List.mem_cons] at hs
    rcases hs with rfl | hs
    · intro e; injection e with e; exact hx e.symm
    · exact h s hs
  have ne (x : Char) (h1 : x ≠ '+') (h2 : x ≠ '-') : x ≠ sg := by
    rcases hsg with rfl | rfl
    · exact h1
    · exact h2
  have r1 := applyRule_absent ⟨false, [], ['m', 'm'], [], [.int .tzMinuteAbs 2], some .tzMinuteAbs⟩
    'm' ['m'] rfl rfl _ (all 'm' (ne 'm' (by decide) (by decide)) (tail 'm' (by decide) (by decide)))
  have r3 := applyRule_absent ⟨false, [], ['h', 'h'], [], [.int .tzHourAbs 2], some .tzHourAbs⟩
    'h' ['h'] rfl rfl _ (all 'h' (ne 'h' (by decide) (by decide)) (tail 'h' (by decide) (by decide)))
  have np := tail '+' (by decide) (by decide)
  have nZ := tail 'Z' (by decide) (by decide)
  rcases hsg with rfl | rfl
  · -- `+`: the sign rule fires at the head
    have r4 : applyRule ⟨false, [], ['+'], [], [.str .tzSign], some .tzSign⟩ (('+' :: L).map Seg.raw) =
        (Seg.dir (.str .tzSign) :: L.map Seg.raw, true) := by
      have hsc := (applyRule_absent ⟨false, [], ['+'], [], [.str .tzSign], some .tzSign⟩
        '+' [] rfl rfl _ np)
      simp only [applyRule, List.isEmpty_cons, Bool.false_eq_true, if_false, Prod.mk.injEq] at hsc
      simp [applyRule, scan, occurs, matchesAt, matchRaw, outSegs, hsc.1]
    have r5 := applyRule_absent ⟨false, [], ['Z'], [], [.lit 'Z'], none⟩
      'Z' [] rfl rfl (Seg.dir (.str .tzSign) :: L.map Seg.raw) (by
        intro s hs
        rcases List.mem_cons.mp hs with rfl | hs
        · intro e; cases e
        · exact nZ s hs)
    simp only [dumper_0, compile, r1, r3, r4, r5, litSegs, litProps, if_true]
    rfl
  · have r4 := applyRule_absent ⟨false, [], ['+'], [], [.str .tzSign], some .tzSign⟩
      '+' [] rfl rfl _ (all '+' (by decide) np)
    have r5 := applyRule_absent ⟨false, [], ['Z'], [], [.lit 'Z'], none⟩
      'Z' [] rfl rfl _ (all 'Z' (by decide) nZ)
    simp only [dumper_0, compile, r1, r3, r4, r5, litSegs, litProps]
    simp

end IsoDT.Text.Custom
