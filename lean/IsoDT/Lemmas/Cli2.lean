/-
  Lemmas about the evaluating CLI model (`Model/Cli2.lean`), used by `Props/C19b`.  Stage by stage,
  the command yields a value with the stated property or fails benignly (`Fine`, `Benign`: neither a
  traceback nor a failed point operation), but for two traceback paths (`cliEval_error_cases`).
  A point read from text is a real date-time of the active mode and `+` is total on such points, so
  the offset loop is the left fold of `+` over the signed durations and `ExitClass.arith` never
  happens.  The dumper reads neither a point's recorded format nor its truncation note, which ties
  the command's output to `str` of the parsed point (C07c).
-/
import IsoDT.Model.Cli2
import IsoDT.Lemmas.Strftime
import IsoDT.Lemmas.DurText
import IsoDT.Lemmas.TextAccept
import IsoDT.Lemmas.TextAsParsed
import IsoDT.Lemmas.RecNominalQuery
import IsoDT.Lemmas.TextCustomDump

namespace IsoDT.Lemmas.Cli2
open IsoDT IsoDT.Model IsoDT.Model.Cli IsoDT.Model.Cli2 IsoDT.Lemmas IsoDT.Lemmas.Strf
open IsoDT.Spec (Date TZ TP)

/-- Failures that are neither a traceback nor a failed point operation: an exit with a message
    about the input, or an input outside the model. -/
def Benign : Fail → Prop
  | .exit .arith => False
  | .traceback _ => False
  | _ => True

def Fine {α : Type} (P : α → Prop) : Res α → Prop
  | .ok a => P a
  | .error f => Benign f

theorem Fine.ok {α : Type} {P : α → Prop} {r : Res α} (h : Fine P r) {a : α} (e : r = .ok a) : P a := by
  subst e; exact h

theorem Fine.error {α : Type} {P : α → Prop} {r : Res α} (h : Fine P r) {f : Fail} (e : r = .error f) :
    Benign f := by
  subst e; exact h

theorem Fine.of_ok {α : Type} {P : α → Prop} {a : α} (h : P a) : Fine P (.ok a) := h

theorem Fine.of_error {α : Type} {P : α → Prop} {f : Fail} (h : Benign f) : Fine P (.error f) := h

theorem Fine.bind {α β : Type} {P : α → Prop} {Q : β → Prop} {r : Res α} {g : α → Res β} (h : Fine P r)
    (hg : ∀ a, P a → Fine Q (g a)) : Fine Q (r.bind g) := by
  cases r with
  | error f => exact h
  | ok a => exact hg a h

-- Unfolding `Fine` on a concrete stage makes the elaborator evaluate that stage as far as it can.
attribute [irreducible] Fine

theorem tz_neg_valid (z : TZ) (h : z.Valid) : (⟨-z.h, -z.mi⟩ : TZ).Valid := by
  unfold TZ.Valid at h ⊢
  simp only
  omega

/-- `TimePointParser.strptime` only returns real date-times (any format, any text). -/
theorem strptime_valid (m : Mode) (cfg : Strf.PCfg) (loc : TZ) (data fmt : List Char) (tp : TP)
    (hl : loc.Valid) (h : Strf.strptime m cfg loc data fmt = .ok tp) : tp.Valid m := by
  unfold Strf.strptime at h
  split at h
  · cases h
  · rename_i pieces _
    split at h
    · cases h
    · split at h
      · cases h
      · rename_i b _
        unfold Strf.assemble at h
        simp only at h
        split at h
        · -- the Unix-time branch
          rename_i txt _
          split at h
          · cases h
          · rename_i n _
            obtain ⟨q, hq, _, hs, htz⟩ := fromUnix_local m n loc hl
            rw [hq] at h
            cases h
            split
            · obtain ⟨⟨a, b', c, d, e, f, g, hh, hz⟩, _⟩ := hs
              exact ⟨a, b', c, d, e, f, g, hh, tz_neg_valid _ hz⟩
            · exact hs.1
        · exact (mkPoint_inv m _ _ _ _ _ _ _ _ _ tp h).2.2.2.2.2

theorem tryStrp_valid (st : Setup) (s fmt : Str) (P : Parsed) (hl : st.loc.Valid)
    (h : tryStrp st s fmt = some P) : P.tp.Valid st.mode := by
  unfold tryStrp at h
  split at h
  · rename_i tp htp
    simp only [Option.some.injEq] at h
    subst h
    exact strptime_valid _ _ _ _ _ _ hl htp
  · cases h

theorem tryStrp_fmt (st : Setup) (s fmt : Str) (P : Parsed) (h : tryStrp st s fmt = some P) :
    P.fmt = fmt ∧ P.ned = 0 := by
  unfold tryStrp at h
  split at h
  · simp only [Option.some.injEq] at h; subst h; exact ⟨rfl, rfl⟩
  · cases h

theorem textCfg_mode (st : Setup) : st.textCfg.mode = st.mode := rfl

/-- The ISO 8601 parser only returns real date-times (C09 through text), and refuses with a message. -/
theorem parseIso_fine (st : Setup) (s : Str) (b : Bool) :
    Fine (fun P => P.tp.Valid st.mode) (parseIso st s b) := by
  unfold parseIso
  split
  · exact .of_error trivial
  · rename_i x hx
    split
    · exact .of_error trivial
    · rename_i tp htp
      obtain ⟨a, ha⟩ := Text.parse_ctor st.textCfg s b x hx
      obtain ⟨hc, hz⟩ := Text.ctor_sound st.textCfg.mode a x ha
      exact .of_ok (Text.checkBounds_valid st.textCfg.mode x tp htp hc hz)

theorem utcIf_spec (st : Setup) (P : Parsed) (hv : P.tp.Valid st.mode) :
    ∃ Q, utcIf st P = .ok Q ∧ Q.tp.Valid st.mode ∧ Q.ned = P.ned ∧ Q.fmt = P.fmt ∧
      Q.tp.inst st.mode = P.tp.inst st.mode ∧ (st.utc = true → Q.tp.tz = ⟨0, 0⟩) ∧
      (st.utc = false → Q = P) := by
  unfold utcIf
  by_cases hu : st.utc = true
  · rw [if_pos hu]
    obtain ⟨q, hq, hi, htz, _, hqv, _⟩ := toTimeZone_spec st.mode P.tp ⟨0, 0⟩ hv utc_valid
    unfold toUtc
    rw [hq]
    exact ⟨_, rfl, hqv, rfl, rfl, hi, fun _ => htz, fun h => absurd hu (by simp [h])⟩
  · rw [if_neg hu]
    exact ⟨P, rfl, hv, rfl, rfl, rfl, fun h => absurd h hu, fun _ => rfl⟩

theorem parseAny_cases (st : Setup) (s : Str) :
    (∃ P, (tryStrp st s fmtExt = some P ∨ tryStrp st s fmtBasic = some P) ∧ parseAny st s = .ok P) ∨
    (tryStrp st s fmtExt = none ∧ tryStrp st s fmtBasic = none ∧ parseAny st s = parseIso st s true) := by
  unfold parseAny
  cases h1 : tryStrp st s fmtExt with
  | some P => exact .inl ⟨P, .inl rfl, rfl⟩
  | none =>
    cases h2 : tryStrp st s fmtBasic with
    | some P => exact .inl ⟨P, .inr rfl, rfl⟩
    | none => exact .inr ⟨rfl, rfl, rfl⟩

theorem parseAny_none (st : Setup) (s : Str) (h1 : tryStrp st s fmtExt = none)
    (h2 : tryStrp st s fmtBasic = none) : parseAny st s = parseIso st s true := by
  rcases parseAny_cases st s with ⟨P, ht | ht, _⟩ | ⟨_, _, h⟩
  · rw [h1] at ht; cases ht
  · rw [h2] at ht; cases ht
  · exact h

theorem parseAny_fine (st : Setup) (s : Str) (hl : st.loc.Valid) :
    Fine (fun P => P.tp.Valid st.mode) (parseAny st s) := by
  -- with `parseAny st s` in the goal, `rcases` would start to evaluate it on the built-in formats
  generalize hr : parseAny st s = r
  rcases parseAny_cases st s with ⟨P, ht, hp⟩ | ⟨_, _, hp⟩ <;> rw [hp] at hr <;> subst hr
  · rcases ht with ht | ht <;> exact .of_ok (tryStrp_valid _ _ _ _ hl ht)
  · exact parseIso_fine st s true

/-- `date_parse` either leaves the model (the clock, characters outside the domain) or reads some
    text with `parseAny` and converts the result to UTC if asked to. -/
theorem dateParse_cases (st : Setup) (item : Str) :
    (∃ w, dateParse st item = .error (.outside w)) ∨
    ∃ s, dateParse st item = (parseAny st s).bind (utcIf st) := by
  unfold dateParse
  simp only
  split
  · exact .inl ⟨_, rfl⟩
  · rename_i s _
    split
    · exact .inl ⟨_, rfl⟩
    · split
      · exact .inl ⟨_, rfl⟩
      · refine .inr ⟨s, ?_⟩
        cases parseAny st s <;> rfl

theorem dateParse_plain (st : Setup) (s : Str) (hp : plain s = true) (hr : s ≠ "ref".toList)
    (hn : s ≠ "now".toList) : dateParse st s = (parseAny st s).bind (utcIf st) := by
  unfold dateParse
  simp only [hr, ↓reduceIte, hn, hp, Bool.not_true, Bool.false_eq_true]
  cases parseAny st s <;> rfl

/-- **Every item the command reads is a real date-time of the selected calendar mode**, and an item
    that cannot be read ends the command with a message (or lies outside the model): never a
    traceback, never a failed point operation. -/
theorem dateParse_fine (st : Setup) (item : Str) (hl : st.loc.Valid) :
    Fine (fun P => P.tp.Valid st.mode) (dateParse st item) := by
  -- generalized for the same reason as in `parseAny_fine`
  generalize hr : dateParse st item = r
  rcases dateParse_cases st item with ⟨w, hw⟩ | ⟨s, hs⟩
  · rw [hw] at hr; subst hr; exact .of_error trivial
  · rw [hs] at hr
    subst hr
    refine Fine.bind (parseAny_fine st s hl) fun P hP => ?_
    obtain ⟨Q, hQ, hQv, _⟩ := utcIf_spec st P hP
    rw [hQ]
    exact .of_ok hQv

theorem mapRes_ok {α β : Type} (f : α → Res β) : ∀ (l : List α) (out : List β), mapRes f l = .ok out →
    out.length = l.length ∧ ∀ (i : Nat) (hi : i < l.length) (ho : i < out.length), f l[i] = .ok out[i] := by
  intro l
  induction l with
  | nil =>
    intro out h
    cases h
    exact ⟨rfl, fun i hi => nomatch hi⟩
  | cons x xs ih =>
    intro out h
    unfold mapRes at h
    cases hx : f x with
    | error e => rw [hx] at h; cases h
    | ok y =>
      cases hxs : mapRes f xs with
      | error e => rw [hx, hxs] at h; cases h
      | ok ys =>
        rw [hx, hxs] at h
        cases h
        obtain ⟨hl, hg⟩ := ih ys hxs
        refine ⟨congrArg (· + 1) hl, fun i hi ho => ?_⟩
        cases i with
        | zero => exact hx
        | succ i => exact hg i (Nat.lt_of_succ_lt_succ hi) (Nat.lt_of_succ_lt_succ ho)

theorem mapRes_error {α β : Type} (f : α → Res β) (l : List α) (e : Fail) (h : mapRes f l = .error e) :
    ∃ x ∈ l, f x = .error e := by
  induction l with
  | nil => cases h
  | cons x xs ih =>
    unfold mapRes at h
    cases hx : f x with
    | error e' => rw [hx] at h; cases h; exact ⟨x, List.mem_cons_self .., hx⟩
    | ok y =>
      rw [hx] at h
      cases hxs : mapRes f xs with
      | error e' =>
        rw [hxs] at h; cases h
        obtain ⟨z, hz, hfz⟩ := ih hxs
        exact ⟨z, List.mem_cons_of_mem _ hz, hfz⟩
      | ok ys => rw [hxs] at h; cases h

/-- The signed durations of the offsets (the failure of the first one that is not a duration). -/
def offsetDurs (m : Mode) : List Offset → Res (List Dur)
  | [] => .ok []
  | o :: os =>
    match offsetDur m o with
    | .error f => .error f
    | .ok d =>
      match offsetDurs m os with
      | .error f => .error f
      | .ok ds => .ok (d :: ds)

/-- `p + d₁ + d₂ + …`, left to right. -/
def addAll (m : Mode) (p : TP) : List Dur → Res TP
  | [] => .ok p
  | d :: ds =>
    match addStep m p d with
    | .error f => .error f
    | .ok q => addAll m q ds

theorem addStep_valid (m : Mode) (p : TP) (d : Dur) (hp : p.Valid m) :
    ∃ q, addStep m p d = .ok q ∧ q.Valid m ∧ q.tz = p.tz := by
  obtain ⟨q, hq, hs, _, ht⟩ := addDur_total m p d hp
  exact ⟨q, by simp only [addStep, hq], hs.1, ht⟩

theorem addAll_valid (m : Mode) (ds : List Dur) : ∀ (p : TP), p.Valid m →
    ∃ q, addAll m p ds = .ok q ∧ q.Valid m ∧ q.tz = p.tz := by
  induction ds with
  | nil => intro p hp; exact ⟨p, rfl, hp, rfl⟩
  | cons d ds ih =>
    intro p hp
    obtain ⟨q, hq, hqv, ht⟩ := addStep_valid m p d hp
    obtain ⟨r, hr, hrv, ht'⟩ := ih q hqv
    exact ⟨r, by simp only [addAll, hq, hr], hrv, by rw [ht', ht]⟩

/-- **Offsets are applied in the order given**: on a valid point (where `+` cannot fail) the loop
    is the left fold of `+` over the signed durations, once all offsets are durations. -/
theorem applyOffsets_eq (m : Mode) (offs : List Offset) : ∀ (p : TP), p.Valid m →
    applyOffsets m p offs = (offsetDurs m offs).bind (addAll m p) := by
  induction offs with
  | nil => intro p _; rfl
  | cons o os ih =>
    intro p hp
    unfold applyOffsets offsetDurs
    cases offsetDur m o with
    | error f => rfl
    | ok d =>
      obtain ⟨q, hq, hqv, _⟩ := addStep_valid m p d hp
      simp only [hq, ih q hqv]
      cases offsetDurs m os with
      | error f => rfl
      | ok ds => simp only [Except.bind, addAll, hq]

/-- What an offset text can do: it is a duration, or the command exits with "bad offset value",
    or the text is outside the model. -/
theorem offsetDur_cases (m : Mode) (o : Offset) :
    (∃ d, offsetDur m o = .ok d) ∨ offsetDur m o = .error (.exit .offset) ∨
    offsetDur m o = .error (.outside .chars) ∨ offsetDur m o = .error (.outside .duration) := by
  unfold offsetDur
  split
  · exact .inr (.inr (.inl rfl))
  · split
    · exact .inl ⟨_, rfl⟩
    · exact .inr (.inl rfl)
    · exact .inr (.inl rfl)
    · exact .inr (.inr (.inr rfl))

/-- An offset whose text the duration parser refuses ends the command with "bad offset value". -/
theorem offsetDur_bad (m : Mode) (o : Offset) (hp : plain o.duration = true)
    (h : DurText.parse m o.duration = .syntaxErr ∨ DurText.parse m o.duration = .valueErr) :
    offsetDur m o = .error (.exit .offset) := by
  unfold offsetDur
  simp only [hp, Bool.not_true, Bool.false_eq_true, ↓reduceIte]
  rcases h with h | h <;> rw [h]

theorem offsetDurs_eq_mapRes (m : Mode) (offs : List Offset) : offsetDurs m offs = mapRes (offsetDur m) offs := by
  induction offs with
  | nil => rfl
  | cons o os ih =>
    unfold offsetDurs mapRes
    rw [ih]
    cases offsetDur m o with
    | error f => rfl
    | ok d => cases mapRes (offsetDur m) os <;> rfl

theorem offsetDurs_cases (m : Mode) (offs : List Offset) :
    (∃ ds, offsetDurs m offs = .ok ds) ∨ offsetDurs m offs = .error (.exit .offset) ∨
    offsetDurs m offs = .error (.outside .chars) ∨ offsetDurs m offs = .error (.outside .duration) := by
  cases h : offsetDurs m offs with
  | ok ds => exact .inl ⟨ds, rfl⟩
  | error f =>
    obtain ⟨o, _, ho⟩ := mapRes_error _ offs f (offsetDurs_eq_mapRes m offs ▸ h)
    rcases offsetDur_cases m o with ⟨d, hd⟩ | hd | hd | hd <;> rw [hd] at ho <;> cases ho
    · exact .inr (.inl rfl)
    · exact .inr (.inr (.inl rfl))
    · exact .inr (.inr (.inr rfl))

/-- **A malformed offset anywhere in the list** (the ones before it being durations) is the failure
    of the list. -/
theorem offsetDurs_bad (m : Mode) (pre : List Offset) (o : Offset) (post : List Offset) (f : Fail)
    (ho : offsetDur m o = .error f) : ∀ ds, offsetDurs m pre = .ok ds →
    offsetDurs m (pre ++ o :: post) = .error f := by
  induction pre with
  | nil => intro _ _; simp only [List.nil_append, offsetDurs, ho]
  | cons x xs ih =>
    intro ds hpre
    unfold offsetDurs at hpre
    simp only [List.cons_append, offsetDurs]
    cases hx : offsetDur m x with
    | error f' => rw [hx] at hpre; cases hpre
    | ok d =>
      cases hxs : offsetDurs m xs with
      | error f' => rw [hx, hxs] at hpre; cases hpre
      | ok ds' => simp only [ih ds' hxs]

/-- The offset loop on a valid point ends in a valid point of the same zone, or fails as its first
    offset that is not a duration does (never a failed point operation, never a traceback). -/
theorem applyOffsets_fine (m : Mode) (offs : List Offset) (p : TP) (hp : p.Valid m) :
    Fine (fun q => q.Valid m ∧ q.tz = p.tz) (applyOffsets m p offs) := by
  rw [applyOffsets_eq m offs p hp]
  refine Fine.bind (P := fun _ => True) ?_ fun ds _ => ?_
  · rcases offsetDurs_cases m offs with ⟨ds, hd⟩ | hd | hd | hd <;> rw [hd]
    · exact .of_ok trivial
    all_goals exact .of_error trivial
  · obtain ⟨r, hr, hv, ht⟩ := addAll_valid m ds p hp
    rw [hr]
    exact .of_ok ⟨hv, ht⟩

/-- A duration of days, hours, minutes and seconds as long as the distance from `p1` to `p2`, added
    to `p1`, lands on the instant of `p2` (C04) and compares equal to it (C02). -/
theorem addDur_lands (m : Mode) (p1 p2 : TP) (h1 : p1.Valid m) (h2 : p2.Valid m) (dd hh mm ss : Int)
    (hlen : 86400 * dd + 3600 * hh + 60 * mm + ss = p2.inst m - p1.inst m) :
    ∃ r, addDur m p1 (.units 0 0 dd hh mm ss) = some r ∧ r.inst m = p2.inst m ∧ cmp m r p2 = some 0 := by
  obtain ⟨q, eq', g⟩ := addDur_exact_units m p1 dd hh mm ss h1
  have hi : q.inst m = p2.inst m := by rw [g.inst]; omega
  refine ⟨q, eq', hi, ?_⟩
  rw [cmp_spec m q p2 g.strict.1 h2, hi, Int.sub_self]
  rfl

theorem subTP_of_le (m : Mode) (a b : TP) (ha : a.Valid m) (hb : b.Valid m) (h : b.inst m ≤ a.inst m) :
    ∃ dd hh mm ss, subTP m a b = some (.units 0 0 dd hh mm ss) ∧
      86400 * dd + 3600 * hh + 60 * mm + ss = a.inst m - b.inst m ∧
      0 ≤ dd ∧ 0 ≤ hh ∧ hh < 24 ∧ 0 ≤ mm ∧ mm < 60 ∧ 0 ≤ ss ∧ ss < 60 := by
  have hs : ¬ sgn (b.inst m - a.inst m) > 0 := by
    rw [sgn_pos_iff]
    omega
  obtain ⟨dd, hh, mm, ss, e, hl, r⟩ := subCore_spec m a b ha hb
  refine ⟨dd, hh, mm, ss, ?_, hl, by omega, r⟩
  simp only [subTP, cmp_spec m b a hb ha, Option.bind_eq_bind, Option.bind_some, hs, ↓reduceIte, e]

/-- `date_diff` on valid points: `neg` says whether the second point is the earlier one, and the
    duration is the non-negative distance in days, hours, minutes, seconds. -/
theorem dateDiff_spec (m : Mode) (p1 p2 : TP) (h1 : p1.Valid m) (h2 : p2.Valid m) :
    ∃ neg dd hh mm ss, dateDiff m p1 p2 = .ok (neg, .units 0 0 dd hh mm ss) ∧
      (0 ≤ dd ∧ 0 ≤ hh ∧ hh < 24 ∧ 0 ≤ mm ∧ mm < 60 ∧ 0 ≤ ss ∧ ss < 60) ∧
      86400 * dd + 3600 * hh + 60 * mm + ss = (if neg then p1.inst m - p2.inst m else p2.inst m - p1.inst m) ∧
      (neg = true → p2.inst m < p1.inst m) := by
  unfold dateDiff
  rw [cmp_spec m p2 p1 h2 h1]
  by_cases c : p2.inst m < p1.inst m
  · have hs : sgn (p2.inst m - p1.inst m) < 0 := by
      rw [(sgn_neg_iff _).2 (by omega)]
      decide
    obtain ⟨dd, hh, mm, ss, e, hl, hb⟩ := subTP_of_le m p1 p2 h1 h2 (Int.le_of_lt c)
    simp only [decide_eq_true hs, ↓reduceIte, e]
    exact ⟨true, dd, hh, mm, ss, rfl, hb, hl, fun _ => c⟩
  · have hs : ¬ sgn (p2.inst m - p1.inst m) < 0 := by
      unfold sgn
      split
      · omega
      · split <;> omega
    obtain ⟨dd, hh, mm, ss, e, hl, hb⟩ := subTP_of_le m p2 p1 h2 h1 (Int.not_lt.1 c)
    simp only [decide_eq_false hs, Bool.false_eq_true, ↓reduceIte, e]
    exact ⟨false, dd, hh, mm, ss, rfl, hb, hl, fun h => nomatch h⟩

theorem iter_take (m : Mode) (r : Rec) (n k : Nat) : iter m r n = (iter m r (n + k)).take n := by
  apply List.ext_getElem?
  intro i
  by_cases hi : i < n
  · rw [List.getElem?_take_of_lt hi, iter_prefix m r i n hi, iter_prefix m r i (n + k) (by omega)]
  · have := iter_length_le_fuel m r n
    rw [List.getElem?_eq_none (by omega), List.getElem?_eq_none (by rw [List.length_take]; omega)]

theorem map_error {α β : Type} (x : Res α) (g : α → β) (f : Fail) (h : x.map g = .error f) : x = .error f := by
  cases x with
  | error e => simpa [Except.map] using h
  | ok v => simp [Except.map] at h

theorem toTimeZone_no_overflow (m : Mode) (p : Text.XTP) (z : TZ) : p.toTimeZone m z ≠ .error .overflow := by
  intro h
  unfold Text.XTP.toTimeZone at h
  split at h
  · cases h
  · split at h
    · cases h
    · split at h <;> cases h

theorem dumpExpr_no_overflow (m : Mode) (dt : IsoDT.Text.DumpTables) (p : Text.XTP) (e : Text.Expr) :
    Text.dumpExpr m dt p e ≠ .error .overflow := by
  intro h
  unfold Text.dumpExpr at h
  simp only [bind, Except.bind] at h
  split at h
  · rename_i e1 h1
    cases h
    revert h1
    repeat' split
    all_goals (intro h1; cases h1)
  · split at h
    · rename_i e2 h2
      cases h
      revert h2
      repeat' split
      all_goals (intro h2; first | cases h2 | exact absurd h2 (toTimeZone_no_overflow _ _ _))
    · split at h
      · rename_i e3 h3
        cases h
        revert h3
        repeat' split
        all_goals (intro h3; cases h3)
      · repeat' split at h
        all_goals cases h

/-- `TimePointDumper.dump` never raises `OverflowError` (only `str()` does, through
    `_get_dump_format`). -/
theorem dump_no_overflow (m : Mode) (dt : IsoDT.Text.DumpTables) (p : Text.XTP) (fmt : List Char) :
    Text.dump m dt p fmt ≠ .error .overflow := by
  intro h
  unfold Text.dump at h
  split at h
  · cases h
  · split at h
    · cases h
    · exact dumpExpr_no_overflow _ _ _ _ h

theorem formatPoint_benign (m : Mode) (ned : Nat) (p : TP) (fmt : Str) (f : Fail)
    (h : formatPoint m ned p fmt = .error f) : Benign f := by
  unfold formatPoint at h
  split at h
  · cases h; trivial
  · split at h
    · split at h
      · cases h
      · cases h; trivial
      · cases h; trivial
    · split at h
      · cases h; trivial
      · split at h
        · cases h
        · cases h; trivial
        · rename_i hd
          exact absurd hd (dump_no_overflow _ _ _ _)
        · cases h; trivial

theorem strPoint_cases (m : Mode) (ned : Nat) (p : TP) (f : Fail) (h : strPoint m ned p = .error f) :
    Benign f ∨ f = .traceback .overflowError := by
  unfold strPoint at h
  split at h
  · cases h
  · cases h; exact .inl trivial
  · cases h; exact .inr rfl
  · cases h; exact .inl trivial

/-- `format_duration_str` on a text of the domain that the duration parser reads as `d` (a total below
    2^53 seconds): the total in the unit, or the refusal of a unit other than `s m h S M H`. -/
theorem formatDurationStr_ok (st : Setup) (text unit : Str) (d : Dur) (hp : plain text = true)
    (hpu : plain unit = true) (hparse : DurText.parse st.mode (unescape text) = .ok d)
    (hsmall : (d.seconds st.mode).natAbs < 2 ^ 53) :
    formatDurationStr st text unit =
      match unitDivisor unit with
      | some k => .ok (totalText st d k)
      | none => .error (.exit .unit) := by
  have : ¬ (d.seconds st.mode).natAbs ≥ 2 ^ 53 := by omega
  simp only [formatDurationStr, hp, hpu, Bool.not_true, Bool.or_self, Bool.false_eq_true, ↓reduceIte,
    hparse, this]
  cases unitDivisor unit <;> rfl

theorem formatDurationStr_benign (st : Setup) (text unit : Str) (f : Fail)
    (h : formatDurationStr st text unit = .error f) : Benign f := by
  unfold formatDurationStr at h
  split at h
  · cases h; trivial
  · split at h
    · split at h
      · cases h; trivial
      · split at h
        · cases h
        · cases h; trivial
    · cases h; trivial
    · cases h; trivial
    · cases h; trivial

theorem optPoint_benign (st : Setup) (o : Option Str) (f : Fail) (h : optPoint st o = .error f) : Benign f := by
  unfold optPoint at h
  split at h
  · cases h
  · exact (parseIso_fine st _ false).error (map_error _ _ _ h)

theorem optDur_benign (m : Mode) (o : Option Str) (f : Fail) (h : optDur m o = .error f) : Benign f := by
  unfold optDur at h
  split at h
  · cases h
  · split at h
    · cases h
    · cases h; trivial
    · cases h; trivial
    · cases h; trivial

theorem parseRec_benign (st : Setup) (s : Str) (f : Fail) (h : parseRec st s = .error f) : Benign f := by
  unfold parseRec at h
  split at h
  · cases h; trivial
  · split at h
    · cases h; trivial
    · split at h
      · rename_i f' hf
        cases h
        exact optPoint_benign _ _ _ hf
      · split at h
        · rename_i f' hf
          cases h
          exact optPoint_benign _ _ _ hf
        · split at h
          · rename_i f' hf
            cases h
            exact optDur_benign _ _ _ hf
          · split at h
            · cases h; trivial
            · cases h

theorem setup_spec (env : Env) (a : Args) (st : Setup) (h : setup env a = .ok st) :
    resolveMode (ctxOf a env.envCalendar env.envRef).calendar = .ok st.mode ∧ st.utc = a.utc ∧
    st.loc = env.localTZ ∧ st.ref = (ctxOf a env.envCalendar env.envRef).ref ∧ st.floatRepr = env.floatRepr ∧
    a.parseFormat = none := by
  unfold setup at h
  simp only at h
  split at h
  · cases h
  · rename_i m hm
    split at h
    · cases h
    · rename_i hpf
      cases h
      refine ⟨hm, rfl, rfl, rfl, rfl, ?_⟩
      simp only [Cli.ctxOf] at hpf
      cases hp : a.parseFormat with
      | none => rfl
      | some x => rw [hp] at hpf; simp at hpf

theorem setup_loc {env : Env} {a : Args} {st : Setup} (h : setup env a = .ok st) (hl : env.localTZ.Valid) :
    st.loc.Valid := by
  rw [(setup_spec env a st h).2.2.1]; exact hl

theorem resolveMode_error (cal : Option Str) (f : Fail) (h : resolveMode cal = .error f) :
    f = .outside .chars ∨ f = .traceback .keyError := by
  unfold resolveMode at h
  split at h
  · cases h
  · split at h
    · cases h
    · split at h
      · cases h; exact .inl rfl
      · split at h <;> cases h
        exact .inr rfl

theorem setup_error (env : Env) (a : Args) (f : Fail) (h : setup env a = .error f) :
    Benign f ∨ (f = .traceback .keyError ∧
      resolveMode (ctxOf a env.envCalendar env.envRef).calendar = .error (.traceback .keyError)) := by
  unfold setup at h
  simp only at h
  cases hm : resolveMode (ctxOf a env.envCalendar env.envRef).calendar with
  | error f' =>
    rw [hm] at h
    cases h
    rcases resolveMode_error _ _ hm with rfl | rfl
    · exact .inl trivial
    · exact .inr ⟨rfl, rfl⟩
  | ok m =>
    rw [hm] at h
    simp only at h
    split at h
    · cases h; exact .inl trivial
    · cases h

theorem cliEval_eq (env : Env) (a : Args) (st : Setup) (hv : a.version = false) (hn : a.items ≠ [['-']])
    (hst : setup env a = .ok st) : cliEval env a = evalPlan st (plan a) := by
  unfold cliEval
  simp [hv, hn, hst]

/-- The characters `Duration.__str__` writes. -/
def DurChar (c : Char) : Prop :=
  DurText.isDig c = true ∨ c ∈ ['-', ',', 'P', 'Y', 'M', 'D', 'T', 'H', 'S', 'W']

theorem intText_durChar (z : Int) : ∀ c ∈ DurText.intText z, DurChar c := by
  intro c hc
  unfold DurText.intText at hc
  split at hc
  · rcases List.mem_cons.1 hc with h | h
    · subst h; exact .inr (by decide)
    · exact .inl (IsoDT.Lemmas.DurText.natDigits_digs _ c h)
  · exact .inl (IsoDT.Lemmas.DurText.natDigits_digs _ c hc)

theorem unitPart_durChar (v : Int) (u : Char) (hu : DurChar u) : ∀ c ∈ DurText.unitPart v u, DurChar c := by
  intro c hc
  unfold DurText.unitPart at hc
  split at hc
  · rcases List.mem_append.1 hc with h | h
    · exact intText_durChar v c h
    · simp only [List.mem_cons, List.not_mem_nil, or_false] at h; subst h; exact hu
  · cases hc

theorem replaceDot_durChar (s : List Char) (h : ∀ c ∈ s, DurChar c) : ∀ c ∈ DurText.replaceDot s, DurChar c := by
  intro c hc
  unfold DurText.replaceDot at hc
  obtain ⟨x, hx, rfl⟩ := List.mem_map.1 hc
  split
  · exact .inr (by decide)
  · exact h x hx

theorem stripT_durChar (s : List Char) (h : ∀ c ∈ s, DurChar c) : ∀ c ∈ DurText.stripT s, DurChar c := by
  intro c hc
  unfold DurText.stripT at hc
  split at hc
  · exact h c (List.dropLast_subset _ hc)
  · exact h c hc

theorem toTextPos_durChar (d : Dur) : ∀ c ∈ DurText.toTextPos d, DurChar c := by
  have hl : ∀ u ∈ ['-', ',', 'P', 'Y', 'M', 'D', 'T', 'H', 'S', 'W'], DurChar u := fun u hu => .inr hu
  have up : ∀ (v : Int) (u : Char), u ∈ ['-', ',', 'P', 'Y', 'M', 'D', 'T', 'H', 'S', 'W'] →
      ∀ c ∈ DurText.unitPart v u, DurChar c := fun v u hu => unitPart_durChar v u (hl u hu)
  cases d with
  | weeks w =>
    refine replaceDot_durChar _ ?_
    simp only [List.forall_mem_cons, List.forall_mem_append]
    exact ⟨hl _ (by decide), intText_durChar w, hl _ (by decide), nofun⟩
  | units y mo d h mi s =>
    refine replaceDot_durChar _ (List.forall_mem_cons.2 ⟨hl _ (by decide), stripT_durChar _ ?_⟩)
    simp only [List.forall_mem_cons, List.forall_mem_append]
    exact ⟨⟨⟨⟨⟨up y _ (by decide), up mo _ (by decide)⟩, up d _ (by decide), hl _ (by decide), nofun⟩,
      up h _ (by decide)⟩, up mi _ (by decide)⟩, up s _ (by decide)⟩

theorem toText_durChar (d : Dur) : ∀ c ∈ DurText.toText d, DurChar c := by
  intro c hc
  unfold DurText.toText at hc
  split at hc
  · simp only [List.mem_cons, List.not_mem_nil, or_false] at hc
    rcases hc with h | h | h
    · subst h; exact .inr (by decide)
    · subst h; exact .inl (by decide)
    · subst h; exact .inr (by decide)
  · split at hc
    · rcases List.mem_cons.1 hc with h | h
      · subst h; exact .inr (by decide)
      · exact toTextPos_durChar _ c h
    · exact toTextPos_durChar _ c hc

theorem durChar_plain (c : Char) (h : DurChar c) : plainChar c = true ∧ c ≠ '\\' := by
  rcases h with h | h
  · rw [IsoDT.Lemmas.DurText.isDig_iff] at h
    refine ⟨by simp only [plainChar, Bool.and_eq_true, decide_eq_true_eq]; omega, ?_⟩
    intro e; subst e; revert h; decide
  · simp only [List.mem_cons, List.not_mem_nil, or_false] at h
    rcases h with h | h | h | h | h | h | h | h | h | h <;> subst h <;> exact ⟨by decide, by decide⟩

/-- `str(Duration)` is printable ASCII and has no backslash for `format_duration_str` to remove. -/
theorem toText_plain (D : Dur) :
    plain (DurText.toText D) = true ∧ unescape (DurText.toText D) = DurText.toText D := by
  have h := toText_durChar D
  refine ⟨?_, ?_⟩
  · unfold plain
    rw [List.all_eq_true]
    intro c hc
    exact (durChar_plain c (h c hc)).1
  · unfold unescape
    rw [List.filter_eq_self]
    intro c hc
    simpa using (durChar_plain c (h c hc)).2

theorem shiftPrint_benign (st : Setup) (i : Str) (offs : List Offset) (pf : Option Str) (f : Fail)
    (hl : st.loc.Valid) (h : shiftPrint st i offs pf = .error f) : Benign f := by
  unfold shiftPrint at h
  split at h
  · rename_i f' hf
    cases h
    exact (dateParse_fine st i hl).error hf
  · rename_i P hP
    split at h
    · rename_i f' hf
      cases h
      exact (applyOffsets_fine _ _ _ ((dateParse_fine st i hl).ok hP)).error hf
    · exact formatPoint_benign _ _ _ _ _ h

theorem diffPrint_benign (st : Setup) (i1 i2 : Str) (o1 o2 : List Offset) (pf tot : Option Str) (f : Fail)
    (hl : st.loc.Valid) (h : diffPrint st i1 i2 o1 o2 pf tot = .error f) : Benign f := by
  unfold diffPrint at h
  split at h
  · rename_i f' hf
    cases h
    exact (dateParse_fine st i1 hl).error hf
  · rename_i P1 hP1
    split at h
    · rename_i f' hf
      cases h
      exact (dateParse_fine st i2 hl).error hf
    · rename_i P2 hP2
      have o1 := applyOffsets_fine st.mode o1 P1.tp ((dateParse_fine st i1 hl).ok hP1)
      have o2 := applyOffsets_fine st.mode o2 P2.tp ((dateParse_fine st i2 hl).ok hP2)
      split at h
      · rename_i f' hf
        cases h
        exact o1.error hf
      · rename_i q1 hq1
        split at h
        · rename_i f' hf
          cases h
          exact o2.error hf
        · rename_i q2 hq2
          obtain ⟨neg, dd, hh, mm, ss, hdd, _⟩ := dateDiff_spec st.mode q1 q2
            (o1.ok hq1).1 (o2.ok hq2).1
          rw [hdd] at h
          simp only at h
          split at h
          · split at h
            · cases h; trivial
            · split at h
              · exact formatDurationStr_benign _ _ _ _ h
              · cases h
          · split at h
            · exact formatDurationStr_benign _ _ _ _ h
            · cases h

/-- A recurrence argument: the only traceback is `str()` of a point (no print format given). -/
theorem recPrint_cases (st : Setup) (i : Str) (pf : Option Str) (mx : Int) (f : Fail)
    (h : recPrint st i pf mx = .error f) :
    Benign f ∨ (f = .traceback .overflowError ∧ given pf = none) := by
  unfold recPrint at h
  split at h
  · rename_i f' hf
    cases h
    exact .inl (parseRec_benign _ _ _ hf)
  · obtain ⟨p, _, hp⟩ := mapRes_error _ _ _ h
    unfold formatRecPoint at hp
    split at hp
    · exact .inl (formatPoint_benign _ _ _ _ _ hp)
    · rename_i hg
      rcases strPoint_cases _ _ _ _ hp with h' | h'
      · exact .inl h'
      · exact .inr ⟨h', hg⟩

theorem plan_recurrence (a : Args) (i : Str) (pf : Option Str) (mx : Int) (h : plan a = .recurrence i pf mx) :
    pf = a.printFormat ∧ mx = a.maxResults := by
  unfold plan at h
  split at h
  · cases h
  · split at h
    · cases h
    · split at h
      · simp only [Plan.recurrence.injEq] at h; exact ⟨h.2.1.symm, h.2.2.symm⟩
      · split at h <;> cases h
    · cases h

/-- **No other outcome.**  Whatever the arguments and the environment, the command either prints
    lines, or fails in a way that is benign (exit with a message about the input, or an input
    outside the model), or takes one of exactly two traceback paths: an unknown calendar name (it can
    only come from `$ISODATETIMECALENDAR`: `argparse` restricts `--calendar`), or `str()` of a
    recurrence point when no print format is given (`OverflowError` for a negative year). -/
theorem cliEval_error_cases (env : Env) (a : Args) (f : Fail) (hl : env.localTZ.Valid)
    (h : cliEval env a = .error f) :
    Benign f ∨
    (f = .traceback .keyError ∧
      resolveMode (ctxOf a env.envCalendar env.envRef).calendar = .error (.traceback .keyError)) ∨
    (f = .traceback .overflowError ∧ given a.printFormat = none ∧
      ∃ i, plan a = .recurrence i a.printFormat a.maxResults) := by
  unfold cliEval at h
  split at h
  · cases h; exact .inl trivial
  · split at h
    · cases h; exact .inl trivial
    · split at h
      · rename_i f' hf
        cases h
        rcases setup_error env a _ hf with h' | h'
        · exact .inl h'
        · exact .inr (.inl h')
      · rename_i st hst
        have hloc := setup_loc hst hl
        cases hp : plan a with
        | version => rw [hp] at h; cases h; exact .inl trivial
        | shiftPrint item offs pf =>
          rw [hp] at h
          cases item with
          | none => cases h; exact .inl trivial
          | some i => exact .inl (shiftPrint_benign st i offs pf f hloc (map_error _ _ _ h))
        | diff i1 i2 o1 o2 pf tot =>
          rw [hp] at h
          exact .inl (diffPrint_benign st i1 i2 o1 o2 pf tot f hloc (map_error _ _ _ h))
        | recurrence i pf mx =>
          rw [hp] at h
          obtain ⟨e1, e2⟩ := plan_recurrence a i pf mx hp
          subst e1 e2
          rcases recPrint_cases st i _ _ f h with h' | ⟨h1, h2⟩
          · exact .inl h'
          · exact .inr (.inr ⟨h1, h2, i, rfl⟩)
        | asTotal i u =>
          rw [hp] at h
          simp only [evalPlan] at h
          split at h
          · cases h; exact .inl trivial
          · exact .inl (formatDurationStr_benign st i u f (map_error _ _ _ h))

/-! ## The dumper does not read a point's recorded format; `XTP.ofTP` of a parsed point

  The command keeps the parsed point as a whole-second `TP` and prints `XTP.ofTP ned tp` with the
  operator's own dumper; `str` of the parsed point (C07c) prints the parsed `XTP` itself.  The two
  agree: the parsed point is `XTP.ofTP` of its `TP` up to the recorded format (`ofTP_of_toTP`), and
  the dumper's output does not depend on that (`dump_meta`). -/

section dumpMeta
open IsoDT.Text IsoDT.Text.Custom
open _root_.IsoDT.Gen.Templates (timeDesignator)

theorem splitOnChar_head (c : Char) (a b : List Char) (h : c ∉ a) :
    (splitOnChar c (a ++ c :: b)).headD [] = a := by
  induction a with
  | nil => simp [splitOnChar]
  | cons x xs ih =>
    have hx : x ≠ c := fun e => h (e ▸ List.mem_cons_self ..)
    have ih := ih (fun m => h (List.mem_cons_of_mem _ m))
    simp only [List.cons_append, splitOnChar, hx, if_false]
    cases hs : splitOnChar c (xs ++ c :: b) with
    | nil => rw [hs] at ih; simpa using ih
    | cons p t => rw [hs] at ih; simpa using ih

/-- `getExpr` reads the dumper's tables only through the compiled date part (the text before the
    `T`), the time rules and the zone rules. -/
theorem getExpr_congr (d d' : DumpTables) (fmt : List Char) (ht : d.time = d'.time) (hz : d.zone = d'.zone)
    (hd : compile d.date (((splitOnChar timeDesignator fmt).headD []).map Seg.raw) =
      compile d'.date (((splitOnChar timeDesignator fmt).headD []).map Seg.raw)) :
    getExpr d fmt = getExpr d' fmt := by
  unfold getExpr
  simp only [ht, hz, hd]

/-- The fields printing never reads. -/
def setMeta (p : XTP) (tp : Option Text.TruncProp) (d : Option (List Char)) : XTP := { p with truncProp := tp, dumpFmt := d }
def core (p : XTP) : XTP := setMeta p none none

/-- Same point up to the fields printing never reads. -/
def Eqv (p q : XTP) : Prop := core p = core q

theorem withRep_meta (m : Mode) (p : XTP) (a b) (k : Nat) :
    (setMeta p a b).withRep m k = (p.withRep m k).map (setMeta · a b) := by
  unfold XTP.withRep
  have : (setMeta p a b).view m k = p.view m k := rfl
  rw [this]
  cases p.view m k with
  | none => rfl
  | some d => cases d <;> rfl

theorem repStep_meta (m : Mode) (props : List DProp) (p : XTP) (a b) :
    repStep m (setMeta p a b) props = (repStep m p props).map (setMeta · a b) := by
  simp only [repStep, withRep_meta, apply_ite (Except.map (setMeta · a b))]
  cases p.withRep m 2 <;> cases p.withRep m 0 <;> rfl

theorem toTimeZone_meta (m : Mode) (p : XTP) (a b) (z : TZ) :
    (XTP.toTimeZone m (setMeta p a b) z).map core = (XTP.toTimeZone m p z).map core := by
  unfold XTP.toTimeZone
  have h1 : (setMeta p a b).tzUnknown = p.tzUnknown := rfl
  have h2 : (setMeta p a b).tz = p.tz := rfl
  have h3 : (setMeta p a b).toTP? = p.toTP? := rfl
  rw [h1, h2, h3]
  split
  · rfl
  · cases p.toTP? with
    | none => rfl
    | some q =>
      simp only
      cases Model.toTimeZone m q z with
      | none => rfl
      | some q' => rfl

theorem finishStep_meta (m : Mode) (dt : DumpTables) (e : Expr) (p : XTP) (a b) :
    finishStep m dt (setMeta p a b) e = finishStep m dt p e := by
  unfold finishStep
  have h1 : (setMeta p a b).year = p.year := rfl
  rw [h1, show renderSegs m (setMeta p a b) e.segs = _ from renderSegs_dump m p a b e.segs]

theorem finishStep_core (m : Mode) (dt : DumpTables) (e : Expr) (p q : XTP) (h : core p = core q) :
    finishStep m dt p e = finishStep m dt q e := by
  rw [← finishStep_meta m dt e p none none, ← finishStep_meta m dt e q none none]
  exact congrArg (finishStep m dt · e) h

theorem bind_congr_of_map {ε α β γ : Type} (g : α → γ) (f : α → Except ε β)
    (hf : ∀ p q, g p = g q → f p = f q) (x y : Except ε α) (h : x.map g = y.map g) :
    x.bind f = y.bind f := by
  cases x <;> cases y <;> simp only [Except.map, Except.ok.injEq, Except.error.injEq, reduceCtorEq] at h
  · rw [h]
  · exact hf _ _ h

theorem zoneStep_meta (m : Mode) (dt : DumpTables) (e : Expr) (p : XTP) (a b) :
    ((zoneStep m (setMeta p a b) e.customTZ).bind fun p2 => finishStep m dt p2 e) =
      (zoneStep m p e.customTZ).bind fun p2 => finishStep m dt p2 e := by
  unfold zoneStep
  split
  · exact finishStep_meta _ _ _ _ _ _
  · split
    · rfl
    · exact bind_congr_of_map core _ (finishStep_core m dt e) _ _ (toTimeZone_meta m p a b _)

/-- **What the dumper prints does not depend on the recorded dump format or truncation note of the
    point.** -/
theorem dumpExpr_meta (m : Mode) (dt : DumpTables) (p : XTP) (e : Expr) (a b) :
    dumpExpr m dt (setMeta p a b) e = dumpExpr m dt p e := by
  rw [dumpExpr_steps, dumpExpr_steps, repStep_meta]
  cases repStep m p e.props with
  | error e1 => rfl
  | ok p1 => exact zoneStep_meta _ _ _ _ _ _

theorem dump_meta (m : Mode) (dt : DumpTables) (p : XTP) (fmt : List Char) (a b) :
    dump m dt (setMeta p a b) fmt = dump m dt p fmt := by
  unfold dump
  split
  · rfl
  · split
    · rfl
    · exact dumpExpr_meta _ _ _ _ _ _

/-- The date fields of a point are in exactly one representation. -/
def Canon (x : XTP) : Prop :=
  (x.month.isSome = true ∧ x.day.isSome = true ∧ x.doy = none ∧ x.week = none ∧ x.dow = none) ∨
  (x.month = none ∧ x.day = none ∧ x.doy.isSome = true ∧ x.week = none ∧ x.dow = none) ∨
  (x.month = none ∧ x.day = none ∧ x.doy = none ∧ x.week.isSome = true ∧ x.dow.isSome = true)

theorem ofTP_of_toTP (x : XTP) (tp : TP) (h : x.toTP? = some tp) (hc : Canon x) :
    XTP.ofTP x.ned tp = core x := by
  obtain ⟨ned, year, month, day, doy, week, dow, hour, minute, second, hd, md, sd, tz, unk, tr, tprop, fmt⟩ := x
  unfold XTP.toTP? at h
  split at h
  · cases h
  · rename_i hcond
    simp only [Bool.or_eq_true, not_or, Bool.not_eq_true, Option.isSome_eq_false_iff, Option.isNone_iff_eq_none] at hcond
    obtain ⟨⟨⟨⟨htr, hunk⟩, h1⟩, h2⟩, h3⟩ := hcond
    subst htr hunk h1 h2 h3
    split at h
    · rename_i dt hh mi ss hdt e1 e2 e3
      simp only at e1 e2 e3
      subst e1 e2 e3
      simp only [Option.some.injEq] at h
      subst h
      unfold XTP.date? at hdt
      simp only at hdt
      cases year with
      | none => cases hdt
      | some y =>
        simp only at hdt
        rcases hc with ⟨c1, c2, c3, c4, c5⟩ | ⟨c1, c2, c3, c4, c5⟩ | ⟨c1, c2, c3, c4, c5⟩
        all_goals simp only at c1 c2 c3 c4 c5
        · subst c3 c4 c5
          obtain ⟨mo, rfl⟩ := Option.isSome_iff_exists.mp c1
          obtain ⟨d, rfl⟩ := Option.isSome_iff_exists.mp c2
          simp only [Option.some.injEq] at hdt
          subst hdt
          rfl
        · subst c1 c2 c4 c5
          obtain ⟨n, rfl⟩ := Option.isSome_iff_exists.mp c3
          simp only [Option.some.injEq] at hdt
          subst hdt
          rfl
        · subst c1 c2 c3
          obtain ⟨w, rfl⟩ := Option.isSome_iff_exists.mp c4
          obtain ⟨d, rfl⟩ := Option.isSome_iff_exists.mp c5
          simp only [Option.some.injEq] at hdt
          subst hdt
          rfl
    · cases h

end dumpMeta

end IsoDT.Lemmas.Cli2
