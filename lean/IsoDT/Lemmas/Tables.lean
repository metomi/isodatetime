/-
  IsoDT.Lemmas.Tables — the regenerated tables coincide with the Spec tables (finite statements
  discharged by `decide`: these are the obligations that stop compiling when a table, the leap
  factors or the week reference change in the source), and the within-year facts: what the month
  walks of `Model.Calendar` do on a month table numbered from 1, by induction on the table.
-/
import IsoDT.Model.Calendar

namespace IsoDT.Lemmas
open IsoDT IsoDT.Model

theorem mode_mem_all (m : Mode) : m ∈ Mode.all := by cases m <;> simp [Mode.all]

theorem forall_fin_int {P : Int → Prop} (n : Nat) (h : ∀ k : Fin n, P (k.val : Int))
    (x : Int) (h0 : 0 ≤ x) (h1 : x < n) : P x := by
  have := h ⟨x.toNat, by omega⟩
  simpa [Int.toNat_of_nonneg h0] using this

theorem gen_leapFactors : Gen.leapFactors = [(4, true), (100, false), (400, true)] := by decide
theorem gen_weekRefCal : Gen.weekRefCal = (2000, 1, 3) := by decide
theorem gen_weekRefOrd : Gen.weekRefOrd = (2000, 3) := by decide

theorem table_eq (m : Mode) (lp : Bool) : table m lp = Spec.monthTab m lp := by
  cases m <;> cases lp <;> decide

theorem daysInWeek_eq (m : Mode) : (calOf m).daysInWeek = 7 := by cases m <;> decide
theorem monthsInYear_eq (m : Mode) : (calOf m).monthsInYear = 12 := by cases m <;> decide
theorem secondsInMinute_eq (m : Mode) : (calOf m).secondsInMinute = 60 := by cases m <;> decide
theorem minutesInHour_eq (m : Mode) : (calOf m).minutesInHour = 60 := by cases m <;> decide
theorem hoursInDay_eq (m : Mode) : (calOf m).hoursInDay = 24 := by cases m <;> decide
theorem secondsInHour_eq (m : Mode) : (calOf m).secondsInHour = 3600 := by cases m <;> decide
theorem secondsInDay_eq (m : Mode) : (calOf m).secondsInDay = 86400 := by cases m <;> decide

theorem daysInYearRec_eq (m : Mode) :
    (calOf m).daysInYear = Spec.yearLenB m false ∧ (calOf m).daysInYearLeap = Spec.yearLenB m true := by
  cases m <;> decide

theorem yearLenB_vals (m : Mode) (lp : Bool) :
    Spec.yearLenB m lp =
      match m, lp with
      | .greg, false => 365 | .greg, true => 366
      | .d360, _ => 360 | .d365, _ => 365 | .d366, _ => 366 := by
  cases m <;> cases lp <;> decide

theorem yearLenB_bounds (m : Mode) (lp : Bool) : 360 ≤ Spec.yearLenB m lp ∧ Spec.yearLenB m lp ≤ 366 := by
  cases m <;> cases lp <;> decide

theorem monthTab_fixed (m : Mode) (h : m ≠ .greg) (a b : Bool) : Spec.monthTab m a = Spec.monthTab m b := by
  cases m <;> simp_all [Spec.monthTab]

theorem dbmB_one (m : Mode) (lp : Bool) : Spec.dbmB m lp 1 = 0 := rfl
theorem dbmB_thirteen (m : Mode) (lp : Bool) : Spec.dbmB m lp 13 = Spec.yearLenB m lp := by
  cases m <;> cases lp <;> decide

theorem dbmB_twelve (m : Mode) (lp : Bool) :
    Spec.dbmB m lp 12 + Spec.monthLenB m lp 12 = Spec.yearLenB m lp := by
  cases m <;> cases lp <;> decide

theorem monthTab_length (m : Mode) (lp : Bool) : (Spec.monthTab m lp).length = 12 := by
  cases m <;> cases lp <;> rfl

theorem monthTab_entries (m : Mode) (lp : Bool) : ∀ x ∈ Spec.monthTab m lp, 28 ≤ x ∧ x ≤ 31 := by
  cases m <;> cases lp <;> decide

theorem monthLenB_mem (m : Mode) (lp : Bool) (mo : Int) (h1 : 1 ≤ mo) (h2 : mo ≤ 12) :
    Spec.monthLenB m lp mo ∈ Spec.monthTab m lp := by
  have hl : (mo - 1).toNat < (Spec.monthTab m lp).length := by rw [monthTab_length]; omega
  unfold Spec.monthLenB
  rw [if_pos h1, List.getD_eq_getElem?_getD, List.getElem?_eq_getElem hl, Option.getD_some]
  exact List.getElem_mem hl

theorem monthLenB_bounds (m : Mode) (lp : Bool) (mo : Int) (h1 : 1 ≤ mo) (h2 : mo ≤ 12) :
    28 ≤ Spec.monthLenB m lp mo ∧ Spec.monthLenB m lp mo ≤ 31 :=
  monthTab_entries m lp _ (monthLenB_mem m lp mo h1 h2)

theorem foldl_add (l : List Int) (a : Int) : l.foldl (· + ·) a = a + Spec.sumL l := by
  induction l generalizing a with
  | nil => simp [Spec.sumL]
  | cons x l ih => rw [Spec.sumL, List.foldl_cons, List.foldl_cons, ih, ih (0 + x)]; omega

theorem sumL_cons (x : Int) (l : List Int) : Spec.sumL (x :: l) = x + Spec.sumL l := by
  rw [Spec.sumL, List.foldl_cons, foldl_add]; omega

theorem sumL_take_succ (l : List Int) (n : Nat) :
    Spec.sumL (l.take (n + 1)) = Spec.sumL (l.take n) + l.getD n 0 := by
  induction l generalizing n with
  | nil => simp [Spec.sumL]
  | cons x l ih =>
    cases n with
    | zero => simp [Spec.sumL]
    | succ n => simp only [List.take_succ_cons, sumL_cons, ih, List.getD_cons_succ]; omega

theorem sumL_take_mono (l : List Int) (h : ∀ x ∈ l, 0 ≤ x) (a b : Nat) (hab : a ≤ b) :
    Spec.sumL (l.take a) ≤ Spec.sumL (l.take b) := by
  induction hab with
  | refl => exact Int.le_refl _
  | @step b _ ih =>
    have : 0 ≤ l.getD b 0 := by
      rw [List.getD_eq_getElem?_getD]
      cases hb : l[b]? with
      | none => simp
      | some x => exact h x (List.mem_of_getElem? hb)
    rw [sumL_take_succ]; omega

theorem sumL_take_nonneg (l : List Int) (hnn : ∀ x ∈ l, 0 ≤ x) (n : Nat) : 0 ≤ Spec.sumL (l.take n) :=
  sumL_take_mono l hnn 0 n (Nat.zero_le _)

theorem dbmB_succ (m : Mode) (lp : Bool) (mo : Int) (h1 : 1 ≤ mo) (h2 : mo ≤ 12) :
    Spec.dbmB m lp (mo + 1) = Spec.dbmB m lp mo + Spec.monthLenB m lp mo := by
  unfold Spec.dbmB Spec.monthLenB
  rw [if_pos h1, show (mo + 1 - 1).toNat = (mo - 1).toNat + 1 by omega, sumL_take_succ]

theorem dbmB_le (m : Mode) (lp : Bool) (a b : Int) (h : a ≤ b) : Spec.dbmB m lp a ≤ Spec.dbmB m lp b :=
  sumL_take_mono _ (fun x hx => by have := monthTab_entries m lp x hx; omega) _ _ (by omega)

theorem dbmB_mono (m : Mode) (lp : Bool) (a b : Int) (h1 : 1 ≤ a) (h2 : a < b) (h3 : b ≤ 12) :
    Spec.dbmB m lp a + Spec.monthLenB m lp a ≤ Spec.dbmB m lp b := by
  rw [← dbmB_succ m lp a h1 (by omega)]; exact dbmB_le m lp _ _ (by omega)

theorem dbmB_range (m : Mode) (lp : Bool) (a : Int) (h1 : 1 ≤ a) (h2 : a ≤ 12) :
    0 ≤ Spec.dbmB m lp a ∧ Spec.dbmB m lp a + Spec.monthLenB m lp a ≤ Spec.yearLenB m lp := by
  have := dbmB_le m lp 1 a h1
  have := dbmB_le m lp (a + 1) 13 (by omega)
  rw [dbmB_one] at *
  rw [dbmB_thirteen, dbmB_succ m lp a h1 h2] at *
  omega

/-- A month table with its months numbered from `k`: the shape of
    `CALENDAR.INDEXED_DAYS_IN_MONTHS` (`k = 1`). -/
def number (k : Int) : List Int → List (Int × Int)
  | [] => []
  | x :: l => (k, x) :: number (k + 1) l

theorem indexed_eq (m : Mode) (lp : Bool) : indexed m lp = number 1 (Spec.monthTab m lp) := by
  cases m <;> cases lp <;> rfl

theorem le_of_mem_number (l : List Int) (k : Int) (p : Int × Int) (h : p ∈ number k l) :
    k ≤ p.1 ∧ p.2 ∈ l := by
  induction l generalizing k with
  | nil => simp [number] at h
  | cons x l ih =>
    rcases List.mem_cons.mp h with h | h
    · subst h; exact ⟨Int.le_refl _, by simp⟩
    · have := ih (k + 1) h
      exact ⟨by omega, List.mem_cons_of_mem _ this.2⟩

theorem posOf_number (l : List Int) (k mo d : Int) :
    posOf (number k l) mo d =
      if k ≤ mo ∧ mo < k + l.length ∧ 1 ≤ d ∧ d ≤ l.getD (mo - k).toNat 0 then
        some (Spec.sumL (l.take (mo - k).toNat) + d)
      else none := by
  induction l generalizing k with
  | nil => rw [number, posOf, if_neg (by simp only [List.length_nil]; omega)]
  | cons x l ih =>
    simp only [number, posOf, ih, List.length_cons]
    by_cases h : k = mo
    · subst h
      have c : k ≤ k ∧ k < k + ((l.length + 1 : Nat) : Int) := by omega
      simp only [Int.sub_self, Int.toNat_zero, c, true_and, ↓reduceIte, List.getD_cons_zero, List.take_zero,
        Spec.sumL, List.foldl_nil, Int.zero_add]
    · simp only [h, ↓reduceIte]
      by_cases h' : k < mo
      · have e : (mo - k).toNat = (mo - (k + 1)).toNat + 1 := by omega
        have c : (k + 1 ≤ mo ∧ mo < k + 1 + (l.length : Int)) ↔
            (k ≤ mo ∧ mo < k + ((l.length + 1 : Nat) : Int)) := by omega
        simp only [e, List.getD_cons_succ, List.take_succ_cons, sumL_cons, ← and_assoc, c]
        split
        · simp only [Option.map_some]; congr 1; omega
        · rfl
      · have c1 : ¬ k + 1 ≤ mo := by omega
        have c2 : ¬ k ≤ mo := by omega
        simp only [c1, c2, false_and, ↓reduceIte, Option.map_none]

theorem walkFwd_number (l : List Int) (k doy : Int) (h1 : 1 ≤ doy) (h2 : doy ≤ Spec.sumL l) :
    ∃ mo d, walkFwd (number k l) doy = some (mo, d) ∧ k ≤ mo ∧ mo < k + l.length ∧ 1 ≤ d ∧
      d ≤ l.getD (mo - k).toNat 0 ∧ Spec.sumL (l.take (mo - k).toNat) + d = doy := by
  induction l generalizing k doy with
  | nil => simp only [Spec.sumL, List.foldl_nil] at h2; omega
  | cons x l ih =>
    simp only [number, walkFwd, List.length_cons]
    by_cases c : doy ≤ x
    · refine ⟨k, doy, by simp only [c, h1, ↓reduceIte], by omega, by omega, h1, ?_, ?_⟩
      all_goals simp [Spec.sumL, c]
    · rw [sumL_cons] at h2
      obtain ⟨mo, d, he, g1, g2, g3, g4, g5⟩ := ih (k + 1) (doy - x) (by omega) (by omega)
      have e : (mo - k).toNat = (mo - (k + 1)).toNat + 1 := by omega
      refine ⟨mo, d, by simp only [c, ↓reduceIte, he], by omega, by omega, g3, ?_, ?_⟩
      · rw [e, List.getD_cons_succ]; exact g4
      · rw [e, List.take_succ_cons, sumL_cons]; omega

theorem posOf_of_walkFwd (l : List Int) (k n mo d : Int) (h1 : 1 ≤ n) (h2 : n ≤ Spec.sumL l)
    (h : walkFwd (number k l) n = some (mo, d)) : posOf (number k l) mo d = some n := by
  obtain ⟨mo', d', he, g1, g2, g3, g4, g5⟩ := walkFwd_number l k n h1 h2
  rw [h] at he
  cases he
  rw [posOf_number, if_pos ⟨g1, g2, g3, g4⟩, g5]

/-- `posOf` (the walk of `get_ordinal_date_from_calendar_date`): the day of the year of a valid
    calendar date, `none` for anything else. -/
theorem posOf_indexed (m : Mode) (lp : Bool) (mo d : Int) :
    posOf (indexed m lp) mo d =
      if 1 ≤ mo ∧ mo ≤ 12 ∧ 1 ≤ d ∧ d ≤ Spec.monthLenB m lp mo then some (Spec.dbmB m lp mo + d)
      else none := by
  rw [indexed_eq, posOf_number, monthTab_length]
  unfold Spec.monthLenB Spec.dbmB
  by_cases h : 1 ≤ mo
  · have c : mo < 1 + ((12 : Nat) : Int) ↔ mo ≤ 12 := by omega
    simp only [h, c, true_and, ↓reduceIte]
  · simp only [h, false_and, ↓reduceIte]

/-- `posOf` refuses anything that is not a valid calendar date. -/
def posOfNoneOk (m : Mode) (lp : Bool) (mo d : Int) : Bool :=
  if 1 ≤ mo ∧ mo ≤ 12 ∧ 1 ≤ d ∧ d ≤ Spec.monthLenB m lp mo then true
  else posOf (indexed m lp) mo d == none

theorem posOfNone_fin : ∀ m ∈ Mode.all, ∀ lp : Bool, ∀ mo : Fin 14, ∀ d : Fin 33,
    posOfNoneOk m lp mo.val d.val = true := by
  intro m _ lp mo d
  unfold posOfNoneOk
  rw [posOf_indexed]
  split <;> rfl

/-- `walkFwd` (the walk of `get_calendar_date_from_ordinal_date`) on a valid ordinal day. -/
theorem walkFwd_spec (m : Mode) (lp : Bool) (doy : Int) (h1 : 1 ≤ doy) (h2 : doy ≤ Spec.yearLenB m lp) :
    ∃ mo d, walkFwd (indexed m lp) doy = some (mo, d) ∧ 1 ≤ mo ∧ mo ≤ 12 ∧ 1 ≤ d ∧
      d ≤ Spec.monthLenB m lp mo ∧ Spec.dbmB m lp mo + d = doy := by
  obtain ⟨mo, d, he, g1, g2, g3, g4, g5⟩ := walkFwd_number (Spec.monthTab m lp) 1 doy h1 h2
  rw [monthTab_length] at g2
  refine ⟨mo, d, by rw [indexed_eq]; exact he, g1, by omega, g3, ?_, g5⟩
  unfold Spec.monthLenB; rw [if_pos g1]; exact g4

theorem indexed_reverse (m : Mode) (lp : Bool) :
    ∃ rest, (indexed m lp).reverse = (12, Spec.monthLenB m lp 12) :: rest := by
  cases m <;> cases lp <;> exact ⟨_, rfl⟩

/-- The reverse walk used by the week-start routine: `k`-th day from the end of the year. -/
theorem walkRev_spec (m : Mode) (lp : Bool) (k : Int) (h1 : 1 ≤ k) (h2 : k ≤ 3) :
    walkRev (indexed m lp).reverse k = some (12, Spec.monthLenB m lp 12 - k + 1) := by
  obtain ⟨rest, hr⟩ := indexed_reverse m lp
  have := monthLenB_bounds m lp 12 (by omega) (by omega)
  have c : k ≤ Spec.monthLenB m lp 12 := by omega
  rw [hr, walkRev, if_pos c, if_pos h1]

end IsoDT.Lemmas
