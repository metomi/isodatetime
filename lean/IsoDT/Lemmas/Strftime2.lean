/-
  IsoDT.Lemmas.Strftime2

  Part 1 (`namespace IsoDT.Spec.Posix`, specification, meant to be read): formats over the supported
  directives, `%%` and literal text, under POSIX tokenisation (`parseFmt2`: `%%` is ONE item); their
  POSIX text (`posix2`: `%%` prints one `%`); and the side condition under which the library reads such
  a format as POSIX does (`pctSafe`: no `%%` directly followed by a letter, digit, underscore or
  non-ASCII character — the library's splitter pairs a `%` with the character AFTER it, so the second
  `%` of `%%Y` starts the directive `%Y`).

  Part 2 (`namespace IsoDT.Lemmas.Strf2`): the extended model (`Model/Strftime2.lean`, with the final
  `expression % property_map`) against part 1.
-/
import IsoDT.Model.Strftime2
import IsoDT.Lemmas.Strftime

/-! # Part 1 — specification -/

namespace IsoDT.Spec.Posix
open IsoDT IsoDT.Spec

inductive FItem2 where
  | lit (c : Char)     -- an ordinary character (never `%`)
  | pct                -- `%%`
  | conv (dir : Dir)   -- one of the eleven supported conversions
  deriving DecidableEq, Repr

/-- POSIX reading of a format string over the supported directives, `%%` and literal text: a `%` is
    always followed by `%` or by one of the eleven letters; everything else is literal. -/
def parseFmt2 : List Char → Option (List FItem2)
  | [] => some []
  | [c] => if c = '%' then none else some [.lit c]
  | c :: c' :: rest =>
    if c = '%' then
      if c' = '%' then (parseFmt2 rest).map fun r => .pct :: r
      else
        match Dir.ofChar c' with
        | some dir => (parseFmt2 rest).map fun r => .conv dir :: r
        | none => none
    else (parseFmt2 (c' :: rest)).map fun r => .lit c :: r

def itemText2 (c : Civil) : FItem2 → List Char
  | .lit ch => [ch]
  | .pct => ['%']
  | .conv dir => field c dir

/-- POSIX `strftime` of a whole format: literal characters as themselves, `%%` as one `%`. -/
def posix2 (c : Civil) (items : List FItem2) : List Char := items.flatMap (itemText2 c)

def fieldsOf2 : List FItem2 → List SField
  | [] => []
  | .lit _ :: r => fieldsOf2 r
  | .pct :: r => fieldsOf2 r
  | .conv dir :: r => dir.fields ++ fieldsOf2 r

/-- A letter, digit or underscore (Python's `\w` on ASCII), or any non-ASCII character (where `\w`
    depends on the Unicode tables). -/
def wordLike (c : Char) : Bool := c.isAlphanum || c == '_' || decide (128 ≤ c.toNat)

def headWordLike : List FItem2 → Bool
  | .lit c :: _ => wordLike c
  | _ => false

/-- No `%%` is directly followed by a literal letter, digit, underscore or non-ASCII character. -/
def pctSafe : List FItem2 → Bool
  | [] => true
  | .pct :: r => !headWordLike r && pctSafe r
  | _ :: r => pctSafe r

/-- The same format without the distinction (`%%` as the literal character it prints), for the
    theorems of `Props/C17.lean`. -/
def FItem2.toItem : FItem2 → FItem
  | .lit c => .lit c
  | .pct => .lit '%'
  | .conv dir => .conv dir

end IsoDT.Spec.Posix

/-! # Part 2 — the model against the specification -/

namespace IsoDT.Lemmas.Strf2
open IsoDT IsoDT.Model IsoDT.Model.Strf IsoDT.Model.Strf2 IsoDT.Lemmas IsoDT.Lemmas.Strf
open IsoDT.Spec (Date TZ TP)
open IsoDT.Spec.Posix
open IsoDT.Gen.Strftime (Fld Fmt Pat Cls Piece fmtOf patOf clsOf propName)

/-! ### the two readings of a format coincide on `%%`-free formats -/

theorem posix_toItem (c : Civil) (items : List FItem2) :
    posix c (items.map FItem2.toItem) = posix2 c items := by
  induction items with
  | nil => rfl
  | cons it r ih =>
    simp only [posix, posix2, List.map_cons, List.flatMap_cons] at ih ⊢
    rw [ih]
    cases it <;> rfl

theorem fieldsOf_toItem (items : List FItem2) : fieldsOf (items.map FItem2.toItem) = fieldsOf2 items := by
  induction items with
  | nil => rfl
  | cons it r ih => cases it <;> simp [fieldsOf, fieldsOf2, FItem2.toItem, ih]

theorem parseFmt2_induct {P : List Char → List FItem2 → Prop} (nil : P [] [])
    (lit : ∀ c rest r, c ≠ '%' → parseFmt2 rest = some r → P rest r → P (c :: rest) (.lit c :: r))
    (pct : ∀ rest r, parseFmt2 rest = some r → P rest r → P ('%' :: '%' :: rest) (.pct :: r))
    (conv : ∀ dir rest r, parseFmt2 rest = some r → P rest r → P ('%' :: dir.toChar :: rest) (.conv dir :: r))
    (fmt : List Char) (items : List FItem2) (h : parseFmt2 fmt = some items) : P fmt items := by
  induction fmt using parseFmt2.induct generalizing items with
  | case1 => cases h; exact nil
  | case2 => simp [parseFmt2] at h
  | case3 c hc =>
    simp only [parseFmt2, hc, ↓reduceIte, Option.some.injEq] at h
    subst h
    exact lit c [] [] hc rfl nil
  | case4 rest ih =>
    simp only [parseFmt2, ↓reduceIte] at h
    obtain ⟨r, hr, rfl⟩ := Option.map_eq_some_iff.mp h
    exact pct rest r hr (ih r hr)
  | case5 c' rest hc' dir hdir ih =>
    simp only [parseFmt2, ↓reduceIte, hc', hdir] at h
    obtain ⟨r, hr, rfl⟩ := Option.map_eq_some_iff.mp h
    exact ofChar_some c' dir hdir ▸ conv dir rest r hr (ih r hr)
  | case6 c' rest hc' hdir => simp [parseFmt2, hc', hdir] at h
  | case7 c c' rest hc ih =>
    simp only [parseFmt2, hc, ↓reduceIte] at h
    obtain ⟨r, hr, rfl⟩ := Option.map_eq_some_iff.mp h
    exact lit c _ r hc hr (ih r hr)

theorem pctSafe_of_no_pct (items : List FItem2) (h : FItem2.pct ∉ items) : pctSafe items = true := by
  induction items with
  | nil => rfl
  | cons it r ih =>
    have := ih (fun hm => h (by simp [hm]))
    cases it with
    | lit c => simpa [pctSafe] using this
    | pct => simp at h
    | conv dir => simpa [pctSafe] using this

theorem parseFmt_of_parseFmt2 (fmt : List Char) (items : List FItem2) (h : parseFmt2 fmt = some items) :
    FItem2.pct ∉ items → parseFmt fmt = some (items.map FItem2.toItem) := by
  apply parseFmt2_induct _ _ _ _ fmt items h
  · exact fun _ => rfl
  · intro c rest r hc _ ih hp
    rw [parseFmt_lit c rest hc, ih (fun hm => hp (List.mem_cons_of_mem _ hm))]
    rfl
  · intro rest r _ _ hp
    exact absurd List.mem_cons_self hp
  · intro dir rest r _ ih hp
    rw [parseFmt_conv, ih (fun hm => hp (List.mem_cons_of_mem _ hm))]
    rfl

/-! ### the splitter on `%%` -/

def pieces2 : FItem2 → List Piece
  | .lit c => [.lit c]
  | .pct => [.lit '%', .lit '%']
  | .conv dir => piecesOf dir

def piecesOfItems2 (items : List FItem2) : List Piece := items.flatMap pieces2

def headCharWL : List Char → Bool
  | d :: _ => wordLike d
  | [] => false

theorem wordLike_percent : wordLike '%' = false := by decide

theorem head_parse (s : List Char) (items : List FItem2) (h : parseFmt2 s = some items) :
    headWordLike items = headCharWL s := by
  apply parseFmt2_induct _ _ _ _ s items h
  · rfl
  · exact fun _ _ _ _ _ _ => rfl
  · exact fun _ _ _ _ => wordLike_percent.symm
  · exact fun _ _ _ _ _ => wordLike_percent.symm

theorem isWord_wordLike (d : Char) (h : wordLike d = false) : isWord d = false ∧ d.toNat < 128 := by
  simp only [wordLike, Bool.or_eq_false_iff, decide_eq_false_iff_not] at h
  refine ⟨?_, by omega⟩
  simp only [isWord, Bool.or_eq_false_iff]
  exact h.1

theorem scan_pct (rest : List Char) (h : headCharWL rest = false) : scan ('%' :: rest) = .ch '%' :: scan rest := by
  cases rest with
  | nil => rfl
  | cons d r => simp only [scan, (isWord_wordLike d h).1, Bool.false_eq_true, and_false, ↓reduceIte]

theorem headCharWL_append (a b : List Char) (ha : headCharWL a = false) (hb : headCharWL b = false) :
    headCharWL (a ++ b) = false := by
  cases a
  · exact hb
  · exact ha

theorem nonAscii_skip (c : Char) (rest : List Char) (h : c ≠ '%') :
    nonAsciiAfterPct (c :: rest) = nonAsciiAfterPct rest := by
  cases rest with
  | nil => rfl
  | cons d r =>
    have : (c == '%') = false := by simpa using h
    simp [nonAsciiAfterPct, this]

theorem nonAscii_pct (rest : List Char) (h : headCharWL rest = false) :
    nonAsciiAfterPct ('%' :: rest) = nonAsciiAfterPct rest := by
  cases rest with
  | nil => rfl
  | cons d r => simp [nonAsciiAfterPct, Nat.not_le.mpr (isWord_wordLike d h).2]

theorem toChar_ascii (dir : Dir) : dir.toChar.toNat < 128 := by cases dir <;> decide

/-- On a format over the supported directives, `%%` and literal text in which no `%%` runs into a
    following word character, the library's splitter and table produce the POSIX reading, `%%` as two
    literal `%` pieces. -/
theorem translate_scan2 (fmt : List Char) (items : List FItem2) (h : parseFmt2 fmt = some items) :
    pctSafe items = true →
      translate (scan fmt) = .ok (piecesOfItems2 items) ∧ nonAsciiAfterPct fmt = false := by
  apply parseFmt2_induct _ _ _ _ fmt items h
  · exact fun _ => ⟨rfl, rfl⟩
  · intro c rest r hc _ ih hs
    obtain ⟨ih1, ih2⟩ := ih hs
    exact ⟨by rw [scan_ch c rest hc, translate, ih1]; rfl, by rw [nonAscii_skip c rest hc, ih2]⟩
  · intro rest r hr ih hs
    simp only [pctSafe, Bool.and_eq_true, Bool.not_eq_true'] at hs
    obtain ⟨ih1, ih2⟩ := ih hs.2
    have hd : headCharWL rest = false := by rw [← head_parse rest r hr]; exact hs.1
    constructor
    · rw [scan_pct ('%' :: rest) wordLike_percent, scan_pct rest hd, translate, translate, ih1]
      rfl
    · rw [nonAscii_pct ('%' :: rest) wordLike_percent, nonAscii_pct rest hd, ih2]
  · intro dir rest r _ ih hs
    obtain ⟨ih1, ih2⟩ := ih hs
    constructor
    · rw [scan_dir _ rest (isWord_toChar dir), translate, lookupDir_toChar, ih1]
      rfl
    · have e : nonAsciiAfterPct ('%' :: dir.toChar :: rest) = nonAsciiAfterPct (dir.toChar :: rest) := by
        simp [nonAsciiAfterPct, Nat.not_le.mpr (toChar_ascii dir)]
      rw [e, nonAscii_skip _ rest (toChar_ne_percent dir), ih2]

/-! ### `expression % property_map` on the translated pieces -/

theorem run_lit (env : List (List Char × Val)) (sp : Bool) (c : Char) (rest : List Char) (h : c ≠ '%') :
    run env (.text sp) (c :: rest) = prepend [c] (run env (.text sp) rest) := by
  simp only [run, h, ↓reduceIte]

theorem run_pctpct (env : List (List Char × Val)) (sp : Bool) (rest : List Char) :
    run env (.text sp) ('%' :: '%' :: rest) = prepend ['%'] (run env (.text sp) rest) := by
  simp only [run, ↓reduceIte]

theorem run_key (env : List (List Char × Val)) (sp : Bool) (ks : List Char)
    (hk : ∀ c ∈ ks, c ≠ '(' ∧ c ≠ ')') (acc rest : List Char) :
    run env (.key sp 0 acc) (ks ++ ')' :: rest) =
      match env.lookup (acc ++ ks) with
      | none => .error .key
      | some v => run env (.spec sp .flags (Spec.start (some v))) rest := by
  induction ks generalizing acc with
  | nil =>
    simp only [List.nil_append, run, ↓reduceIte, List.append_nil]
    cases List.lookup acc env <;> rfl
  | cons k ks ih =>
    have hk1 := hk k (by simp)
    simp only [List.cons_append, run, hk1.1, hk1.2, ↓reduceIte]
    rw [ih (fun c hc => hk c (by simp [hc]))]
    simp

theorem propName_noparen (f : Fld) : ∀ c ∈ (propName f).toList, c ≠ '(' ∧ c ≠ ')' :=
  (by decide +kernel : ∀ f ∈ allFlds, ∀ c ∈ (propName f).toList, c ≠ '(' ∧ c ≠ ')') f (mem_allFlds f)

theorem tmpl_append (f : Fld) (rest : List Char) :
    tmpl f ++ rest = '%' :: '(' :: ((propName f).toList ++ ')' ::
      (fmtSuffix (fmtOf f) ++ rest)) := by
  simp [tmpl]

/-- The interpreter on the shapes of template the table has: `0Nd` (N = 2, 3) of a number, `s` of a text. -/
theorem run_fmt (env : List (List Char × Val)) (sp : Bool) (rest : List Char) (fmt : Fmt) (v : Val)
    (h : (∃ n, v = .int n ∧ (fmt = .zeroPad 2 ∨ fmt = .zeroPad 3)) ∨ ∃ t, v = .text t ∧ fmt = .str) :
    run env (.spec sp .flags (Spec.start (some v))) (fmtSuffix fmt ++ rest) =
      prepend (fmtVal fmt v) (run env (.text true) rest) := by
  rcases h with ⟨n, rfl, rfl | rfl⟩ | ⟨t, rfl, rfl⟩ <;>
    simp [fmtSuffix, showNat, Strf.dch, run, specStep, finish, Spec.start, isDigitC, isLenMod, fmtVal, parseNat,
      widthMax]

theorem run_tmpl (env : List (List Char × Val)) (sp : Bool) (c : DumpCtx) (f : Fld) (rest : List Char)
    (hl : env.lookup (propName f).toList = some (fldVal c f)) :
    run env (.text sp) (tmpl f ++ rest) = prepend (renderPiece c (.fld f)) (run env (.text true) rest) := by
  rw [tmpl_append]
  simp only [run, ↓reduceIte]
  have h1 : ('(' : Char) ≠ '%' := by decide
  simp only [h1, ↓reduceIte]
  rw [run_key env sp _ (propName_noparen f) [] _, List.nil_append, hl]
  apply run_fmt
  cases f
  case dayOfYear => exact Or.inl ⟨_, rfl, Or.inr rfl⟩
  case tzSign | unix => exact Or.inr ⟨_, rfl, rfl⟩
  all_goals exact Or.inl ⟨_, rfl, Or.inl rfl⟩

theorem prepend_nil (x : Except FErr (List Char)) : prepend [] x = x := by cases x <;> rfl

theorem prepend_prepend (a b : List Char) (x : Except FErr (List Char)) :
    prepend a (prepend b x) = prepend (a ++ b) x := by
  cases x <;> simp [prepend]

/-- Does the piece list name a property (so that formatting it fetches an argument)? -/
def hasFld (ps : List Piece) : Bool := !(fldsOf ps).isEmpty

theorem hasFld_append (a b : List Piece) : hasFld (a ++ b) = (hasFld a || hasFld b) := by
  simp only [hasFld, fldsOf_append]
  cases fldsOf a <;> cases fldsOf b <;> rfl

theorem exprOf_append (a b : List Piece) : exprOf (a ++ b) = exprOf a ++ exprOf b := by
  simp [exprOf]

theorem run_pieces (env : List (List Char × Val)) (c : DumpCtx) (qs : List Piece) (hq : Piece.lit '%' ∉ qs)
    (henv : ∀ f ∈ fldsOf qs, env.lookup (propName f).toList = some (fldVal c f)) (sp : Bool)
    (rest : List Char) :
    run env (.text sp) (exprOf qs ++ rest) =
      prepend (renderPieces c qs) (run env (.text (sp || hasFld qs)) rest) := by
  induction qs generalizing sp with
  | nil => simp [exprOf, renderPieces, hasFld, fldsOf, prepend_nil]
  | cons q qs ih =>
    have hq' : Piece.lit '%' ∉ qs := fun h => hq (by simp [h])
    cases q with
    | lit ch =>
      have hch : ch ≠ '%' := fun e => hq (by simp [e])
      have e : exprOf (.lit ch :: qs) ++ rest = ch :: (exprOf qs ++ rest) := by simp [exprOf, pieceExpr]
      rw [e, run_lit env sp ch _ hch, ih hq' (fun f hf => henv f (by simpa [fldsOf] using hf)), prepend_prepend]
      simp [renderPieces, renderPiece, hasFld, fldsOf]
    | fld f =>
      have e : exprOf (.fld f :: qs) ++ rest = tmpl f ++ (exprOf qs ++ rest) := by simp [exprOf, pieceExpr]
      rw [e, run_tmpl env sp c f _ (henv f (by simp [fldsOf])),
        ih hq' (fun g hg => henv g (by simp [fldsOf, hg])), prepend_prepend]
      simp [renderPieces, hasFld, fldsOf]

theorem piecesOfItems2_cons (it : FItem2) (r : List FItem2) :
    piecesOfItems2 (it :: r) = pieces2 it ++ piecesOfItems2 r := by simp [piecesOfItems2]

theorem hasFld_items (items : List FItem2) : hasFld (piecesOfItems2 items) = !(fieldsOf2 items).isEmpty := by
  induction items with
  | nil => rfl
  | cons it r ih =>
    rw [piecesOfItems2_cons, hasFld_append]
    cases it with
    | lit ch => simpa [pieces2, hasFld, fldsOf, fieldsOf2] using ih
    | pct => simpa [pieces2, hasFld, fldsOf, fieldsOf2] using ih
    | conv dir => cases dir <;> simp [pieces2, hasFld, fldsOf, piecesOf, fieldsOf2, Dir.fields]

theorem run_items (env : List (List Char × Val)) (ctx : DumpCtx) (civ : Civil) (items : List FItem2)
    (henv : ∀ f ∈ fldsOf (piecesOfItems2 items), env.lookup (propName f).toList = some (fldVal ctx f))
    (hr : ∀ dir, FItem2.conv dir ∈ items → renderPieces ctx (piecesOf dir) = field civ dir)
    (hl : ∀ ch, FItem2.lit ch ∈ items → ch ≠ '%') (sp : Bool) (rest : List Char) :
    run env (.text sp) (exprOf (piecesOfItems2 items) ++ rest) =
      prepend (posix2 civ items) (run env (.text (sp || hasFld (piecesOfItems2 items))) rest) := by
  induction items generalizing sp with
  | nil => simp [piecesOfItems2, exprOf, posix2, hasFld, fldsOf, prepend_nil]
  | cons it r ih =>
    have henv' : ∀ f ∈ fldsOf (piecesOfItems2 r), env.lookup (propName f).toList = some (fldVal ctx f) :=
      fun f hf => henv f (by rw [piecesOfItems2_cons, fldsOf_append]; simp [hf])
    have hr' : ∀ dir, FItem2.conv dir ∈ r → renderPieces ctx (piecesOf dir) = field civ dir :=
      fun dir hd => hr dir (by simp [hd])
    have hl' : ∀ ch, FItem2.lit ch ∈ r → ch ≠ '%' := fun ch hd => hl ch (by simp [hd])
    rw [piecesOfItems2_cons, exprOf_append, List.append_assoc, hasFld_append]
    have hp : posix2 civ (it :: r) = itemText2 civ it ++ posix2 civ r := by simp [posix2]
    rw [hp]
    cases it with
    | lit ch =>
      have e : exprOf (pieces2 (.lit ch)) ++ (exprOf (piecesOfItems2 r) ++ rest) =
          ch :: (exprOf (piecesOfItems2 r) ++ rest) := by simp [exprOf, pieces2, pieceExpr]
      rw [e, run_lit env sp ch _ (hl ch (by simp)), ih henv' hr' hl', prepend_prepend]
      simp [itemText2, hasFld, pieces2, fldsOf]
    | pct =>
      have e : exprOf (pieces2 .pct) ++ (exprOf (piecesOfItems2 r) ++ rest) =
          '%' :: '%' :: (exprOf (piecesOfItems2 r) ++ rest) := by simp [exprOf, pieces2, pieceExpr]
      rw [e, run_pctpct, ih henv' hr' hl', prepend_prepend]
      simp [itemText2, hasFld, pieces2, fldsOf]
    | conv dir =>
      have henv1 : ∀ f ∈ fldsOf (piecesOf dir), env.lookup (propName f).toList = some (fldVal ctx f) :=
        fun f hf => henv f (by rw [piecesOfItems2_cons, fldsOf_append]; simp [pieces2, hf])
      rw [show pieces2 (.conv dir) = piecesOf dir from rfl,
        run_pieces env ctx (piecesOf dir) (piecesOf_no_pct dir) henv1, ih henv' hr' hl', prepend_prepend,
        hr dir (by simp), Bool.or_assoc]
      rfl

theorem lit_ne_pct (fmt : List Char) (items : List FItem2) (h : parseFmt2 fmt = some items) :
    ∀ ch, FItem2.lit ch ∈ items → ch ≠ '%' := by
  apply parseFmt2_induct _ _ _ _ fmt items h
  · simp
  · intro c rest r hc _ ih ch hm
    rcases List.mem_cons.mp hm with e | hm
    · cases e; exact hc
    · exact ih ch hm
  · intro rest r _ ih ch hm
    exact ih ch (by simpa using hm)
  · intro dir rest r _ ih ch hm
    exact ih ch (by simpa using hm)

def ofName (s : String) : Option Fld := allFlds.find? fun f => propName f == s

theorem ofName_propName (f : Fld) : ofName (propName f) = some f :=
  (by decide +kernel : ∀ f ∈ allFlds, ofName (propName f) = some f) f (mem_allFlds f)

theorem propName_inj (f g : Fld) (h : (propName f).toList = (propName g).toList) : f = g :=
  Option.some.inj (by rw [← ofName_propName f, String.toList_injective h, ofName_propName g])

theorem lookup_envOf (c : DumpCtx) (ps : List Piece) (f : Fld) (hf : f ∈ fldsOf ps) :
    (envOf c ps).lookup (propName f).toList = some (fldVal c f) := by
  unfold envOf
  generalize fldsOf ps = fs at hf
  induction fs with
  | nil => simp at hf
  | cons g fs ih =>
    simp only [List.map_cons, List.lookup_cons]
    by_cases e : (propName f).toList = (propName g).toList
    · have := propName_inj f g e
      subst this
      simp
    · have : ((propName f).toList == (propName g).toList) = false := by simpa using e
      rw [this]
      simp only [List.mem_cons] at hf
      rcases hf with hf | hf
      · subst hf; exact absurd rfl e
      · exact ih hf

/-! ### strftime2 down to the formatting step -/

theorem fldsOf_pieces2 (items : List FItem2) :
    fldsOf (piecesOfItems2 items) = fldsOf (piecesOfItems (items.map FItem2.toItem)) := by
  induction items with
  | nil => rfl
  | cons it r ih =>
    rw [piecesOfItems2_cons, fldsOf_append, List.map_cons, fldsOf_items_cons, ih]
    cases it <;> rfl

theorem century_mem2 (items : List FItem2) (h : Piece.fld .century ∈ piecesOfItems2 items) :
    SField.year ∈ fieldsOf2 items := by
  rw [← mem_fldsOf, fldsOf_pieces2, mem_fldsOf] at h
  exact fieldsOf_toItem items ▸ century_mem _ h

/-- On a valid point, `strftime2` is the formatting of the translated expression (unless the year
    bounds check fires). -/
theorem strftime2_run (m : Mode) (p : TP) (hv : p.Valid m) (c : Civil) (hc : IsCivil m p c)
    (fmt : List Char) (ps : List Piece) (hna : nonAsciiAfterPct fmt = false)
    (ht : translate (scan fmt) = .ok ps)
    (hy : Piece.fld .century ∈ ps → 0 ≤ c.year ∧ c.year ≤ 9999) :
    strftime2 m p fmt = run (envOf (ctxOf p c) ps) (.text false) (exprOf ps) := by
  unfold strftime2
  rw [hna, ht]
  simp only [Bool.false_eq_true, ↓reduceIte, dump_ctx m p hv c hc]
  rw [if_neg]
  intro ⟨hcen, hnot⟩
  exact hnot (hy (by simpa using hcen))

theorem fields_mem2 (items : List FItem2) (dir : Dir) (h : FItem2.conv dir ∈ items) :
    ∀ x ∈ dir.fields, x ∈ fieldsOf2 items := by
  induction items with
  | nil => simp at h
  | cons it r ih =>
    intro x hx
    simp only [List.mem_cons] at h
    rcases h with h | h
    · subst h
      simp [fieldsOf2, hx]
    · have := ih h x hx
      cases it <;> simp [fieldsOf2, this]

/-! ### a format of the class, followed by something else -/

theorem scan_append (pre : List Char) (items : List FItem2) (h : parseFmt2 pre = some items) :
    pctSafe items = true → ∀ suf, headCharWL suf = false → scan (pre ++ suf) = scan pre ++ scan suf := by
  apply parseFmt2_induct _ _ _ _ pre items h
  · exact fun _ _ _ => rfl
  · intro c rest r hc _ ih hs suf hsuf
    rw [List.cons_append, scan_ch c _ hc, scan_ch c _ hc, ih hs suf hsuf]
    rfl
  · intro rest r hr ih hs suf hsuf
    simp only [pctSafe, Bool.and_eq_true, Bool.not_eq_true'] at hs
    have hrest : headCharWL rest = false := by rw [← head_parse rest r hr]; exact hs.1
    rw [List.cons_append, List.cons_append, scan_pct ('%' :: (rest ++ suf)) wordLike_percent,
      scan_pct ('%' :: rest) wordLike_percent, scan_pct _ (headCharWL_append _ _ hrest hsuf), scan_pct _ hrest,
      ih hs.2 suf hsuf]
    rfl
  · intro dir rest r _ ih hs suf hsuf
    rw [List.cons_append, List.cons_append, scan_dir _ _ (isWord_toChar dir), scan_dir _ _ (isWord_toChar dir),
      ih hs suf hsuf]
    rfl

theorem translate_append (a b : List Item) (pa pb : List Piece) (ha : translate a = .ok pa)
    (hb : translate b = .ok pb) : translate (a ++ b) = .ok (pa ++ pb) := by
  induction a generalizing pa with
  | nil => cases ha; exact hb
  | cons x xs ih =>
    cases x with
    | ch c =>
      simp only [List.cons_append, translate] at ha ⊢
      cases hx : translate xs with
      | error e => rw [hx] at ha; cases ha
      | ok px => rw [hx] at ha; cases ha; rw [ih px hx]; rfl
    | dir c =>
      simp only [List.cons_append, translate] at ha ⊢
      cases hl : lookupDir c with
      | none => rw [hl] at ha; cases ha
      | some ds =>
        cases hx : translate xs with
        | error e => rw [hl, hx] at ha; cases ha
        | ok px => rw [hl, hx] at ha; cases ha; rw [ih px hx]; simp

theorem nonAscii_append (a b : List Char) (ha : nonAsciiAfterPct a = false) (hb : nonAsciiAfterPct b = false)
    (hh : headCharWL b = false) : nonAsciiAfterPct (a ++ b) = false := by
  induction a with
  | nil => exact hb
  | cons c r ih =>
    cases r with
    | nil =>
      cases b with
      | nil => rfl
      | cons d s => simp [nonAsciiAfterPct, Nat.not_le.mpr (isWord_wordLike d hh).2, hb]
    | cons d r' =>
      simp only [nonAsciiAfterPct, Bool.or_eq_false_iff] at ha
      simp only [List.cons_append, nonAsciiAfterPct, Bool.or_eq_false_iff]
      exact ⟨ha.1, by simpa using ih ha.2⟩

theorem prepend_error (a : List Char) (e : FErr) : prepend a (.error e) = .error e := rfl

/-- `strftime2` of a format of the class followed by anything else that does not start with a word
    character: the POSIX text of the first part, then the formatting of the rest. -/
theorem strftime2_prefix (m : Mode) (p : TP) (hv : p.Valid m) (c : Civil) (hc : IsCivil m p c)
    (pre : List Char) (items : List FItem2)
    (hf : parseFmt2 pre = some items) (hs : pctSafe items = true) (suf : List Char)
    (hsw : headCharWL suf = false) (hsa : nonAsciiAfterPct suf = false) (tailps : List Piece)
    (htl : translate (scan suf) = .ok tailps)
    (hy : SField.year ∈ fieldsOf2 items ∨ Piece.fld .century ∈ tailps → 0 ≤ c.year ∧ c.year ≤ 9999) :
    strftime2 m p (pre ++ suf) =
      prepend (posix2 c items)
        (run (envOf (ctxOf p c) (piecesOfItems2 items ++ tailps)) (.text (hasFld (piecesOfItems2 items)))
          (exprOf tailps)) := by
  obtain ⟨ht, hna⟩ := translate_scan2 pre items hf hs
  have ht' : translate (scan (pre ++ suf)) = .ok (piecesOfItems2 items ++ tailps) := by
    rw [scan_append pre items hf hs suf hsw]
    exact translate_append _ _ _ _ ht htl
  have hna' := nonAscii_append pre suf hna hsa hsw
  rw [strftime2_run m p hv c hc _ _ hna' ht'
    (fun h => hy ((List.mem_append.mp h).imp_left (century_mem2 items))), exprOf_append]
  have h := run_items (envOf (ctxOf p c) (piecesOfItems2 items ++ tailps)) (ctxOf p c) c items
    (fun f hf' => lookup_envOf _ _ f (by rw [fldsOf_append]; simp [hf']))
    (fun dir hd => render_dir m p hv c hc dir (fun hyr => hy (Or.inl (fields_mem2 items dir hd _ hyr))))
    (lit_ne_pct pre items hf) false (exprOf tailps)
  rw [h]
  simp

theorem isDigitC_eq (c : Char) : isDigitC c = c.isDigit := by
  simp only [isDigitC, Char.isDigit, Char.toNat, UInt32.le_iff_toNat_le, ge_iff_le]
  rfl

theorem run_trailing (env : List (List Char × Val)) (sp : Bool) : run env (.text sp) ['%'] = .error .value := by
  simp [run]

/-- Punctuation that means nothing to printf: not a word character, not `%`, `(`, a flag, `*` or `.`. -/
def inertPunct (c : Char) : Bool := !wordLike c && !("%(-+ #*.".toList.contains c)

theorem run_stray (env : List (List Char × Val)) (sp : Bool) (c : Char) (rest : List Char)
    (hc : inertPunct c = true) :
    run env (.text sp) ('%' :: c :: rest) = .error (if sp then .type else .value) := by
  simp only [inertPunct, Bool.and_eq_true, Bool.not_eq_true'] at hc
  obtain ⟨hw, hl⟩ := hc
  have hl' : c ≠ '%' ∧ c ≠ '(' ∧ c ≠ '-' ∧ c ≠ '+' ∧ c ≠ ' ' ∧ c ≠ '#' ∧ c ≠ '*' ∧ c ≠ '.' := by
    have : "%(-+ #*.".toList = ['%', '(', '-', '+', ' ', '#', '*', '.'] := by decide
    rw [this] at hl
    simpa using hl
  have hword : isWord c = false := (isWord_wordLike c hw).1
  -- the characters printf gives a meaning to, the excluded punctuation apart, are word characters
  have ne : ∀ x : Char, isWord x = true → c ≠ x := fun x hx e => by
    subst e; rw [hword] at hx; exact absurd hx (by decide)
  have hdig : isDigitC c = false := by
    have h := hword
    simp only [isWord, Char.isAlphanum, Bool.or_eq_false_iff] at h
    rw [isDigitC_eq, h.1.2]
  have n0 := ne '0' (by decide); have nh := ne 'h' (by decide); have nl := ne 'l' (by decide)
  have nL := ne 'L' (by decide); have ns := ne 's' (by decide); have nr := ne 'r' (by decide)
  have na := ne 'a' (by decide)
  have nd := ne 'd' (by decide); have ni := ne 'i' (by decide); have nu := ne 'u' (by decide)
  have no := ne 'o' (by decide); have nx := ne 'x' (by decide); have nX := ne 'X' (by decide)
  have ne' := ne 'e' (by decide); have nE := ne 'E' (by decide); have nf := ne 'f' (by decide)
  have nF := ne 'F' (by decide); have ng := ne 'g' (by decide); have nG := ne 'G' (by decide)
  have nc := ne 'c' (by decide)
  obtain ⟨l1, l2, l3, l4, l5, l6, l7, l8⟩ := hl'
  simp [run, l1, l2, specStep, Spec.start, n0, l3, l4, l5, l6, l7, l8, hdig, isLenMod, nh, nl, nL, finish,
    ns, nr, na, nd, ni, nu, no, nx, nX, ne', nE, nf, nF, ng, nG, nc]
  cases sp <;> rfl

/-! ### strptime: a `%%` in the format can never match what strftime printed for it -/

theorem np_render (w v : Nat) : '%' ∉ render w v := fun h => absurd (render_digits w v '%' h) (by decide)

theorem np_decimal (n : Nat) : '%' ∉ decimal n := fun h => absurd (decimal_digits n '%' h) (by decide)

theorem np_decimalInt (z : Int) : '%' ∉ decimalInt z := by
  unfold decimalInt
  split
  · simp only [List.mem_cons, not_or]
    exact ⟨by decide, np_decimal _⟩
  · exact np_decimal _

theorem np_field (c : Civil) (dir : Dir) : '%' ∉ field c dir := by
  have h1 : ('%' : Char) ≠ '-' := by decide
  have h2 : ('%' : Char) ≠ ':' := by decide
  have h3 : ('%' : Char) ≠ '+' := by decide
  cases dir <;> simp [field, np_render, np_decimalInt, h1, h2]
  split <;> simp [h1, h3]

theorem count_posix2 (c : Civil) (items : List FItem2) (hl : ∀ ch, FItem2.lit ch ∈ items → ch ≠ '%') :
    (posix2 c items).count '%' = items.count .pct := by
  induction items with
  | nil => rfl
  | cons it r ih =>
    have ih' := ih (fun ch h => hl ch (by simp [h]))
    simp only [posix2, List.flatMap_cons, List.count_append] at ih' ⊢
    rw [ih']
    cases it with
    | lit ch =>
      have : ch ≠ '%' := hl ch (by simp)
      simp [itemText2, this]
    | pct => simp [itemText2]; omega
    | conv dir =>
      have := List.count_eq_zero.2 (np_field c dir)
      simp [itemText2, this]

theorem count_pieces2 (items : List FItem2) (hl : ∀ ch, FItem2.lit ch ∈ items → ch ≠ '%') :
    (piecesOfItems2 items).count (.lit '%') = 2 * items.count .pct := by
  induction items with
  | nil => rfl
  | cons it r ih =>
    have ih' := ih (fun ch h => hl ch (by simp [h]))
    rw [piecesOfItems2_cons, List.count_append, ih']
    cases it with
    | lit ch =>
      have : ch ≠ '%' := hl ch (by simp)
      simp [pieces2, this]
    | pct => simp [pieces2]; omega
    | conv dir =>
      have := List.count_eq_zero.2 (piecesOf_no_pct dir)
      simp [pieces2, this]

theorem match_count (ps : List Piece) (data : List Char) (b : List (Fld × List Char))
    (h : matchPieces ps data = some b) : ps.count (.lit '%') ≤ data.count '%' := by
  induction ps generalizing data b with
  | nil => simp
  | cons x xs ih =>
    cases x with
    | lit c =>
      obtain ⟨ds, rfl, h'⟩ := matchPieces_lit c xs data b h
      have := ih ds b h'
      by_cases hp : c = '%'
      · subst hp; simpa using this
      · simpa [List.count_cons, hp] using this
    | fld f =>
      obtain ⟨k, b', _, h'⟩ := matchPieces_fld f xs data b h
      rw [List.count_cons_of_ne (by simp)]
      exact Nat.le_trans (ih _ b' h') ((List.drop_sublist k data).count_le '%')

/-- An answer of `Model.Strf.strftime` in the vocabulary of `strftime2`. -/
def liftRes : Except Err (List Char) → Except FErr (List Char)
  | .ok s => .ok s
  | .error e => .error (liftErr e)

/-! ### strptime on a format that is literal text only -/

theorem match_lits (lits data : List Char) :
    matchPieces (lits.map Piece.lit) data = if data = lits then some [] else none := by
  induction lits generalizing data with
  | nil => cases data <;> simp [matchPieces]
  | cons c r ih =>
    cases data with
    | nil => simp [matchPieces]
    | cons d ds =>
      simp only [List.map_cons, matchPieces, ih]
      by_cases h : c = d
      · subst h; simp
      · have : ¬ (d = c) := fun e => h e.symm
        simp [h, this]

theorem translate_chs (l : List Char) : translate (l.map Item.ch) = .ok (l.map Piece.lit) := by
  induction l with
  | nil => rfl
  | cons c r ih => simp [translate, ih]

theorem fldsOf_lits (l : List Char) : fldsOf (l.map Piece.lit) = [] := by
  induction l with
  | nil => rfl
  | cons c r ih => simpa [fldsOf] using ih

end IsoDT.Lemmas.Strf2
