/-
  IsoDT.Lemmas.Tick — `_tick_over` and the exact part of `__add__`: every carry preserves the
  instant (`Spec.TP.inst`, which is linear in out-of-range fields) and ends with every field in
  range.
-/
import IsoDT.Model.TimePoint
import IsoDT.Lemmas.Conv
import IsoDT.Lemmas.Dur

namespace IsoDT.Lemmas
open IsoDT IsoDT.Model
open IsoDT.Spec (Date TZ TP)

theorem _root_.IsoDT.Spec.TP.Valid.tz {m : Mode} {p : TP} (h : p.Valid m) : p.tz.Valid :=
  h.2.2.2.2.2.2.2.2

theorem divmod_spec (b x : Int) (hb : 0 < b) : b * (x / b) + x % b = x ∧ 0 ≤ x % b ∧ x % b < b :=
  ⟨Int.mul_ediv_add_emod x b, Int.emod_nonneg x (Int.ne_of_gt hb), Int.emod_lt_of_pos x hb⟩

theorem exists_map_some {α β : Type} {f : α → β} {o : Option α} {P : α → Prop} {Q : β → Prop}
    (h : ∃ a, o = some a ∧ P a) (hf : ∀ a, P a → Q (f a)) : ∃ b, o.map f = some b ∧ Q b := by
  obtain ⟨a, rfl, ha⟩ := h
  exact ⟨f a, rfl, hf a ha⟩

/-! ### the loops always make progress (the extra guard conjunct of the model is always true) -/

theorem daysInYear_pos (m : Mode) (y : Int) : 0 < daysInYear m y := by
  rw [daysInYear_eq]; have := yearLen_bounds m y; omega

theorem weeksInYear_pos (m : Mode) (y : Int) : 0 < weeksInYear m y := by
  rw [weeksInYear_eq]; have := weeksInYear_bounds m y; omega

/-! ### year and week-year carry

  The four loops have one shape: a position `x` counted in units of which the period `y` holds
  `L y`, carried backwards while `x < 1` and forwards while `x > L y`.  `S` is the start of a
  period in units of size `1/k` (day numbers: `k = 1` for ordinal days, `k = 7` for weeks); `f` is
  any function that unfolds like the loop. -/

theorem carryBack_spec (L S : Int → Int) (k : Int) (f : Int → Int → Int × Int)
    (hf : ∀ y x, f y x = if x < 1 ∧ 0 < L (y - 1) then f (y - 1) (x + L (y - 1)) else (y, x))
    (hS : ∀ y, S (y + 1) = S y + k * L y) (hL : ∀ y, 0 < L y) (y x : Int) :
    S (f y x).1 + k * (f y x).2 = S y + k * x ∧ 1 ≤ (f y x).2 ∧ (1 ≤ x → f y x = (y, x)) := by
  generalize hn : (1 - x).toNat = n
  induction n using Nat.strongRecOn generalizing y x with
  | _ n ih =>
    rw [hf]
    split
    · next h =>
      have hs := hS (y - 1)
      rw [Int.sub_add_cancel] at hs
      obtain ⟨i1, i2, _⟩ := ih _ (by omega) (y - 1) (x + L (y - 1)) rfl
      rw [Int.mul_add] at i1
      exact ⟨by omega, i2, by omega⟩
    · next h =>
      have := hL (y - 1)
      exact ⟨rfl, by omega, fun _ => rfl⟩

theorem carryFwd_spec (L S : Int → Int) (k : Int) (f : Int → Int → Int × Int)
    (hf : ∀ y x, f y x = if x > L y ∧ 0 < L y then f (y + 1) (x - L y) else (y, x))
    (hS : ∀ y, S (y + 1) = S y + k * L y) (hL : ∀ y, 0 < L y) (y x : Int) (h1 : 1 ≤ x) :
    S (f y x).1 + k * (f y x).2 = S y + k * x ∧ 1 ≤ (f y x).2 ∧ (f y x).2 ≤ L (f y x).1 ∧
    (x ≤ L y → f y x = (y, x)) := by
  generalize hn : x.toNat = n
  induction n using Nat.strongRecOn generalizing y x with
  | _ n ih =>
    rw [hf]
    split
    · next h =>
      have hs := hS y
      obtain ⟨i1, i2, i3, _⟩ := ih _ (by omega) (y + 1) (x - L y) (by omega) rfl
      rw [Int.mul_sub] at i1
      exact ⟨by omega, i2, i3, by omega⟩
    · next h =>
      have := hL y
      dsimp only
      exact ⟨rfl, h1, by omega, fun _ => rfl⟩

theorem dby_step (m : Mode) (y : Int) : Spec.dby m (y + 1) = Spec.dby m y + 1 * daysInYear m y := by
  rw [dby_succ, daysInYear_eq, Int.one_mul]

theorem normOrd_spec (m : Mode) (y doy : Int) :
    Spec.ValidOrd m (normOrd m y doy).1 (normOrd m y doy).2 ∧
    Spec.dayNumOrd m (normOrd m y doy).1 (normOrd m y doy).2 = Spec.dayNumOrd m y doy := by
  obtain ⟨b1, b2, _⟩ := carryBack_spec _ _ 1 _ (ordBack.eq_1 m) (dby_step m) (daysInYear_pos m) y doy
  obtain ⟨f1, f2, f3, _⟩ := carryFwd_spec _ _ 1 _ (ordFwd.eq_1 m) (dby_step m) (daysInYear_pos m)
    (ordBack m y doy).1 _ b2
  rw [daysInYear_eq] at f3
  unfold normOrd Spec.ValidOrd Spec.dayNumOrd
  dsimp only
  omega

theorem normOrd_valid (m : Mode) (y doy : Int) (h : Spec.ValidOrd m y doy) : normOrd m y doy = (y, doy) := by
  unfold normOrd
  rw [(carryBack_spec _ _ 1 _ (ordBack.eq_1 m) (dby_step m) (daysInYear_pos m) y doy).2.2 h.1]
  exact (carryFwd_spec _ _ 1 _ (ordFwd.eq_1 m) (dby_step m) (daysInYear_pos m) y doy h.1).2.2.2
    (by rw [daysInYear_eq]; exact h.2)

theorem normWeek_spec (m : Mode) (y w : Int) :
    1 ≤ (normWeek m y w).2 ∧ (normWeek m y w).2 ≤ Spec.weeksInYear m (normWeek m y w).1 ∧
    Spec.weekYearStart m (normWeek m y w).1 + 7 * (normWeek m y w).2 = Spec.weekYearStart m y + 7 * w := by
  have hS : ∀ y, Spec.weekYearStart m (y + 1) = Spec.weekYearStart m y + 7 * weeksInYear m y :=
    fun y => by rw [weekYearStart_succ, weeksInYear_eq]
  obtain ⟨b1, b2, _⟩ := carryBack_spec _ _ 7 _ (weekBack.eq_1 m) hS (weeksInYear_pos m) y w
  obtain ⟨f1, f2, f3, _⟩ := carryFwd_spec _ _ 7 _ (weekFwd.eq_1 m) hS (weeksInYear_pos m)
    (weekBack m y w).1 _ b2
  rw [weeksInYear_eq] at f3
  unfold normWeek
  dsimp only
  omega

/-! ### month carry (identity on months 1..12) -/

theorem normMonth_valid (m : Mode) (y mo : Int) (h1 : 1 ≤ mo) (h2 : mo ≤ 12) : normMonth m y mo = (y, mo) := by
  unfold normMonth
  rw [monthBack, if_neg (by omega)]
  dsimp only
  rw [monthFwd, if_neg (by rw [monthsInYear_eq]; omega)]

/-- `(mo - 1) % 12 + 1` is how `_tick_over_day_of_month`, `add_months` and the year branch of
    `__add__` index the month table. -/
theorem daysInMonthB_idx (m : Mode) (y mo : Int) (h1 : 1 ≤ mo) (h2 : mo ≤ 12) :
    daysInMonthB m (isLeapYear y) ((mo - 1) % 12 + 1) = Spec.monthLen m y mo := by
  have hm : (mo - 1) % 12 + 1 = mo := by omega
  rw [hm]
  exact daysInMonth_eq m y mo h1 h2

theorem tickDayOfMonth_spec (m : Mode) (y mo d : Int) (h1 : 1 ≤ mo) (h2 : mo ≤ 12) :
    ∃ ry rmo rd, tickDayOfMonth m y mo d = some (ry, rmo, rd) ∧ Spec.ValidCal m ry rmo rd ∧
      Spec.dayNumCal m ry rmo rd = Spec.dayNumCal m y mo d := by
  unfold tickDayOfMonth
  rw [monthsInYear_eq, daysInMonthB_idx m y mo h1 h2]
  have hml := monthLen_bounds m y mo h1 h2
  by_cases hc : d < 1 ∨ d > Spec.monthLen m y mo
  · simp only [hc, ↓reduceIte]
    have hv1 : Spec.ValidCal m y mo 1 := ⟨h1, h2, by omega, by omega⟩
    rw [posOf_valid m y mo 1 hv1]
    simp only
    obtain ⟨nv, nn⟩ := normOrd_spec m y (Spec.dbm m y mo + 1 - 1 + d)
    obtain ⟨rmo, rd, he, hv, hn⟩ := calFromOrd_spec m _ _ nv
    refine ⟨_, rmo, rd, he, hv, ?_⟩
    rw [hn, nn]; unfold Spec.dayNumOrd Spec.dayNumCal; omega
  · simp only [hc, ↓reduceIte]
    exact ⟨y, mo, d, rfl, ⟨h1, h2, by omega, by omega⟩, rfl⟩

/-- What `_tick_over` needs of the date: a calendar date's month is 1..12 (days, ordinal days,
    weeks and weekdays may be anywhere). -/
def PreValid : Date → Prop
  | .cal _ mo _ => 1 ≤ mo ∧ mo ≤ 12
  | _ => True

theorem preValid_of_valid (m : Mode) (dt : Date) (h : dt.Valid m) : PreValid dt := by
  cases dt <;> simp only [PreValid]
  exact ⟨h.1, h.2.1⟩

theorem preValid_bumpDay (dt : Date) (n : Int) (h : PreValid dt) : PreValid (bumpDay dt n) := by
  cases dt <;> simpa [bumpDay, PreValid] using h

theorem dayNum_bumpDay (m : Mode) (dt : Date) (n : Int) : (bumpDay dt n).dayNum m = dt.dayNum m + n := by
  cases dt <;> simp only [bumpDay, Date.dayNum, Spec.dayNumCal, Spec.dayNumOrd, Spec.dayNumWeek] <;> grind

theorem rep_bumpDay (dt : Date) (n : Int) : (bumpDay dt n).rep = dt.rep := by
  cases dt <;> rfl

/-- `_tick_over` keeps the instant, the representation and the offset, and leaves a real date
    with `0 ≤ h < 24`, `0 ≤ m, s < 60` — from any intermediate state of `__add__`. -/
theorem tickOver_spec (m : Mode) (p : TP) (hp : PreValid p.date) :
    ∃ q, tickOver m p = some q ∧ q.inst m = p.inst m ∧ q.date.Valid m ∧
      0 ≤ q.hh ∧ q.hh < 24 ∧ 0 ≤ q.mi ∧ q.mi < 60 ∧ 0 ≤ q.ss ∧ q.ss < 60 ∧
      q.tz = p.tz ∧ q.date.rep = p.date.rep := by
  obtain ⟨date, hh, mi, ss, tz⟩ := p
  unfold tickOver
  simp only [secondsInMinute_eq, minutesInHour_eq, hoursInDay_eq, daysInWeek_eq]
  obtain ⟨cs, s1, s2⟩ := divmod_spec 60 ss (by omega)
  obtain ⟨cm, m1, m2⟩ := divmod_spec 60 (mi + ss / 60) (by omega)
  obtain ⟨ch, h1, h2⟩ := divmod_spec 24 (hh + (mi + ss / 60) / 60) (by omega)
  generalize (hh + (mi + ss / 60) / 60) / 24 = days at ch ⊢
  refine exists_map_some
    (P := fun dt => dt.Valid m ∧ dt.dayNum m = date.dayNum m + days ∧ dt.rep = date.rep) ?_ ?_
  · cases date with
    | cal y mo d =>
      obtain ⟨ry, rmo, rd, he, hv, hn⟩ := tickDayOfMonth_spec m y mo (d + days) hp.1 hp.2
      simp only [he, normMonth_valid m ry rmo hv.1 hv.2.1]
      exact ⟨_, rfl, hv, hn.trans (dayNum_bumpDay m (.cal y mo d) days), rfl⟩
    | ord y doy =>
      obtain ⟨nv, nn⟩ := normOrd_spec m y (doy + days)
      exact ⟨_, rfl, nv, nn.trans (dayNum_bumpDay m (.ord y doy) days), rfl⟩
    | week y w d =>
      obtain ⟨n1, n2, n3⟩ := normWeek_spec m y (w + (d + days - 1) / 7)
      obtain ⟨c, r1, r2⟩ := divmod_spec 7 (d + days - 1) (by omega)
      refine ⟨_, rfl, ⟨n1, n2, Int.le_add_of_nonneg_left r1, r2⟩, ?_, rfl⟩
      simp only [Date.dayNum, Spec.dayNumWeek]
      grind
  · intro dt ⟨hv, hn, hr⟩
    refine ⟨?_, hv, h1, h2, m1, m2, s1, s2, rfl, hr⟩
    simp only [TP.inst, TP.secOfDay, hn]
    grind

/-- What `__add__` keeps true of its running result `q`, started from `p`: `q` is strict, denotes
    the instant `delta` seconds after `p`, and has `p`'s offset and representation. -/
structure Good (m : Mode) (p q : TP) (delta : Int) : Prop where
  inst : q.inst m = p.inst m + delta
  strict : q.Strict m
  tz : q.tz = p.tz
  rep : q.date.rep = p.date.rep

theorem strict_of_tick (m : Mode) (q : TP) (tzv : q.tz.Valid)
    (h : q.date.Valid m ∧ 0 ≤ q.hh ∧ q.hh < 24 ∧ 0 ≤ q.mi ∧ q.mi < 60 ∧ 0 ≤ q.ss ∧ q.ss < 60) :
    q.Strict m := by
  obtain ⟨a, b, c, d, e, f, g⟩ := h
  exact ⟨⟨a, b, by omega, d, e, f, g, by omega, tzv⟩, c⟩

theorem tick_good (m : Mode) (p p' : TP) (delta : Int) (hpre : PreValid p'.date) (tzv : p.tz.Valid)
    (htz : p'.tz = p.tz) (hrep : p'.date.rep = p.date.rep) (hinst : p'.inst m = p.inst m + delta) :
    ∃ q, tickOver m p' = some q ∧ Good m p q delta := by
  obtain ⟨q, he, hi, hv, r1, r2, r3, r4, r5, r6, ht, hr⟩ := tickOver_spec m p' hpre
  exact ⟨q, he, hi.trans hinst, strict_of_tick m q (by rw [ht, htz]; exact tzv) ⟨hv, r1, r2, r3, r4, r5, r6⟩,
    ht.trans htz, hr.trans hrep⟩

theorem normalise24_spec (m : Mode) (p : TP) (h : p.Valid m) :
    ∃ q, normalise24 m p = some q ∧ Good m p q 0 := by
  unfold normalise24
  rw [hoursInDay_eq]
  split
  · exact tick_good m p p 0 (preValid_of_valid m _ h.1) h.tz rfl rfl (Int.add_zero _).symm
  · exact ⟨p, rfl, (Int.add_zero _).symm, ⟨h, by have := h.2.2.1; omega⟩, rfl, rfl⟩

/-- One `if x: field += x; self._tick_over()` step of `__add__`: `p` is where the addition
    started, `p0` the running result, `p'` is `p0` with the field bumped by an amount worth `x`
    seconds, `c` the test on the amount. -/
theorem tickIf_spec (m : Mode) (p p0 p' : TP) (delta x : Int) (c : Prop) [Decidable c]
    (g : Good m p p0 delta) (hc : ¬ c → x = 0) (hpre : PreValid p'.date) (htz : p'.tz = p0.tz)
    (hrep : p'.date.rep = p0.date.rep) (hinst : p'.inst m = p0.inst m + x) :
    ∃ q, (if c then tickOver m p' else some p0) = some q ∧ Good m p q (delta + x) := by
  split
  · exact tick_good m p p' _ hpre (g.tz ▸ g.strict.1.tz) (htz.trans g.tz)
      (hrep.trans g.rep) (by rw [hinst, g.inst, Int.add_assoc])
  · next h => rw [hc h, Int.add_zero]; exact ⟨p0, rfl, g⟩

theorem stepS_spec (m : Mode) (p p0 : TP) (delta s : Int) (g : Good m p p0 delta) :
    ∃ q, stepS m p0 s = some q ∧ Good m p q (delta + s) :=
  tickIf_spec m p p0 { p0 with ss := p0.ss + s } delta s (s ≠ 0) g (by omega)
    (preValid_of_valid m _ g.strict.1.1) rfl rfl (by simp only [TP.inst, TP.secOfDay]; grind)

theorem stepM_spec (m : Mode) (p p0 : TP) (delta x : Int) (g : Good m p p0 delta) :
    ∃ q, stepM m p0 x = some q ∧ Good m p q (delta + 60 * x) :=
  tickIf_spec m p p0 { p0 with mi := p0.mi + x } delta (60 * x) (x ≠ 0) g (by omega)
    (preValid_of_valid m _ g.strict.1.1) rfl rfl (by simp only [TP.inst, TP.secOfDay]; grind)

theorem stepH_spec (m : Mode) (p p0 : TP) (delta x : Int) (g : Good m p p0 delta) :
    ∃ q, stepH m p0 x = some q ∧ Good m p q (delta + 3600 * x) :=
  tickIf_spec m p p0 { p0 with hh := p0.hh + x } delta (3600 * x) (x ≠ 0) g (by omega)
    (preValid_of_valid m _ g.strict.1.1) rfl rfl (by simp only [TP.inst, TP.secOfDay]; grind)

theorem stepD_spec (m : Mode) (p p0 : TP) (delta x : Int) (g : Good m p p0 delta) :
    ∃ q, stepD m p0 x = some q ∧ Good m p q (delta + 86400 * x) :=
  tickIf_spec m p p0 { p0 with date := bumpDay p0.date x } delta (86400 * x) (x ≠ 0) g (by omega)
    (preValid_bumpDay _ _ (preValid_of_valid m _ g.strict.1.1)) rfl (rep_bumpDay _ _)
    (by simp only [TP.inst, dayNum_bumpDay, TP.secOfDay]; grind)

theorem addUnits_spec (m : Mode) (p : TP) (d h mi s : Int) (hv : p.Valid m) :
    ∃ q, addUnits m p d h mi s = some q ∧ Good m p q (86400 * d + 3600 * h + 60 * mi + s) := by
  unfold addUnits
  obtain ⟨p0, e0, g0⟩ := normalise24_spec m p hv
  obtain ⟨p1, e1, g1⟩ := stepS_spec m p p0 0 s g0
  obtain ⟨p2, e2, g2⟩ := stepM_spec m p p1 _ mi g1
  obtain ⟨p3, e3, g3⟩ := stepH_spec m p p2 _ h g2
  obtain ⟨p4, e4, g4⟩ := stepD_spec m p p3 _ d g3
  rw [e0, Option.bind_some, e1, Option.bind_some, e2, Option.bind_some, e3, Option.bind_some, e4]
  refine ⟨p4, rfl, ?_⟩
  have e : 86400 * d + 3600 * h + 60 * mi + s = 0 + s + 60 * mi + 3600 * h + 86400 * d := by grind
  rw [e]; exact g4

theorem addDur_exact_units (m : Mode) (p : TP) (d h mi s : Int) (hv : p.Valid m) :
    ∃ q, addDur m p (.units 0 0 d h mi s) = some q ∧ Good m p q (86400 * d + 3600 * h + 60 * mi + s) := by
  obtain ⟨q, he, g⟩ := addUnits_spec m p d h mi s hv
  refine ⟨q, ?_, g⟩
  simp only [addDur, Dur.toDays, he, Option.bind_eq_bind, Option.bind_some, addMonths, addYears,
    ↓reduceIte, Option.pure_def]

theorem addDur_exact (m : Mode) (p : TP) (d : Dur) (hv : p.Valid m) (hex : d.isExact = true) :
    ∃ q, addDur m p d = some q ∧ Good m p q (d.exactSeconds m) := by
  cases d with
  | weeks w =>
    obtain ⟨q, he, g⟩ := addDur_exact_units m p (w * 7) 0 0 0 hv
    refine ⟨q, ?_, ?_⟩
    · rw [← he]; simp only [addDur, Dur.toDays, daysInWeek_eq]
    · rw [exactSeconds_weeks, show 604800 * w = 86400 * (w * 7) + 3600 * 0 + 60 * 0 + 0 by omega]; exact g
  | units y mo dd h mi s =>
    simp only [Dur.isExact, Bool.and_eq_true, beq_iff_eq] at hex
    obtain ⟨rfl, rfl⟩ := hex
    rw [exactSeconds_units]; exact addDur_exact_units m p dd h mi s hv

theorem subDur_exact (m : Mode) (p : TP) (d : Dur) (hv : p.Valid m) (hex : d.isExact = true) :
    ∃ q, subDur m p d = some q ∧ Good m p q (-(d.exactSeconds m)) := by
  rw [← neg_exactSeconds]
  exact addDur_exact m p (d.mul (-1)) hv (mul_exact d (-1) hex)

end IsoDT.Lemmas
