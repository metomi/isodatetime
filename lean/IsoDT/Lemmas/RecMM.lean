/-
  IsoDT.Lemmas.RecMM — recurrences with `min_point`/`max_point` (`Model.RecurrenceMM`) in terms of
  the recurrence without them: the bounds test splits, the neighbours filter, the iteration is a
  `takeWhile` of the unrestricted iteration.  No assumption on the interval or on validity here.
-/
import IsoDT.Lemmas.RecQuery
import IsoDT.Model.RecurrenceMM

namespace IsoDT.Lemmas
open IsoDT IsoDT.Model
open IsoDT.Spec (Date TZ TP)

/-- `_get_is_in_bounds` = the start/end tests and the min/max tests. -/
theorem inBoundsMM_eq (m : Mode) (r : RecMM) (p : TP) :
    inBoundsMM m r p = (inBounds m r.base p && withinMM m r p) := by
  unfold inBoundsMM inBounds withinMM
  ac_rfl

theorem withinMM_none (m : Mode) (b : Rec) (p : TP) : withinMM m ⟨b, none, none⟩ p = true := rfl

theorem withinMM_iff (m : Mode) (r : RecMM) (p : TP) (hp : p.Valid m)
    (hmin : ∀ a, r.minP = some a → a.Valid m) (hmax : ∀ b, r.maxP = some b → b.Valid m) :
    withinMM m r p = true ↔
      (∀ a, r.minP = some a → a.inst m ≤ p.inst m) ∧ (∀ b, r.maxP = some b → p.inst m ≤ b.inst m) := by
  unfold withinMM
  rw [Bool.and_eq_true]
  exact and_congr (notLt_iff m r.minP p hp hmin) (notGt_iff m r.maxP p hp hmax)

theorem filter_withinMM (m : Mode) (r : RecMM) (q : TP) :
    (if inBounds m r.base q = true then some q else none).filter (withinMM m r) =
      if inBoundsMM m r q = true then some q else none := by
  rw [inBoundsMM_eq]
  cases inBounds m r.base q <;> cases hw : withinMM m r q <;> simp [Option.filter, hw]

/-- `get_next` with min/max = `get_next` without, kept only if the point is within [min, max]. -/
theorem getNextMM_eq (m : Mode) (r : RecMM) (p : TP) :
    getNextMM m r p = (getNext m r.base p).filter (withinMM m r) := by
  unfold getNextMM getNext
  by_cases h1 : r.base.reps = some 1
  · simp only [h1, ↓reduceIte, Option.filter_none]
  · simp only [h1, ↓reduceIte]
    cases r.base.dur with
    | none => rfl
    | some d =>
      dsimp only
      cases addDur m p d with
      | none => rfl
      | some q => exact (filter_withinMM m r q).symm

theorem getPrevMM_eq (m : Mode) (r : RecMM) (p : TP) :
    getPrevMM m r p = (getPrev m r.base p).filter (withinMM m r) := by
  unfold getPrevMM getPrev
  by_cases h1 : r.base.reps = some 1
  · simp only [h1, ↓reduceIte, Option.filter_none]
  · simp only [h1, ↓reduceIte]
    cases r.base.dur with
    | none => rfl
    | some d =>
      dsimp only
      cases subDur m p d with
      | none => rfl
      | some q => exact (filter_withinMM m r q).symm

theorem iterFrom_head_inBounds (m : Mode) (r : Rec) (rev : Bool) (fuel : Nat) (q : TP)
    (hq : inBounds m r q = true) :
    iterFrom m r rev (fuel + 1) q =
      q :: (match (if rev then getPrev m r q else getNext m r q) with
            | some q' => iterFrom m r rev fuel q'
            | none => []) := by
  simp only [iterFrom, hq, ↓reduceIte]
  rfl

/-- **The loop of `__iter__` with min/max is the longest prefix of the loop without them whose
    points are all within [min, max]** (any interval, any points). -/
theorem iterFromMM_eq_takeWhile (m : Mode) (r : RecMM) (rev : Bool) : ∀ (fuel : Nat) (p : TP),
    iterFromMM m r rev fuel p = (iterFrom m r.base rev fuel p).takeWhile (withinMM m r) := by
  intro fuel
  induction fuel with
  | zero => intro p; rfl
  | succ fuel ih =>
    intro p
    simp only [iterFromMM, iterFrom, inBoundsMM_eq]
    cases hb : inBounds m r.base p with
    | false => simp
    | true =>
      cases hw : withinMM m r p with
      | false => simp [hw]
      | true =>
        simp only [Bool.and_self, ↓reduceIte, List.takeWhile_cons, hw]
        congr 1
        have hstep : (if rev = true then getPrevMM m r p else getNextMM m r p) =
            (if rev = true then getPrev m r.base p else getNext m r.base p).filter (withinMM m r) := by
          cases rev
          · simp only [Bool.false_eq_true, ↓reduceIte, getNextMM_eq]
          · simp only [↓reduceIte, getPrevMM_eq]
        rw [hstep]
        cases hn : (if rev = true then getPrev m r.base p else getNext m r.base p) with
        | none => simp
        | some q =>
          have hqb := step_inBounds m r.base rev p q hn
          cases hwq : withinMM m r q with
          | true => simp only [Option.filter, hwq, ↓reduceIte]; exact ih q
          | false =>
            simp only [Option.filter, hwq, Bool.false_eq_true, ↓reduceIte]
            cases fuel with
            | zero => rfl
            | succ k =>
              rw [iterFrom_head_inBounds m r.base rev k q hqb]
              simp [hwq]

/-- **`__iter__` with min/max = the longest prefix of `__iter__` without them whose points are all
    within [min, max]** (any recurrence, any amount of iteration). -/
theorem iterMM_eq_takeWhile (m : Mode) (r : RecMM) (fuel : Nat) :
    iterMM m r fuel = (iter m r.base fuel).takeWhile (withinMM m r) := by
  cases hp : (if r.base.start.isNone = true then r.base.end_ else r.base.start) with
  | none => unfold iterMM iter; simp only [hp, List.takeWhile_nil]
  | some p =>
    unfold iterMM iter
    simp only [hp]
    have single : (if fuel = 0 then [] else if inBoundsMM m r p = true then [p] else []) =
        List.takeWhile (withinMM m r) (if fuel = 0 then [] else if inBounds m r.base p = true then [p] else []) := by
      by_cases hf : fuel = 0
      · simp [hf]
      · simp only [hf, ↓reduceIte, inBoundsMM_eq]
        cases inBounds m r.base p <;> cases hw : withinMM m r p <;> simp [hw]
    cases hd : r.base.dur with
    | none => simp only [Bool.or_true, ↓reduceIte]; exact single
    | some d =>
      simp only
      cases hc : (r.base.reps == some 1 || !d.nonzero) with
      | true => simp only [↓reduceIte]; exact single
      | false =>
        simp only [Bool.false_eq_true, ↓reduceIte]
        exact iterFromMM_eq_takeWhile m r _ fuel p

theorem seriesOK_take (m : Mode) (rep : Nat) (tz : TZ) : ∀ (k : Nat) (l : List TP) (i0 step : Int),
    SeriesOK m rep tz l i0 step → SeriesOK m rep tz (l.take k) i0 step :=
  fun k l i0 step => seriesOK_prefix m rep tz _ l i0 step (List.take_prefix k l)

end IsoDT.Lemmas
