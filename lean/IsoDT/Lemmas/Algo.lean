/-
  IsoDT.Lemmas.Algo — the loops of the definitions REGENERATED from the Python source (`Gen/Algo.lean`,
  written by harness/gen_algo.py) and its list primitives, related to their closed forms by induction
  over the iterated list (`*_for<N>` lemmas: the fold, `Model.firstMult`, the generic scanning loops
  of `Lemmas/DayList`).  `Props/C03algo` puts them together: each generated function equals the
  hand-written model (`Model/Calendar`, `Model/CalendarAux`, `Model/LocalTZ`).
-/
import IsoDT.Gen.Algo
import IsoDT.Model.CalendarAux
import IsoDT.Model.LocalTZ
import IsoDT.Lemmas.DayList

namespace IsoDT.Lemmas.AlgoEq
open IsoDT IsoDT.Model IsoDT.Lemmas

theorem leap_for1 (m : Mode) (y : Int) (k : Bool → Bool) (l : List (Int × Bool)) (acc : Bool) :
    Gen.Algo.get_is_leap_year.for1 m y k l acc =
      k (l.foldl (fun acc ft => if y % ft.1 == 0 then ft.2 else acc) acc) := by
  induction l generalizing acc with
  | nil => rfl
  | cons ft rest ih =>
    obtain ⟨f, t⟩ := ft
    simp only [Gen.Algo.get_is_leap_year.for1, List.foldl, ih]
    congr 2
    simp

/-! ### `_get_days_in_year_range` -/

theorem range_while1 (m : Mode) (e f : Int) (k : Int → Int) (r : Int) :
    Gen.Algo._get_days_in_year_range.while1 m e f k r = k (firstMult f r e) := by
  induction r using firstMult.induct (k := f) (e := e) with
  | case1 r h ih =>
    rw [Gen.Algo._get_days_in_year_range.while1, firstMult]
    simp only [h, and_self, ↓reduceIte, ne_eq, not_false_eq_true]
    exact ih
  | case2 r h =>
    rw [Gen.Algo._get_days_in_year_range.while1, firstMult]
    simp only [h, ↓reduceIte]

theorem range_for1 (m : Mode) (s e diff : Int) (k : Int → Int) (l : List (Int × Bool)) (days : Int) :
    Gen.Algo._get_days_in_year_range.for1 m s e diff k l days =
      k (l.foldl (fun days ft =>
        if ft.2 then days + numCorr ft.1 s e * diff else days - numCorr ft.1 s e * diff) days) := by
  induction l generalizing days with
  | nil => rfl
  | cons ft rest ih =>
    obtain ⟨f, t⟩ := ft
    simp only [Gen.Algo._get_days_in_year_range.for1, List.foldl, range_while1 m e f, ih]
    congr 2
    have key : ∀ X : Int, X = numCorr f s e →
        (if t = true then days + X * diff else days - X * diff) =
        (if t = true then days + numCorr f s e * diff else days - numCorr f s e * diff) := by
      intro X h; rw [h]
    apply key
    unfold numCorr
    simp only
    split <;> split <;> split <;> omega

/-! ### `_get_days_in_month` -/

/-- The leap flag that the `year` argument of `get_days_in_month` selects. -/
def yearArgLeap : Gen.Algo.YearArg → Bool
  | .none => false
  | .leap => true
  | .int y => isLeapYear y

/-- What `CALENDAR.DAYS_IN_MONTHS[_LEAP][month - 1]` gives for EVERY integer month: the table entry for
    1..12, Python's wrap-around for -11..0 (month 0 is December), IndexError otherwise. -/
def monthIndexed (m : Mode) (lp : Bool) (mo : Int) : Option Int :=
  if 1 ≤ mo ∧ mo ≤ 12 then some (daysInMonthB m lp mo)
  else if -11 ≤ mo ∧ mo ≤ 0 then some (daysInMonthB m lp (mo + 12))
  else none

theorem pyIndex_table (m : Mode) (lp : Bool) (mo : Int) :
    Gen.Algo.pyIndex (table m lp) (mo - 1) = monthIndexed m lp mo := by
  have hl : (table m lp).length = 12 := by cases m <;> cases lp <;> rfl
  have G : ∀ n, n < 12 → (table m lp)[n]? = some ((table m lp).getD n 0) := fun n hn => by
    rw [List.getD_eq_getElem?_getD, List.getElem?_eq_getElem (by omega)]; rfl
  unfold Gen.Algo.pyIndex monthIndexed daysInMonthB
  rw [hl]
  by_cases c1 : 1 ≤ mo ∧ mo ≤ 12
  · rw [if_pos (by omega), if_pos c1, if_pos c1.1, G _ (by omega)]
  · rw [if_neg c1]
    by_cases c2 : -11 ≤ mo ∧ mo ≤ 0
    · rw [if_neg (by omega), if_pos (by omega), if_pos c2, if_pos (by omega), G _ (by omega)]
      congr 3; omega
    · rw [if_neg c2]
      by_cases c3 : 0 ≤ mo - 1
      · rw [if_pos c3, List.getElem?_eq_none (by omega)]
      · rw [if_neg c3, if_neg (by omega)]

/-! ### `_iter_months_days`, `iter_months_days` (every argument) -/

theorem pyRangeUp_eq (a : Int) (n : Nat) : Gen.Algo.pyRangeUp a n = rangeUp a n := by
  induction n generalizing a with
  | zero => rfl
  | succ n ih => simp only [Gen.Algo.pyRangeUp, rangeUp, ih]

theorem pyRangeDn_eq (a : Int) (n : Nat) : Gen.Algo.pyRangeDn a n = rangeDn a n := by
  induction n generalizing a with
  | zero => rfl
  | succ n ih => simp only [Gen.Algo.pyRangeDn, rangeDn, ih]

theorem pyRange_eq (a b : Int) : Gen.Algo.pyRange a b = upTo a b := pyRangeUp_eq _ _

theorem pyRangeDown_eq (a b : Int) : Gen.Algo.pyRangeDown a b = downTo a b := pyRangeDn_eq _ _

theorem pySliceFrom_eq {α : Type} (l : List α) (i : Int) : Gen.Algo.pySliceFrom l i = sliceFrom l i := rfl

/-- The four inner loops `for day in day_range: results.append((month_num, day))`. -/
theorem imd_for2 (m : Mode) (mn : Int) (k : List (Int × Int) → Option (List (Int × Int)))
    (l : List Int) (res : List (Int × Int)) :
    Gen.Algo._iter_months_days.for2 m mn k l res = k (res ++ monthDays mn l) := by
  induction l generalizing res with
  | nil => simp [Gen.Algo._iter_months_days.for2, monthDays]
  | cons d rest ih => simp [Gen.Algo._iter_months_days.for2, monthDays, ih]

theorem imd_for4 (m : Mode) (mn : Int) (k : List (Int × Int) → Option (List (Int × Int)))
    (l : List Int) (res : List (Int × Int)) :
    Gen.Algo._iter_months_days.for4 m mn k l res = k (res ++ monthDays mn l) := by
  induction l generalizing res with
  | nil => simp [Gen.Algo._iter_months_days.for4, monthDays]
  | cons d rest ih => simp [Gen.Algo._iter_months_days.for4, monthDays, ih]

theorem imd_for6 (m : Mode) (mn : Int) (k : List (Int × Int) → Option (List (Int × Int)))
    (l : List Int) (res : List (Int × Int)) :
    Gen.Algo._iter_months_days.for6 m mn k l res = k (res ++ monthDays mn l) := by
  induction l generalizing res with
  | nil => simp [Gen.Algo._iter_months_days.for6, monthDays]
  | cons d rest ih => simp [Gen.Algo._iter_months_days.for6, monthDays, ih]

theorem imd_for8 (m : Mode) (mn : Int) (k : List (Int × Int) → Option (List (Int × Int)))
    (l : List Int) (res : List (Int × Int)) :
    Gen.Algo._iter_months_days.for8 m mn k l res = k (res ++ monthDays mn l) := by
  induction l generalizing res with
  | nil => simp [Gen.Algo._iter_months_days.for8, monthDays]
  | cons d rest ih => simp [Gen.Algo._iter_months_days.for8, monthDays, ih]

theorem imd_for1 (m : Mode) (k : List (Int × Int) → Option (List (Int × Int)))
    (t : List (Int × Int)) (res : List (Int × Int)) :
    Gen.Algo._iter_months_days.for1 m k t res =
      k (res ++ t.flatMap fun p => monthDays p.1 (downTo p.2 0)) := by
  induction t generalizing res with
  | nil => simp [Gen.Algo._iter_months_days.for1]
  | cons p rest ih =>
    obtain ⟨mn, len⟩ := p
    simp [Gen.Algo._iter_months_days.for1, imd_for2, ih, pyRangeDown_eq]

theorem imd_for5 (m : Mode) (k : List (Int × Int) → Option (List (Int × Int)))
    (t : List (Int × Int)) (res : List (Int × Int)) :
    Gen.Algo._iter_months_days.for5 m k t res =
      k (res ++ t.flatMap fun p => monthDays p.1 (upTo 1 (p.2 + 1))) := by
  induction t generalizing res with
  | nil => simp [Gen.Algo._iter_months_days.for5]
  | cons p rest ih =>
    obtain ⟨mn, len⟩ := p
    simp [Gen.Algo._iter_months_days.for5, imd_for6, ih, pyRange_eq]

theorem imd_for3 (m : Mode) (mo : Int) (d : Option Int) (k : List (Int × Int) → Option (List (Int × Int)))
    (t : List (Int × Int)) (res : List (Int × Int)) :
    Gen.Algo._iter_months_days.for3 m mo d k t res =
      k (res ++ t.flatMap fun p =>
          if p.1 > mo then []
          else match d with
            | some d => if p.1 = mo then monthDays p.1 (downTo d 0) else monthDays p.1 (downTo p.2 0)
            | none => monthDays p.1 (downTo p.2 0)) := by
  induction t generalizing res with
  | nil => simp [Gen.Algo._iter_months_days.for3]
  | cons p rest ih =>
    obtain ⟨mn, len⟩ := p
    simp only [Gen.Algo._iter_months_days.for3, imd_for4, ih, pyRangeDown_eq, List.flatMap_cons]
    by_cases h1 : mn > mo
    · simp [h1]
    · cases d with
      | none => simp [h1]
      | some d => by_cases h2 : mn = mo <;> simp [h1, h2]

theorem imd_for7 (m : Mode) (mo : Int) (d : Option Int) (k : List (Int × Int) → Option (List (Int × Int)))
    (t : List (Int × Int)) (res : List (Int × Int)) :
    Gen.Algo._iter_months_days.for7 m mo d k t res =
      k (res ++ t.flatMap fun p =>
          match d with
          | some d => if p.1 = mo then monthDays p.1 (upTo d (p.2 + 1)) else monthDays p.1 (upTo 1 (p.2 + 1))
          | none => monthDays p.1 (upTo 1 (p.2 + 1))) := by
  induction t generalizing res with
  | nil => simp [Gen.Algo._iter_months_days.for7]
  | cons p rest ih =>
    obtain ⟨mn, len⟩ := p
    simp only [Gen.Algo._iter_months_days.for7, imd_for8, ih, pyRange_eq, List.flatMap_cons]
    cases d with
    | none => simp
    | some d => by_cases h2 : mn = mo <;> simp [h2]

theorem o2c_for1 (m : Mode) (y doy : Int) (k : Int → Option (Int × Int × Int)) (l : List (Int × Int)) (c : Int) :
    Gen.Algo.get_calendar_date_from_ordinal_date.for1 m y doy k l c =
      scanCount (fun p => (y, p.1, p.2)) doy k l c := by
  induction l generalizing c with
  | nil => rfl
  | cons p rest ih =>
    obtain ⟨a, b⟩ := p
    simp only [Gen.Algo.get_calendar_date_from_ordinal_date.for1, scanCount, ih]

theorem c2o_for1 (m : Mode) (y mo d : Int) (k : Int → Option (Int × Int)) (l : List (Int × Int)) (c : Int) :
    Gen.Algo.get_ordinal_date_from_calendar_date.for1 m y mo d k l c =
      scanElem True (fun n => (y, n)) mo d k l c := by
  induction l generalizing c with
  | nil => rfl
  | cons p rest ih =>
    obtain ⟨a, b⟩ := p
    simp only [Gen.Algo.get_ordinal_date_from_calendar_date.for1, scanElem, ih, true_and]

/-- The loop counts the weekday down to 1: a count up to -1 on the negated counter. -/
theorem wstart_for1 (m : Mode) (y : Int) (k : Int → Option (Int × Int × Int)) (l : List (Int × Int)) (c : Int) :
    Gen.Algo._get_calendar_date_week_date_start.for1 m y k l c =
      scanCount (fun p => (y - 1, p.1, p.2)) (-1) (fun u => k (-u)) l (-c) := by
  induction l generalizing c with
  | nil => simp only [Gen.Algo._get_calendar_date_week_date_start.for1, scanCount, Int.neg_neg]
  | cons p rest ih =>
    obtain ⟨a, b⟩ := p
    have e : -(c - 1) = -c + 1 := by omega
    have e2 : (c - 1 = 1) ↔ (-c + 1 = -1) := by omega
    simp only [Gen.Algo._get_calendar_date_week_date_start.for1, scanCount, ih, e, e2]

theorem wstart_tail (m : Mode) (y : Int) (lp : Bool) (dow : Int) (h1 : 1 ≤ dow) (h7 : dow ≤ 7) :
    (if dow = 1 then some (y, 1, 1)
      else if dow > 4 then some (y, 1, 1 + (8 - dow))
      else Option.map (fun p => (y - 1, p.fst, p.snd)) (nthDay (revListOf (indexed m lp)) (-1 - -dow))) =
    some (if dow = 1 then (y, 1, 1)
      else if dow > 4 then (y, 1, 1 + (8 - dow))
      else match walkRev (indexed m lp).reverse (dow - 1) with
        | some (mo, d) => (y - 1, mo, d)
        | none => (y - 1, 0, 0)) := by
  by_cases c1 : dow = 1
  · simp only [c1, ↓reduceIte]
  · by_cases c4 : dow > 4
    · simp only [c1, c4, ↓reduceIte]
    · have c2 : 1 ≤ -1 - -dow := by omega
      have e : (-1 - -dow - 1).toNat = (dow - 1 - 1).toNat := by omega
      simp only [c1, c4, c2, nthDay, ↓reduceIte, e,
        revList_get m lp (dow - 1) (by omega) (by omega),
        walkRev_spec m lp (dow - 1) (by omega) (by omega), Option.map_some]

theorem owstart_for1 (m : Mode) (cy mo d : Int) (k : Int → Option (Int × Int)) (l : List (Int × Int)) (c : Int) :
    Gen.Algo._get_ordinal_date_week_date_start.for1 m cy mo d k l c =
      scanElem True (fun n => (cy, n)) mo d k l c := by
  induction l generalizing c with
  | nil => rfl
  | cons p rest ih =>
    obtain ⟨a, b⟩ := p
    simp only [Gen.Algo._get_ordinal_date_week_date_start.for1, scanElem, ih, true_and]

theorem w2c_for1 (m : Mode) (n sy : Int) (k : Int → Option (Int × Int × Int)) (l : List (Int × Int)) (c : Int) :
    Gen.Algo.get_calendar_date_from_week_date.for1 m n sy k l c =
      scanCount (fun p => (sy, p.1, p.2)) n k l c := by
  induction l generalizing c with
  | nil => rfl
  | cons p rest ih =>
    obtain ⟨a, b⟩ := p
    have e : (n = c + 1) ↔ (c + 1 = n) := eq_comm
    simp only [Gen.Algo.get_calendar_date_from_week_date.for1, scanCount, ih, e]

theorem w2c_for2 (m : Mode) (y n : Int) (k : Int → Option (Int × Int × Int)) (l : List (Int × Int)) (c : Int) :
    Gen.Algo.get_calendar_date_from_week_date.for2 m y n k l c =
      scanCount (fun p => (y, p.1, p.2)) n k l c := by
  induction l generalizing c with
  | nil => rfl
  | cons p rest ih =>
    obtain ⟨a, b⟩ := p
    have e : (n = c + 1) ↔ (c + 1 = n) := eq_comm
    simp only [Gen.Algo.get_calendar_date_from_week_date.for2, scanCount, ih, e]

theorem w2c_for3 (m : Mode) (y n : Int) (k : Int → Option (Int × Int × Int)) (l : List (Int × Int)) (c : Int) :
    Gen.Algo.get_calendar_date_from_week_date.for3 m y n k l c =
      scanCount (fun p => (y + 1, p.1, p.2)) n k l c := by
  induction l generalizing c with
  | nil => rfl
  | cons p rest ih =>
    obtain ⟨a, b⟩ := p
    have e : (n = c + 1) ↔ (c + 1 = n) := eq_comm
    simp only [Gen.Algo.get_calendar_date_from_week_date.for3, scanCount, ih, e]

/-- The (week-year, week, weekday) the Python builds from the running day count. -/
def weekOfCount (m : Mode) (wy tot : Int) : Int × Int × Int :=
  (wy, tot / (Gen.calOfMode m).daysInWeek + 1, tot % (Gen.calOfMode m).daysInWeek + 1)

theorem c2w_for1 (m : Mode) (y mo d sy wy : Int) (k : Int → Option (Int × Int × Int)) (l : List (Int × Int)) (c : Int) :
    Gen.Algo.get_week_date_from_calendar_date.for1 m y mo d sy wy k l c =
      scanElem (sy = y) (weekOfCount m wy) mo d k l c := by
  induction l generalizing c with
  | nil => rfl
  | cons p rest ih =>
    obtain ⟨a, b⟩ := p
    simp only [Gen.Algo.get_week_date_from_calendar_date.for1, scanElem, ih, weekOfCount]

theorem c2w_for3 (m : Mode) (y mo d wy isy : Int) (k : Int → Option (Int × Int × Int)) (l : List (Int × Int)) (c : Int) :
    Gen.Algo.get_week_date_from_calendar_date.for3 m y mo d wy isy k l c =
      scanElem (isy = y) (weekOfCount m wy) mo d k l c := by
  induction l generalizing c with
  | nil => rfl
  | cons p rest ih =>
    obtain ⟨a, b⟩ := p
    simp only [Gen.Algo.get_week_date_from_calendar_date.for3, scanElem, ih, weekOfCount]

theorem tupLt3_eq (a b : Int × Int × Int) : Gen.Algo.tupLt3 a b = lexLt a b := rfl

theorem tupLe3_eq (a b : Int × Int × Int) : Gen.Algo.tupLe3 a b = lexLe a b := by
  obtain ⟨a1, a2, a3⟩ := a
  obtain ⟨b1, b2, b3⟩ := b
  rw [Bool.eq_iff_iff]
  simp only [Gen.Algo.tupLe3, Gen.Algo.tupLe2, lexLe, lexLt, Bool.or_eq_true, Bool.and_eq_true,
    decide_eq_true_eq, beq_iff_eq, Bool.not_eq_true', Bool.or_eq_false_iff, Bool.and_eq_false_imp,
    decide_eq_false_iff_not]
  omega

end IsoDT.Lemmas.AlgoEq
