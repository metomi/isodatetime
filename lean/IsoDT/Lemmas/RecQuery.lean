/-
  IsoDT.Lemmas.RecQuery — the recurrence queries (`get_is_valid`, `r[i]`, `get_first_after`) against
  the iteration: lists cut by `takeWhile`, arithmetic series read pointwise, the scan of
  `get_is_valid` over a monotone list, and what iteration yields when one step of the interval
  climbs (`StepRec`: exact positive and month/year intervals alike, forwards and backwards).
-/
import IsoDT.Lemmas.Rec

namespace IsoDT.Lemmas
open IsoDT IsoDT.Model
open IsoDT.Spec (Date TZ TP)

theorem mem_takeWhile_true {α : Type} (f : α → Bool) (l : List α) (x : α) (h : x ∈ l.takeWhile f) :
    f x = true :=
  List.all_eq_true.mp List.all_takeWhile x h

theorem takeWhile_congr {α : Type} (f g : α → Bool) : ∀ l : List α, (∀ x ∈ l, f x = g x) →
    l.takeWhile f = l.takeWhile g := by
  intro l
  induction l with
  | nil => intro _; rfl
  | cons a t ih =>
    intro h
    rw [List.takeWhile_cons, List.takeWhile_cons, h a List.mem_cons_self,
      ih fun x hx => h x (List.mem_cons_of_mem _ hx)]

theorem takeWhile_all {α : Type} (f : α → Bool) : ∀ l : List α, (∀ x ∈ l, f x = true) → l.takeWhile f = l := by
  intro l
  induction l with
  | nil => intro _; rfl
  | cons a t ih =>
    intro h
    rw [List.takeWhile_cons_of_pos (h a List.mem_cons_self), ih fun x hx => h x (List.mem_cons_of_mem _ hx)]

theorem takeWhile_head_false {α : Type} (f : α → Bool) (l : List α) (x : α) (h : l.head? = some x)
    (hx : f x = false) : l.takeWhile f = [] := by
  cases l with
  | nil => rfl
  | cons y rest =>
    cases h
    rw [List.takeWhile_cons, hx]; rfl

theorem takeWhile_head? {α : Type} (f : α → Bool) (l : List α) (h : l.takeWhile f ≠ []) :
    (l.takeWhile f).head? = l.head? := by
  cases l with
  | nil => rfl
  | cons a t =>
    rw [List.takeWhile_cons] at h ⊢
    split
    · rfl
    · rename_i c; rw [if_neg c] at h; exact absurd rfl h

theorem takeWhile_stop {α : Type} (f : α → Bool) : ∀ (l : List α)
    (h : (l.takeWhile f).length < l.length), f (l[(l.takeWhile f).length]) = false := by
  intro l
  induction l with
  | nil => intro h; simp at h
  | cons a t ih =>
    intro h
    by_cases c : f a = true
    · simp only [List.takeWhile_cons_of_pos c, List.length_cons, List.getElem_cons_succ] at h ⊢
      exact ih (by omega)
    · simp only [List.takeWhile_cons_of_neg c, List.length_nil, List.getElem_cons_zero]
      simpa using c

theorem takeWhile_getElem?_iff {α : Type} (f : α → Bool) : ∀ (l : List α) (k : Nat) (p : α),
    (l.takeWhile f)[k]? = some p ↔
      l[k]? = some p ∧ ∀ j, j ≤ k → ∀ q, l[j]? = some q → f q = true := by
  intro l
  induction l with
  | nil => intro k p; simp
  | cons x rest ih =>
    intro k p
    rw [List.takeWhile_cons]
    cases hx : f x with
    | false =>
      simp only [Bool.false_eq_true, ↓reduceIte, List.getElem?_nil, reduceCtorEq, false_iff, not_and]
      intro _ hall
      have := hall 0 (Nat.zero_le k) x rfl
      rw [hx] at this; cases this
    | true =>
      simp only [↓reduceIte]
      cases k with
      | zero =>
        simp only [List.getElem?_cons_zero, Option.some.injEq, Nat.le_zero_eq]
        refine ⟨fun h => ⟨h, ?_⟩, fun h => h.1⟩
        intro j hj q hq; subst hj
        cases hq; exact hx
      | succ k =>
        simp only [List.getElem?_cons_succ]
        rw [ih k p]
        refine and_congr_right fun _ => ⟨fun h2 j hj q hq => ?_, fun h2 j hj q hq => h2 (j + 1) (by omega) q hq⟩
        cases j with
        | zero => cases hq; exact hx
        | succ j => exact h2 j (by omega) q hq

theorem takeWhile_getElem?_filter {α : Type} (f : α → Bool) (l : List α) (i : Nat)
    (hmono : ∀ (j : Nat) (a b : α), j ≤ i → l[j]? = some a → l[i]? = some b → f b = true → f a = true) :
    (l.takeWhile f)[i]? = (l[i]?).filter f := by
  apply Option.ext
  intro p
  rw [takeWhile_getElem?_iff, Option.filter_eq_some_iff]
  exact and_congr_right fun hp =>
    ⟨fun h => h i (Nat.le_refl i) p hp, fun h j hj q hq => hmono j q p hj hq hp h⟩

theorem series_get (m : Mode) (rep : Nat) (tz : TZ) : ∀ (l : List TP) (i0 step : Int),
    SeriesOK m rep tz l i0 step → ∀ (i : Nat) (h : i < l.length),
      (l[i]).inst m = i0 + (i : Int) * step ∧ (l[i]).Valid m ∧ (l[i]).date.rep = rep ∧ (l[i]).tz = tz := by
  intro l
  induction l with
  | nil => intro _ _ _ i h; simp at h
  | cons p rest ih =>
    intro i0 step hs i h
    obtain ⟨h1, h2, h3, h4, h5⟩ := hs
    cases i with
    | zero =>
      rw [List.getElem_cons_zero, Int.natCast_zero, Int.zero_mul, Int.add_zero]
      exact ⟨h1, h2, h3, h4⟩
    | succ k =>
      rw [List.getElem_cons_succ]
      have := ih (i0 + step) step h5 k (by simpa using h)
      refine ⟨?_, this.2⟩
      rw [this.1, Int.natCast_succ, Int.add_mul, Int.one_mul, Int.add_assoc, Int.add_comm step]

theorem series_getElem? (m : Mode) (rep : Nat) (tz : TZ) (l : List TP) (i0 step : Int)
    (hs : SeriesOK m rep tz l i0 step) (i : Nat) (h : i < l.length) :
    ∃ p, l[i]? = some p ∧ p.inst m = i0 + (i : Int) * step ∧ p.Valid m ∧ p.date.rep = rep ∧ p.tz = tz :=
  ⟨l[i], List.getElem?_eq_getElem h, series_get m rep tz l i0 step hs i h⟩

theorem series_mem_iff (m : Mode) (rep : Nat) (tz : TZ) (l : List TP) (i0 step : Int)
    (hs : SeriesOK m rep tz l i0 step) (x : Int) :
    (∃ q ∈ l, q.inst m = x) ↔ ∃ k : Nat, k < l.length ∧ x = i0 + (k : Int) * step := by
  constructor
  · rintro ⟨q, hq, hqe⟩
    obtain ⟨i, hi, rfl⟩ := List.getElem_of_mem hq
    exact ⟨i, hi, by rw [← hqe, (series_get m rep tz l i0 step hs i hi).1]⟩
  · rintro ⟨k, hk, hke⟩
    exact ⟨l[k], List.getElem_mem hk, by rw [(series_get m rep tz l i0 step hs k hk).1, hke]⟩

theorem series_mem_valid (m : Mode) (rep : Nat) (tz : TZ) (l : List TP) (i0 step : Int)
    (hs : SeriesOK m rep tz l i0 step) (q : TP) (hq : q ∈ l) : q.Valid m := by
  obtain ⟨i, hi, rfl⟩ := List.getElem_of_mem hq
  exact (series_get m rep tz l i0 step hs i hi).2.1

theorem series_pairwise (m : Mode) (rep : Nat) (tz : TZ) (l : List TP) (i0 step : Int)
    (hs : SeriesOK m rep tz l i0 step) :
    (0 < step → l.Pairwise (fun a b => a.inst m < b.inst m)) ∧
    (step < 0 → l.Pairwise (fun a b => b.inst m < a.inst m)) := by
  constructor
  · intro hp
    rw [List.pairwise_iff_getElem]
    intro i j hi hj hij
    rw [(series_get m rep tz l i0 step hs i hi).1, (series_get m rep tz l i0 step hs j hj).1]
    exact Int.add_lt_add_left (Int.mul_lt_mul_of_pos_right (Int.ofNat_lt.mpr hij) hp) _
  · intro hn
    rw [List.pairwise_iff_getElem]
    intro i j hi hj hij
    rw [(series_get m rep tz l i0 step hs i hi).1, (series_get m rep tz l i0 step hs j hj).1]
    exact Int.add_lt_add_left (Int.mul_lt_mul_of_neg_right (Int.ofNat_lt.mpr hij) hn) _

theorem rev_index_int (L e n i : Int) : e - L * (n - 1) + i * L = e - (n - 1 - i) * L := by
  rw [Int.sub_mul (n - 1) i L, Int.mul_comm L (n - 1)]; omega

/-- Index `i` from the derived start is index `n − 1 − i` back from the end. -/
theorem rev_progression (L e : Int) (n : Nat) (x : Int) :
    (∃ i : Nat, i < n ∧ x = e - L * ((n : Int) - 1) + (i : Int) * L) ↔
      ∃ k : Nat, k < n ∧ x = e - (k : Int) * L := by
  have cast : ∀ i : Nat, i < n → ((n - 1 - i : Nat) : Int) = (n : Int) - 1 - (i : Int) := fun i hi => by omega
  have lt : ∀ i : Nat, i < n → n - 1 - i < n := fun i hi => by omega
  constructor
  · rintro ⟨i, hi, rfl⟩
    exact ⟨n - 1 - i, lt i hi, by rw [cast i hi]; exact rev_index_int L e n i⟩
  · rintro ⟨k, hk, rfl⟩
    refine ⟨n - 1 - k, lt k hk, ?_⟩
    rw [cast k hk, rev_index_int, Int.sub_sub_self]

theorem next_multiple (L x : Int) (hpos : 0 < L) :
    0 < L - x % L ∧ L - x % L ≤ L ∧ x + (L - x % L) = (x / L + 1) * L := by
  have h1 := Int.emod_nonneg x (Int.ne_of_gt hpos)
  have h2 := Int.emod_lt_of_pos x hpos
  have h3 := Int.emod_add_mul_ediv x L
  rw [Int.add_mul, Int.one_mul, Int.mul_comm (x / L) L]
  omega

theorem least_member (L : Int) (hpos : 0 < L) (s p q J : Int) (hq : q = s + J * L) (hle : q ≤ p + L)
    (k : Nat) (hk : p < s + (k : Int) * L) : q ≤ s + (k : Int) * L := by
  by_cases h : J ≤ (k : Int)
  · have := Int.mul_le_mul_of_nonneg_right h (Int.le_of_lt hpos); omega
  · have h1 : (k : Int) + 1 ≤ J := by omega
    have := Int.mul_le_mul_of_nonneg_right h1 (Int.le_of_lt hpos)
    rw [Int.add_mul] at this; omega

theorem index_lt_of_gap (gap : Int) (hpos : 0 < gap) (dist : Int) (i fuel : Nat)
    (hf : dist / gap < (fuel : Int)) (h : gap * (i : Int) ≤ dist) : i < fuel := by
  have := Int.le_ediv_of_mul_le hpos (show (i : Int) * gap ≤ dist by rw [Int.mul_comm]; exact h)
  omega

theorem progression_iff (L : Int) (hpos : 0 < L) (x s : Int) :
    (∃ k : Nat, x = s + (k : Int) * L) ↔ s ≤ x ∧ (x - s) % L = 0 := by
  constructor
  · rintro ⟨k, rfl⟩
    have h0 := Int.mul_nonneg (Int.natCast_nonneg k) (Int.le_of_lt hpos)
    exact ⟨Int.le_add_of_nonneg_right h0, by rw [Int.add_comm, Int.add_sub_cancel, Int.mul_emod_left]⟩
  · rintro ⟨h1, h2⟩
    have hdm := Int.emod_add_mul_ediv (x - s) L
    refine ⟨((x - s) / L).toNat, ?_⟩
    rw [Int.toNat_of_nonneg (Int.ediv_nonneg (Int.sub_nonneg_of_le h1) (Int.le_of_lt hpos)), Int.mul_comm]
    omega
theorem progression_rev_iff (L : Int) (hpos : 0 < L) (x e : Int) :
    (∃ k : Nat, x = e - (k : Int) * L) ↔ x ≤ e ∧ (e - x) % L = 0 := by
  constructor
  · rintro ⟨k, rfl⟩
    have h0 := Int.mul_nonneg (Int.natCast_nonneg k) (Int.le_of_lt hpos)
    exact ⟨Int.sub_le_self _ h0, by rw [Int.sub_sub_self, Int.mul_emod_left]⟩
  · rintro ⟨h1, h2⟩
    have hdm := Int.emod_add_mul_ediv (e - x) L
    refine ⟨((e - x) / L).toNat, ?_⟩
    rw [Int.toNat_of_nonneg (Int.ediv_nonneg (Int.sub_nonneg_of_le h1) (Int.le_of_lt hpos)), Int.mul_comm]
    omega

theorem index_bound_drop (L : Int) (hpos : 0 < L) (x s : Int) (fuel : Nat) (hf : (x - s) / L < (fuel : Int)) :
    (∃ k : Nat, k < fuel ∧ x = s + (k : Int) * L) ↔ ∃ k : Nat, x = s + (k : Int) * L :=
  ⟨fun ⟨k, _, h⟩ => ⟨k, h⟩, fun ⟨k, h⟩ =>
    ⟨k, index_lt_of_gap L hpos _ k fuel hf (by rw [Int.mul_comm]; omega), h⟩⟩

theorem index_bound_drop_rev (L : Int) (hpos : 0 < L) (x e : Int) (fuel : Nat) (hf : (e - x) / L < (fuel : Int)) :
    (∃ k : Nat, k < fuel ∧ x = e - (k : Int) * L) ↔ ∃ k : Nat, x = e - (k : Int) * L :=
  ⟨fun ⟨k, _, h⟩ => ⟨k, h⟩, fun ⟨k, h⟩ =>
    ⟨k, index_lt_of_gap L hpos _ k fuel hf (by rw [Int.mul_comm]; omega), h⟩⟩

/-! ### runs of `__iter__`: within the bounds, prefixes of each other (every recurrence) -/

theorem iterFrom_mem_inBounds (m : Mode) (r : Rec) (rev : Bool) : ∀ (fuel : Nat) (p q : TP),
    q ∈ iterFrom m r rev fuel p → inBounds m r q = true := by
  intro fuel
  induction fuel with
  | zero => intro p q h; cases h
  | succ fuel ih =>
    intro p q h
    simp only [iterFrom] at h
    by_cases cp : inBounds m r p = true
    · rw [if_pos cp] at h
      rcases List.mem_cons.mp h with rfl | h
      · exact cp
      · cases hn : (if rev = true then getPrev m r p else getNext m r p) with
        | none => rw [hn] at h; cases h
        | some q' => rw [hn] at h; exact ih q' q h
    · rw [if_neg cp] at h; cases h

theorem iter_mem_inBounds (m : Mode) (r : Rec) (fuel : Nat) (q : TP) (h : q ∈ iter m r fuel) :
    inBounds m r q = true := by
  rcases iter_shape m r with h0 | ⟨p, h1⟩ | ⟨p, h2⟩
  · rw [h0] at h; cases h
  · rw [h1] at h
    split at h
    · cases h
    · split at h
      · rcases List.mem_cons.mp h with rfl | h
        · assumption
        · cases h
      · cases h
  · rw [h2] at h
    exact iterFrom_mem_inBounds m r _ fuel p q h

theorem iterFrom_prefix (m : Mode) (r : Rec) (rev : Bool) : ∀ (i fuel : Nat) (p : TP), i < fuel →
    (iterFrom m r rev fuel p)[i]? = (iterFrom m r rev (i + 1) p)[i]? := by
  intro i
  induction i with
  | zero =>
    intro fuel p h
    obtain ⟨f, rfl⟩ : ∃ f, fuel = f + 1 := ⟨fuel - 1, by omega⟩
    simp only [iterFrom]
    by_cases cp : inBounds m r p = true
    · simp only [cp, ↓reduceIte, List.getElem?_cons_zero]
    · simp only [cp, Bool.false_eq_true, ↓reduceIte]
  | succ j ih =>
    intro fuel p h
    obtain ⟨f, rfl⟩ : ∃ f, fuel = f + 1 := ⟨fuel - 1, by omega⟩
    simp only [iterFrom]
    by_cases cp : inBounds m r p = true
    · simp only [cp, ↓reduceIte, List.getElem?_cons_succ]
      cases (if rev = true then getPrev m r p else getNext m r p) with
      | none => rfl
      | some q => exact ih f q (by omega)
    · simp only [cp, Bool.false_eq_true, ↓reduceIte]

theorem iter_prefix (m : Mode) (r : Rec) (i fuel : Nat) (h : i < fuel) :
    (iter m r fuel)[i]? = (iter m r (i + 1))[i]? := by
  rcases iter_shape m r with h0 | ⟨p, h1⟩ | ⟨p, h2⟩
  · rw [h0, h0]
  · rw [h1, h1, if_neg (show ¬ fuel = 0 by omega), if_neg (show ¬ i + 1 = 0 by omega)]
  · rw [h2, h2]
    exact iterFrom_prefix m r _ i fuel p h

theorem iter_length_le_fuel (m : Mode) (r : Rec) (fuel : Nat) : (iter m r fuel).length ≤ fuel := by
  rcases iter_shape m r with h0 | ⟨p, h1⟩ | ⟨p, h2⟩
  · rw [h0]; exact Nat.zero_le _
  · rw [h1]; split
    · exact Nat.zero_le _
    · split <;> simp <;> omega
  · rw [h2]
    generalize r.start.isNone = rev
    clear h2
    induction fuel generalizing p with
    | zero => exact Nat.le_refl _
    | succ f ih =>
      simp only [iterFrom]
      split
      · simp only [List.length_cons]
        split
        · have := ih ‹TP›; omega
        · simp
      · simp

theorem getItem_eq_getElem? (m : Mode) (r : Rec) (i fuel : Nat) (h : i < fuel) :
    getItem m r i = (iter m r fuel)[i]? :=
  (iter_prefix m r i fuel h).symm

theorem getItem_of_getElem? (m : Mode) (r : Rec) (fuel i : Nat) (q : TP) (h : (iter m r fuel)[i]? = some q) :
    i < fuel ∧ getItem m r i = some q := by
  have hi : i < fuel :=
    Nat.lt_of_lt_of_le (List.getElem?_eq_some_iff.mp h).1 (iter_length_le_fuel m r fuel)
  exact ⟨hi, (getItem_eq_getElem? m r i fuel hi).trans h⟩

theorem mem_iter_iff_getItem (m : Mode) (r : Rec) (fuel : Nat) (q : TP) :
    q ∈ iter m r fuel ↔ ∃ i, i < fuel ∧ getItem m r i = some q := by
  constructor
  · intro h
    obtain ⟨i, hi, hq⟩ := List.getElem_of_mem h
    exact ⟨i, getItem_of_getElem? m r fuel i q (hq ▸ List.getElem?_eq_getElem hi)⟩
  · rintro ⟨i, hi, hq⟩
    rw [getItem_eq_getElem? m r i fuel hi] at hq
    exact List.mem_of_getElem? hq

theorem iter_length_le_of_getItem_none (m : Mode) (r : Rec) (i : Nat) (h : getItem m r i = none)
    (fuel : Nat) : (iter m r fuel).length ≤ i := by
  by_cases c : i < fuel
  · unfold getItem at h
    rw [← iter_prefix m r i fuel c] at h
    exact List.getElem?_eq_none_iff.mp h
  · have := iter_length_le_fuel m r fuel
    omega

/-- The scan over a list of valid points is true exactly when some listed point is at the probe's
    instant, provided the list is monotone in the direction each early exit assumes: decreasing
    if there is no start point (exit at a point earlier than the probe), increasing if there is
    no end point (exit at a point later than the probe) — the remaining points are further still. -/
theorem scan_monotone (m : Mode) (r : Rec) (p : TP) (hp : p.Valid m) : ∀ (l : List TP),
    (∀ q ∈ l, q.Valid m) →
    (r.start.isNone = true → l.Pairwise (fun a b => b.inst m < a.inst m)) →
    (r.end_.isNone = true → l.Pairwise (fun a b => a.inst m < b.inst m)) →
    (scanValid m r p l = true ↔ ∃ q ∈ l, q.inst m = p.inst m) := by
  intro l
  induction l with
  | nil => intro _ _ _; simp [scanValid]
  | cons q rest ih =>
    intro hv hdec hinc
    have hvq := hv q List.mem_cons_self
    have he := tpEq_iff m q p hvq hp
    have ih' := ih (fun x hx => hv x (List.mem_cons_of_mem _ hx))
      (fun h => (List.pairwise_cons.mp (hdec h)).2) (fun h => (List.pairwise_cons.mp (hinc h)).2)
    unfold scanValid
    by_cases c1 : tpEq m q p = true
    · rw [if_pos c1]
      exact ⟨fun _ => ⟨q, List.mem_cons_self, he.mp c1⟩, fun _ => rfl⟩
    · rw [if_neg c1]
      have hne : q.inst m ≠ p.inst m := fun h => c1 (he.mpr h)
      have tail_only : (∃ x ∈ q :: rest, x.inst m = p.inst m) ↔ ∃ x ∈ rest, x.inst m = p.inst m :=
        ⟨fun ⟨x, hx, hxe⟩ => by
          rcases List.mem_cons.mp hx with rfl | hx
          · exact absurd hxe hne
          · exact ⟨x, hx, hxe⟩,
        fun ⟨x, hx, hxe⟩ => ⟨x, List.mem_cons_of_mem _ hx, hxe⟩⟩
      rw [tail_only]
      by_cases c2 : (r.start.isNone && tpLt m q p) = true
      · rw [if_pos c2]
        rw [Bool.and_eq_true] at c2
        have hlt := (tpLt_iff m q p hvq hp).mp c2.2
        refine ⟨fun h => (nomatch h), fun ⟨x, hx, hxe⟩ => ?_⟩
        have := Int.lt_trans ((List.pairwise_cons.mp (hdec c2.1)).1 x hx) hlt
        rw [hxe] at this; exact absurd this (Int.lt_irrefl _)
      · rw [if_neg c2]
        by_cases c3 : (r.end_.isNone && tpGt m q p) = true
        · rw [if_pos c3]
          rw [Bool.and_eq_true] at c3
          have hgt := (tpGt_iff m q p hvq hp).mp c3.2
          refine ⟨fun h => (nomatch h), fun ⟨x, hx, hxe⟩ => ?_⟩
          have := Int.lt_trans hgt ((List.pairwise_cons.mp (hinc c3.1)).1 x hx)
          rw [hxe] at this; exact absurd this (Int.lt_irrefl _)
        · rw [if_neg c3, ih']

/-- `get_is_valid` (with or without `min_point`/`max_point`): the bounds test `ok` of the probe,
    then the scan over the iterated points `l`.  If every listed point at the probe's instant
    passes the bounds test, the answer is membership of `l` by instant. -/
theorem guarded_scan_iff (m : Mode) (r : Rec) (p : TP) (hp : p.Valid m) (ok : Bool) (l : List TP)
    (hv : ∀ q ∈ l, q.Valid m)
    (hdec : r.start.isNone = true → l.Pairwise (fun a b => b.inst m < a.inst m))
    (hinc : r.end_.isNone = true → l.Pairwise (fun a b => a.inst m < b.inst m))
    (hok : ∀ q ∈ l, q.inst m = p.inst m → ok = true) :
    (if !ok then false else scanValid m r p l) = true ↔ ∃ q ∈ l, q.inst m = p.inst m := by
  cases ok with
  | true => exact scan_monotone m r p hp l hv hdec hinc
  | false => exact ⟨fun h => (nomatch h), fun ⟨q, hq, hqe⟩ => hok q hq hqe⟩

/-- What the queries need of a constructed recurrence: an interval, more than one repetition,
    valid bounds, and each addition (subtraction) of the interval moves a valid point at least
    `gap` seconds later (earlier).  Exact positive intervals (`gap` their length) and
    month/year intervals (`gap` one day) both qualify. -/
structure StepRec (m : Mode) (r : Rec) (d : Dur) (gap : Int) : Prop where
  dur : r.dur = some d
  multi : r.reps ≠ some 1
  nonzero : d.nonzero = true
  startValid : ∀ s, r.start = some s → s.Valid m
  endValid : ∀ e, r.end_ = some e → e.Valid m
  fwd : Climbs m d (fun p => p.inst m) gap
  bwd : Climbs m (d.mul (-1)) (fun p => -(p.inst m)) gap

theorem ExactRec.stepRec {m : Mode} {r : Rec} {d : Dur} {L : Int} (hr : ExactRec m r d L) :
    StepRec m r d L := by
  refine ⟨hr.dur, hr.multi, hr.nonzero, hr.startValid, hr.endValid, ⟨hr.pos, fun p hp => ?_⟩,
    ⟨hr.pos, fun p hp => ?_⟩⟩
  · obtain ⟨q, e, g⟩ := addDur_exact m p d hp hr.exact
    exact ⟨q, e, g.strict, g.rep, g.tz, by rw [g.inst, hr.len]; exact Int.le_refl _⟩
  · obtain ⟨q, e, g⟩ := subDur_exact m p d hp hr.exact
    exact ⟨q, e, g.strict, g.rep, g.tz, by rw [g.inst, hr.len, Int.neg_add, Int.neg_neg]; exact Int.le_refl _⟩

theorem iter_fwd_spec (m : Mode) (r : Rec) (d : Dur) (gap : Int) (hr : StepRec m r d gap) (s : TP)
    (hs : r.start = some s) (fuel : Nat) :
    iter m r fuel = (repeatAdd m d fuel s).takeWhile (inBounds m r) ∧
    (∀ q ∈ repeatAdd m d fuel s,
      (inBounds m r q = true ↔ ∀ e, r.end_ = some e → q.inst m ≤ e.inst m)) ∧
    Climbing m (fun p => p.inst m) gap s (iter m r fuel) := by
  have hi := iter_fwd m r d hr.dur hr.multi hr.nonzero s hs fuel
  obtain ⟨_, c⟩ := repeatAdd_spec m d _ gap hr.fwd fuel s (hr.startValid s hs)
  refine ⟨hi, fun q hq => ?_, c.prefix (hi ▸ List.takeWhile_prefix _)⟩
  obtain ⟨v, _, _, le⟩ := c.mem q hq
  exact inBounds_iff_end m r hr.startValid hr.endValid s hs q v le

/-- There is at most one point per gap between the start and the end bound. -/
theorem iter_fwd_length_le (m : Mode) (r : Rec) (d : Dur) (gap : Int) (hr : StepRec m r d gap) (s e : TP)
    (hs : r.start = some s) (he : r.end_ = some e) (hse : s.inst m ≤ e.inst m) (fuel : Nat) :
    ((iter m r fuel).length : Int) ≤ (e.inst m - s.inst m) / gap + 1 := by
  have hpos := hr.fwd.pos
  cases hl : (iter m r fuel).length with
  | zero => have := Int.ediv_nonneg (show 0 ≤ e.inst m - s.inst m by omega) (Int.le_of_lt hpos); omega
  | succ k =>
    have hk : k < (iter m r fuel).length := by omega
    have c := (iter_fwd_spec m r d gap hr s hs fuel).2.2
    have lb := c.lower k hk
    have hq := List.getElem_mem hk
    have hv := (c.mem _ hq).1
    have ub := ((inBounds_iff m r hr.startValid hr.endValid _ hv).mp (iter_mem_inBounds m r fuel _ hq)).2 e he
    have := Int.le_ediv_of_mul_le hpos (show (k : Int) * gap ≤ e.inst m - s.inst m by rw [Int.mul_comm]; omega)
    omega

/-- Backward iteration (`R/d/end`: no start point): repeated subtractions from the end `e`, all of it. -/
theorem iter_rev_spec (m : Mode) (r : Rec) (d : Dur) (gap : Int) (hr : StepRec m r d gap) (e : TP)
    (hs : r.start = none) (he : r.end_ = some e) (fuel : Nat) :
    iter m r fuel = repeatSub m d fuel e ∧ (iter m r fuel).length = fuel ∧
    Climbing m (fun p => -(p.inst m)) gap e (iter m r fuel) := by
  obtain ⟨a1, c⟩ := repeatAdd_spec m _ _ gap hr.bwd fuel e (hr.endValid e he)
  have hi : iter m r fuel = repeatAdd m (d.mul (-1)) fuel e := by
    rw [iter_rev m r d hr.dur hr.multi hr.nonzero e hs he fuel, repeatSub_eq]
    apply takeWhile_all
    intro q hq
    obtain ⟨v, _, _, le⟩ := c.mem q hq
    rw [inBounds_iff m r hr.startValid hr.endValid q v]
    exact ⟨fun s' h => (by rw [hs] at h; cases h),
      fun e' h => (by rw [he] at h; cases h; exact Int.le_of_neg_le_neg le)⟩
  rw [repeatSub_eq, hi]
  exact ⟨rfl, a1, c⟩

theorem iter_monotone (m : Mode) (r : Rec) (d : Dur) (gap : Int) (hr : StepRec m r d gap) (fuel : Nat) :
    (∀ q ∈ iter m r fuel, q.Valid m) ∧
    (r.start.isNone = true → (iter m r fuel).Pairwise (fun a b => b.inst m < a.inst m)) ∧
    (r.end_.isNone = true → (iter m r fuel).Pairwise (fun a b => a.inst m < b.inst m)) := by
  cases hs : r.start with
  | some s =>
    have c := (iter_fwd_spec m r d gap hr s hs fuel).2.2
    exact ⟨fun q hq => (c.mem q hq).1, fun h => (nomatch h), fun _ => c.pairwise⟩
  | none =>
    cases he : r.end_ with
    | some e =>
      obtain ⟨_, _, c⟩ := iter_rev_spec m r d gap hr e hs he fuel
      exact ⟨fun q hq => (c.mem q hq).1, fun _ => c.pairwise.imp Int.lt_of_neg_lt_neg, fun h => (nomatch h)⟩
    | none =>
      have h0 : iter m r fuel = [] := by unfold iter; simp only [hs, he, Option.isNone_none, ↓reduceIte]
      rw [h0]
      exact ⟨fun _ h => (nomatch h), fun _ => List.Pairwise.nil, fun _ => List.Pairwise.nil⟩

/-- **`get_is_valid(p)` is membership of the visited points by instant** — every notation,
    forwards and backwards, any amount of iteration: each early exit is taken only in the
    direction in which the points not yet visited are further from the probe. -/
theorem getIsValid_iff_iterated (m : Mode) (r : Rec) (d : Dur) (gap : Int) (hr : StepRec m r d gap)
    (p : TP) (hp : p.Valid m) (fuel : Nat) :
    getIsValid m r p fuel = true ↔ ∃ q ∈ iter m r fuel, q.inst m = p.inst m := by
  obtain ⟨hv, hdec, hinc⟩ := iter_monotone m r d gap hr fuel
  refine guarded_scan_iff m r p hp _ _ hv hdec hinc fun q hq hqe => ?_
  rw [← inBounds_congr m r hr.startValid hr.endValid p q hp (hv q hq) hqe]
  exact iter_mem_inBounds m r fuel q hq

theorem getIsValid_stable (m : Mode) (r : Rec) (d : Dur) (gap : Int) (hr : StepRec m r d gap)
    (p : TP) (hp : p.Valid m) (fuel : Nat)
    (hreach : ∀ i q, getItem m r i = some q → q.inst m = p.inst m → i < fuel) :
    (getIsValid m r p fuel = true ↔ ∃ i q, getItem m r i = some q ∧ q.inst m = p.inst m) ∧
    ∀ fuel', fuel ≤ fuel' → getIsValid m r p fuel' = getIsValid m r p fuel := by
  have key : ∀ f, fuel ≤ f →
      (getIsValid m r p f = true ↔ ∃ i q, getItem m r i = some q ∧ q.inst m = p.inst m) := by
    intro f hf
    rw [getIsValid_iff_iterated m r d gap hr p hp f]
    constructor
    · rintro ⟨q, hq, hx⟩
      obtain ⟨i, _, hi⟩ := (mem_iter_iff_getItem m r f q).mp hq
      exact ⟨i, q, hi, hx⟩
    · rintro ⟨i, q, hi, hx⟩
      exact ⟨q, (mem_iter_iff_getItem m r f q).mpr ⟨i, Nat.lt_of_lt_of_le (hreach i q hi hx) hf, hi⟩, hx⟩
  exact ⟨key fuel (Nat.le_refl _), fun fuel' hle => by
    rw [Bool.eq_iff_iff, key fuel' hle, key fuel (Nat.le_refl _)]⟩

theorem getFirstAfter_of_not_inBounds (m : Mode) (r : Rec) (s p : TP) (hs : r.start = some s)
    (hb : inBounds m r p = false) (fuel : Nat) :
    getFirstAfter m r p fuel = if tpLt m p s then some s else none := by
  unfold getFirstAfter
  simp only [hs, hb, Bool.false_eq_true, ↓reduceIte]

/-- The closed-form branch (exact interval of non-zero length, probe within the bounds): one
    addition of the interval less the time since the last member, kept if within the bounds. -/
theorem getFirstAfter_closed (m : Mode) (r : Rec) (d diff : Dur) (s p : TP) (hs : r.start = some s)
    (hd : r.dur = some d) (hex : d.isExact = true) (hb : inBounds m r p = true)
    (hsub : subTP m p s = some diff) (hnz : ¬ d.seconds m = 0) (fuel : Nat) :
    getFirstAfter m r p fuel =
      (addDur m p (Dur.sub m d (.units 0 0 0 0 0 (Int.fmod (diff.seconds m) (d.seconds m))))).filter
        (inBounds m r) := by
  unfold getFirstAfter
  simp only [hs, hb, ↓reduceIte, hd, hex, hsub, hnz]
  cases addDur m p (Dur.sub m d (.units 0 0 0 0 0 (Int.fmod (diff.seconds m) (d.seconds m)))) <;> rfl

end IsoDT.Lemmas
