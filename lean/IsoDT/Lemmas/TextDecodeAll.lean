/-
  IsoDT.Lemmas.TextDecodeAll — the VALUE half of parsing, for every documented non-truncated form at
  once: a specification of what the groups of a template spell (`Vals`, `envOf`), of the keyword
  arguments the documented semantics prescribes (`argsOf`, `zoneOf`) and of the time point they denote
  (`pointOf`), written without reference to `assemble` / `ctor`, and the generic theorems that
  `_create_timepoint_from_info` (`assemble`), `process_time_zone_info` (`processZone`) and
  `TimePoint.__init__` (`ctor`) compute exactly these — for every template that passes decidable
  shape checks (`itemOK`, `decodable`, `zoneOK`, `dateShapeOK`, `timeShapeOK`), which `Props/C07b`
  discharges over the regenerated tables by kernel evaluation.
-/
import IsoDT.Lemmas.TextDecode
import IsoDT.Lemmas.Conv

namespace IsoDT.Text
open IsoDT IsoDT.Model IsoDT.Lemmas
open IsoDT.Spec (TZ Date)

/-- An assignment of VALUES to every field a date-time expression can spell.  A template uses the
    values of the groups it contains and ignores the rest. -/
structure Vals where
  /-- the year sign is `-` -/
  yearNeg : Bool := false
  /-- the expanded year digits `X…`, as a number -/
  x : Nat := 0
  /-- century `CC` -/
  cc : Nat := 0
  /-- year of century `YY` -/
  yy : Nat := 0
  month : Nat := 0
  day : Nat := 0
  doy : Nat := 0
  week : Nat := 0
  dow : Nat := 0
  hour : Nat := 0
  minute : Nat := 0
  second : Nat := 0
  /-- the digits after the decimal sign of a fractional hour / minute / second -/
  hourDec : List Char := ['0']
  minuteDec : List Char := ['0']
  secondDec : List Char := ['0']
  /-- the zone sign is `-` -/
  tzNeg : Bool := false
  tzHour : Nat := 0
  tzMinute : Nat := 0
  deriving DecidableEq, Repr, Inhabited

def Vals.nat (v : Vals) : Fld → Nat
  | .expandedYear => v.x
  | .century => v.cc
  | .yearOfCentury => v.yy
  | .monthOfYear => v.month
  | .dayOfMonth => v.day
  | .dayOfYear => v.doy
  | .weekOfYear => v.week
  | .dayOfWeek => v.dow
  | .hourOfDay => v.hour
  | .minuteOfHour => v.minute
  | .secondOfMinute => v.second
  | .tzHour => v.tzHour
  | .tzMinute => v.tzMinute
  | _ => 0

def Vals.neg (v : Vals) : Fld → Bool
  | .yearSign => v.yearNeg
  | .tzSign => v.tzNeg
  | _ => false

def Vals.dec (v : Vals) : Fld → List Char
  | .hourDec => v.hourDec
  | .minuteDec => v.minuteDec
  | .secondDec => v.secondDec
  | _ => []

/-- The group texts a template spells for the values `v`: every `[0-9]{n}` group is the value of its
    field, zero-padded to the group's width; a sign group is `+` or `-`; a decimal group is the
    fraction's digit string; a literal group is its own text. -/
def envOf : Template → Vals → Env
  | [], _ => []
  | .lit _ :: t, v => envOf t v
  | .digits f n :: t, v => (f, renderNat n (v.nat f)) :: envOf t v
  | .digitsPlus f :: t, v => (f, v.dec f) :: envOf t v
  | .sign f :: t, v => (f, [if v.neg f then '-' else '+']) :: envOf t v
  | .group f ls :: t, v => (f, ls) :: envOf t v

/-- `envOf` and `tenvOf` are this for the value functions of `Vals` and of `TVals`. -/
def envBy (nat : Fld → Nat) (neg : Fld → Bool) (dec : Fld → List Char) : Template → Env
  | [] => []
  | .lit _ :: t => envBy nat neg dec t
  | .digits f n :: t => (f, renderNat n (nat f)) :: envBy nat neg dec t
  | .digitsPlus f :: t => (f, dec f) :: envBy nat neg dec t
  | .sign f :: t => (f, [if neg f then '-' else '+']) :: envBy nat neg dec t
  | .group f ls :: t => (f, ls) :: envBy nat neg dec t

theorem envOf_eq (t : Template) (v : Vals) : envOf t v = envBy v.nat v.neg v.dec t := by
  induction t with
  | nil => rfl
  | cons it t ih => cases it <;> simp only [envOf, envBy, ih]

def hasGroup (t : Template) (f : Fld) : Bool := (groupFields t).contains f

def fieldOf (t : Template) (f : Fld) (n : Nat) : Option Int :=
  if hasGroup t f then some (n : Int) else none

def decOf (t : Template) (f : Fld) (s : List Char) : Option (List Char) :=
  if hasGroup t f then some s else none

/-- The year a date expression spells: `±(10000·X + 100·CC + YY)`, each part counted iff its group
    occurs (century-only forms spell `100·CC`), negated iff there is a sign group and it is `-`. -/
def yearOf (de : Template) (v : Vals) : Int :=
  let a : Nat := (if hasGroup de .expandedYear then 10000 * v.x else 0) +
    (if hasGroup de .century then 100 * v.cc else 0) +
    (if hasGroup de .yearOfCentury then v.yy else 0)
  if hasGroup de .yearSign && v.yearNeg then -(a : Int) else (a : Int)

/-- The keyword arguments `TimePoint(...)` is to receive; `te` is `[]` for a date alone. -/
def argsOf (cfg : Cfg) (de te : Template) (zone : ZoneInfo) (v : Vals) : Args :=
  { ned := if hasGroup de .expandedYear then cfg.pt.ned else 0
    year := some (yearOf de v)
    month := fieldOf de .monthOfYear v.month
    day := fieldOf de .dayOfMonth v.day
    doy := fieldOf de .dayOfYear v.doy
    week := fieldOf de .weekOfYear v.week
    dow := fieldOf de .dayOfWeek v.dow
    hour := fieldOf te .hourOfDay v.hour
    minute := fieldOf te .minuteOfHour v.minute
    second := fieldOf te .secondOfMinute v.second
    hourDec := decOf te .hourDec v.hourDec
    minuteDec := decOf te .minuteDec v.minuteDec
    secondDec := decOf te .secondDec v.secondDec
    tzHour := zone.hour
    tzMinute := zone.minute
    truncated := false
    truncProp := none
    dumpFmt := none }

/-- The zone a zone expression `zt` spells (`none`: no zone in the text — the parser's configuration
    decides): `Z` is `+00:00`; `±hh` has NO minute (the constructor then takes 0, never the
    configured zone's minutes); the sign applies to hours and minutes alike. -/
def zoneOf (zd : ZoneDefault) (zt : Option Template) (v : Vals) : ZoneInfo :=
  match zt with
  | none =>
    match zd with
    | .assumed h mi => ⟨some h, some mi⟩
    | .localOffset h mi => ⟨some h, some mi⟩
    | .unknown => ⟨none, none⟩
  | some t =>
    if hasGroup t .tzUtc then ⟨some 0, some 0⟩
    else
      let neg := hasGroup t .tzSign && v.tzNeg
      ⟨some (if neg then -(v.tzHour : Int) else v.tzHour),
       if hasGroup t .tzMinute then some (if neg then -(v.tzMinute : Int) else v.tzMinute) else none⟩

/-- The time point the documented semantics prescribes for the values `v` spelled in the forms `de`, `te`
    with resolved zone `tz`: the given fields in the form's own representation; omitted lower-order
    fields at the start of their period (month 1, day 1; weekday 1 in week forms; hour, minute, second
    0); a decimal fraction stays on its unit and suppresses the lower units. -/
def pointOf (cfg : Cfg) (de te : Template) (v : Vals) (tz : TZ) : XTP :=
  { ned := if hasGroup de .expandedYear then cfg.pt.ned else 0
    year := some (yearOf de v)
    month := if hasGroup de .dayOfYear || hasGroup de .weekOfYear then none
             else some (if hasGroup de .monthOfYear then (v.month : Int) else 1)
    day := if hasGroup de .dayOfYear || hasGroup de .weekOfYear then none
           else some (if hasGroup de .dayOfMonth then (v.day : Int) else 1)
    doy := fieldOf de .dayOfYear v.doy
    week := fieldOf de .weekOfYear v.week
    dow := if hasGroup de .weekOfYear then some (if hasGroup de .dayOfWeek then (v.dow : Int) else 1)
           else none
    hour := some (if hasGroup te .hourOfDay then (v.hour : Int) else 0)
    minute := if hasGroup te .hourDec then none
              else some (if hasGroup te .minuteOfHour then (v.minute : Int) else 0)
    second := if hasGroup te .hourDec || hasGroup te .minuteDec then none
              else some (if hasGroup te .secondOfMinute then (v.second : Int) else 0)
    hourDec := decOf te .hourDec v.hourDec
    minuteDec := decOf te .minuteDec v.minuteDec
    secondDec := decOf te .secondDec v.secondDec
    tz := tz
    tzUnknown := false
    truncated := false
    truncProp := none
    dumpFmt := none }

/-- The date the values spell, in the form's own representation, omitted parts at their start. -/
def dateOf (de : Template) (v : Vals) : Date :=
  if hasGroup de .dayOfYear then .ord (yearOf de v) (v.doy : Int)
  else if hasGroup de .weekOfYear then
    .week (yearOf de v) (v.week : Int) (if hasGroup de .dayOfWeek then (v.dow : Int) else 1)
  else
    .cal (yearOf de v) (if hasGroup de .monthOfYear then (v.month : Int) else 1)
      (if hasGroup de .dayOfMonth then (v.day : Int) else 1)

def hourOf (te : Template) (v : Vals) : Nat := if hasGroup te .hourOfDay then v.hour else 0

def minuteOf (te : Template) (v : Vals) : Nat := if hasGroup te .minuteOfHour then v.minute else 0

def secondOf (te : Template) (v : Vals) : Nat := if hasGroup te .secondOfMinute then v.second else 0

/-- A legal time of day: below 24:00 with minute and second below 60, or exactly 24 with every given
    lower unit zero and every given fraction zero. -/
def TimeValid (te : Template) (v : Vals) : Prop :=
  (hourOf te v < 24 ∧ minuteOf te v < 60 ∧ secondOf te v < 60) ∨
  (hourOf te v = 24 ∧ minuteOf te v = 0 ∧ secondOf te v = 0 ∧
    (hasGroup te .hourDec = true → fracZero v.hourDec = true) ∧
    (hasGroup te .minuteDec = true → fracZero v.minuteDec = true) ∧
    (hasGroup te .secondDec = true → fracZero v.secondDec = true))

instance (te : Template) (v : Vals) : Decidable (TimeValid te v) := by unfold TimeValid; infer_instance

def isIntFld : Fld → Bool
  | .expandedYear | .century | .yearOfCentury | .monthOfYear | .dayOfMonth | .dayOfYear | .weekOfYear
  | .dayOfWeek | .hourOfDay | .minuteOfHour | .secondOfMinute | .tzHour | .tzMinute => true
  | _ => false

def isSignFld : Fld → Bool
  | .yearSign | .tzSign => true
  | _ => false

def isDecFld : Fld → Bool
  | .hourDec | .minuteDec | .secondDec => true
  | _ => false

/-- The documented width of each digit group (`ned` expanded year digits). -/
def stdWidth (ned : Nat) : Fld → Nat
  | .expandedYear => ned
  | .dayOfYear => 3
  | .dayOfWeek => 1
  | _ => 2

/-- One item of a non-truncated expression: a literal, a digit group of a numeric field with its
    documented width, a decimal group of a fraction field, a sign group of a sign field, or `Z`. -/
def itemOK (ned : Nat) : Item → Bool
  | .lit _ => true
  | .digits f n => isIntFld f && n == stdWidth ned f
  | .digitsPlus f => isDecFld f
  | .sign f => isSignFld f
  | .group f ls => f == .tzUtc && ls == ['Z']

def Vals.Fit (ned : Nat) (v : Vals) : Prop :=
  v.x < 10 ^ ned ∧ v.cc < 100 ∧ v.yy < 100 ∧ v.month < 100 ∧ v.day < 100 ∧ v.doy < 1000 ∧
  v.week < 100 ∧ v.dow < 10 ∧ v.hour < 100 ∧ v.minute < 100 ∧ v.second < 100 ∧
  v.tzHour < 100 ∧ v.tzMinute < 100 ∧
  (v.hourDec ≠ [] ∧ v.hourDec.all isDigit = true) ∧
  (v.minuteDec ≠ [] ∧ v.minuteDec.all isDigit = true) ∧
  (v.secondDec ≠ [] ∧ v.secondDec.all isDigit = true)

instance (ned : Nat) (v : Vals) : Decidable (v.Fit ned) := by unfold Vals.Fit; infer_instance

/-- The text of group `f` under `v`, by the class of the field alone. -/
def fldText (ned : Nat) (v : Vals) (f : Fld) : List Char :=
  if isIntFld f then renderNat (stdWidth ned f) (v.nat f)
  else if isSignFld f then [if v.neg f then '-' else '+']
  else if isDecFld f then v.dec f
  else ['Z']

theorem fit_nat (ned : Nat) (v : Vals) (hv : v.Fit ned) (f : Fld) (hf : isIntFld f = true) :
    v.nat f < 10 ^ stdWidth ned f := by
  obtain ⟨h1, h2, h3, h4, h5, h6, h7, h8, h9, h10, h11, h12, h13, _⟩ := hv
  cases f <;> first | exact absurd hf (by decide) | (simp only [Vals.nat, stdWidth]; omega)

theorem fit_dec (ned : Nat) (v : Vals) (hv : v.Fit ned) (f : Fld) (hf : isDecFld f = true) :
    v.dec f ≠ [] ∧ (v.dec f).all isDigit = true := by
  obtain ⟨_, _, _, _, _, _, _, _, _, _, _, _, _, h1, h2, h3⟩ := hv
  cases f <;> first | exact absurd hf (by decide) | exact h1 | exact h2 | exact h3

theorem envBy_fields (nat : Fld → Nat) (neg : Fld → Bool) (dec : Fld → List Char) (t : Template) :
    (envBy nat neg dec t).map Prod.fst = groupFields t := by
  induction t with
  | nil => rfl
  | cons it t ih => cases it <;> simp [envBy, groupFields, ih]

theorem envOf_fields (t : Template) (v : Vals) : (envOf t v).map Prod.fst = groupFields t :=
  envOf_eq t v ▸ envBy_fields ..

theorem has_envOf (t : Template) (v : Vals) (f : Fld) : Env.has (envOf t v) f = hasGroup t f := by
  rw [Env.has_iff, envOf_fields]; rfl

theorem hasGroup_cons (f g : Fld) (l : List Fld) : (g :: l).contains f = (f == g || l.contains f) :=
  List.contains_cons

theorem get_cons (X : Fld → List Char) (g f : Fld) (env : Env) (b : Bool)
    (ih : Env.get? env f = if b then some (X f) else none) :
    Env.get? ((g, X g) :: env) f = if (f == g || b) then some (X f) else none := by
  unfold Env.get?
  by_cases hg : g = f
  · subst hg; simp
  · have : (f == g) = false := by simp [Ne.symm hg]
    rw [if_neg hg, this, Bool.false_or]; exact ih

theorem fldText_int (ned : Nat) (v : Vals) (f : Fld) (hf : isIntFld f = true) :
    fldText ned v f = renderNat (stdWidth ned f) (v.nat f) := if_pos hf

theorem fldText_sign (ned : Nat) (v : Vals) (f : Fld) (hf : isSignFld f = true) :
    fldText ned v f = [if v.neg f then '-' else '+'] := by
  cases f <;> first | exact absurd hf Bool.false_ne_true | rfl

theorem fldText_dec (ned : Nat) (v : Vals) (f : Fld) (hf : isDecFld f = true) :
    fldText ned v f = v.dec f := by
  cases f <;> first | exact absurd hf Bool.false_ne_true | rfl

theorem get_envOf (ned : Nat) (t : Template) (h : t.all (itemOK ned) = true) (v : Vals) (f : Fld) :
    Env.get? (envOf t v) f = if hasGroup t f then some (fldText ned v f) else none := by
  induction t with
  | nil => rfl
  | cons it t ih =>
    simp only [List.all_cons, Bool.and_eq_true] at h
    have ih := ih h.2
    have hit := h.1
    unfold hasGroup at ih ⊢
    cases it with
    | lit c => exact ih
    | digits g n =>
      simp only [itemOK, Bool.and_eq_true, beq_iff_eq] at hit
      rw [envOf, hit.2, ← fldText_int ned v g hit.1]
      exact get_cons (fldText ned v) g f _ _ ih
    | digitsPlus g =>
      rw [envOf, ← fldText_dec ned v g hit]
      exact get_cons (fldText ned v) g f _ _ ih
    | sign g =>
      rw [envOf, ← fldText_sign ned v g hit]
      exact get_cons (fldText ned v) g f _ _ ih
    | group g ls =>
      simp only [itemOK, Bool.and_eq_true, beq_iff_eq] at hit
      obtain ⟨rfl, rfl⟩ := hit
      exact get_cons (fldText ned v) .tzUtc f _ _ ih

/-- A template whose items are all `itemOK` has groups of the four classes only (in particular no
    `truncated` marker and no year-of-decade). -/
theorem hasGroup_class (ned : Nat) (t : Template) (h : t.all (itemOK ned) = true) (f : Fld)
    (hf : hasGroup t f = true) :
    isIntFld f = true ∨ isSignFld f = true ∨ isDecFld f = true ∨ f = .tzUtc := by
  induction t with
  | nil => simp [hasGroup, groupFields] at hf
  | cons it t ih =>
    simp only [List.all_cons, Bool.and_eq_true] at h
    have ih := ih h.2
    have hit := h.1
    unfold hasGroup at ih hf
    cases it <;>
      simp only [itemOK, groupFields, hasGroup_cons, Bool.and_eq_true, Bool.or_eq_true, beq_iff_eq] at hit hf
    · exact ih hf
    · exact hf.elim (fun e => e ▸ Or.inl hit.1) ih
    · exact hf.elim (fun e => e ▸ Or.inr (Or.inr (Or.inl hit))) ih
    · exact hf.elim (fun e => e ▸ Or.inr (Or.inl hit)) ih
    · exact hf.elim (fun e => e ▸ Or.inr (Or.inr (Or.inr hit.1))) ih

theorem hasGroup_unclassed (ned : Nat) (t : Template) (h : t.all (itemOK ned) = true) (f : Fld)
    (h1 : isIntFld f = false) (h2 : isSignFld f = false) (h3 : isDecFld f = false) (h4 : f ≠ .tzUtc) :
    hasGroup t f = false := by
  cases hf : hasGroup t f with
  | false => rfl
  | true =>
    rcases hasGroup_class ned t h f hf with e | e | e | e
    · rw [h1] at e; cases e
    · rw [h2] at e; cases e
    · rw [h3] at e; cases e
    · exact absurd e h4

/-- The rendered groups fit the template: `tmatch` recovers exactly them (`tmatch_trender`). -/
theorem fits_envOf (ned : Nat) (t : Template) (hw : wf t = true) (h : t.all (itemOK ned) = true)
    (v : Vals) (hv : v.Fit ned) : fits t (envOf t v) = true := by
  induction t with
  | nil => rfl
  | cons it t ih =>
    simp only [List.all_cons, Bool.and_eq_true] at h
    cases it with
    | digitsPlus g =>
      simp only [wf, List.isEmpty_iff] at hw
      subst hw
      obtain ⟨h1, h2⟩ := fit_dec ned v hv g h.1
      simp [envOf, fits, h1, h2]
    | sign g =>
      simp only [envOf, fits, ih hw h.2, Bool.and_true, decide_true, Bool.true_and]
      cases v.neg g <;> simp
    | _ => simp [envOf, fits, renderNat_length, renderNat_digits, ih hw h.2]

theorem get_of_fits (ned : Nat) (t : Template) (h : t.all (itemOK ned) = true) (env : Env)
    (hf : fits t env = true) (f : Fld) (hi : isIntFld f = true) (ds : List Char)
    (hg : Env.get? env f = some ds) : ds.length = stdWidth ned f ∧ ds.all isDigit = true := by
  have skip : ∀ (g : Fld) (s : List Char) (env : Env), isIntFld g = false →
      Env.get? ((g, s) :: env) f = some ds → Env.get? env f = some ds := by
    intro g s env hg h
    unfold Env.get? at h
    split at h
    · rename_i e; rw [e, hi] at hg; cases hg
    · exact h
  induction t generalizing env with
  | nil =>
    cases env with
    | nil => cases hg
    | cons _ _ => exact absurd hf Bool.false_ne_true
  | cons it t ih =>
    simp only [List.all_cons, Bool.and_eq_true] at h
    have hc := fits_cons hf
    have hit := h.1
    cases it with
    | lit c => exact ih h.2 env hc hg
    | digits g n =>
      obtain ⟨s, env, rfl, hl, hd, hc⟩ := hc
      simp only [itemOK, Bool.and_eq_true, beq_iff_eq] at hit
      unfold Env.get? at hg
      split at hg
      · rename_i e; cases hg; exact ⟨e ▸ hl.trans hit.2, hd⟩
      · exact ih h.2 env hc hg
    | digitsPlus g =>
      obtain ⟨s, rfl, _, _, rfl⟩ := hc
      cases skip g s [] (by cases g <;> first | rfl | exact absurd hit Bool.false_ne_true) hg
    | sign g =>
      obtain ⟨s, env, rfl, _, hc⟩ := hc
      exact ih h.2 env hc (skip g s env (by cases g <;> first | rfl | exact absurd hit Bool.false_ne_true) hg)
    | group g ls =>
      obtain ⟨env, rfl, hc⟩ := hc
      simp only [itemOK, Bool.and_eq_true, beq_iff_eq] at hit
      exact ih h.2 env hc (skip g ls env (hit.1 ▸ rfl) hg)

theorem mem_of_hasGroup (t : Template) (f : Fld) (h : hasGroup t f = true) : f ∈ groupFields t := by
  unfold hasGroup at h
  exact List.contains_iff_mem.mp h

theorem hasGroup_tail (a : Item) (t : Template) (f : Fld) (h : hasGroup t f = true) :
    hasGroup (a :: t) f = true := by
  unfold hasGroup at h ⊢
  cases a <;> simp only [groupFields, hasGroup_cons, h, Bool.or_true]

theorem envBy_congr (t : Template) (nat nat' : Fld → Nat) (neg neg' : Fld → Bool) (dec dec' : Fld → List Char)
    (h : ∀ f, hasGroup t f = true → nat f = nat' f ∧ neg f = neg' f ∧ dec f = dec' f) :
    envBy nat neg dec t = envBy nat' neg' dec' t := by
  induction t with
  | nil => rfl
  | cons it t ih =>
    have ih := ih fun f hf => h f (hasGroup_tail it t f hf)
    cases it with
    | lit c => exact ih
    | digits g n => simp only [envBy, ih, (h g (by simp [hasGroup, groupFields])).1]
    | digitsPlus g => simp only [envBy, ih, (h g (by simp [hasGroup, groupFields])).2.2]
    | sign g => simp only [envBy, ih, (h g (by simp [hasGroup, groupFields])).2.1]
    | group g ls => simp only [envBy, ih]

theorem envBy_frac (t : Template) (nat nat' : Fld → Nat) (neg neg' : Fld → Bool) (v v' : Vals)
    (hn : ∀ f, nat f = nat' f) (hs : ∀ f, neg f = neg' f)
    (hd : ∀ f, isDecFld f = true → hasGroup t f = true → v.dec f = v'.dec f) :
    envBy nat neg v.dec t = envBy nat' neg' v'.dec t := by
  apply envBy_congr
  intro f hf
  refine ⟨hn f, hs f, ?_⟩
  cases hd' : isDecFld f
  · cases f <;> first | rfl | exact absurd hd' (by decide)
  · exact hd f hd' hf

theorem envOf_frac (t : Template) (v v' : Vals) (hn : ∀ f, v.nat f = v'.nat f) (hs : ∀ f, v.neg f = v'.neg f)
    (hd : ∀ f, isDecFld f = true → hasGroup t f = true → v.dec f = v'.dec f) : envOf t v = envOf t v' := by
  rw [envOf_eq, envOf_eq]
  exact envBy_frac t _ _ _ _ v v' hn hs hd

theorem no_decGroup (t : Template) (p : Fld → Bool) (hp : (groupFields t).all p = true)
    (hpd : (p .hourDec || p .minuteDec || p .secondDec) = false) (f : Fld) (hd : isDecFld f = true)
    (hf : hasGroup t f = true) : False := by
  have hpf := List.all_eq_true.mp hp f (mem_of_hasGroup t f hf)
  cases f <;> first | exact absurd hd (by decide) | simp [hpf] at hpd

theorem optInt_envOf (ned : Nat) (t : Template) (h : t.all (itemOK ned) = true) (v : Vals)
    (hv : v.Fit ned) (f : Fld) (hf : isIntFld f = true)
    (hw : hasGroup t f = true → 0 < stdWidth ned f) :
    optInt (envOf t v) f = some (fieldOf t f (v.nat f)) := by
  unfold optInt fieldOf
  rw [get_envOf ned t h v f]
  cases hg : hasGroup t f with
  | false => simp
  | true =>
    rw [if_pos rfl, fldText_int ned v f hf]
    simp only [intOf_renderNat _ _ (hw hg) (fit_nat ned v hv f hf)]; rfl

theorem optInt_absent (ned : Nat) (t : Template) (h : t.all (itemOK ned) = true) (v : Vals) (f : Fld)
    (hf : hasGroup t f = false) : optInt (envOf t v) f = some none := by
  unfold optInt
  rw [get_envOf ned t h v f, hf]; rfl

theorem dec_envOf (ned : Nat) (t : Template) (h : t.all (itemOK ned) = true) (v : Vals) (f : Fld)
    (hf : isDecFld f = true) : Env.get? (envOf t v) f = decOf t f (v.dec f) := by
  rw [get_envOf ned t h v f, fldText_dec ned v f hf]; rfl

theorem sign_envOf (ned : Nat) (t : Template) (h : t.all (itemOK ned) = true) (v : Vals) (f : Fld)
    (hf : isSignFld f = true) :
    (Env.get? (envOf t v) f == some ['-']) = (hasGroup t f && v.neg f) := by
  rw [get_envOf ned t h v f, fldText_sign ned v f hf]
  cases hasGroup t f <;> cases v.neg f <;> rfl

theorem fieldOf_getD (t : Template) (f : Fld) (n : Nat) :
    (fieldOf t f n).getD 0 = ((if hasGroup t f then n else 0 : Nat) : Int) := by
  unfold fieldOf
  cases hasGroup t f <;> rfl

theorem truthy_fieldOf (t : Template) (f : Fld) (n : Nat) (h : hasGroup t f = false) :
    truthy (fieldOf t f n) = false := by
  unfold fieldOf
  rw [h]
  rfl

theorem isSome_fieldOf (t : Template) (f : Fld) (n : Nat) : (fieldOf t f n).isSome = hasGroup t f := by
  unfold fieldOf
  cases hasGroup t f <;> rfl

theorem isNone_fieldOf (t : Template) (f : Fld) (n : Nat) : (fieldOf t f n).isNone = !hasGroup t f := by
  unfold fieldOf
  cases hasGroup t f <;> rfl

theorem isSome_decOf (t : Template) (f : Fld) (s : List Char) : (decOf t f s).isSome = hasGroup t f := by
  unfold decOf
  cases hasGroup t f <;> rfl

/-- `yearOf` as `_create_timepoint_from_info` computes it: the absolute year from the numbers of the
    year-of-century, century and expanded-year groups, 0 for an absent group, negated for a `-` sign. -/
theorem yearOf_eq (de : Template) (v : Vals) :
    yearOf de v =
      if (hasGroup de .yearSign && v.yearNeg) = true then
        -(0 + (fieldOf de .yearOfCentury v.yy).getD 0 + 100 * (fieldOf de .century v.cc).getD 0 +
          10000 * (fieldOf de .expandedYear v.x).getD 0)
      else 0 + (fieldOf de .yearOfCentury v.yy).getD 0 + 100 * (fieldOf de .century v.cc).getD 0 +
          10000 * (fieldOf de .expandedYear v.x).getD 0 := by
  have key : (0 : Int) + (fieldOf de .yearOfCentury v.yy).getD 0 + 100 * (fieldOf de .century v.cc).getD 0 +
      10000 * (fieldOf de .expandedYear v.x).getD 0 =
      (((if hasGroup de .expandedYear then 10000 * v.x else 0) +
        (if hasGroup de .century then 100 * v.cc else 0) +
        (if hasGroup de .yearOfCentury then v.yy else 0) : Nat) : Int) := by
    have sum : ∀ x c y : Nat, (0 : Int) + y + 100 * c + 10000 * x = ((10000 * x + 100 * c + y : Nat) : Int) := by
      omega
    simp only [fieldOf_getD]
    cases hasGroup de .expandedYear <;> cases hasGroup de .century <;> cases hasGroup de .yearOfCentury <;>
      exact sum _ _ _
  rw [key]
  rfl

/-- The decidable side condition of `assemble_envOf` on a (date, time) pair of regular expressions: all
    items are of the non-truncated kinds with the documented widths, the date has a century group (so it
    is not an implicitly truncated `YY…` form), and an expanded-year group occurs only when the
    configuration has expanded digits (an empty group cannot be read as a number). -/
def decodable (ned : Nat) (de te : Template) : Bool :=
  de.all (itemOK ned) && te.all (itemOK ned) && hasGroup de .century &&
    (ned != 0 || !hasGroup de .expandedYear)

/-- **Field assembly**: on the groups `envOf` spells, `_create_timepoint_from_info` assembles exactly the
    keyword arguments `argsOf` prescribes. -/
theorem assemble_envOf (cfg : Cfg) (de te : Template) (zone : ZoneInfo) (expr : List Char) (v : Vals)
    (hd : decodable cfg.pt.ned de te = true) (hv : v.Fit cfg.pt.ned) :
    assemble cfg ⟨envOf de v, false, envOf te v, zone, expr⟩ none = some (argsOf cfg de te zone v) := by
  simp only [decodable, Bool.and_eq_true, Bool.or_eq_true, bne_iff_ne, Bool.not_eq_true'] at hd
  obtain ⟨⟨⟨hde, hte⟩, hcc⟩, hx⟩ := hd
  have eX := optInt_envOf _ de hde v hv .expandedYear rfl (by
    intro hg
    rcases hx with h | h
    · simp only [stdWidth]; omega
    · rw [hg] at h; cases h)
  have eC := optInt_envOf _ de hde v hv .century rfl (fun _ => Nat.succ_pos _)
  have eY := optInt_envOf _ de hde v hv .yearOfCentury rfl (fun _ => Nat.succ_pos _)
  have eM := optInt_envOf _ de hde v hv .monthOfYear rfl (fun _ => Nat.succ_pos _)
  have eD := optInt_envOf _ de hde v hv .dayOfMonth rfl (fun _ => Nat.succ_pos _)
  have eO := optInt_envOf _ de hde v hv .dayOfYear rfl (fun _ => Nat.succ_pos _)
  have eW := optInt_envOf _ de hde v hv .weekOfYear rfl (fun _ => Nat.succ_pos _)
  have eK := optInt_envOf _ de hde v hv .dayOfWeek rfl (fun _ => Nat.succ_pos _)
  have eh := optInt_envOf _ te hte v hv .hourOfDay rfl (fun _ => Nat.succ_pos _)
  have em := optInt_envOf _ te hte v hv .minuteOfHour rfl (fun _ => Nat.succ_pos _)
  have es := optInt_envOf _ te hte v hv .secondOfMinute rfl (fun _ => Nat.succ_pos _)
  have eZ := optInt_absent _ de hde v .yearOfDecade
    (hasGroup_unclassed _ de hde _ rfl rfl rfl (by decide))
  have eT : hasGroup te .truncated = false := hasGroup_unclassed _ te hte _ rfl rfl rfl (by decide)
  have eS := sign_envOf _ de hde v .yearSign rfl
  have dh := dec_envOf _ te hte v .hourDec rfl
  have dm := dec_envOf _ te hte v .minuteDec rfl
  have ds := dec_envOf _ te hte v .secondDec rfl
  have eZ' : hasGroup de .yearOfDecade = false := hasGroup_unclassed _ de hde _ rfl rfl rfl (by decide)
  unfold assemble
  simp only [eX, eC, eY, eM, eD, eO, eW, eK, eh, em, es, eZ, eS, dh, dm, ds, has_envOf, hcc, eT, eZ',
    Vals.nat, Vals.neg, Vals.dec, Option.getD_none, argsOf, yearOf_eq, Bool.not_true, Bool.false_and,
    Bool.or_self, Bool.not_false, Bool.or_false, Bool.true_or, Bool.true_and, ↓reduceIte, Bool.and_eq_true,
    Bool.and_false, Bool.false_eq_true]

/-- With no expanded digits configured, the (empty) expanded-year group of a signed form makes
    `int('')` fail: nothing is assembled, whatever the other groups, the time groups and the zone. -/
theorem assemble_envOf_width0 (cfg : Cfg) (de : Template) (tenv : Env) (trunc : Bool) (zone : ZoneInfo)
    (expr : List Char) (v : Vals) (dump : Option (List Char))
    (hde : de.all (itemOK cfg.pt.ned) = true) (h0 : cfg.pt.ned = 0)
    (hX : hasGroup de .expandedYear = true) :
    assemble cfg ⟨envOf de v, trunc, tenv, zone, expr⟩ dump = none := by
  have eX : optInt (envOf de v) .expandedYear = none := by
    unfold optInt
    rw [get_envOf _ de hde v .expandedYear, hX, if_pos rfl, fldText_int _ v _ rfl, stdWidth, h0]
    rfl
  unfold assemble
  simp only [eX]
  split
  · rename_i h _ _ _ _ _; cases h
  · rfl

theorem optInt_some (env : Env) (f : Fld) (x : Int) (h : optInt env f = some (some x)) :
    ∃ ds, Env.get? env f = some ds ∧ x = (digitsVal ds : Int) := by
  unfold optInt at h
  split at h
  · cases h
  · rename_i ds hg
    unfold intOf? at h
    split at h
    · cases h
    · cases h
      exact ⟨ds, hg, rfl⟩

/-- Inversion of `assemble`, for the fields the alternative spelling reads: month, day, ordinal day,
    hour, minute, second are the numbers of their groups, and the arguments are marked truncated
    exactly when the date or the time groups are (a date without a century counts as truncated). -/
theorem assemble_some (cfg : Cfg) (info : Info) (dump : Option (List Char)) (a : Args)
    (h : assemble cfg info dump = some a) :
    optInt info.dateEnv .monthOfYear = some a.month ∧ optInt info.dateEnv .dayOfMonth = some a.day ∧
    optInt info.dateEnv .dayOfYear = some a.doy ∧ optInt info.timeEnv .hourOfDay = some a.hour ∧
    optInt info.timeEnv .minuteOfHour = some a.minute ∧ optInt info.timeEnv .secondOfMinute = some a.second ∧
    a.truncated = (info.dateTrunc ||
      (!Env.has info.dateEnv .century && Env.has info.dateEnv .yearOfCentury) ||
      Env.has info.timeEnv .truncated) := by
  unfold assemble at h
  simp only at h
  split at h
  · rename_i dec yy cc xx mo dd doy wk dow e1 e2 e3 e4 e5 e6 e7 e8 e9
    split at h
    · rename_i hh mi ss f1 f2 f3
      cases h
      exact ⟨e5, e6, e7, f1, f2, f3, rfl⟩
    · cases h
  · cases h

def zoneOK (ned : Nat) (zt : Template) : Bool :=
  zt.all (itemOK ned) && (hasGroup zt .tzUtc || hasGroup zt .tzHour)

/-- No zone in the text: `process_time_zone_info` falls back on the parser's configuration. -/
theorem processZone_none (zd : ZoneDefault) (v : Vals) :
    processZone zd [] = some (zoneOf zd none v) := by
  cases zd <;> rfl

theorem envOf_nonempty (t : Template) (v : Vals) (f : Fld) (h : hasGroup t f = true) :
    (envOf t v).isEmpty = false := by
  rw [← has_envOf t v f] at h
  cases he : envOf t v with
  | nil => rw [he] at h; simp [Env.has, Env.get?] at h
  | cons _ _ => rfl

/-- **Zone**: on the groups a zone form spells, `process_time_zone_info` computes `zoneOf`. -/
theorem processZone_envOf (ned : Nat) (zd : ZoneDefault) (zt : Template) (h : zoneOK ned zt = true)
    (v : Vals) (hv : v.Fit ned) :
    processZone zd (envOf zt v) = some (zoneOf zd (some zt) v) := by
  simp only [zoneOK, Bool.and_eq_true, Bool.or_eq_true] at h
  obtain ⟨hz, hg⟩ := h
  have hne : (envOf zt v).isEmpty = false := by
    rcases hg with hg | hg <;> exact envOf_nonempty zt v _ hg
  have eS := sign_envOf ned zt hz v .tzSign rfl
  have eH := get_envOf ned zt hz v .tzHour
  have eM := get_envOf ned zt hz v .tzMinute
  have iH : intOf? (renderNat 2 v.tzHour) = some (v.tzHour : Int) :=
    intOf_renderNat 2 _ (by decide) (fit_nat ned v hv .tzHour rfl)
  have iM : intOf? (renderNat 2 v.tzMinute) = some (v.tzMinute : Int) :=
    intOf_renderNat 2 _ (by decide) (fit_nat ned v hv .tzMinute rfl)
  unfold processZone
  simp only [hne, has_envOf, eS, eH, eM, zoneOf, Bool.false_eq_true, if_false]
  cases hU : hasGroup zt .tzUtc with
  | true => simp
  | false =>
    rw [hU] at hg
    have hH : hasGroup zt .tzHour = true := by simpa using hg
    simp only [hH, if_true, Bool.false_eq_true, if_false, fldText, isIntFld, stdWidth, Vals.nat, Vals.neg, iH]
    cases hMi : hasGroup zt .tzMinute with
    | false => simp
    | true => simp [iM]

def datePattern (de : Template) : Bool × Bool × Bool × Bool × Bool :=
  (hasGroup de .monthOfYear, hasGroup de .dayOfMonth, hasGroup de .dayOfYear, hasGroup de .weekOfYear,
   hasGroup de .dayOfWeek)

/-- The six documented date patterns: year alone, year-month, calendar date, ordinal date, year-week,
    week date. -/
def dateShapeOK (de : Template) : Bool :=
  [(false, false, false, false, false), (true, false, false, false, false),
   (true, true, false, false, false), (false, false, true, false, false),
   (false, false, false, true, false), (false, false, false, true, true)].contains (datePattern de)

def timePattern (te : Template) : Bool × Bool × Bool × Bool × Bool × Bool :=
  (hasGroup te .hourOfDay, hasGroup te .minuteOfHour, hasGroup te .secondOfMinute,
   hasGroup te .hourDec, hasGroup te .minuteDec, hasGroup te .secondDec)

/-- The documented time patterns: no time (date alone), `hh`, `hhmm`, `hhmmss`, and each of the three
    with a decimal fraction on its last unit. -/
def timeShapeOK (te : Template) : Bool :=
  [(false, false, false, false, false, false), (true, false, false, false, false, false),
   (true, true, false, false, false, false), (true, true, true, false, false, false),
   (true, false, false, true, false, false), (true, true, false, false, true, false),
   (true, true, true, false, false, true)].contains (timePattern te)

theorem checkBounds_week0 (m : Mode) (p : XTP) (hw : p.week = some 0) : checkBounds m p = false := by
  unfold checkBounds
  rw [hw]
  cases p.year <;> simp [inBounds]

theorem dateShape_cases (de : Template) (h : dateShapeOK de = true) :
    datePattern de = (false, false, false, false, false) ∨ datePattern de = (true, false, false, false, false) ∨
    datePattern de = (true, true, false, false, false) ∨ datePattern de = (false, false, true, false, false) ∨
    datePattern de = (false, false, false, true, false) ∨ datePattern de = (false, false, false, true, true) := by
  simpa only [List.mem_cons, List.not_mem_nil, or_false] using List.contains_iff_mem.mp h

theorem timeShape_cases (te : Template) (h : timeShapeOK te = true) :
    timePattern te = (false, false, false, false, false, false) ∨
    timePattern te = (true, false, false, false, false, false) ∨
    timePattern te = (true, true, false, false, false, false) ∨
    timePattern te = (true, true, true, false, false, false) ∨
    timePattern te = (true, false, false, true, false, false) ∨
    timePattern te = (true, true, false, false, true, false) ∨
    timePattern te = (true, true, true, false, false, true) := by
  simpa only [List.mem_cons, List.not_mem_nil, or_false] using List.contains_iff_mem.mp h

/-- The hour, minute and second `TimePoint.__init__` stores in a non-truncated point: a missing unit is
    0 unless a higher unit carries the fraction; a fraction whose unit is missing, or that has a lower
    unit, is an error. -/
def ctorTime (h mi s : Option Int) (hd md sd : Option (List Char)) :
    Option (Option Int × Option Int × Option Int) :=
  if hd.isSome && (h.isNone || mi.isSome || s.isSome) then none
  else if md.isSome && (mi.isNone || s.isSome) then none
  else if sd.isSome && s.isNone then none
  else some (if h.isNone then some 0 else h, if hd.isNone && mi.isNone then some 0 else mi,
    if hd.isNone && md.isNone && s.isNone then some 0 else s)

/-- The month, day, week and weekday it stores in a non-truncated point: two of the three
    representations at once are an error; without a day of year the missing lower fields of the
    calendar date (or of the week date, if a week or weekday is given and not 0) become 1. -/
def ctorDate (mo d doy w dw : Option Int) : Option (Option Int × Option Int × Option Int × Option Int) :=
  if (truthy mo || truthy d) && (truthy w || truthy dw) then none
  else if (truthy mo || truthy d) && doy.isSome then none
  else if (truthy w || truthy dw) && doy.isSome then none
  else some (
    if doy.isNone && !(truthy w || truthy dw) && mo.isNone then some 1 else mo,
    if doy.isNone && !(truthy w || truthy dw) && d.isNone then some 1 else d,
    if doy.isNone && (truthy w || truthy dw) && w.isNone then some 1 else w,
    if doy.isNone && (truthy w || truthy dw) && dw.isNone then some 1 else dw)

theorem ctor_nontrunc (m : Mode) (a : Args) (ht : a.truncated = false) (y : Int) (hy : a.year = some y) :
    ctor m a =
      (mkTZ m (a.tzHour.getD 0) (a.tzMinute.getD 0)).bind fun tz =>
      (ctorTime a.hour a.minute a.second a.hourDec a.minuteDec a.secondDec).bind fun t =>
      (ctorDate a.month a.day a.doy a.week a.dow).bind fun d =>
        let p : XTP := {
          ned := a.ned, year := a.year, month := d.1, day := d.2.1, doy := a.doy, week := d.2.2.1,
          dow := d.2.2.2, hour := t.1, minute := t.2.1, second := t.2.2, hourDec := a.hourDec,
          minuteDec := a.minuteDec, secondDec := a.secondDec, tz := tz, tzUnknown := false,
          truncated := false, truncProp := a.truncProp, dumpFmt := a.dumpFmt }
        if checkBounds m p then some p else none := by
  unfold ctor ctorTime ctorDate
  rw [ht, hy]
  generalize (a.hourDec.isSome && (a.hour.isNone || a.minute.isSome || a.second.isSome)) = c1
  generalize (a.minuteDec.isSome && (a.minute.isNone || a.second.isSome)) = c2
  generalize (a.secondDec.isSome && a.second.isNone) = c3
  generalize (truthy a.month || truthy a.day) = ms
  generalize (truthy a.week || truthy a.dow) = ws
  cases mkTZ m (a.tzHour.getD 0) (a.tzMinute.getD 0) with
  | none => cases c1 <;> cases c2 <;> cases c3 <;> rfl
  | some tz =>
    cases c1
    · cases c2
      · cases c3
        · cases ms <;> cases ws <;> cases a.doy <;> rfl
        · rfl
      · rfl
    · rfl

theorem ctorDate_week {mo d doy dw : Option Int} {w : Int} {r : Option Int × Option Int × Option Int × Option Int}
    (h : ctorDate mo d doy (some w) dw = some r) : r.2.2.1 = some w := by
  unfold ctorDate at h
  generalize (truthy mo || truthy d) = ms at h
  generalize (truthy (some w) || truthy dw) = ws at h
  cases ms <;> cases ws <;> cases doy <;> cases h <;> rfl

/-- Week 0 is never in bounds: a non-truncated point spelled with it is rejected. -/
theorem ctor_week0 (m : Mode) (a : Args) (ht : a.truncated = false) (y : Int) (hy : a.year = some y)
    (hw : a.week = some 0) : ctor m a = none := by
  rw [ctor_nontrunc m a ht y hy]
  cases mkTZ m (a.tzHour.getD 0) (a.tzMinute.getD 0) with
  | none => rfl
  | some tz =>
    cases ctorTime a.hour a.minute a.second a.hourDec a.minuteDec a.secondDec with
    | none => rfl
    | some t =>
      cases hD : ctorDate a.month a.day a.doy a.week a.dow with
      | none => rfl
      | some d =>
        rw [hw] at hD
        exact if_neg (by rw [checkBounds_week0 m _ (ctorDate_week hD)]; exact Bool.false_ne_true)

theorem ctorTime_argsOf (cfg : Cfg) (de te : Template) (zone : ZoneInfo) (v : Vals) (tz : TZ)
    (ht : timeShapeOK te = true) :
    ctorTime (argsOf cfg de te zone v).hour (argsOf cfg de te zone v).minute (argsOf cfg de te zone v).second
        (argsOf cfg de te zone v).hourDec (argsOf cfg de te zone v).minuteDec
        (argsOf cfg de te zone v).secondDec =
      some ((pointOf cfg de te v tz).hour, (pointOf cfg de te v tz).minute, (pointOf cfg de te v tz).second) := by
  have ht := timeShape_cases te ht
  simp only [argsOf, pointOf]
  unfold ctorTime fieldOf decOf
  unfold timePattern at ht
  generalize hasGroup te .hourOfDay = b1 at ht ⊢
  generalize hasGroup te .minuteOfHour = b2 at ht ⊢
  generalize hasGroup te .secondOfMinute = b3 at ht ⊢
  generalize hasGroup te .hourDec = b4 at ht ⊢
  generalize hasGroup te .minuteDec = b5 at ht ⊢
  generalize hasGroup te .secondDec = b6 at ht ⊢
  rcases ht with h | h | h | h | h | h | h <;> cases h <;> rfl

theorem ctorDate_argsOf (cfg : Cfg) (de te : Template) (zone : ZoneInfo) (v : Vals) (tz : TZ)
    (hd : dateShapeOK de = true) (hw : hasGroup de .weekOfYear = true → v.week ≠ 0) :
    -- week 0 is falsy: the constructor would take the week form for a year alone and fill month and day
    ctorDate (argsOf cfg de te zone v).month (argsOf cfg de te zone v).day (argsOf cfg de te zone v).doy
        (argsOf cfg de te zone v).week (argsOf cfg de te zone v).dow =
      some ((pointOf cfg de te v tz).month, (pointOf cfg de te v tz).day, (pointOf cfg de te v tz).week,
        (pointOf cfg de te v tz).dow) := by
  have hd := dateShape_cases de hd
  simp only [datePattern, Prod.mk.injEq] at hd
  simp only [argsOf, pointOf]
  unfold ctorDate fieldOf
  rcases hd with ⟨d1, d2, d3, d4, d5⟩ | ⟨d1, d2, d3, d4, d5⟩ | ⟨d1, d2, d3, d4, d5⟩ | ⟨d1, d2, d3, d4, d5⟩ |
      ⟨d1, d2, d3, d4, d5⟩ | ⟨d1, d2, d3, d4, d5⟩ <;>
    simp [truthy, d1, d2, d3, d4, d5, hw]

/-- **Constructor**: `TimePoint(...)` on `argsOf` is `pointOf` if the zone and `_check_bounds` accept it,
    an error otherwise — for every documented date and time pattern. -/
theorem ctor_argsOf (cfg : Cfg) (de te : Template) (zone : ZoneInfo) (v : Vals)
    (hd : dateShapeOK de = true) (ht : timeShapeOK te = true) :
    ctor cfg.mode (argsOf cfg de te zone v) =
      match mkTZ cfg.mode (zone.hour.getD 0) (zone.minute.getD 0) with
      | none => none
      | some tz =>
        if checkBounds cfg.mode (pointOf cfg de te v tz) then some (pointOf cfg de te v tz) else none := by
  cases hz : mkTZ cfg.mode (zone.hour.getD 0) (zone.minute.getD 0) with
  | none =>
    rw [ctor_nontrunc _ _ rfl _ rfl]
    show (mkTZ cfg.mode (zone.hour.getD 0) (zone.minute.getD 0)).bind _ = _
    rw [hz]; rfl
  | some tz =>
    by_cases hw : hasGroup de .weekOfYear = true ∧ v.week = 0
    · -- the constructor's "no week given" path and `pointOf` differ, but week 0 is out of bounds in both
      rw [ctor_week0 _ _ rfl _ rfl (by simp only [argsOf, fieldOf, hw.1, hw.2]; rfl)]
      exact (if_neg (by
        rw [checkBounds_week0 _ _ (by simp only [pointOf, fieldOf, hw.1, hw.2]; rfl)]
        exact Bool.false_ne_true)).symm
    · rw [ctor_nontrunc _ _ rfl _ rfl, ctorTime_argsOf cfg de te zone v tz ht,
        ctorDate_argsOf cfg de te zone v tz hd fun h h0 => hw ⟨h, h0⟩]
      show (mkTZ cfg.mode (zone.hour.getD 0) (zone.minute.getD 0)).bind _ = _
      rw [hz]; rfl

/-! ## `_check_bounds` on the point: the date in its own representation and the time of day are legal -/

/-- The date part of `_check_bounds`. -/
def dateBounds (m : Mode) (year month day week doy dow : Option Int) : Bool :=
  inBounds month 1 (calOf m).monthsInYear &&
  (let maxDim : Int := match month with
      | some mo => match year with
        | some y => daysInMonth m y mo
        | none => daysInMonthB m true mo
      | none => (calOf m).maxDaysInMonth
   inBounds day 1 maxDim) &&
  (match year with
   | some y => inBounds week 1 (weeksInYear m y) && inBounds doy 1 (daysInYear m y)
   | none => inBounds week 1 (calOf m).maxWeeksInYear && inBounds doy 1 (calOf m).daysInYearLeap) &&
  inBounds dow 1 (calOf m).daysInWeek

/-- The time part of `_check_bounds`. -/
def timeBounds (m : Mode) (hour minute second : Option Int) (hourDec minuteDec secondDec : Option (List Char)) :
    Bool :=
  (match hour with
   | none => true
   | some h => 0 ≤ h && (h < (calOf m).hoursInDay ||
       (h = (calOf m).hoursInDay && (hourDec.map fracZero).getD true))) &&
  (if hour = some (calOf m).hoursInDay then
     (match minute with
      | none => true
      | some mi => mi = 0 && (minuteDec.map fracZero).getD true) &&
     (match second with
      | none => true
      | some s => s = 0 && (secondDec.map fracZero).getD true)
   else
     (match minute with
      | none => true
      | some mi => 0 ≤ mi && mi < (calOf m).minutesInHour) &&
     (match second with
      | none => true
      | some s => 0 ≤ s && s < (calOf m).secondsInMinute))

theorem checkBounds_split (m : Mode) (p : XTP) :
    checkBounds m p = (dateBounds m p.year p.month p.day p.week p.doy p.dow &&
      timeBounds m p.hour p.minute p.second p.hourDec p.minuteDec p.secondDec) := by
  simp only [checkBounds, dateBounds, timeBounds, Bool.and_assoc]
  rfl

theorem dateBounds_cal (m : Mode) (y mo d : Int) :
    dateBounds m (some y) (some mo) (some d) none none none = true ↔ Spec.ValidCal m y mo d := by
  simp only [dateBounds, inBounds, monthsInYear_eq, Bool.and_true, Bool.and_eq_true, decide_eq_true_eq,
    Spec.ValidCal]
  constructor
  · rintro ⟨⟨h1, h2⟩, h3, h4⟩
    rw [daysInMonth_eq m y mo h1 h2] at h4
    exact ⟨h1, h2, h3, h4⟩
  · rintro ⟨h1, h2, h3, h4⟩
    rw [daysInMonth_eq m y mo h1 h2]
    exact ⟨⟨h1, h2⟩, h3, h4⟩

theorem dateBounds_ord (m : Mode) (y n : Int) :
    dateBounds m (some y) none none none (some n) none = true ↔ Spec.ValidOrd m y n := by
  simp [dateBounds, inBounds, daysInYear_eq, Spec.ValidOrd]

theorem dateBounds_week (m : Mode) (y w d : Int) :
    dateBounds m (some y) none none (some w) none (some d) = true ↔ Spec.ValidWeek m y w d := by
  simp [dateBounds, inBounds, weeksInYear_eq, daysInWeek_eq, Spec.ValidWeek, and_assoc]

theorem timeBounds_pointOf (cfg : Cfg) (m : Mode) (de te : Template) (v : Vals) (tz : TZ)
    (ht : timeShapeOK te = true) :
    timeBounds m (pointOf cfg de te v tz).hour (pointOf cfg de te v tz).minute (pointOf cfg de te v tz).second
      (pointOf cfg de te v tz).hourDec (pointOf cfg de te v tz).minuteDec (pointOf cfg de te v tz).secondDec = true ↔
    TimeValid te v := by
  have ht := timeShape_cases te ht
  simp only [pointOf]
  unfold TimeValid hourOf minuteOf secondOf decOf
  unfold timePattern at ht
  generalize hasGroup te .hourOfDay = b1 at ht ⊢
  generalize hasGroup te .minuteOfHour = b2 at ht ⊢
  generalize hasGroup te .secondOfMinute = b3 at ht ⊢
  generalize hasGroup te .hourDec = b4 at ht ⊢
  generalize hasGroup te .minuteDec = b5 at ht ⊢
  generalize hasGroup te .secondDec = b6 at ht ⊢
  rcases ht with h | h | h | h | h | h | h <;> cases h <;>
    simp only [timeBounds, hoursInDay_eq, minutesInHour_eq, secondsInMinute_eq, ↓reduceIte, Bool.false_eq_true,
      Option.map_some, Option.map_none, Option.getD_some, Option.getD_none, Option.some.injEq, reduceCtorEq,
      Int.natCast_nonneg, Int.natCast_eq_zero, Int.reduceLT, Int.reduceEq, Std.le_refl, Nat.zero_lt_succ,
      decide_true, decide_false, decide_eq_true_eq, Bool.and_eq_true, Bool.or_eq_true, Bool.ite_eq_true_distrib,
      Bool.true_and, Bool.and_true, Bool.and_self, Bool.or_false, Bool.or_true, Bool.or_self, ite_self,
      and_self, and_true, true_and, or_false, forall_const, false_implies]
  all_goals (
    by_cases h24 : v.hour = 24
    · simp only [h24, Int.cast_ofNat_Int, Int.lt_irrefl, Nat.lt_irrefl, ↓reduceIte, or_true, true_and, false_and, false_or]
    · have h24' : ¬ ((v.hour : Int) = 24) := fun h => h24 (Int.ofNat.inj h)
      simp only [h24, h24', ↓reduceIte, or_false, false_and]
      omega)

theorem dateBounds_pointOf (cfg : Cfg) (m : Mode) (de te : Template) (v : Vals) (tz : TZ)
    (hd : dateShapeOK de = true) :
    dateBounds m (pointOf cfg de te v tz).year (pointOf cfg de te v tz).month (pointOf cfg de te v tz).day
      (pointOf cfg de te v tz).week (pointOf cfg de te v tz).doy (pointOf cfg de te v tz).dow = true ↔
    (dateOf de v).Valid m := by
  have hd := dateShape_cases de hd
  unfold datePattern at hd
  simp only [pointOf]
  unfold dateOf fieldOf
  generalize hasGroup de .monthOfYear = b1 at hd ⊢
  generalize hasGroup de .dayOfMonth = b2 at hd ⊢
  generalize hasGroup de .dayOfYear = b3 at hd ⊢
  generalize hasGroup de .weekOfYear = b4 at hd ⊢
  generalize hasGroup de .dayOfWeek = b5 at hd ⊢
  rcases hd with h | h | h | h | h | h <;> cases h
  · exact dateBounds_cal m _ _ _
  · exact dateBounds_cal m _ _ _
  · exact dateBounds_cal m _ _ _
  · exact dateBounds_ord m _ _
  · exact dateBounds_week m _ _ _
  · exact dateBounds_week m _ _ _

theorem pointOf_date (cfg : Cfg) (de te : Template) (v : Vals) (tz : TZ) (hd : dateShapeOK de = true) :
    (pointOf cfg de te v tz).date? = some (dateOf de v) := by
  have hd := dateShape_cases de hd
  unfold datePattern at hd
  unfold pointOf dateOf fieldOf
  generalize hasGroup de .monthOfYear = b1 at hd ⊢
  generalize hasGroup de .dayOfMonth = b2 at hd ⊢
  generalize hasGroup de .dayOfYear = b3 at hd ⊢
  generalize hasGroup de .weekOfYear = b4 at hd ⊢
  generalize hasGroup de .dayOfWeek = b5 at hd ⊢
  rcases hd with h | h | h | h | h | h <;> cases h <;> rfl

/-- `TimeZone(...)` on an hour below 100 (a two-digit group; `mkTZ` admits hours up to 99) and a minute
    of the same sign: accepted iff the minute is below 60. -/
theorem mkTZ_signed (m : Mode) (neg : Bool) (H M : Nat) (hH : H < 100) :
    mkTZ m (if neg then -(H : Int) else H) (if neg then -(M : Int) else M) =
      if M < 60 then some ⟨if neg then -(H : Int) else H, if neg then -(M : Int) else M⟩ else none := by
  unfold mkTZ
  rw [minutesInHour_eq]
  cases neg <;> simp only [Bool.false_eq_true, if_false, if_true] <;> rw [if_neg (by omega)] <;>
    by_cases hm : M < 60
  · rw [if_pos hm, if_neg (by omega)]
  · rw [if_neg hm, if_pos (by omega)]
  · rw [if_pos hm, if_neg (by omega)]
  · rw [if_neg hm, if_pos (by omega)]

/-- The zone a zone expression spells is accepted by `TimeZone(...)` iff its minutes are below 60
    (`Z` and `±hh` always are). -/
theorem mkTZ_zoneOf (m : Mode) (zd : ZoneDefault) (t : Template) (v : Vals) (hH : v.tzHour < 100) :
    mkTZ m ((zoneOf zd (some t) v).hour.getD 0) ((zoneOf zd (some t) v).minute.getD 0) =
      if hasGroup t .tzUtc = true ∨ hasGroup t .tzMinute = false ∨ v.tzMinute < 60 then
        some ⟨(zoneOf zd (some t) v).hour.getD 0, (zoneOf zd (some t) v).minute.getD 0⟩
      else none := by
  simp only [zoneOf]
  cases hasGroup t .tzUtc with
  | true => cases m <;> rfl
  | false =>
    cases hasGroup t .tzMinute with
    | false =>
      have h := mkTZ_signed m (hasGroup t .tzSign && v.tzNeg) v.tzHour 0 hH
      cases hn : (hasGroup t .tzSign && v.tzNeg) <;> rw [hn] at h <;> exact h
    | true =>
      have h := mkTZ_signed m (hasGroup t .tzSign && v.tzNeg) v.tzHour v.tzMinute hH
      by_cases hm : v.tzMinute < 60
      · rw [if_pos hm] at h; exact h.trans (if_pos (Or.inr (Or.inr hm))).symm
      · rw [if_neg hm] at h
        exact h.trans (if_neg (by simp [hm])).symm

end IsoDT.Text

