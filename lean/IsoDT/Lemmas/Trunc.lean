/-
  IsoDT.Lemmas.Trunc — the `while field != target: field += 1; _tick_over()` loops of
  `add_truncated`.
-/
import IsoDT.Lemmas.Rec
import IsoDT.Model.Truncated

namespace IsoDT.Lemmas
open IsoDT IsoDT.Model
open IsoDT.Spec (Date TZ TP)

/-- One `field += 1; _tick_over()` step that moves the instant by `delta` seconds, from a point in
    representation `kr`. -/
structure StepOK (m : Mode) (bump : TP → TP) (delta : Int) (kr : Nat) : Prop where
  pre : ∀ p : TP, p.Strict m → p.date.rep = kr → PreValid (bump p).date
  tz : ∀ p : TP, (bump p).tz = p.tz
  rep : ∀ p : TP, p.Strict m → p.date.rep = kr → (bump p).date.rep = p.date.rep
  inst : ∀ p : TP, p.Strict m → p.date.rep = kr → (bump p).inst m = p.inst m + delta

theorem step_spec (m : Mode) (bump : TP → TP) (delta : Int) (kr : Nat) (hb : StepOK m bump delta kr) (p : TP)
    (hp : p.Strict m) (hk : p.date.rep = kr) : ∃ q, tickOver m (bump p) = some q ∧ Good m p q delta :=
  tick_good m p (bump p) delta (hb.pre p hp hk) hp.1.tz (hb.tz p) (hb.rep p hp hk) (hb.inst p hp hk)

def stepsFrom (m : Mode) (bump : TP → TP) : Nat → TP → Option TP
  | 0, p => some p
  | k + 1, p => (tickOver m (bump p)).bind (stepsFrom m bump k)

theorem stepsFrom_spec (m : Mode) (bump : TP → TP) (delta : Int) (kr : Nat) (hb : StepOK m bump delta kr) :
    ∀ (k : Nat) (p : TP), p.Strict m → p.date.rep = kr →
      ∃ q, stepsFrom m bump k p = some q ∧ q.Strict m ∧ q.inst m = p.inst m + (k : Int) * delta ∧
        q.tz = p.tz ∧ q.date.rep = p.date.rep := by
  intro k
  induction k with
  | zero => intro p hp _; exact ⟨p, rfl, hp, by omega, rfl, rfl⟩
  | succ k ih =>
    intro p hp hk
    obtain ⟨q, he, g⟩ := step_spec m bump delta kr hb p hp hk
    obtain ⟨q2, he2, hs2, hi2, ht2, hr2⟩ := ih q g.strict (by rw [g.rep, hk])
    refine ⟨q2, by simp only [stepsFrom, he, Option.bind_some, he2], hs2, ?_, by rw [ht2, g.tz], by rw [hr2, g.rep]⟩
    rw [hi2, g.inst]
    have e : ((k + 1 : Nat) : Int) = (k : Int) + 1 := by omega
    rw [e, Int.add_mul]; omega

theorem loopField_fix (m : Mode) (get : TP → Int) (bump : TP → TP) (target : Int) (fuel : Nat) (p : TP)
    (h : get p = target) : loopField m get bump target fuel p = some p := by
  cases fuel <;> simp only [loopField, h, ↓reduceIte]

theorem loopField_zero (m : Mode) (get : TP → Int) (bump : TP → TP) (target : Int) (p : TP)
    (h : get p ≠ target) : loopField m get bump target 0 p = none := by
  rw [loopField, if_neg h]

theorem loopField_succ (m : Mode) (get : TP → Int) (bump : TP → TP) (target : Int) (fuel : Nat) (p : TP)
    (h : get p ≠ target) :
    loopField m get bump target (fuel + 1) p = (tickOver m (bump p)).bind (loopField m get bump target fuel) := by
  rw [loopField, if_neg h]

theorem loopField_spec (m : Mode) (get : TP → Int) (bump : TP → TP) (target : Int) :
    ∀ (fuel : Nat) (p q : TP), loopField m get bump target fuel p = some q →
      ∃ k : Nat, k ≤ fuel ∧ stepsFrom m bump k p = some q ∧ get q = target ∧
        ∀ j : Nat, j < k → ∀ x, stepsFrom m bump j p = some x → get x ≠ target := by
  intro fuel
  induction fuel with
  | zero =>
    intro p q h
    by_cases c : get p = target
    · rw [loopField_fix m get bump target 0 p c] at h; cases h
      exact ⟨0, Nat.le_refl _, rfl, c, fun j hj => by omega⟩
    · rw [loopField_zero m get bump target p c] at h; cases h
  | succ fuel ih =>
    intro p q h
    by_cases c : get p = target
    · rw [loopField_fix m get bump target _ p c] at h; cases h
      exact ⟨0, by omega, rfl, c, fun j hj => by omega⟩
    · rw [loopField_succ m get bump target fuel p c] at h
      cases ht : tickOver m (bump p) with
      | none => rw [ht] at h; cases h
      | some p1 =>
        rw [ht, Option.bind_some] at h
        obtain ⟨k, hk, hs, hg, hmin⟩ := ih p1 q h
        refine ⟨k + 1, by omega, by simp only [stepsFrom, ht, Option.bind_some, hs], hg, ?_⟩
        intro j hj x hx
        cases j with
        | zero => cases hx; exact c
        | succ j =>
          simp only [stepsFrom, ht, Option.bind_some] at hx
          exact hmin j (by omega) x hx

theorem loopField_some (m : Mode) (get : TP → Int) (bump : TP → TP) (target : Int) :
    ∀ (fuel : Nat) (p : TP) (k : Nat) (x : TP), k ≤ fuel → stepsFrom m bump k p = some x → get x = target →
      ∃ q, loopField m get bump target fuel p = some q := by
  intro fuel
  induction fuel with
  | zero =>
    intro p k x hk hs hg
    obtain rfl : k = 0 := by omega
    cases hs
    exact ⟨p, loopField_fix m get bump target 0 p hg⟩
  | succ fuel ih =>
    intro p k x hk hs hg
    by_cases c : get p = target
    · exact ⟨p, loopField_fix m get bump target _ p c⟩
    · rw [loopField_succ m get bump target fuel p c]
      cases k with
      | zero => cases hs; exact absurd hg c
      | succ k =>
        cases ht : tickOver m (bump p) with
        | none => simp only [stepsFrom, ht] at hs; cases hs
        | some p1 =>
          simp only [stepsFrom, ht, Option.bind_some] at hs
          rw [Option.bind_some]
          exact ih p1 k x (by omega) hs hg

theorem loopField_never (m : Mode) (get : TP → Int) (bump : TP → TP) (target delta : Int) (kr : Nat)
    (hb : StepOK m bump delta kr) (hne : ∀ x : TP, x.Strict m → get x ≠ target) :
    ∀ (fuel : Nat) (p : TP), p.Strict m → p.date.rep = kr → loopField m get bump target fuel p = none := by
  intro fuel
  induction fuel with
  | zero => intro p hp _; exact loopField_zero m get bump target p (hne p hp)
  | succ fuel ih =>
    intro p hp hk
    obtain ⟨y, he, g⟩ := step_spec m bump delta kr hb p hp hk
    rw [loopField_succ m get bump target fuel p (hne p hp), he]
    exact ih y g.strict (by rw [g.rep, hk])

/-- A loop with a distance to its target: `dist` is zero exactly on the target and every step from
    a point off the target lowers it by one.  The loop then returns the point `dist p` steps ahead. -/
theorem loopField_countdown (m : Mode) (get : TP → Int) (bump : TP → TP) (target delta : Int) (kr : Nat)
    (hb : StepOK m bump delta kr) (dist : TP → Int)
    (h0 : ∀ x : TP, x.Strict m → x.date.rep = kr → 0 ≤ dist x ∧ (dist x = 0 ↔ get x = target))
    (hstep : ∀ x y : TP, x.Strict m → x.date.rep = kr → Good m x y delta → dist x ≠ 0 → dist y + 1 = dist x) :
    ∀ (fuel : Nat) (p : TP), p.Strict m → p.date.rep = kr → dist p ≤ fuel →
      ∃ q, loopField m get bump target fuel p = some q ∧ q.Strict m ∧
        q.inst m = p.inst m + dist p * delta ∧ q.tz = p.tz ∧ q.date.rep = p.date.rep ∧ get q = target := by
  intro fuel
  induction fuel with
  | zero =>
    intro p hp hk hd
    have c := (h0 p hp hk).2.1 (by have := (h0 p hp hk).1; omega)
    exact ⟨p, loopField_fix m get bump target 0 p c, hp, by rw [(h0 p hp hk).2.2 c]; omega, rfl, rfl, c⟩
  | succ fuel ih =>
    intro p hp hk hd
    by_cases c : get p = target
    · exact ⟨p, loopField_fix m get bump target _ p c, hp, by rw [(h0 p hp hk).2.2 c]; omega, rfl, rfl, c⟩
    · obtain ⟨y, he, g⟩ := step_spec m bump delta kr hb p hp hk
      have yk : y.date.rep = kr := by rw [g.rep, hk]
      have hs := hstep p y hp hk g (fun h => c ((h0 p hp hk).2.1 h))
      obtain ⟨q, e, qs, qi, qt, qr, qg⟩ := ih y g.strict yk (by omega)
      refine ⟨q, by rw [loopField_succ m get bump target fuel p c, he]; exact e, qs, ?_, by rw [qt, g.tz], by rw [qr, g.rep], qg⟩
      rw [qi, g.inst, ← hs, Int.add_mul]; omega

theorem strict_fields (m : Mode) (p : TP) (hp : p.Strict m) :
    0 ≤ p.hh ∧ p.hh < 24 ∧ 0 ≤ p.mi ∧ p.mi < 60 ∧ 0 ≤ p.ss ∧ p.ss < 60 := by
  obtain ⟨⟨_, a1, _, a3, a4, a5, a6, _, _⟩, a9⟩ := hp
  exact ⟨a1, a9, a3, a4, a5, a6⟩

theorem inst_fields (m : Mode) (p x : TP) (htz : x.tz = p.tz) (d : Int) (hi : x.inst m = p.inst m + d) :
    86400 * x.date.dayNum m + 3600 * x.hh + 60 * x.mi + x.ss =
      86400 * p.date.dayNum m + 3600 * p.hh + 60 * p.mi + p.ss + d := by
  unfold TP.inst TP.secOfDay at hi; rw [htz] at hi; omega

/-! The strict point a whole number of seconds, minutes, hours or days after a strict point, in the
    same offset: the field of that unit moves round its cycle, the lower fields are untouched. -/

theorem later_ss (m : Mode) (x y : TP) (xs : x.Strict m) (ys : y.Strict m) (htz : y.tz = x.tz) (k : Int)
    (hi : y.inst m = x.inst m + k) : y.ss = (x.ss + k) % 60 := by
  have := strict_fields m x xs; have := strict_fields m y ys; have := inst_fields m x y htz _ hi
  omega

theorem later_mi (m : Mode) (x y : TP) (xs : x.Strict m) (ys : y.Strict m) (htz : y.tz = x.tz) (k : Int)
    (hi : y.inst m = x.inst m + 60 * k) : y.mi = (x.mi + k) % 60 ∧ y.ss = x.ss := by
  have := strict_fields m x xs; have := strict_fields m y ys; have := inst_fields m x y htz _ hi
  omega

theorem later_hh (m : Mode) (x y : TP) (xs : x.Strict m) (ys : y.Strict m) (htz : y.tz = x.tz) (k : Int)
    (hi : y.inst m = x.inst m + 3600 * k) : y.hh = (x.hh + k) % 24 ∧ y.mi = x.mi ∧ y.ss = x.ss := by
  have := strict_fields m x xs; have := strict_fields m y ys; have := inst_fields m x y htz _ hi
  omega

theorem later_day (m : Mode) (x y : TP) (xs : x.Strict m) (ys : y.Strict m) (htz : y.tz = x.tz) (k : Int)
    (hi : y.inst m = x.inst m + 86400 * k) :
    y.date.dayNum m = x.date.dayNum m + k ∧ y.hh = x.hh ∧ y.mi = x.mi ∧ y.ss = x.ss := by
  have := strict_fields m x xs; have := strict_fields m y ys; have := inst_fields m x y htz _ hi
  omega

theorem stepOK_ss (m : Mode) (k : Nat) : StepOK m (fun q => { q with ss := q.ss + 1 }) 1 k :=
  ⟨fun p hp _ => preValid_of_valid m _ hp.1.1, fun _ => rfl, fun _ _ _ => rfl,
   fun p _ _ => by simp only [TP.inst, TP.secOfDay]; omega⟩

theorem stepOK_mi (m : Mode) (k : Nat) : StepOK m (fun q => { q with mi := q.mi + 1 }) 60 k :=
  ⟨fun p hp _ => preValid_of_valid m _ hp.1.1, fun _ => rfl, fun _ _ _ => rfl,
   fun p _ _ => by simp only [TP.inst, TP.secOfDay]; omega⟩

theorem stepOK_hh (m : Mode) (k : Nat) : StepOK m (fun q => { q with hh := q.hh + 1 }) 3600 k :=
  ⟨fun p hp _ => preValid_of_valid m _ hp.1.1, fun _ => rfl, fun _ _ _ => rfl,
   fun p _ _ => by simp only [TP.inst, TP.secOfDay]; omega⟩

theorem stepOK_day (m : Mode) (k : Nat) : StepOK m (fun q => { q with date := bumpDay q.date 1 }) 86400 k :=
  ⟨fun p hp _ => preValid_bumpDay _ _ (preValid_of_valid m _ hp.1.1), fun _ => rfl,
   fun p _ _ => rep_bumpDay _ _,
   fun p _ _ => by simp only [TP.inst, dayNum_bumpDay, TP.secOfDay]; omega⟩

theorem stepOK_week (m : Mode) : StepOK m bumpWeek 604800 2 := by
  refine ⟨?_, ?_, ?_, ?_⟩
  · intro p hp _
    obtain ⟨d, h, mi, s, tz⟩ := p
    cases d <;> simp only [bumpWeek, PreValid]
    exact preValid_of_valid m _ hp.1.1
  · intro p; obtain ⟨d, h, mi, s, tz⟩ := p; cases d <;> rfl
  · intro p _ _; obtain ⟨d, h, mi, s, tz⟩ := p; cases d <;> rfl
  · intro p hp hk
    obtain ⟨d, h, mi, s, tz⟩ := p
    cases d with
    | week y w dd => simp only [bumpWeek, TP.inst, Date.dayNum, Spec.dayNumWeek, TP.secOfDay]; omega
    | cal y mo dd => simp [Date.rep] at hk
    | ord y n => simp [Date.rep] at hk

/-- `b` is a valid point in the offset and at the time of day of `a`, on a day not earlier. -/
structure Keeps (m : Mode) (a b : TP) : Prop where
  strict : b.Strict m
  tz : b.tz = a.tz
  hh : b.hh = a.hh
  mi : b.mi = a.mi
  ss : b.ss = a.ss
  day : a.date.dayNum m ≤ b.date.dayNum m

/-- What a day-designator loop hands on: such a point, in representation `k`. -/
structure DayStage (m : Mode) (a b : TP) (k : Nat) : Prop extends Keeps m a b where
  rep : b.date.rep = k

theorem keeps_refl (m : Mode) (a : TP) (ha : a.Strict m) : Keeps m a a := ⟨ha, rfl, rfl, rfl, rfl, Int.le_refl _⟩

theorem keeps_trans (m : Mode) (a b c : TP) (h1 : Keeps m a b) (h2 : Keeps m b c) : Keeps m a c := by
  obtain ⟨_, a2, a3, a4, a5, a6⟩ := h1
  obtain ⟨b1, b2, b3, b4, b5, b6⟩ := h2
  exact ⟨b1, by rw [b2, a2], by rw [b3, a3], by rw [b4, a4], by rw [b5, a5], by omega⟩

theorem keeps_inst (m : Mode) (a b : TP) (h : Keeps m a b) : a.inst m ≤ b.inst m := by
  obtain ⟨_, h1, h2, h3, h4, h5⟩ := h
  unfold TP.inst TP.secOfDay; rw [h1, h2, h3, h4]; omega

theorem stepsFrom_days (m : Mode) (bump : TP → TP) (u : Int) (kr : Nat) (hb : StepOK m bump (86400 * u) kr)
    (k : Nat) (p : TP) (hp : p.Strict m) (hk : p.date.rep = kr) :
    ∃ q, stepsFrom m bump k p = some q ∧ q.Strict m ∧ q.tz = p.tz ∧ q.date.rep = kr ∧
      q.date.dayNum m = p.date.dayNum m + u * k ∧ q.hh = p.hh ∧ q.mi = p.mi ∧ q.ss = p.ss := by
  obtain ⟨q, hq, qs, qi, qt, qr⟩ := stepsFrom_spec m bump _ kr hb k p hp hk
  exact ⟨q, hq, qs, qt, by rw [qr, hk],
    later_day m p q hp qs qt (u * k) (by rw [qi, Int.mul_comm, Int.mul_assoc])⟩

theorem loopField_reaches (m : Mode) (get : TP → Int) (bump : TP → TP) (target u : Int) (kr : Nat)
    (hb : StepOK m bump (86400 * u) kr) (fuel : Nat) (p : TP) (hp : p.Strict m) (hk : p.date.rep = kr)
    (j : Nat) (hj : j ≤ fuel)
    (hget : ∀ x : TP, x.Strict m → x.date.rep = kr → x.date.dayNum m = p.date.dayNum m + u * j →
      get x = target) :
    ∃ q, loopField m get bump target fuel p = some q := by
  obtain ⟨x, hx, xs, _, xr, xn, _⟩ := stepsFrom_days m bump u kr hb j p hp hk
  exact loopField_some m get bump target fuel p j x hj hx (hget x xs xr xn)

theorem unit_loop_min (m : Mode) (kr : Nat) (get : TP → Int) (bump : TP → TP) (target u : Int) (hu : 0 ≤ u)
    (hb : StepOK m bump (86400 * u) kr) (fuel : Nat) (r q : TP) (hr : r.Strict m) (hk : r.date.rep = kr)
    (h : loopField m get bump target fuel r = some q) :
    DayStage m r q kr ∧ get q = target ∧
    ∃ k : Nat, q.date.dayNum m = r.date.dayNum m + u * k ∧
      ∀ j : Nat, (∀ x : TP, x.Strict m → x.date.rep = kr → x.date.dayNum m = r.date.dayNum m + u * j →
        get x = target) → k ≤ j := by
  obtain ⟨k, _, hs, hg, hmin⟩ := loopField_spec m get bump target fuel r q h
  obtain ⟨x, hx, xs, xt, xr, xn, x1, x2, x3⟩ := stepsFrom_days m bump u kr hb k r hr hk
  rw [hs] at hx; cases hx
  have := Int.mul_nonneg hu (Int.natCast_nonneg k)
  refine ⟨⟨⟨xs, xt, x1, x2, x3, by omega⟩, xr⟩, hg, k, xn, fun j hj => ?_⟩
  obtain ⟨y, hy, ys, _, yr, yn, _⟩ := stepsFrom_days m bump u kr hb j r hr hk
  exact Nat.not_lt.1 fun c => hmin j c y hy (hj y ys yr yn)

/-! ### the periodic loops: second, minute, hour, weekday -/

/-- The seconds loop: lands on the next instant (within 59 s) whose second is the target. -/
theorem loop_ss (m : Mode) (p : TP) (hp : p.Strict m) (s : Int) (hs : 0 ≤ s ∧ s < 60) :
    ∃ q, loopField m (·.ss) (fun q => { q with ss := q.ss + 1 }) s fuelTime p = some q ∧ q.Strict m ∧
      q.inst m = p.inst m + (s - p.ss) % 60 ∧ q.tz = p.tz ∧ q.date.rep = p.date.rep ∧ q.ss = s := by
  obtain ⟨q, e, qs, qi, qt, qr, qg⟩ := loopField_countdown m (·.ss) _ s 1 p.date.rep (stepOK_ss m _)
    (fun x => (s - x.ss) % 60)
    (fun x xs _ => by have := strict_fields m x xs; omega)
    (fun x y xs _ g hd => by
      have := strict_fields m x xs; have := later_ss m x y xs g.strict g.tz _ g.inst
      omega)
    fuelTime p hp rfl (by unfold fuelTime; omega)
  exact ⟨q, e, qs, by rw [qi]; omega, qt, qr, qg⟩

/-- The minutes loop: the next instant (a whole number of minutes ahead, < 60) whose minute is the
    target; the second is untouched. -/
theorem loop_mi (m : Mode) (p : TP) (hp : p.Strict m) (t : Int) (ht : 0 ≤ t ∧ t < 60) :
    ∃ q, loopField m (·.mi) (fun q => { q with mi := q.mi + 1 }) t fuelTime p = some q ∧ q.Strict m ∧
      q.inst m = p.inst m + 60 * ((t - p.mi) % 60) ∧ q.tz = p.tz ∧ q.date.rep = p.date.rep ∧
      q.mi = t ∧ q.ss = p.ss := by
  obtain ⟨q, e, qs, qi, qt, qr, qg⟩ := loopField_countdown m (·.mi) _ t 60 p.date.rep (stepOK_mi m _)
    (fun x => (t - x.mi) % 60)
    (fun x xs _ => by have := strict_fields m x xs; omega)
    (fun x y xs _ g hd => by
      have := strict_fields m x xs; have := (later_mi m x y xs g.strict g.tz 1 g.inst).1
      omega)
    fuelTime p hp rfl (by unfold fuelTime; omega)
  rw [Int.mul_comm] at qi
  exact ⟨q, e, qs, qi, qt, qr, qg, (later_mi m p q hp qs qt _ qi).2⟩

/-- The hours loop: the next instant (a whole number of hours ahead, < 24) whose hour is the
    target; minute and second untouched. -/
theorem loop_hh (m : Mode) (p : TP) (hp : p.Strict m) (t : Int) (ht : 0 ≤ t ∧ t < 24) :
    ∃ q, loopField m (·.hh) (fun q => { q with hh := q.hh + 1 }) t fuelTime p = some q ∧ q.Strict m ∧
      q.inst m = p.inst m + 3600 * ((t - p.hh) % 24) ∧ q.tz = p.tz ∧ q.date.rep = p.date.rep ∧
      q.hh = t ∧ q.mi = p.mi ∧ q.ss = p.ss := by
  obtain ⟨q, e, qs, qi, qt, qr, qg⟩ := loopField_countdown m (·.hh) _ t 3600 p.date.rep (stepOK_hh m _)
    (fun x => (t - x.hh) % 24)
    (fun x xs _ => by have := strict_fields m x xs; omega)
    (fun x y xs _ g hd => by
      have := strict_fields m x xs; have := (later_hh m x y xs g.strict g.tz 1 g.inst).1
      omega)
    fuelTime p hp rfl (by unfold fuelTime; omega)
  rw [Int.mul_comm] at qi
  exact ⟨q, e, qs, qi, qt, qr, qg, (later_hh m p q hp qs qt _ qi).2⟩

theorem getDow_eq (m : Mode) (p : TP) (hp : p.Strict m) (hk : p.date.rep = 2) :
    getDow p = Spec.weekday m (p.date.dayNum m) := by
  obtain ⟨y, w, d, e⟩ := rep2_week p.date hk
  have hv : Spec.ValidWeek m y w d := by have := hp.1.1; rw [e] at this; exact this
  unfold getDow; rw [e]
  exact (weekday_of_week_date m y w d hv).symm

/-- The weekday loop (on a week-date point): the next day (< 7 days ahead) with the target weekday;
    time of day untouched. -/
theorem loop_dow (m : Mode) (p : TP) (hp : p.Strict m) (hk : p.date.rep = 2) (t : Int) (ht : 1 ≤ t ∧ t ≤ 7) :
    ∃ q, loopField m getDow (fun q => { q with date := bumpDay q.date 1 }) t fuelDow p = some q ∧ q.Strict m ∧
      q.inst m = p.inst m + 86400 * ((t - getDow p) % 7) ∧ q.tz = p.tz ∧ q.date.rep = 2 ∧
      getDow q = t ∧ q.hh = p.hh ∧ q.mi = p.mi ∧ q.ss = p.ss := by
  have hr : ∀ x : TP, x.Strict m → x.date.rep = 2 → 1 ≤ getDow x ∧ getDow x ≤ 7 := fun x xs xk => by
    rw [getDow_eq m x xs xk]; exact weekday_range m _
  obtain ⟨q, e, qs, qi, qt, qr, qg⟩ := loopField_countdown m getDow _ t 86400 2 (stepOK_day m 2)
    (fun x => (t - getDow x) % 7)
    (fun x xs xk => by have := hr x xs xk; omega)
    (fun x y xs xk g hd => by
      have := hr x xs xk
      rw [getDow_eq m y g.strict (g.rep.trans xk), (later_day m x y xs g.strict g.tz 1 g.inst).1, weekday_succ,
        ← getDow_eq m x xs xk]
      omega)
    fuelDow p hp hk (by have := hr p hp hk; unfold fuelDow; omega)
  rw [Int.mul_comm] at qi
  exact ⟨q, e, qs, qi, qt, by rw [qr, hk], qg, (later_day m p q hp qs qt _ qi).2⟩

end IsoDT.Lemmas
