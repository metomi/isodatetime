/-
  IsoDT.Lemmas.RecNominalQuery — `p + x` for any duration `x`; the `i`-th point of a series of
  repeated additions (`nthAdd`, `nthSub`) and `r[i]` in terms of it; the loop of `get_first_after`
  as a search of the iteration.  Stated for any recurrence whose interval climbs (`StepRec`); the
  month/year intervals are the case the closed forms of the exact ones do not cover.
-/
import IsoDT.Lemmas.RecNominal

namespace IsoDT.Lemmas
open IsoDT IsoDT.Model
open IsoDT.Spec (Date TZ TP)

/-! ### `p + x` for any duration -/

theorem addDur_total (m : Mode) (p : TP) (x : Dur) (hp : p.Valid m) :
    ∃ q, addDur m p x = some q ∧ q.Strict m ∧ q.date.rep = p.date.rep ∧ q.tz = p.tz := by
  cases x with
  | weeks w =>
    obtain ⟨q, h, g⟩ := addDur_exact m p (.weeks w) hp rfl
    exact ⟨q, h, g.strict, g.rep, g.tz⟩
  | units y mo d h mi s =>
    obtain ⟨q, e, sq, rq, tq, _⟩ := addDur_units_mono m p y mo d h mi s hp
    exact ⟨q, e, sq, rq, tq⟩

/-- `p + x` depends on `p` only through its representation, offset and instant (the 24:00 form
    of a point and its normal form add alike) — for every duration `x`. -/
theorem addDur_congr (m : Mode) (p p' : TP) (x : Dur) (hp : p.Valid m) (hp' : p'.Valid m)
    (hrep : p.date.rep = p'.date.rep) (htz : p.tz = p'.tz) (hi : p.inst m = p'.inst m) :
    addDur m p x = addDur m p' x := by
  obtain ⟨q, e, g⟩ := normalise24_spec m p hp
  obtain ⟨q', e', g'⟩ := normalise24_spec m p' hp'
  have hq : q = q' := strict_unique m q q' g.strict g'.strict (by rw [g.rep, g'.rep, hrep])
    (by rw [g.tz, g'.tz, htz]) (by rw [g.inst, g'.inst, hi])
  have hu : ∀ d h mi s, addUnits m p d h mi s = addUnits m p' d h mi s := by
    intro d h mi s
    unfold addUnits
    rw [e, e', hq]
  unfold addDur
  cases x.toDays m with
  | weeks w => rfl
  | units y mo d h mi s => simp only [hu]

/-- On a valid start the constructor does not fail (start/duration notation, an interval neither
    negative nor zero): the end bound, if there are repetitions, is ONE addition of the multiplied
    interval. -/
theorem mkRec_fmt3_total (m : Mode) (reps : Option Int) (a : TP) (d : Dur) (ha : a.Valid m)
    (hd : Accepted m d) (hreps : ∀ n, reps = some n → 2 ≤ n) :
    mkRec m reps (some a) (some d) none =
      some ⟨reps, some a, some d, reps.bind fun n => addDur m a (d.mul (n - 1)), none, 3⟩ ∧
    ∀ e, (reps.bind fun n => addDur m a (d.mul (n - 1))) = some e → e.Valid m := by
  rw [mkRec_fmt3 m reps a d hd hreps]
  cases reps with
  | none => exact ⟨rfl, fun _ h => nomatch h⟩
  | some n =>
    obtain ⟨q, hq, sq, _⟩ := addDur_total m a (d.mul (n - 1)) ha
    simp only [Option.bind_some, hq, Option.map_some]
    exact ⟨trivial, fun e h => by cases h; exact sq.1⟩

/-- The same in duration/end notation: the start, if there are repetitions, is ONE subtraction. -/
theorem mkRec_fmt4_total (m : Mode) (reps : Option Int) (a : TP) (d : Dur) (ha : a.Valid m)
    (hd : Accepted m d) (hreps : ∀ n, reps = some n → 2 ≤ n) :
    mkRec m reps none (some d) (some a) =
      some ⟨reps, reps.bind fun n => subDur m a (d.mul (n - 1)), some d, some a, none, 4⟩ ∧
    ∀ s, (reps.bind fun n => subDur m a (d.mul (n - 1))) = some s → s.Valid m := by
  rw [mkRec_fmt4 m reps a d hd hreps]
  cases reps with
  | none => exact ⟨rfl, fun _ h => nomatch h⟩
  | some n =>
    obtain ⟨q, hq, sq, _⟩ := addDur_total m a ((d.mul (n - 1)).mul (-1)) ha
    simp only [Option.bind_some, subDur, hq, Option.map_some]
    exact ⟨trivial, fun e h => by cases h; exact sq.1⟩

/-! ### the `i`-th point of the series of repeated additions -/

/-- `p` plus `d`, `i` times: `p`, `p + d`, `(p + d) + d`, … (each step one `__add__`). -/
def nthAdd (m : Mode) (d : Dur) : Nat → TP → Option TP
  | 0, p => some p
  | i + 1, p => (addDur m p d).bind (nthAdd m d i)

def nthSub (m : Mode) (d : Dur) : Nat → TP → Option TP
  | 0, p => some p
  | i + 1, p => (subDur m p d).bind (nthSub m d i)

theorem nthSub_eq (m : Mode) (d : Dur) : nthSub m d = nthAdd m (d.mul (-1)) := by
  funext i
  induction i with
  | zero => rfl
  | succ k ih => funext p; simp only [nthSub, nthAdd, subDur, ih]

theorem repeatAdd_getElem? (m : Mode) (d : Dur) : ∀ (n : Nat) (p : TP) (i : Nat), i < n →
    (repeatAdd m d n p)[i]? = nthAdd m d i p := by
  intro n
  induction n with
  | zero => intro p i h; omega
  | succ k ih =>
    intro p i h
    cases i with
    | zero => rfl
    | succ j =>
      simp only [repeatAdd, List.getElem?_cons_succ, nthAdd]
      cases e : addDur m p d with
      | none => rfl
      | some q => exact ih q j (by omega)

theorem nthAdd_succ (m : Mode) (d : Dur) : ∀ (i : Nat) (p : TP),
    nthAdd m d (i + 1) p = (nthAdd m d i p).bind fun q => addDur m q d := by
  intro i
  induction i with
  | zero => intro p; simp [nthAdd]
  | succ j ih =>
    intro p
    rw [nthAdd]
    cases e : addDur m p d with
    | none => simp [nthAdd, e]
    | some q => simp only [Option.bind_some, ih q]; rw [nthAdd, e, Option.bind_some]

theorem nthSub_succ (m : Mode) (d : Dur) (i : Nat) (p : TP) :
    nthSub m d (i + 1) p = (nthSub m d i p).bind fun q => subDur m q d := by
  rw [nthSub_eq]; exact nthAdd_succ m _ i p

theorem nthAdd_spec (m : Mode) (d : Dur) (key : TP → Int) (gap : Int) (hc : Climbs m d key gap) (i : Nat)
    (p : TP) (hp : p.Valid m) :
    ∃ q, nthAdd m d i p = some q ∧ q.Valid m ∧ (1 ≤ i → q.Strict m) ∧ q.date.rep = p.date.rep ∧
      q.tz = p.tz ∧ key p + gap * (i : Int) ≤ key q := by
  obtain ⟨a1, c⟩ := repeatAdd_spec m d key gap hc (i + 1) p hp
  have hl : i < (repeatAdd m d (i + 1) p).length := a1.symm ▸ Nat.lt_succ_self i
  have hget := repeatAdd_getElem? m d (i + 1) p i (Nat.lt_succ_self i)
  rw [List.getElem?_eq_getElem hl] at hget
  obtain ⟨v, rr, tt, _⟩ := c.mem _ (List.getElem_mem hl)
  refine ⟨_, hget.symm, v, fun hi => c.tailStrict _ ?_, rr, tt, c.lower i hl⟩
  obtain ⟨j, rfl⟩ : ∃ j, i = j + 1 := ⟨i - 1, by omega⟩
  rw [List.mem_iff_getElem]
  exact ⟨j, by rw [List.length_tail]; omega, List.getElem_tail _⟩

theorem nthAdd_key_lt (m : Mode) (d : Dur) (key : TP → Int) (gap : Int) (hc : Climbs m d key gap) (p : TP)
    (hp : p.Valid m) (j i : Nat) (hji : j < i) (a b : TP) (ha : nthAdd m d j p = some a)
    (hb : nthAdd m d i p = some b) : key a < key b := by
  obtain ⟨a1, c⟩ := repeatAdd_spec m d key gap hc (i + 1) p hp
  have hjl : j < (repeatAdd m d (i + 1) p).length := a1.symm ▸ Nat.lt_succ_of_lt hji
  have hil : i < (repeatAdd m d (i + 1) p).length := a1.symm ▸ Nat.lt_succ_self i
  have hj := repeatAdd_getElem? m d (i + 1) p j (Nat.lt_succ_of_lt hji)
  have hi := repeatAdd_getElem? m d (i + 1) p i (Nat.lt_succ_self i)
  rw [ha, List.getElem?_eq_getElem hjl] at hj
  rw [hb, List.getElem?_eq_getElem hil] at hi
  have := (List.pairwise_iff_getElem.mp c.pairwise) j i hjl hil hji
  rwa [Option.some.inj hj, Option.some.inj hi] at this

theorem nthAdd_lt (m : Mode) (d : Dur) (hd : NominalNonneg d) (p : TP) (hp : p.Valid m) (j i : Nat)
    (hji : j < i) (a b : TP) (ha : nthAdd m d j p = some a) (hb : nthAdd m d i p = some b) :
    a.inst m < b.inst m :=
  nthAdd_key_lt m d _ _ (climbs_nominal m d hd) p hp j i hji a b ha hb

theorem nthSub_lt (m : Mode) (d : Dur) (hd : NominalNonneg d) (p : TP) (hp : p.Valid m) (j i : Nat)
    (hji : j < i) (a b : TP) (ha : nthSub m d j p = some a) (hb : nthSub m d i p = some b) :
    b.inst m < a.inst m := by
  rw [nthSub_eq] at ha hb
  have := nthAdd_key_lt m _ _ _ (climbs_nominal_neg m d hd) p hp j i hji a b ha hb
  omega

/-! ### `r[i]` -/

theorem getItem_fwd (m : Mode) (r : Rec) (d : Dur) (gap : Int) (hr : StepRec m r d gap) (s : TP)
    (hs : r.start = some s) (i : Nat) :
    getItem m r i = (nthAdd m d i s).filter (inBounds m r) := by
  obtain ⟨h1, h2, _⟩ := iter_fwd_spec m r d gap hr s hs (i + 1)
  have a6 := (repeatAdd_spec m d _ gap hr.fwd (i + 1) s (hr.startValid s hs)).2.pairwise
  unfold getItem
  rw [h1, takeWhile_getElem?_filter, repeatAdd_getElem? m d (i + 1) s i (Nat.lt_succ_self i)]
  intro j a b hj ha hb hfb
  obtain ⟨hjl, rfl⟩ := List.getElem?_eq_some_iff.mp ha
  obtain ⟨hil, rfl⟩ := List.getElem?_eq_some_iff.mp hb
  rw [h2 _ (List.getElem_mem _)] at hfb ⊢
  intro e he
  have := hfb e he
  rcases Nat.lt_or_eq_of_le hj with hlt | rfl
  · have := (List.pairwise_iff_getElem.mp a6) j i hjl hil hlt; omega
  · exact this

theorem getItem_fwd_some (m : Mode) (r : Rec) (d : Dur) (gap : Int) (hr : StepRec m r d gap) (s : TP)
    (hs : r.start = some s) (i : Nat) (q : TP) (h : getItem m r i = some q) :
    nthAdd m d i s = some q ∧ inBounds m r q = true ∧ q.Valid m ∧ q.date.rep = s.date.rep ∧
      q.tz = s.tz ∧ s.inst m + gap * (i : Int) ≤ q.inst m := by
  have hq := h
  rw [getItem_fwd m r d gap hr s hs i, Option.filter_eq_some_iff] at hq
  obtain ⟨q', e0, v, _, rr, tt, lb⟩ := nthAdd_spec m d _ gap hr.fwd i s (hr.startValid s hs)
  rw [hq.1] at e0; cases e0
  exact ⟨hq.1, hq.2, v, rr, tt, lb⟩

/-- `r[i]` for `R/d/end`: the end minus the interval `i` times — always defined. -/
theorem getItem_rev (m : Mode) (r : Rec) (d : Dur) (gap : Int) (hr : StepRec m r d gap) (e : TP)
    (hs : r.start = none) (he : r.end_ = some e) (i : Nat) :
    ∃ q, getItem m r i = some q ∧ nthSub m d i e = some q ∧ q.Valid m ∧ (1 ≤ i → q.Strict m) ∧
      q.date.rep = e.date.rep ∧ q.tz = e.tz ∧ q.inst m + gap * (i : Int) ≤ e.inst m := by
  obtain ⟨q, e0, v, st, rr, tt, lb⟩ := nthAdd_spec m _ _ gap hr.bwd i e (hr.endValid e he)
  refine ⟨q, ?_, by rw [nthSub_eq]; exact e0, v, st, rr, tt, by omega⟩
  unfold getItem
  rw [(iter_rev_spec m r d gap hr e hs he (i + 1)).1, repeatSub_eq,
    repeatAdd_getElem? m _ (i + 1) e i (Nat.lt_succ_self i), e0]

theorem getItem_fwd_lt (m : Mode) (r : Rec) (d : Dur) (gap : Int) (hr : StepRec m r d gap) (s : TP)
    (hs : r.start = some s) (j i : Nat) (hji : j < i) (a b : TP) (ha : getItem m r j = some a)
    (hb : getItem m r i = some b) : a.inst m < b.inst m :=
  nthAdd_key_lt m d _ gap hr.fwd s (hr.startValid s hs) j i hji a b
    (getItem_fwd_some m r d gap hr s hs j a ha).1 (getItem_fwd_some m r d gap hr s hs i b hb).1

/-! ### the loop of `get_first_after` -/

theorem firstAfterLoop_none (m : Mode) (r : Rec) (p : TP) (fuel : Nat) :
    firstAfterLoop m r p fuel none = none := by
  cases fuel <;> rfl

/-- The `while current <= p: current = get_next(current)` loop from a valid point `c` within the
    bounds, with enough fuel to pass the probe (`p < c + fuel gaps`): it returns the first point
    of the iteration from `c` that is strictly later than `p` — `none` if the iteration ends first. -/
theorem firstAfterLoop_eq_find (m : Mode) (r : Rec) (d : Dur) (gap : Int) (hr : StepRec m r d gap) (p : TP)
    (hp : p.Valid m) : ∀ (fuel : Nat) (c : TP), c.Valid m → inBounds m r c = true →
      p.inst m < c.inst m + gap * (fuel : Int) →
      firstAfterLoop m r p fuel (some c) =
        (iterFrom m r false (fuel + 1) c).find? (fun q => decide (p.inst m < q.inst m)) := by
  intro fuel
  induction fuel with
  | zero =>
    intro c _ hb hlt
    have hd : decide (p.inst m < c.inst m) = true :=
      decide_eq_true (by rw [Int.natCast_zero, Int.mul_zero, Int.add_zero] at hlt; exact hlt)
    simp only [firstAfterLoop, iterFrom, hb, ↓reduceIte]
    exact (List.find?_cons_of_pos (p := fun q : TP => decide (p.inst m < q.inst m)) hd).symm
  | succ f ih =>
    intro c hc hb hlt
    obtain ⟨q, e, sq, _, _, lb⟩ := hr.fwd.step c hc
    have hle := tpLe_iff m c p hc hp
    have hn : getNext m r c = if inBounds m r q = true then some q else none := by
      rw [getNext_eq m r d hr.dur hr.multi c, e, Option.filter_some]
    rw [firstAfterLoop, iterFrom, if_pos hb]
    simp only [Bool.false_eq_true, ↓reduceIte, hn]
    by_cases cle : tpLe m c p = true
    · have hcp := hle.mp cle
      rw [if_pos cle, List.find?_cons_of_neg (p := fun q : TP => decide (p.inst m < q.inst m))
        (by rw [decide_eq_true_eq]; exact Int.not_lt.mpr hcp)]
      by_cases cq : inBounds m r q = true
      · rw [if_pos cq]
        rw [Int.natCast_succ, Int.mul_add, Int.mul_one, Int.add_comm _ gap, ← Int.add_assoc] at hlt
        exact ih q sq.1 cq (Int.lt_of_lt_of_le hlt (Int.add_le_add_right lb _))
      · rw [if_neg cq, firstAfterLoop_none]; rfl
    · have hcp : ¬ c.inst m ≤ p.inst m := fun h => cle (hle.mpr h)
      rw [if_neg cle, List.find?_cons_of_pos (p := fun q : TP => decide (p.inst m < q.inst m))
        (by rw [decide_eq_true_eq]; exact Int.not_le.mp hcp)]

/-- The iteration branch of `get_first_after` (interval not exact, a probe within the bounds,
    enough fuel to pass it): the first visited point strictly later than the probe. -/
theorem getFirstAfter_eq_find (m : Mode) (r : Rec) (d : Dur) (gap : Int) (hr : StepRec m r d gap)
    (hnex : d.isExact = false) (s : TP) (hs : r.start = some s) (p : TP) (hp : p.Valid m)
    (hb : inBounds m r p = true) (fuel : Nat) (hf : p.inst m < s.inst m + gap * (fuel : Int)) :
    getFirstAfter m r p fuel =
      (iter m r (fuel + 1)).find? (fun q => decide (p.inst m < q.inst m)) := by
  have hsv := hr.startValid s hs
  obtain ⟨b1, b2⟩ := (inBounds_iff m r hr.startValid hr.endValid p hp).mp hb
  have hbs : inBounds m r s = true :=
    (inBounds_iff m r hr.startValid hr.endValid s hsv).mpr
      ⟨fun s' h => by rw [hs] at h; cases h; exact Int.le_refl _,
       fun e he => by have := b1 s hs; have := b2 e he; omega⟩
  unfold getFirstAfter
  simp only [hs, hb, ↓reduceIte, hr.dur, hnex, Bool.false_eq_true]
  rw [firstAfterLoop_eq_find m r d gap hr p hp fuel s hsv hbs hf,
    iter_eq_iterFrom m r d hr.dur hr.multi hr.nonzero s (by rw [hs]; rfl) (fuel + 1), hs]
  rfl

theorem find?_later_incr (m : Mode) (x : Int) : ∀ (l : List TP),
    l.Pairwise (fun a b => a.inst m < b.inst m) →
    (∀ q, l.find? (fun q => decide (x < q.inst m)) = some q →
      ∃ j, l[j]? = some q ∧ x < q.inst m ∧ ∀ (i : Nat) (q' : TP), i < j → l[i]? = some q' → q'.inst m ≤ x) ∧
    (l.find? (fun q => decide (x < q.inst m)) = none → ∀ q' ∈ l, q'.inst m ≤ x) := by
  intro l
  induction l with
  | nil => intro _; exact ⟨fun q h => by simp at h, fun _ q' h => by cases h⟩
  | cons a t ih =>
    intro hpw
    rw [List.pairwise_cons] at hpw
    obtain ⟨i1, i2⟩ := ih hpw.2
    by_cases ca : decide (x < a.inst m) = true
    · rw [List.find?_cons_of_pos (p := fun q : TP => decide (x < q.inst m)) ca]
      refine ⟨?_, fun h => by cases h⟩
      intro q hq
      cases hq
      exact ⟨0, rfl, of_decide_eq_true ca, fun i q' hi _ => absurd hi (Nat.not_lt_zero i)⟩
    · rw [List.find?_cons_of_neg (p := fun q : TP => decide (x < q.inst m)) ca]
      have hax : a.inst m ≤ x := Int.not_lt.mp fun h => ca (decide_eq_true h)
      constructor
      · intro q hq
        obtain ⟨j, h1, h2, h3⟩ := i1 q hq
        refine ⟨j + 1, (List.getElem?_cons_succ ..).trans h1, h2, ?_⟩
        intro i q' hi hq'
        cases i with
        | zero => simp only [List.getElem?_cons_zero, Option.some.injEq] at hq'; rw [← hq']; exact hax
        | succ k => exact h3 k q' (Nat.lt_of_succ_lt_succ hi) ((List.getElem?_cons_succ ..).symm.trans hq')
      · intro h q' hq'
        rcases List.mem_cons.mp hq' with rfl | hq'
        · exact hax
        · exact i2 h q' hq'

end IsoDT.Lemmas
