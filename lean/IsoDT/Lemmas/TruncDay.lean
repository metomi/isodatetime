/-
  IsoDT.Lemmas.TruncDay — `add_truncated` cut into its parts.  Each of the seven loops runs only if
  its field is given (`optPart`), and hands on a point related to the one it received (`OptRel`):
  the time-of-day loops land a known distance ahead; the day-designator loops (weekday,
  day-of-month, day-of-year, week) land on the FIRST day not earlier than their start whose
  designator has the target value (for the week loop: the first such day with the start's weekday),
  keeping the time of day and the offset.
-/
import IsoDT.Lemmas.TruncTerm

namespace IsoDT.Lemmas
open IsoDT IsoDT.Model
open IsoDT.Spec (Date TZ TP)

/-- `to_calendar_date` / `to_ordinal_date` / `to_week_date` (`k` = 0, 1, 2) of a strict point: the same
    day and time of day, in representation `k`. -/
theorem toRep_ok (m : Mode) (k : Nat) (hk : k < 3) (p : TP) (hp : p.Strict m) :
    ∃ q, toRep m k p = some q ∧ DayStage m p q k ∧ q.date.dayNum m = p.date.dayNum m := by
  obtain ⟨r, e, v, rr, n⟩ := convert_spec m k hk p.date hp.1.1
  obtain ⟨⟨_, a1, a2, a3, a4, a5, a6, a7, a8⟩, a9⟩ := hp
  exact ⟨{ p with date := r }, by simp only [toRep, e, Option.map_some],
    ⟨⟨⟨⟨v, a1, a2, a3, a4, a5, a6, a7, a8⟩, a9⟩, rfl, rfl, rfl, rfl, Int.le_of_eq n.symm⟩, rr⟩, n⟩

theorem toRep_self (m : Mode) (p : TP) : toRep m p.date.rep p = some p := by
  simp only [toRep, convert_self, Option.map_some]

/-- `if field is not None: <loop>`: run `f x` if the field is `some x`, else hand the point on. -/
def optPart {α : Type} (f : Int → α → Option α) (o : Option Int) (p : α) : Option α :=
  match o with
  | some x => f x p
  | none => some p

/-- What such a part hands on: related by `R x` to what it received, or the same point. -/
def OptRel {α : Type} (R : Int → α → α → Prop) (o : Option Int) (a b : α) : Prop :=
  match o with
  | some x => R x a b
  | none => b = a

/-- The `do` block of `add_truncated` continues after a part in each branch of its `match`. -/
theorem optPart_bind {α β : Type} (f : Int → α → Option α) (o : Option Int) (p : α) (k : α → Option β) :
    (optPart f o p).bind k = match o with | some x => (f x p).bind k | none => k p := by
  cases o <;> rfl

theorem optPart_stage {α : Type} (f : Int → α → Option α) (R : Int → α → α → Prop) (o : Option Int) (a : α)
    (h : ∀ x, o = some x → ∃ b, f x a = some b ∧ R x a b) : ∃ b, optPart f o a = some b ∧ OptRel R o a b := by
  cases o with
  | none => exact ⟨a, rfl, rfl⟩
  | some x => exact h x rfl

theorem optPart_fix {α : Type} (f : Int → α → Option α) (o : Option Int) (q : α)
    (h : ∀ x, o = some x → f x q = some q) : optPart f o q = some q := by
  cases o with
  | none => rfl
  | some x => exact h x rfl

theorem optRel_elim {α : Type} {R : Int → α → α → Prop} {o : Option Int} {a b : α} (r : OptRel R o a b)
    (P : α → Prop) (ha : P a) (h : ∀ x, R x a b → P b) : P b := by
  cases o with
  | none => cases r; exact ha
  | some x => exact h x r

/-- The minute `add_truncated` aims for: the given one, or 0 when only the hour was given. -/
def effMI (t : Trunc) : Option Int := match t.hh, t.mi with | some _, none => some 0 | _, x => x
/-- The second `add_truncated` aims for: the given one, or 0 when an hour or minute was given. -/
def effSS (t : Trunc) : Option Int :=
  match t.ss with
  | some s => some s
  | none => if t.hh.isSome ∨ (effMI t).isSome then some 0 else none

def ssPart (m : Mode) : Option Int → TP → Option TP :=
  optPart fun s => loopField m (·.ss) (fun q => { q with ss := q.ss + 1 }) s fuelTime
def miPart (m : Mode) : Option Int → TP → Option TP :=
  optPart fun x => loopField m (·.mi) (fun q => { q with mi := q.mi + 1 }) x fuelTime
def hhPart (m : Mode) : Option Int → TP → Option TP :=
  optPart fun x => loopField m (·.hh) (fun q => { q with hh := q.hh + 1 }) x fuelTime

/-- A loop over a day designator, on the point converted to representation `k`. -/
def dayLoop (m : Mode) (k : Nat) (get : TP → Int) (bump : TP → TP) (fuel : Nat) (x : Int) (p : TP) : Option TP :=
  (toRep m k p).bind (loopField m get bump x fuel)

def dowPart (m : Mode) : Option Int → TP → Option TP :=
  optPart (dayLoop m 2 getDow (fun q => { q with date := bumpDay q.date 1 }) fuelDow)
def domPart (m : Mode) : Option Int → TP → Option TP :=
  optPart (dayLoop m 0 getDom (fun q => { q with date := bumpDay q.date 1 }) fuelDom)
def doyPart (m : Mode) : Option Int → TP → Option TP :=
  optPart (dayLoop m 1 getDoy (fun q => { q with date := bumpDay q.date 1 }) fuelDoy)
def weekPart (m : Mode) : Option Int → TP → Option TP := optPart (dayLoop m 2 getWeek bumpWeek fuelWeek)

def timeParts (m : Mode) (t : Trunc) (p : TP) : Option TP :=
  (ssPart m (effSS t) p).bind fun p1 => (miPart m (effMI t) p1).bind fun p2 => hhPart m t.hh p2

def dayParts (m : Mode) (t : Trunc) (p : TP) : Option TP :=
  (dowPart m t.dow p).bind fun p4 => (domPart m t.dom p4).bind fun p5 =>
  (doyPart m t.doy p5).bind fun p6 => weekPart m t.week p6

/-- `add_truncated` is: 24:00 normalised, the time-of-day loops, the day-designator loops. -/
theorem addTruncated_parts (m : Mode) (p : TP) (t : Trunc) :
    addTruncated m p t = (normalise24 m p).bind fun p0 => (timeParts m t p0).bind fun p3 => dayParts m t p3 := by
  simp only [timeParts, dayParts, Option.bind_assoc]
  simp only [ssPart, miPart, hhPart, dowPart, domPart, doyPart, weekPart, optPart_bind]
  rfl

/-- What a time-of-day loop hands on: a valid point in the same offset and representation, at most
    `bound` seconds on, showing the target with the lower fields (`low`) as they were; and no
    strict point in between does. -/
def TimeRel (m : Mode) (get : TP → Int) (low : TP → TP → Prop) (bound : Int) : Option Int → TP → TP → Prop :=
  OptRel fun x a b =>
    b.Strict m ∧ b.tz = a.tz ∧ b.date.rep = a.date.rep ∧ a.inst m ≤ b.inst m ∧ b.inst m ≤ a.inst m + bound ∧
    get b = x ∧ low a b ∧
    ∀ q' : TP, q'.Strict m → q'.tz = a.tz → a.inst m ≤ q'.inst m → get q' = x → low a q' → b.inst m ≤ q'.inst m

abbrev SsRel (m : Mode) : Option Int → TP → TP → Prop := TimeRel m (·.ss) (fun _ _ => True) 59
abbrev MiRel (m : Mode) : Option Int → TP → TP → Prop := TimeRel m (·.mi) (fun a b => b.ss = a.ss) 3540
abbrev HhRel (m : Mode) : Option Int → TP → TP → Prop :=
  TimeRel m (·.hh) (fun a b => b.mi = a.mi ∧ b.ss = a.ss) 82800

/-- What the loop over a day designator hands on: a point in representation `k` showing the target
    there, on the first day not before the start that carries it (`Of n d`: day number `n` carries
    value `d`). -/
abbrev DesigRel (m : Mode) (k : Nat) (get : TP → Int) (Of : Int → Int → Prop) : Option Int → TP → TP → Prop :=
  OptRel fun d a b => DayStage m a b k ∧ get b = d ∧
    ∀ n, a.date.dayNum m ≤ n → Of n d → b.date.dayNum m ≤ n

abbrev DowRel (m : Mode) : Option Int → TP → TP → Prop := DesigRel m 2 getDow fun n k => Spec.weekday m n = k
abbrev DomRel (m : Mode) : Option Int → TP → TP → Prop := DesigRel m 0 getDom (DomOf m)
abbrev DoyRel (m : Mode) : Option Int → TP → TP → Prop := DesigRel m 1 getDoy (DoyOf m)
def WeekRel (m : Mode) : Option Int → TP → TP → Prop := OptRel fun w a b =>
  DayStage m a b 2 ∧ getWeek b = w ∧
    Spec.weekday m (b.date.dayNum m) = Spec.weekday m (a.date.dayNum m) ∧
    ∀ n, a.date.dayNum m ≤ n → Spec.weekday m n = Spec.weekday m (a.date.dayNum m) → WeekOf m n w →
      b.date.dayNum m ≤ n

/-- A strict point `q'` in `p`'s offset, not earlier than `p`, with the given second: it is not
    earlier than the point the seconds loop lands on.  Likewise for the minute loop among points
    with `p`'s second, and the hour loop among points with `p`'s minute and second. -/
theorem stage_ss (m : Mode) (p q' : TP) (hp : p.Strict m) (hq : q'.Strict m) (htz : q'.tz = p.tz)
    (hge : p.inst m ≤ q'.inst m) (s : Int) (hs : q'.ss = s) :
    p.inst m + (s - p.ss) % 60 ≤ q'.inst m := by
  have a := strict_fields m p hp
  have b := strict_fields m q' hq
  have := inst_fields m p q' htz (q'.inst m - p.inst m) (by omega)
  omega

theorem stage_mi (m : Mode) (p q' : TP) (hp : p.Strict m) (hq : q'.Strict m) (htz : q'.tz = p.tz)
    (hge : p.inst m ≤ q'.inst m) (t : Int) (ht : q'.mi = t) (hs : q'.ss = p.ss) :
    p.inst m + 60 * ((t - p.mi) % 60) ≤ q'.inst m := by
  have a := strict_fields m p hp
  have b := strict_fields m q' hq
  have := inst_fields m p q' htz (q'.inst m - p.inst m) (by omega)
  omega

theorem stage_hh (m : Mode) (p q' : TP) (hp : p.Strict m) (hq : q'.Strict m) (htz : q'.tz = p.tz)
    (hge : p.inst m ≤ q'.inst m) (t : Int) (ht : q'.hh = t) (hm : q'.mi = p.mi) (hs : q'.ss = p.ss) :
    p.inst m + 3600 * ((t - p.hh) % 24) ≤ q'.inst m := by
  have a := strict_fields m p hp
  have b := strict_fields m q' hq
  have := inst_fields m p q' htz (q'.inst m - p.inst m) (by omega)
  omega

theorem ss_stage (m : Mode) (a : TP) (ha : a.Strict m) (o : Option Int) (ho : ∀ s, o = some s → 0 ≤ s ∧ s < 60) :
    ∃ b, ssPart m o a = some b ∧ SsRel m o a b :=
  optPart_stage _ _ o a fun s hs => by
    obtain ⟨q, e, qs, qi, qt, qr, qf⟩ := loop_ss m a ha s (ho s hs)
    exact ⟨q, e, qs, qt, qr, by omega, by omega, qf, trivial,
      fun q' hq htz hge hx _ => by rw [qi]; exact stage_ss m a q' ha hq htz hge s hx⟩

theorem mi_stage (m : Mode) (a : TP) (ha : a.Strict m) (o : Option Int) (ho : ∀ s, o = some s → 0 ≤ s ∧ s < 60) :
    ∃ b, miPart m o a = some b ∧ MiRel m o a b :=
  optPart_stage _ _ o a fun s hs => by
    obtain ⟨q, e, qs, qi, qt, qr, qf, qg⟩ := loop_mi m a ha s (ho s hs)
    exact ⟨q, e, qs, qt, qr, by omega, by omega, qf, qg,
      fun q' hq htz hge hx hl => by rw [qi]; exact stage_mi m a q' ha hq htz hge s hx hl⟩

theorem hh_stage (m : Mode) (a : TP) (ha : a.Strict m) (o : Option Int) (ho : ∀ s, o = some s → 0 ≤ s ∧ s < 24) :
    ∃ b, hhPart m o a = some b ∧ HhRel m o a b :=
  optPart_stage _ _ o a fun s hs => by
    obtain ⟨q, e, qs, qi, qt, qr, qf, qg, qh⟩ := loop_hh m a ha s (ho s hs)
    exact ⟨q, e, qs, qt, qr, by omega, by omega, qf, ⟨qg, qh⟩,
      fun q' hq htz hge hx hl => by rw [qi]; exact stage_hh m a q' ha hq htz hge s hx hl.1 hl.2⟩

theorem timeRel_elim (m : Mode) (get : TP → Int) (low : TP → TP → Prop) (bound : Int) (hb : 0 ≤ bound)
    (hl : ∀ a, low a a) (o : Option Int) (a b : TP) (ha : a.Strict m) (r : TimeRel m get low bound o a b) :
    b.Strict m ∧ b.tz = a.tz ∧ b.date.rep = a.date.rep ∧ a.inst m ≤ b.inst m ∧ b.inst m ≤ a.inst m + bound ∧
    (∀ x, o = some x → get b = x) ∧ low a b ∧ (o = none → b = a) ∧
    ∀ q' : TP, q'.Strict m → q'.tz = a.tz → a.inst m ≤ q'.inst m → (∀ x, o = some x → get q' = x) → low a q' →
      b.inst m ≤ q'.inst m := by
  cases o with
  | none =>
    cases r
    exact ⟨ha, rfl, rfl, Int.le_refl _, by omega, nofun, hl a, fun _ => rfl, fun _ _ _ h _ _ => h⟩
  | some x =>
    obtain ⟨s, t, c, d, e, g, l, mn⟩ := r
    exact ⟨s, t, c, d, e, fun _ h => by cases h; exact g, l, nofun,
      fun q' hq ht hge hx hlow => mn q' hq ht hge (hx x rfl) hlow⟩

def ShowsTime (hh mi ss : Option Int) (q : TP) : Prop :=
  (∀ h, hh = some h → q.hh = h) ∧ (∀ x, mi = some x → q.mi = x) ∧ (∀ s, ss = some s → q.ss = s)

/-- The three time-of-day parts together: less than a day forward, the targeted fields set; and no
    strict point in between shows the targeted fields, provided every field below a targeted one is
    targeted too (as `add_truncated` sees to by defaulting them to zero). -/
theorem time_summary (m : Mode) (hh mi ss : Option Int) (p0 p1 p2 p3 : TP) (h0 : p0.Strict m)
    (r1 : SsRel m ss p0 p1) (r2 : MiRel m mi p1 p2) (r3 : HhRel m hh p2 p3) :
    p3.Strict m ∧ p3.tz = p0.tz ∧ p3.date.rep = p0.date.rep ∧ p0.inst m ≤ p3.inst m ∧
    p3.inst m < p0.inst m + 86400 ∧ ShowsTime hh mi ss p3 ∧
    (hh = none → mi = none → ss = none → p3 = p0) ∧
    ((mi ≠ none → ss ≠ none) → (hh ≠ none → mi ≠ none) →
      ∀ q' : TP, q'.Strict m → q'.tz = p0.tz → p0.inst m ≤ q'.inst m → ShowsTime hh mi ss q' →
        p3.inst m ≤ q'.inst m) := by
  obtain ⟨a1, b1, c1, d1, e1, f1, -, g1, m1⟩ :=
    timeRel_elim m (·.ss) (fun _ _ => True) 59 (by omega) (fun _ => trivial) ss p0 p1 h0 r1
  obtain ⟨a2, b2, c2, d2, e2, f2, l2, g2, m2⟩ :=
    timeRel_elim m (·.mi) (fun a b => b.ss = a.ss) 3540 (by omega) (fun _ => rfl) mi p1 p2 a1 r2
  obtain ⟨a3, b3, c3, d3, e3, f3, l3, g3, m3⟩ :=
    timeRel_elim m (·.hh) (fun a b => b.mi = a.mi ∧ b.ss = a.ss) 82800 (by omega) (fun _ => ⟨rfl, rfl⟩) hh p2 p3 a2 r3
  refine ⟨a3, by rw [b3, b2, b1], by rw [c3, c2, c1], by omega, by omega,
    ⟨f3, fun x hx => by rw [l3.1]; exact f2 x hx, fun s hs => by rw [l3.2, l2]; exact f1 s hs⟩,
    fun z y x => by rw [g3 z, g2 y, g1 x], ?_⟩
  intro cm ch q' hq htz hge ⟨hhh, hmi, hs⟩
  by_cases cs : ss = none
  · have cmi : mi = none := Classical.byContradiction fun h => cm h cs
    have chh : hh = none := Classical.byContradiction fun h => ch h cmi
    rw [g3 chh, g2 cmi, g1 cs]; exact hge
  · have i1 := m1 q' hq htz hge hs trivial
    have ss1 : q'.ss = p1.ss := by
      cases ss with
      | none => exact absurd rfl cs
      | some s => rw [hs s rfl, f1 s rfl]
    have i2 := m2 q' hq (by rw [htz, b1]) i1 hmi ss1
    by_cases chh : hh = none
    · rw [g3 chh]; exact i2
    · have mi2 : q'.mi = p2.mi := by
        cases mi with
        | none => exact absurd rfl (ch chh)
        | some x => rw [hmi x rfl, f2 x rfl]
      exact m3 q' hq (by rw [htz, b2, b1]) i2 hhh ⟨mi2, by rw [ss1, l2]⟩

/-- A conversion and a day loop, if the field is given: what the part hands on, provided the loop
    ends and a strict point in representation `k` shows the designator its day carries. -/
theorem desig_stage (m : Mode) (k : Nat) (hk : k < 3) (get : TP → Int) (fuel : Nat) (Of : Int → Int → Prop)
    (hget : ∀ y : TP, y.Strict m → y.date.rep = k → ∀ d, Of (y.date.dayNum m) d → get y = d)
    (a : TP) (ha : a.Strict m) (o : Option Int)
    (hterm : ∀ d, o = some d → ∀ r : TP, r.Strict m → r.date.rep = k →
      ∃ q, loopField m get (fun q => { q with date := bumpDay q.date 1 }) d fuel r = some q) :
    ∃ b, optPart (dayLoop m k get (fun q => { q with date := bumpDay q.date 1 }) fuel) o a = some b ∧
      DesigRel m k get Of o a b :=
  optPart_stage _ _ o a fun d hd => by
    obtain ⟨r, er, ⟨kr, rr⟩, rn⟩ := toRep_ok m k hk a ha
    obtain ⟨q, e⟩ := hterm d hd r kr.strict rr
    obtain ⟨⟨kq, qr⟩, hg, j, e0, hmin⟩ :=
      unit_loop_min m k get _ d 1 (by omega) (stepOK_day m k) fuel r q kr.strict rr e
    refine ⟨q, by simp only [dayLoop, er, Option.bind_some, e], ⟨keeps_trans m a r q kr kq, qr⟩, hg,
      fun n hn hw => ?_⟩
    have := hmin (n - r.date.dayNum m).toNat fun y ys yr yn =>
      hget y ys yr d (by rw [yn, show r.date.dayNum m + 1 * ((n - r.date.dayNum m).toNat : Int) = n by omega]; exact hw)
    omega

theorem dow_stage (m : Mode) (a : TP) (ha : a.Strict m) (o : Option Int) (ho : ∀ k, o = some k → 1 ≤ k ∧ k ≤ 7) :
    ∃ b, dowPart m o a = some b ∧ DowRel m o a b :=
  desig_stage m 2 (by omega) getDow fuelDow _ (fun y ys yr d h => by rw [getDow_eq m y ys yr]; exact h) a ha o
    fun k hk r rs rr => (loop_dow m r rs rr k (ho k hk)).imp fun _ h => h.1

theorem dom_stage (m : Mode) (a : TP) (ha : a.Strict m) (o : Option Int)
    (ho : ∀ d, o = some d → 1 ≤ d ∧ d ≤ (calOf m).maxDaysInMonth) :
    ∃ b, domPart m o a = some b ∧ DomRel m o a b :=
  desig_stage m 0 (by omega) getDom fuelDom _ (getDom_of m) a ha o
    fun d hd r rs rr => loop_dom_terminates m r rs rr d (ho d hd).1 (ho d hd).2

theorem doy_stage (m : Mode) (a : TP) (ha : a.Strict m) (o : Option Int)
    (ho : ∀ d, o = some d → 1 ≤ d ∧ d ≤ (calOf m).daysInYearLeap) :
    ∃ b, doyPart m o a = some b ∧ DoyRel m o a b :=
  desig_stage m 1 (by omega) getDoy fuelDoy _ (getDoy_of m) a ha o
    fun d hd r rs rr => loop_doy_terminates m r rs rr d (ho d hd).1 (ho d hd).2

theorem week_stage (m : Mode) (a : TP) (ha : a.Strict m) (o : Option Int)
    (ho : ∀ d, o = some d → 1 ≤ d ∧ d ≤ (calOf m).maxWeeksInYear) :
    ∃ b, weekPart m o a = some b ∧ WeekRel m o a b :=
  optPart_stage _ _ o a fun d hd => by
    obtain ⟨r, er, ⟨kr, rr⟩, rn⟩ := toRep_ok m 2 (by omega) a ha
    obtain ⟨q, e⟩ := loop_week_terminates m r kr.strict rr d (ho d hd).1 (ho d hd).2
    obtain ⟨⟨kq, qr⟩, hg, j, e0, hmin⟩ :=
      unit_loop_min m 2 getWeek _ d 7 (by omega) (stepOK_week m) fuelWeek r q kr.strict rr e
    refine ⟨q, by simp only [dayLoop, er, Option.bind_some, e], ⟨keeps_trans m a r q kr kq, qr⟩, hg,
      by rw [e0, weekday_add7, rn], fun n hn hw hwk => ?_⟩
    -- same weekday: `n` is a whole number of weeks after the start
    have hdiv : (n - r.date.dayNum m) % 7 = 0 := by rw [rn]; unfold Spec.weekday at hw; omega
    have := hmin ((n - r.date.dayNum m) / 7).toNat fun y ys yr yn =>
      getWeek_of m y ys yr d (by
        rw [yn, show r.date.dayNum m + 7 * (((n - r.date.dayNum m) / 7).toNat : Int) = n by omega]; exact hwk)
    omega

theorem dayRels_keeps (m : Mode) (dow dom doy week : Option Int) (p3 p4 p5 p6 q : TP) (h3 : p3.Strict m)
    (r4 : DowRel m dow p3 p4) (r5 : DomRel m dom p4 p5) (r6 : DoyRel m doy p5 p6) (r7 : WeekRel m week p6 q) :
    Keeps m p3 q := by
  have k4 := optRel_elim r4 (Keeps m p3) (keeps_refl m p3 h3) fun _ r => r.1.toKeeps
  have k5 := optRel_elim r5 (Keeps m p4) (keeps_refl m p4 k4.strict) fun _ r => r.1.toKeeps
  have k6 := optRel_elim r6 (Keeps m p5) (keeps_refl m p5 k5.strict) fun _ r => r.1.toKeeps
  have k7 := optRel_elim r7 (Keeps m p6) (keeps_refl m p6 k6.strict) fun _ r => r.1.toKeeps
  exact keeps_trans m p3 p4 q k4 (keeps_trans m p4 p5 q k5 (keeps_trans m p5 p6 q k6 k7))

/-! ### a point that already matches passes every part unchanged -/

theorem dayLoop_fix (m : Mode) (k : Nat) (get : TP → Int) (bump : TP → TP) (fuel : Nat) (x : Int) (q : TP)
    (h : q.date.rep = k ∧ get q = x) : dayLoop m k get bump fuel x q = some q := by
  have e := toRep_self m q; rw [h.1] at e
  simp only [dayLoop, e, Option.bind_some]
  exact loopField_fix m _ _ x _ q h.2

end IsoDT.Lemmas
