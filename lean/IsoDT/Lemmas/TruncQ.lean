/-
  IsoDT.Lemmas.TruncQ — `add_truncated` on rational-slot points (`Model.TruncatedQ`) reduced to the
  whole-second model (`Model.Truncated`).

  Along the embedding `TPQ.ofTP` every loop, every conversion and the whole operation commute with
  the integer model (`Commutes`, `DayEmb`).  A loop over day designators does not touch the time
  slots of a strict point, so it is the integer loop on the date at 00:00:00 with the slots carried
  along (`reT`).  After `to_hour_minute_second` the second slot is a whole number plus `p`'s
  fraction of a second; the following statement moves a point with a non-zero fraction up to the
  next whole second, so the prefix `Model.ceilSec` yields the strict whole-second point at the least
  whole second not earlier than `p`, and the run is the integer model's on that point.  That
  statement is needed: `_tick_over` keeps a fraction (`tickOverQ_liftF`), so started on a non-zero
  fraction the seconds loop would never meet its whole-number target (`ssLoop_never`).
-/
import IsoDT.Lemmas.NominalQ
import IsoDT.Lemmas.TruncDay
import IsoDT.Model.TruncatedQ

namespace IsoDT.Lemmas.TruncQ
open IsoDT IsoDT.Model
open IsoDT.Spec (Date TZ TP)

/-- `g` does on the embedded points of the class `C` what `f` does on the points themselves, and
    `f` does not leave `C`. -/
def Commutes {α β : Type} (emb : α → β) (C : α → Prop) (f : α → Option α) (g : β → Option β) : Prop :=
  ∀ p, C p → g (emb p) = (f p).map emb ∧ ∀ q, f p = some q → C q

theorem commutes_bind {α β : Type} {emb : α → β} {C : α → Prop} {f f' : α → Option α} {g g' : β → Option β}
    (h : Commutes emb C f g) (h' : Commutes emb C f' g') :
    Commutes emb C (fun p => (f p).bind f') (fun p => (g p).bind g') := by
  intro p hp
  obtain ⟨e, c⟩ := h p hp
  dsimp only
  rw [e]
  cases hf : f p with
  | none => exact ⟨rfl, fun _ e => by cases e⟩
  | some q => exact h' q (c q hf)

theorem commutes_optPart {α β : Type} {emb : α → β} {C : α → Prop} {f : Int → α → Option α}
    {g : Int → β → Option β} (h : ∀ x, Commutes emb C (f x) (g x)) (o : Option Int) :
    Commutes emb C (optPart f o) (optPart g o) := by
  intro p hp
  cases o with
  | none => exact ⟨rfl, fun q e => by cases e; exact hp⟩
  | some x => exact h x p hp

section loopQ
variable (m : Mode) (hit : TPQ → Prop) [DecidablePred hit] (bump : TPQ → TPQ)

theorem loopFieldQ_hit (fuel : Nat) (q : TPQ) (h : hit q) : loopFieldQ m hit bump fuel q = some q := by
  cases fuel <;> rw [loopFieldQ, if_pos h]

theorem loopFieldQ_zero (q : TPQ) (h : ¬ hit q) : loopFieldQ m hit bump 0 q = none := by
  rw [loopFieldQ, if_neg h]

theorem loopFieldQ_succ (fuel : Nat) (q : TPQ) (h : ¬ hit q) :
    loopFieldQ m hit bump (fuel + 1) q = (tickOverQ m (bump q)).bind (loopFieldQ m hit bump fuel) := by
  rw [loopFieldQ, if_neg h]

/-- A loop whose test can never succeed along its walk spins for ever: `none` for every fuel. -/
theorem loopFieldQ_never (J : TPQ → Prop) (hJ : ∀ q, J q → ¬ hit q)
    (hstep : ∀ q q', J q → tickOverQ m (bump q) = some q' → J q') :
    ∀ (fuel : Nat) (q : TPQ), J q → loopFieldQ m hit bump fuel q = none := by
  intro fuel
  induction fuel with
  | zero => intro q hq; exact loopFieldQ_zero m hit bump q (hJ q hq)
  | succ fuel ih =>
    intro q hq
    rw [loopFieldQ_succ m hit bump fuel q (hJ q hq)]
    cases ht : tickOverQ m (bump q) with
    | none => rfl
    | some q' => exact ih q' (hstep q q' hq ht)

end loopQ

theorem commutes_loop (m : Mode) (emb : TP → TPQ) (C : TP → Prop) (hitQ : TPQ → Prop) [DecidablePred hitQ]
    (bumpQ : TPQ → TPQ) (get : TP → Int) (bump : TP → TP) (target : Int)
    (hhit : ∀ p, C p → (hitQ (emb p) ↔ get p = target))
    (hstep : Commutes emb C (fun p => tickOver m (bump p)) (fun q => tickOverQ m (bumpQ q))) (fuel : Nat) :
    Commutes emb C (loopField m get bump target fuel) (loopFieldQ m hitQ bumpQ fuel) := by
  have stop : ∀ fuel p, C p → get p = target →
      loopFieldQ m hitQ bumpQ fuel (emb p) = (loopField m get bump target fuel p).map emb ∧
        ∀ q, loopField m get bump target fuel p = some q → C q := fun fuel p hp c => by
    rw [loopField_fix m get bump target fuel p c, loopFieldQ_hit m hitQ bumpQ fuel (emb p) ((hhit p hp).2 c)]
    exact ⟨rfl, fun q e => by cases e; exact hp⟩
  induction fuel with
  | zero =>
    intro p hp
    by_cases c : get p = target
    · exact stop 0 p hp c
    · rw [loopField_zero m get bump target p c, loopFieldQ_zero m hitQ bumpQ (emb p) fun h => c ((hhit p hp).1 h)]
      exact ⟨rfl, fun _ e => by cases e⟩
  | succ fuel ih =>
    intro p hp
    by_cases c : get p = target
    · exact stop _ p hp c
    · rw [loopField_succ m get bump target fuel p c,
        loopFieldQ_succ m hitQ bumpQ fuel (emb p) fun h => c ((hhit p hp).1 h)]
      exact commutes_bind hstep ih p hp

/-! ### `add_truncated` over rational slots cut into its parts -/

def hmsPartQ (m : Mode) (t : Trunc) (p : TPQ) : Option TPQ :=
  if (truncSS t).isSome ∨ (truncMI t).isSome then (hmsTPQ m p).bind (ceilSecQ m) else some p

def ssPartQ (fuel : Nat) (m : Mode) : Option Int → TPQ → Option TPQ :=
  optPart fun s => loopFieldQ m (fun q => q.ss = some (s : Rat)) (fun q => { q with ss := q.ss.map (· + 1) }) fuel
def miPartQ (fuel : Nat) (m : Mode) : Option Int → TPQ → Option TPQ :=
  optPart fun x => loopFieldQ m (fun q => q.mi = some (x : Rat)) (fun q => { q with mi := q.mi.map (· + 1) }) fuel
def hhPartQ (fuel : Nat) (m : Mode) : Option Int → TPQ → Option TPQ :=
  optPart fun x => loopFieldQ m (fun q => q.hh = (x : Rat)) (fun q => { q with hh := q.hh + 1 }) fuel

def dayLoopQ (m : Mode) (k : Nat) (get : TPQ → Int) (bump : TPQ → TPQ) (fuel : Nat) (x : Int) (p : TPQ) :
    Option TPQ :=
  (toRepQ m k p).bind (loopFieldQ m (fun q => get q = x) bump fuel)

def timePartsQ (fuel : Nat) (m : Mode) (t : Trunc) (p : TPQ) : Option TPQ :=
  (ssPartQ fuel m (truncSS t) p).bind fun p1 => (miPartQ fuel m (truncMI t) p1).bind fun p2 => hhPartQ fuel m t.hh p2

def dayPartsQ (fu : TruncFuel) (m : Mode) (t : Trunc) (p : TPQ) : Option TPQ :=
  (optPart (dayLoopQ m 2 getDowQ bumpDayQ fu.dow) t.dow p).bind fun p4 =>
  (optPart (dayLoopQ m 0 getDomQ bumpDayQ fu.dom) t.dom p4).bind fun p5 =>
  (optPart (dayLoopQ m 1 getDoyQ bumpDayQ fu.doy) t.doy p5).bind fun p6 =>
  optPart (dayLoopQ m 2 getWeekQ bumpWeekQ fu.week) t.week p6

theorem hmsPartQ_bind {β : Type} (m : Mode) (t : Trunc) (p : TPQ) (k : TPQ → Option β) :
    (hmsPartQ m t p).bind k =
      if (truncSS t).isSome ∨ (truncMI t).isSome then ((hmsTPQ m p).bind (ceilSecQ m)).bind k else k p := by
  unfold hmsPartQ; split <;> rfl

/-- `add_truncated` over rational slots is: 24:00 normalised, the expansion to hour, minute,
    second, the time-of-day loops, the day-designator loops. -/
theorem addTruncatedQF_parts (fu : TruncFuel) (m : Mode) (p : TPQ) (t : Trunc) :
    addTruncatedQF fu m p t = (normalise24Q m p).bind fun p0 => (hmsPartQ m t p0).bind fun pH =>
      (timePartsQ fu.time m t pH).bind fun p3 => dayPartsQ fu m t p3 := by
  simp only [timePartsQ, dayPartsQ, Option.bind_assoc]
  simp only [ssPartQ, miPartQ, hhPartQ, optPart_bind, hmsPartQ_bind]
  rfl

/-- An embedding `emb` of the whole-second points of a class `C` into rational-slot points that
    commutes with `_tick_over` and with replacing the date.  There are two: `TPQ.ofTP` on all points,
    and `reT q0` (the time slots of `q0` on a date) on the points at 00:00:00, which `_tick_over` of a
    bumped date does not leave. -/
structure DayEmb (m : Mode) (emb : TP → TPQ) (C : TP → Prop) : Prop where
  date : ∀ p, (emb p).date = p.date
  setDate : ∀ p d, { emb p with date := d } = emb { p with date := d }
  tick : Commutes emb C (tickOver m) (tickOverQ m)
  cDate : ∀ p d, C p → C { p with date := d }

section dayemb
variable {m : Mode} {emb : TP → TPQ} {C : TP → Prop}

theorem dayEmb_toRep (E : DayEmb m emb C) (k : Nat) : Commutes emb C (toRep m k) (toRepQ m k) := by
  intro p hp
  constructor
  · unfold toRepQ Model.toRep
    rw [E.date, Option.map_map]
    congr 1
    funext dt
    exact E.setDate p dt
  · intro q h
    unfold Model.toRep at h
    obtain ⟨dt, _, rfl⟩ := Option.map_eq_some_iff.1 h
    exact E.cDate p dt hp

theorem dayEmb_bumpDay (E : DayEmb m emb C) (p : TP) :
    bumpDayQ (emb p) = emb { p with date := bumpDay p.date 1 } := by
  unfold bumpDayQ; rw [E.date]; exact E.setDate p _

theorem dayEmb_bumpWeek (E : DayEmb m emb C) (p : TP) : bumpWeekQ (emb p) = emb (bumpWeek p) := by
  unfold bumpWeekQ Model.bumpWeek
  rw [E.date]
  cases p.date with
  | week y w d => exact E.setDate p _
  | cal y mo d => rfl
  | ord y n => rfl

theorem getDowQ_emb (E : DayEmb m emb C) (p : TP) : getDowQ (emb p) = getDow p := by
  unfold getDowQ getDow; rw [E.date]; rfl
theorem getDomQ_emb (E : DayEmb m emb C) (p : TP) : getDomQ (emb p) = getDom p := by
  unfold getDomQ getDom; rw [E.date]; rfl
theorem getDoyQ_emb (E : DayEmb m emb C) (p : TP) : getDoyQ (emb p) = getDoy p := by
  unfold getDoyQ getDoy; rw [E.date]; rfl
theorem getWeekQ_emb (E : DayEmb m emb C) (p : TP) : getWeekQ (emb p) = getWeek p := by
  unfold getWeekQ getWeek; rw [E.date]; rfl

theorem bumpWeek_c (E : DayEmb m emb C) (p : TP) (hp : C p) : C (bumpWeek p) := by
  unfold Model.bumpWeek
  cases p.date with
  | week y w d => exact E.cDate p _ hp
  | cal y mo d => exact hp
  | ord y n => exact hp

theorem dayEmb_dayLoop (E : DayEmb m emb C) (k : Nat) (getQ : TPQ → Int) (get : TP → Int)
    (hg : ∀ p, getQ (emb p) = get p) (bumpQ : TPQ → TPQ) (bump : TP → TP) (hb : ∀ p, bumpQ (emb p) = emb (bump p))
    (hc : ∀ p, C p → C (bump p)) (fuel : Nat) (x : Int) :
    Commutes emb C (dayLoop m k get bump fuel x) (dayLoopQ m k getQ bumpQ fuel x) :=
  commutes_bind (dayEmb_toRep E k) <| commutes_loop m emb C _ bumpQ get _ x (fun p _ => by rw [hg])
    (fun p hp => by dsimp only; rw [hb]; exact E.tick _ (hc p hp)) fuel

theorem dayEmb_dayParts (E : DayEmb m emb C) (t : Trunc) :
    Commutes emb C (dayParts m t) (dayPartsQ stdTruncFuel m t) :=
  have day := fun k getQ get hg fuel => dayEmb_dayLoop E k getQ get hg bumpDayQ _ (dayEmb_bumpDay E)
    (fun p => E.cDate p _) fuel
  commutes_bind (commutes_optPart (day 2 getDowQ getDow (getDowQ_emb E) fuelDow) t.dow) <|
  commutes_bind (commutes_optPart (day 0 getDomQ getDom (getDomQ_emb E) fuelDom) t.dom) <|
  commutes_bind (commutes_optPart (day 1 getDoyQ getDoy (getDoyQ_emb E) fuelDoy) t.doy) <|
  commutes_optPart (dayEmb_dayLoop E 2 getWeekQ getWeek (getWeekQ_emb E) bumpWeekQ _ (dayEmb_bumpWeek E)
    (bumpWeek_c E) fuelWeek) t.week

end dayemb

theorem dayEmb_ofTP (m : Mode) : DayEmb m TPQ.ofTP (fun _ => True) :=
  ⟨fun _ => rfl, fun _ _ => rfl, fun p _ => ⟨tickOverQ_ofTP m p, fun _ _ => trivial⟩, fun _ _ _ => trivial⟩

/-! ### no time field named: the day loops carry the time slots along -/

theorem tickOver_zero_shape (m : Mode) (d : Date) (tz : TZ) (r : TP) (h : tickOver m ⟨d, 0, 0, 0, tz⟩ = some r) :
    r = ⟨r.date, 0, 0, 0, tz⟩ := by
  unfold tickOver at h
  simp only [secondsInMinute_eq, minutesInHour_eq, hoursInDay_eq] at h
  obtain ⟨dt, _, rfl⟩ := Option.map_eq_some_iff.1 h
  simp

def skel (p : TPQ) : TP := ⟨p.date, 0, 0, 0, p.tz⟩

def reT (q0 : TPQ) (p : TP) : TPQ := ⟨p.date, q0.hh, q0.mi, q0.ss, p.tz⟩

def ZeroTime (p : TP) : Prop := p.hh = 0 ∧ p.mi = 0 ∧ p.ss = 0

theorem reT_skel (p : TPQ) : reT p (skel p) = p := rfl

theorem tickOverQ_reT (m : Mode) (q0 : TPQ) (hok : q0.hms.Ok) (hlt : q0.hh < 24) (d : Date) (tz : TZ) :
    tickOverQ m (reT q0 ⟨d, 0, 0, 0, tz⟩) = (tickOver m ⟨d, 0, 0, 0, tz⟩).map (reT q0) := by
  have hfix := tickTimeQ_ok_id m q0.hms hok hlt
  simp only [TPQ.hms] at hfix
  simp only [tickOverQ, reT, hfix, carryDays, Int.mul_zero]
  cases h : tickOver m ⟨d, 0, 0, 0, tz⟩ with
  | none => rfl
  | some r =>
    have := tickOver_zero_shape m d tz r h
    rw [this]; rfl

/-- Dressing a date at 00:00:00 with the time slots of a strict point `q0` is such an embedding: the
    time statements of `_tick_over` leave those slots alone (`tickTimeQ_ok_id`). -/
theorem dayEmb_reT (m : Mode) (q0 : TPQ) (hok : q0.hms.Ok) (hlt : q0.hh < 24) : DayEmb m (reT q0) ZeroTime := by
  refine ⟨fun _ => rfl, fun _ _ => rfl, ?_, fun p d hp => hp⟩
  intro p hp
  obtain ⟨d, hh, mi, ss, tz⟩ := p
  obtain ⟨h1, h2, h3⟩ := hp
  simp only at h1 h2 h3
  subst h1 h2 h3
  refine ⟨tickOverQ_reT m q0 hok hlt d tz, fun q h => ?_⟩
  rw [tickOver_zero_shape m d tz q h]; exact ⟨rfl, rfl, rfl⟩

theorem skel_strict (m : Mode) (p : TPQ) (h : p.Valid m) : (skel p).Strict m := by
  refine ⟨⟨h.1, ?_, ?_, ?_, ?_, ?_, ?_, ?_, h.2.1⟩, ?_⟩ <;> simp [skel]

theorem reT_spec (m : Mode) (q0 : TPQ) (h0 : TPQ.Strict m q0) (r : TP) (hr : r.Strict m)
    (hz : ZeroTime r) :
    TPQ.Strict m (reT q0 r) ∧ (reT q0 r).inst m = ((r.inst m : Int) : Rat) + q0.hms.secs := by
  refine ⟨⟨⟨hr.1.1, hr.1.tz, h0.1.2.2⟩, h0.2⟩, ?_⟩
  obtain ⟨z1, z2, z3⟩ := hz
  simp only [TPQ.inst, reT, TPQ.hms, TP.inst, TP.secOfDay, z1, z2, z3, Rat.intCast_sub, Rat.intCast_add,
    Rat.intCast_mul]
  have c1 : ((86400 : Int) : Rat) = 86400 := rfl
  have c0 : ((0 : Int) : Rat) = 0 := rfl
  rw [c1, c0]
  grind

/-- **No time field named**: no `to_hour_minute_second`, no time loop; the day loops run on the
    date of `p0` (`p` with 24:00 normalised) exactly as the integer model does on that date at
    00:00:00, and the three time slots of `p0` - precision form and fraction included - are carried
    along unchanged. -/
theorem addTruncatedQ_dayOnly (m : Mode) (p : TPQ) (hv : p.Valid m) (t : Trunc)
    (h1 : t.hh = none) (h2 : t.mi = none) (h3 : t.ss = none) :
    ∃ p0, normalise24Q m p = some p0 ∧ GoodQ m p p0 0 ∧
      addTruncatedQ m p t = (addTruncated m (skel p0) t).map (reT p0) := by
  obtain ⟨p0, e0, g0⟩ := normalise24Q_spec m p hv
  refine ⟨p0, e0, g0, ?_⟩
  have hmi : truncMI t = none := by unfold truncMI; rw [h1, h2]
  have hss : truncSS t = none := by unfold truncSS; rw [h3, hmi, h1]; rfl
  unfold addTruncatedQ
  rw [addTruncatedQF_parts, e0, addTruncated_parts]
  have n0 : normalise24 m (skel p0) = some (skel p0) := by
    simp [normalise24, hoursInDay_eq, skel]
  have tq : timePartsQ stdTruncFuel.time m t p0 = some p0 := by
    unfold timePartsQ; rw [hss, hmi, h1]; rfl
  have ti : timeParts m t (skel p0) = some (skel p0) := by
    unfold timeParts; rw [show effSS t = none from hss, show effMI t = none from hmi, h1]; rfl
  have hp : hmsPartQ m t p0 = some p0 := by
    unfold hmsPartQ; rw [hss, hmi]; rfl
  simp only [Option.bind_some, n0, hp, tq, ti]
  exact (dayEmb_dayParts (dayEmb_reT m p0 g0.valid.2.2 g0.lt24) t (skel p0) ⟨rfl, rfl, rfl⟩).1

theorem timePartsQ_ofTP (m : Mode) (t : Trunc) :
    Commutes TPQ.ofTP (fun _ => True) (timeParts m t) (timePartsQ fuelTime m t) := by
  have c1 : (1 : Rat) = ((1 : Int) : Rat) := rfl
  refine commutes_bind (commutes_optPart (fun s => commutes_loop m TPQ.ofTP _ _ _ (·.ss) _ s ?_ ?_ fuelTime) (effSS t)) <|
    commutes_bind (commutes_optPart (fun x => commutes_loop m TPQ.ofTP _ _ _ (·.mi) _ x ?_ ?_ fuelTime) (effMI t)) <|
    commutes_optPart (fun x => commutes_loop m TPQ.ofTP _ _ _ (·.hh) _ x ?_ ?_ fuelTime) t.hh
  · intro p _; simp only [TPQ.ofTP, Option.some.injEq, Rat.intCast_inj]
  · intro p _
    simp only [TPQ.ofTP, Option.map_some, c1, ← Rat.intCast_add]
    exact ⟨tickOverQ_ofTP m { p with ss := p.ss + 1 }, fun _ _ => trivial⟩
  · intro p _; simp only [TPQ.ofTP, Option.some.injEq, Rat.intCast_inj]
  · intro p _
    simp only [TPQ.ofTP, Option.map_some, c1, ← Rat.intCast_add]
    exact ⟨tickOverQ_ofTP m { p with mi := p.mi + 1 }, fun _ _ => trivial⟩
  · intro p _; simp only [TPQ.ofTP, Rat.intCast_inj]
  · intro p _
    simp only [TPQ.ofTP, c1, ← Rat.intCast_add]
    exact ⟨tickOverQ_ofTP m { p with hh := p.hh + 1 }, fun _ _ => trivial⟩

theorem hmsTPQ_ofTP (m : Mode) (p : TP) : hmsTPQ m (TPQ.ofTP p) = some (TPQ.ofTP p) := rfl

theorem ceilSecQ_ofTP (m : Mode) (p : TP) : ceilSecQ m (TPQ.ofTP p) = some (TPQ.ofTP p) := by
  simp only [ceilSecQ, TPQ.ofTP, truncQ_intCast, ne_eq, not_true_eq_false, ↓reduceIte]

theorem hmsPartQ_ofTP (m : Mode) (t : Trunc) (p : TP) : hmsPartQ m t (TPQ.ofTP p) = some (TPQ.ofTP p) := by
  unfold hmsPartQ; split
  · rw [hmsTPQ_ofTP, Option.bind_some, ceilSecQ_ofTP]
  · rfl

theorem loopsQ_ofTP (m : Mode) (t : Trunc) (p : TP) :
    ((timePartsQ stdTruncFuel.time m t (TPQ.ofTP p)).bind fun p3 => dayPartsQ stdTruncFuel m t p3) =
      ((timeParts m t p).bind fun p3 => dayParts m t p3).map TPQ.ofTP :=
  (commutes_bind (timePartsQ_ofTP m t) (dayEmb_dayParts (dayEmb_ofTP m) t) p trivial).1

theorem addTruncatedQ_ofTP (m : Mode) (p : TP) (t : Trunc) :
    addTruncatedQ m (TPQ.ofTP p) t = (addTruncated m p t).map TPQ.ofTP := by
  unfold addTruncatedQ
  rw [addTruncatedQF_parts, addTruncated_parts, normalise24Q_ofTP]
  cases normalise24 m p with
  | none => rfl
  | some p0 =>
    simp only [Option.map_some, Option.bind_some, hmsPartQ_ofTP]
    exact loopsQ_ofTP m t p0

theorem addTruncTPQ_ofTP (m : Mode) (p : TP) (t : Trunc) :
    addTruncTPQ m (TPQ.ofTP p) t = (addTruncTP m p t).map TPQ.ofTP := by
  unfold addTruncTPQ addTruncTPQF addTruncTP
  cases t.tz with
  | none => exact addTruncatedQ_ofTP m p t
  | some z =>
    simp only
    rw [toTimeZoneQ_ofTP]
    cases toTimeZone m p z with
    | none => rfl
    | some q =>
      simp only [Option.map_some, Option.bind_some]
      have := addTruncatedQ_ofTP m q t
      unfold addTruncatedQ at this
      rw [this]
      cases addTruncated m q t with
      | none => rfl
      | some r =>
        simp only [Option.map_some, Option.bind_some]
        exact toTimeZoneQ_ofTP m r p.tz

/-- **With a fraction of a second the seconds loop never meets its whole-number target.** -/
theorem ssLoop_never (m : Mode) (f : Rat) (h0 : 0 < f) (h1 : f < 1) (s : Int) (fuel : Nat) (p : TP) :
    loopFieldQ m (fun q => q.ss = some (s : Rat)) (fun q => { q with ss := q.ss.map (· + 1) }) fuel (liftF f p) = none := by
  apply loopFieldQ_never m _ _ (fun q => ∃ r : TP, q = liftF f r)
  · rintro q ⟨r, rfl⟩ h
    simp only [liftF, Option.some.injEq] at h
    exact not_isInt_add_frac r.ss f h0 h1 s h
  · rintro q q' ⟨r, rfl⟩ h
    have e : ({ liftF f r with ss := (liftF f r).ss.map (· + 1) } : TPQ) = liftF f { r with ss := r.ss + 1 } := by
      have c1 : (1 : Rat) = ((1 : Int) : Rat) := rfl
      simp only [liftF, Option.map_some, Rat.intCast_add, ← c1]
      congr 2
      grind
    rw [e, tickOverQ_liftF m f (Rat.le_of_lt h0) h1] at h
    obtain ⟨r', _, rfl⟩ := Option.map_eq_some_iff.1 h
    exact ⟨r', rfl⟩
  · exact ⟨p, rfl⟩

/-- `p` denotes a whole second: its time of day, in seconds, is a whole number (whatever the
    precision form). -/
def WholeSec (p : TPQ) : Prop := IsInt p.hms.secs

instance (p : TPQ) : Decidable (WholeSec p) := by unfold WholeSec; infer_instance

theorem wholeSec_iff_inst (m : Mode) (p : TPQ) : WholeSec p ↔ IsInt (p.inst m) := by
  unfold WholeSec TPQ.inst
  have c1 : (86400 : Rat) = ((86400 : Int) : Rat) := rfl
  constructor
  · intro h
    rw [c1, ← Rat.intCast_mul]
    exact isInt_sub (isInt_add (isInt_intCast _) h) (isInt_intCast _)
  · intro h
    have : p.hms.secs = 86400 * ((p.date.dayNum m : Int) : Rat) + p.hms.secs - ((p.tz.seconds : Int) : Rat) -
        ((86400 * p.date.dayNum m - p.tz.seconds : Int) : Rat) := by
      rw [Rat.intCast_sub, Rat.intCast_mul, ← c1]; grind
    rw [this]
    exact isInt_sub h (isInt_intCast _)

/-- **`to_hour_minute_second` of a strict point**: a strict whole-second point `p'` (same date,
    same offset) plus a fraction `f ∈ [0, 1)` on the second slot; the instant is kept; `f = 0`
    exactly when `p` denotes a whole second. -/
theorem hmsTPQ_spec (m : Mode) (p : TPQ) (h : TPQ.Strict m p) :
    ∃ (p' : TP) (f : Rat), hmsTPQ m p = some (liftF f p') ∧ 0 ≤ f ∧ f < 1 ∧ p'.Strict m ∧ p'.date = p.date ∧
      p'.tz = p.tz ∧ ((p'.inst m : Int) : Rat) + f = p.inst m ∧ (f = 0 ↔ WholeSec p) := by
  obtain ⟨H, M, S, e, a1, a2, a3, a4, a5, a6, a7⟩ := hmsQ_spec m p h
  have c0 : ((0 : Int) : Rat) = 0 := rfl
  have c60 : ((60 : Int) : Rat) = 60 := rfl
  have f1 := Rat.floor_le S
  have f2 := Rat.lt_floor_add_one S
  have k0 : 0 ≤ S.floor := Rat.le_floor_iff.2 (by rw [c0]; exact a5)
  have k1 : S.floor < 60 := Rat.floor_lt_iff.2 (by rw [c60]; exact a6)
  refine ⟨⟨p.date, H, M, S.floor, p.tz⟩, S - (S.floor : Rat), ?_, by grind, by grind, ?_, rfl, rfl, ?_, ?_⟩
  · simp only [hmsTPQ, e, Option.map_some, liftF]
    congr 3
    grind
  · exact strict_of_tick m _ h.1.2.1 ⟨h.1.1, a1, Int.lt_of_le_sub_one a2, a3, Int.lt_of_le_sub_one a4, k0, k1⟩
  · simp only [TP.inst, TP.secOfDay, TPQ.inst, Rat.intCast_sub, Rat.intCast_add, Rat.intCast_mul, ← a7]
    have c1 : ((86400 : Int) : Rat) = 86400 := rfl
    have c2 : ((3600 : Int) : Rat) = 3600 := rfl
    rw [c1, c2, c60]
    grind
  · unfold WholeSec
    rw [← a7]
    constructor
    · intro hf
      have : S = (S.floor : Rat) := by grind
      rw [this]
      have c2 : (3600 : Rat) = ((3600 : Int) : Rat) := rfl
      rw [c2, ← c60, ← Rat.intCast_mul, ← Rat.intCast_mul, ← Rat.intCast_add, ← Rat.intCast_add]
      exact isInt_intCast _
    · intro hi
      have c2 : (3600 : Rat) = ((3600 : Int) : Rat) := rfl
      have hS : IsInt S := by
        have : S = 3600 * (H : Rat) + 60 * (M : Rat) + S - ((3600 * H + 60 * M : Int) : Rat) := by
          rw [Rat.intCast_add, Rat.intCast_mul, Rat.intCast_mul, ← c2, c60]; grind
        rw [this]
        exact isInt_sub hi (isInt_intCast _)
      have := hS.eq_intCast
      rw [this, Rat.floor_intCast]
      grind

theorem truncSS_some_of_time (t : Trunc) (ht : t.hh ≠ none ∨ t.mi ≠ none ∨ t.ss ≠ none) :
    ∃ s, truncSS t = some s := by
  obtain ⟨week, dow, dom, doy, hh, mi, ss, tz⟩ := t
  cases hh <;> cases mi <;> cases ss <;> simp [truncSS, truncMI] at ht ⊢

/-! ### a time field is named: the run starts from the next whole second -/

/-- **The prefix of `add_truncated` when a time field is named** (`Model.ceilSec`: 24:00 normalised,
    `to_hour_minute_second`, up to the next whole second if inside one) yields the strict
    whole-second point at the least whole second not earlier than `p`, in `p`'s offset and date
    representation, in hour:minute:second form. -/
theorem ceilSec_spec (m : Mode) (p : TPQ) (hv : p.Valid m) :
    ∃ c : TP, ceilSec m p = some (TPQ.ofTP c) ∧ c.Strict m ∧ c.tz = p.tz ∧ c.date.rep = p.date.rep ∧
      p.inst m ≤ ((c.inst m : Int) : Rat) ∧ ((c.inst m : Int) : Rat) < p.inst m + 1 ∧
      (WholeSec p → ((c.inst m : Int) : Rat) = p.inst m) := by
  obtain ⟨p0, e0, g0⟩ := normalise24Q_spec m p hv
  have s0 : TPQ.Strict m p0 := ⟨g0.valid, g0.lt24⟩
  obtain ⟨p', f, e1, f0, f1, ps, pd, ptz, pi, pf⟩ := hmsTPQ_spec m p0 s0
  have hi0 : p0.inst m = p.inst m := by rw [g0.inst]; grind
  have hws : WholeSec p0 ↔ WholeSec p := by rw [wholeSec_iff_inst m, wholeSec_iff_inst m, hi0]
  unfold ceilSec
  rw [e0, Option.bind_some, e1, Option.bind_some]
  by_cases hf : f = 0
  · subst hf
    rw [liftF_zero, ceilSecQ_ofTP]
    exact ⟨p', rfl, ps, by rw [ptz, g0.tz], by rw [pd, g0.rep], by grind, by grind, fun _ => by grind⟩
  · have hpos : 0 < f := by grind
    have hss0 : 0 ≤ p'.ss := ps.1.2.2.2.2.2.1
    have htr := truncQ_intCast_add p'.ss hss0 f f0 f1
    have hne : (p'.ss : Rat) + f ≠ ((truncQ ((p'.ss : Rat) + f) : Int) : Rat) := by
      rw [htr]; grind
    have c1 : (1 : Rat) = ((1 : Int) : Rat) := rfl
    have hb : ({ liftF f p' with ss := some (((truncQ ((p'.ss : Rat) + f) : Int) : Rat) + 1) } : TPQ) =
        TPQ.ofTP { p' with ss := p'.ss + 1 } := by
      simp only [liftF, TPQ.ofTP, htr, c1, ← Rat.intCast_add]
    obtain ⟨c, ec, g⟩ := step_spec m (fun q => { q with ss := q.ss + 1 }) 1 p'.date.rep
      (stepOK_ss m _) p' ps rfl
    have hcq : ceilSecQ m (liftF f p') = some (TPQ.ofTP c) := by
      simp only [ceilSecQ, liftF] at hb ⊢
      rw [if_pos hne, hb, tickOverQ_ofTP, ec]; rfl
    refine ⟨c, hcq, g.strict, by rw [g.tz, ptz, g0.tz], by rw [g.rep, pd, g0.rep], ?_, ?_, ?_⟩
    · rw [g.inst, Rat.intCast_add, ← c1]; grind
    · rw [g.inst, Rat.intCast_add, ← c1]; grind
    · intro hw; exact absurd (pf.2 (hws.2 hw)) hf

/-- **A time field is named**: the run on `p` is the whole-second model's run on the whole-second
    point `c` that `ceilSec` yields; the result is in hour:minute:second form. -/
theorem addTruncatedQ_time (m : Mode) (p : TPQ) (t : Trunc)
    (ht : t.hh ≠ none ∨ t.mi ≠ none ∨ t.ss ≠ none) (c : TP) (hc : ceilSec m p = some (TPQ.ofTP c))
    (cs : c.Strict m) :
    addTruncatedQ m p t = (addTruncated m c t).map TPQ.ofTP := by
  obtain ⟨s, hs⟩ := truncSS_some_of_time t ht
  unfold ceilSec at hc
  unfold addTruncatedQ
  rw [addTruncatedQF_parts, addTruncated_parts, normalise24_strict m c cs]
  cases e0 : normalise24Q m p with
  | none => rw [e0] at hc; cases hc
  | some p0 =>
    rw [e0, Option.bind_some] at hc
    simp only [Option.bind_some]
    have : hmsPartQ m t p0 = some (TPQ.ofTP c) := by
      unfold hmsPartQ; rw [hs]; simp only [Option.isSome_some, true_or, ↓reduceIte]; exact hc
    rw [this, Option.bind_some]
    exact loopsQ_ofTP m t c

end IsoDT.Lemmas.TruncQ
