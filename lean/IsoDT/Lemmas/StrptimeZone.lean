/-
  IsoDT.Lemmas.StrptimeZone — the strptime glue of `Model/StrptimeZone.lean` evaluated on the dicts a
  match produces.

  The dicts are association lists.  Each one that occurs is known through two facts: what `dget` answers
  for every key after every dict operation (`dget_*`), and that no key comes twice (`nodup_*`; the loop
  over `time_info` visits every entry, not the first of each key).  From these, `_create_timepoint_from_info`
  and `TimePoint(**info)` are evaluated by lookups (`createInfo_eval`, `ctor_eval`), which settles the
  field formats (`strpZone_fields`) and the `%s` formats (`strpZone_unix`).  The summary model
  `Strf.assemble` of `Model/Strftime.lean` agrees with both (`assemble_eq_strpZone_*`; its constructor is
  `Model.mkTP`: `Strf.mkPoint_eq_mkTP`).
-/
import IsoDT.Model.StrptimeZone
import IsoDT.Lemmas.Strftime
import IsoDT.Lemmas.ConstructTrunc
import IsoDT.Lemmas.Cmp

namespace IsoDT.Lemmas.StrpZone
open IsoDT IsoDT.Model IsoDT.Model.StrpZone IsoDT.Lemmas
open IsoDT.Spec (Date TZ TP)
open IsoDT.Model.Strf (PCfg)

theorem dget_nil (k : Key) : dget [] k = none := rfl

theorem dget_cons (k' : Key) (v : Val) (rest : Dict) (k : Key) :
    dget ((k', v) :: rest) k = if k' = k then some v else dget rest k := rfl

theorem dget_eq_find (d : Dict) (k : Key) : dget d k = (d.find? fun e => e.1 = k).map (·.2) := by
  induction d with
  | nil => rfl
  | cons e rest ih =>
    obtain ⟨k1, v⟩ := e
    simp only [dget_cons, List.find?_cons, ih]
    split <;> simp [*]

theorem dget_append (a b : Dict) (k : Key) : dget (a ++ b) k = (dget a k).or (dget b k) := by
  simp only [dget_eq_find, List.find?_append]
  cases List.find? (fun e => decide (e.1 = k)) a <;> rfl

theorem dget_entry (k' : Key) (x : Option Int) (k : Key) :
    dget (entry k' x) k = if k' = k then x.map Val.num else none := by
  cases x with
  | none => simp [entry, dget]
  | some n => simp [entry, dget]

theorem dget_dset (d : Dict) (k' : Key) (v : Val) (k : Key) :
    dget (dset d k' v) k = if k' = k then some v else dget d k := by
  induction d with
  | nil => simp [dset, dget]
  | cons e rest ih =>
    obtain ⟨k1, v1⟩ := e
    simp only [dset]
    by_cases h1 : k1 = k'
    · subst h1
      simp only [↓reduceIte, dget_cons]
      by_cases h2 : k1 = k
      · simp [h2]
      · simp [h2]
    · simp only [h1, ↓reduceIte, dget_cons, ih]
      by_cases h2 : k1 = k
      · subst h2
        simp [Ne.symm h1]
      · simp [h2]

theorem dfilter_eq (p : Key → Bool) (d : Dict) : dfilter p d = d.filter fun e => p e.1 := by
  induction d with
  | nil => rfl
  | cons e rest ih => obtain ⟨k, v⟩ := e; simp only [dfilter, List.filter_cons, ih]

theorem dpop_eq (d : Dict) (k : Key) : dpop d k = d.filter fun e => !decide (e.1 = k) := by
  induction d with
  | nil => rfl
  | cons e rest ih => obtain ⟨k1, v⟩ := e; simp only [dpop, List.filter_cons, ih]; split <;> simp [*]

theorem dmapVals_eq (f : Val → Val) (d : Dict) : dmapVals f d = d.map fun e => (e.1, f e.2) := by
  induction d with
  | nil => rfl
  | cons e rest ih => obtain ⟨k, v⟩ := e; simp only [dmapVals, List.map_cons, ih]

theorem dget_filter (q : Key → Bool) (d : Dict) (k : Key) :
    dget (d.filter fun e => q e.1) k = if q k then dget d k else none := by
  induction d with
  | nil => simp [dget]
  | cons e rest ih =>
    obtain ⟨k1, v1⟩ := e
    by_cases hk : k1 = k
    · subst hk; cases h : q k1 <;> simp [h, dget_cons, ih]
    · cases h : q k1 <;> simp [h, dget_cons, hk, ih]

theorem dget_map (f : Key → Val → Val) (d : Dict) (k : Key) :
    dget (d.map fun e => (e.1, f e.1 e.2)) k = (dget d k).map (f k) := by
  induction d with
  | nil => rfl
  | cons e rest ih =>
    obtain ⟨k1, v1⟩ := e
    simp only [List.map_cons, dget_cons, ih]
    split
    · next h => subst h; rfl
    · rfl

theorem dget_dpop (d : Dict) (k' k : Key) : dget (dpop d k') k = if k' = k then none else dget d k := by
  rw [dpop_eq, dget_filter fun x => !decide (x = k')]
  by_cases h : k' = k <;> simp [h, eq_comm]

theorem dget_dmapVals (f : Val → Val) (d : Dict) (k : Key) : dget (dmapVals f d) k = (dget d k).map f := by
  rw [dmapVals_eq]; exact dget_map (fun _ => f) d k

theorem dget_dfilter (p : Key → Bool) (d : Dict) (k : Key) :
    dget (dfilter p d) k = if p k then dget d k else none := by
  rw [dfilter_eq]; exact dget_filter p d k

/-- `a.update(b)`: `b`'s value if it has the key, else `a`'s. -/
theorem dget_dupdate (a b : Dict) (k : Key) : dget (dupdate a b) k = (dget b k).or (dget a k) := by
  unfold dupdate
  rw [dget_append, dget_map fun k v => (dget b k).getD v, dget_filter fun k => !dhas a k]
  unfold dhas
  cases ha : dget a k <;> cases hb : dget b k <;> simp

def keys (d : Dict) : List Key := d.map Prod.fst

/-- What a Python dict is. -/
def NodupKeys (d : Dict) : Prop := (keys d).Nodup

theorem dhas_iff (d : Dict) (k : Key) : dhas d k = true ↔ k ∈ keys d := by
  rw [dhas, dget_eq_find, Option.isSome_map, List.find?_isSome, keys, List.mem_map]
  simp

theorem dget_none_of_not_mem (d : Dict) (k : Key) (h : k ∉ keys d) : dget d k = none := by
  rw [← Option.not_isSome_iff_eq_none]
  exact mt (dhas_iff d k).mp h

theorem nodup_dfilter (p : Key → Bool) (d : Dict) (h : NodupKeys d) : NodupKeys (dfilter p d) :=
  List.Nodup.sublist (dfilter_eq p d ▸ List.filter_sublist.map _) h

theorem nodup_dpop (d : Dict) (k : Key) (h : NodupKeys d) : NodupKeys (dpop d k) :=
  List.Nodup.sublist (dpop_eq d k ▸ List.filter_sublist.map _) h

theorem keys_dmapVals (f : Val → Val) (d : Dict) : keys (dmapVals f d) = keys d := by
  rw [dmapVals_eq, keys, List.map_map]; rfl

theorem nodup_dupdate (a b : Dict) (ha : NodupKeys a) (hb : NodupKeys b) : NodupKeys (dupdate a b) := by
  unfold NodupKeys keys dupdate
  rw [List.map_append, List.map_map]
  have e1 : (Prod.fst ∘ fun e : Key × Val => (e.1, (dget b e.1).getD e.2)) = Prod.fst := rfl
  rw [e1]
  refine List.nodup_append.mpr ⟨ha, List.Nodup.sublist (List.Sublist.map _ List.filter_sublist) hb, ?_⟩
  intro x hx y hy hxy
  subst hxy
  obtain ⟨e, he, rfl⟩ := List.mem_map.mp hy
  have := (List.mem_filter.mp he).2
  have h2 := (dhas_iff a e.1).mpr hx
  rw [h2] at this
  simp at this

theorem nodup_dset (d : Dict) (k : Key) (v : Val) (h : NodupKeys d) : NodupKeys (dset d k v) := by
  induction d with
  | nil => simp [dset, NodupKeys, keys]
  | cons e rest ih =>
    obtain ⟨k1, v1⟩ := e
    have hr : NodupKeys rest := (List.nodup_cons.mp h).2
    have hn : k1 ∉ keys rest := (List.nodup_cons.mp h).1
    simp only [dset]
    by_cases h1 : k1 = k
    · subst h1
      simp only [↓reduceIte]
      exact h
    · simp only [h1, ↓reduceIte]
      refine List.nodup_cons.mpr ⟨?_, ih hr⟩
      intro hm
      have h3 := (dhas_iff _ _).mpr hm
      unfold dhas at h3
      rw [dget_dset, if_neg (Ne.symm h1)] at h3
      exact hn ((dhas_iff _ _).mp h3)

theorem dget_timeLoop (items : Dict) (hn : NodupKeys items) (hz : dget items .tzUtc ≠ some .z) (acc : Dict)
    (k : Key) :
    dget (timeLoop items acc) k = (match dget items k with
      | some v => some (tryNum v)
      | none => dget acc k) := by
  induction items generalizing acc with
  | nil => rfl
  | cons e rest ih =>
    obtain ⟨k1, v1⟩ := e
    have hr : NodupKeys rest := (List.nodup_cons.mp hn).2
    have hnm : k1 ∉ keys rest := (List.nodup_cons.mp hn).1
    have hnot : ¬ (k1 = .tzUtc ∧ v1 = .z) := by
      rintro ⟨rfl, rfl⟩
      exact hz (by simp [dget_cons])
    have hz' : dget rest .tzUtc ≠ some .z := by
      by_cases h1 : k1 = .tzUtc
      · subst h1
        rw [dget_none_of_not_mem rest _ hnm]
        simp
      · rw [dget_cons, if_neg h1] at hz
        exact hz
    simp only [timeLoop, hnot, ↓reduceIte]
    rw [ih hr hz', dget_cons]
    by_cases h2 : k1 = k
    · subst h2
      rw [dget_none_of_not_mem rest _ hnm]
      simp [dget_dset]
    · simp only [h2, ↓reduceIte, dget_dset]

theorem dget_timeLoop_self (t : Dict) (hn : NodupKeys t) (hz : dget t .tzUtc ≠ some .z) (k : Key) :
    dget (timeLoop t t) k = (dget t k).map tryNum := by
  rw [dget_timeLoop t hn hz]
  cases dget t k <;> rfl

theorem dfilter_append (p : Key → Bool) (a b : Dict) : dfilter p (a ++ b) = dfilter p a ++ dfilter p b := by
  simp only [dfilter_eq, List.filter_append]

theorem dfilter_entry (p : Key → Bool) (k : Key) (x : Option Int) :
    dfilter p (entry k x) = if p k then entry k x else [] := by
  cases x with
  | none => simp [entry, dfilter]
  | some n => simp [entry, dfilter]

theorem dfilter_all (p : Key → Bool) (d : Dict) (h : ∀ k ∈ keys d, p k = true) : dfilter p d = d := by
  rw [dfilter_eq, List.filter_eq_self]
  exact fun e he => h e.1 (List.mem_map_of_mem he)

theorem dfilter_none (p : Key → Bool) (d : Dict) (h : ∀ k ∈ keys d, p k = false) : dfilter p d = [] := by
  rw [dfilter_eq, List.filter_eq_nil_iff]
  exact fun e he => by rw [h e.1 (List.mem_map_of_mem he)]; exact Bool.false_ne_true

/-- The date groups of a match. -/
def dateEntries (y mo d n : Option Int) : Dict :=
  yearEntries y ++ entry .monthOfYear mo ++ entry .dayOfMonth d ++ entry .dayOfYear n

/-- The time groups of a match. -/
def timeEntries (hh mi ss : Option Int) : Dict :=
  entry .hourOfDay hh ++ entry .minuteOfHour mi ++ entry .secondOfMinute ss

theorem keys_append (a b : Dict) : keys (a ++ b) = keys a ++ keys b := by simp [keys]

theorem keys_entry (k : Key) (x : Option Int) : (keys (entry k x)).Sublist [k] := by
  cases x
  · exact List.nil_sublist _
  · exact List.Sublist.refl _

/-! The groups of a match are listed in a fixed order, each present or not: which keys a part of the
    match holds, and that no key comes twice, is read off the list of the keys it can hold. -/

def dateKeys : List Key := [.century, .yearOfCentury, .monthOfYear, .dayOfMonth, .dayOfYear]

def timeKeys : List Key := [.hourOfDay, .minuteOfHour, .secondOfMinute]

def zoneKeys : List Key := [.tzSign, .tzHour, .tzMinute]

theorem keys_dateEntries_sub (y mo d n : Option Int) : (keys (dateEntries y mo d n)).Sublist dateKeys := by
  have hy : (keys (yearEntries y)).Sublist [.century, .yearOfCentury] := by
    cases y
    · exact List.nil_sublist _
    · exact List.Sublist.refl _
  unfold dateEntries
  rw [keys_append, keys_append, keys_append]
  exact ((hy.append (keys_entry _ mo)).append (keys_entry _ d)).append (keys_entry _ n)

theorem keys_timeEntries_sub (hh mi ss : Option Int) : (keys (timeEntries hh mi ss)).Sublist timeKeys := by
  unfold timeEntries
  rw [keys_append, keys_append]
  exact ((keys_entry _ hh).append (keys_entry _ mi)).append (keys_entry _ ss)

theorem keys_zoneEntries_sub (zone : Option (Bool × Int × Int)) : (keys (zoneEntries zone)).Sublist zoneKeys := by
  cases zone
  · exact List.nil_sublist _
  · exact List.Sublist.refl _

theorem keys_dateEntries (y mo d n : Option Int) : ∀ k ∈ keys (dateEntries y mo d n), isDateKey k = true :=
  fun k hk => (by decide : ∀ k ∈ dateKeys, isDateKey k = true) k ((keys_dateEntries_sub y mo d n).subset hk)

theorem keys_timeEntries (hh mi ss : Option Int) :
    ∀ k ∈ keys (timeEntries hh mi ss), isDateKey k = false ∧ isTimeKey k = true :=
  fun k hk => (by decide : ∀ k ∈ timeKeys, isDateKey k = false ∧ isTimeKey k = true) k
    ((keys_timeEntries_sub hh mi ss).subset hk)

theorem keys_zoneEntries (zone : Option (Bool × Int × Int)) :
    ∀ k ∈ keys (zoneEntries zone), isDateKey k = false ∧ isTimeKey k = false :=
  fun k hk => (by decide : ∀ k ∈ zoneKeys, isDateKey k = false ∧ isTimeKey k = false) k
    ((keys_zoneEntries_sub zone).subset hk)

/-- The partition loop on a dict that lists date groups, time groups and other keys in this order
    (any order would do: the buckets are filters). -/
theorem partition_eval (D T Z : Dict) (hD : ∀ k ∈ keys D, isDateKey k = true)
    (hT : ∀ k ∈ keys T, isDateKey k = false ∧ isTimeKey k = true)
    (hZ : ∀ k ∈ keys Z, isDateKey k = false ∧ isTimeKey k = false) :
    dateBucket (D ++ T ++ Z) = D ∧ timeBucket (D ++ T ++ Z) = T ∧ zoneBucket (D ++ T ++ Z) = Z := by
  unfold dateBucket timeBucket zoneBucket
  simp only [dfilter_append]
  refine ⟨?_, ?_, ?_⟩
  · rw [dfilter_all _ D hD, dfilter_none _ T (fun k hk => (hT k hk).1), dfilter_none _ Z (fun k hk => (hZ k hk).1)]
    simp
  · rw [dfilter_none _ D (fun k hk => by simp [hD k hk]), dfilter_all _ T (fun k hk => by simp [hT k hk]),
      dfilter_none _ Z (fun k hk => by simp [hZ k hk])]
    simp
  · rw [dfilter_none _ D (fun k hk => by simp [hD k hk]), dfilter_none _ T (fun k hk => by simp [hT k hk]),
      dfilter_all _ Z (fun k hk => by simp [hZ k hk])]
    simp

/-- What the constructor call answers. -/
def resOf : Option TP → Res
  | some p => .ok p false
  | none => .err

theorem nodup_timeEntries (hh mi ss : Option Int) : NodupKeys (timeEntries hh mi ss) :=
  (by decide : timeKeys.Nodup).sublist (keys_timeEntries_sub hh mi ss)

theorem dget_timeEntries (hh mi ss : Option Int) (k : Key) :
    dget (timeEntries hh mi ss) k =
      if k = .hourOfDay then hh.map Val.num else if k = .minuteOfHour then mi.map Val.num
      else if k = .secondOfMinute then ss.map Val.num else none := by
  unfold timeEntries
  simp only [dget_append, dget_entry]
  cases k <;> simp

theorem dget_dateEntries (y mo d n : Option Int) (k : Key) :
    dget (dateEntries y mo d n) k =
      if k = .century then y.map (fun y => Val.num (y / 100))
      else if k = .yearOfCentury then y.map (fun y => Val.num (y % 100))
      else if k = .monthOfYear then mo.map Val.num else if k = .dayOfMonth then d.map Val.num
      else if k = .dayOfYear then n.map Val.num else none := by
  unfold dateEntries
  simp only [dget_append, dget_entry]
  cases y <;> cases k <;> simp [yearEntries, dget_cons, dget_nil]

theorem dget_zoneEntries (zone : Option (Bool × Int × Int)) (k : Key) :
    dget (zoneEntries zone) k =
      if k = .tzSign then zone.map (fun z => Val.sign z.1)
      else if k = .tzHour then zone.map (fun z => Val.num z.2.1)
      else if k = .tzMinute then zone.map (fun z => Val.num z.2.2) else none := by
  cases zone with
  | none => cases k <;> simp [zoneEntries, dget_nil]
  | some z => obtain ⟨neg, h, mi⟩ := z; cases k <;> simp [zoneEntries, dget_cons, dget_nil]

theorem intOr0V_map_num (x : Option Int) (f : Int → Int) :
    intOr0V (x.map fun y => Val.num (f y)) = some ((x.map f).getD 0) := by
  cases x <;> rfl

/-- The lookups of the `info` dict `_create_timepoint_from_info` hands to `TimePoint(**info)`, when the
    time bucket has distinct keys and no `Z` group and the date bucket holds the two halves of an
    optional `%Y` year (and no `year`, no `truncated`). -/
theorem createInfo_eval (m : Mode) (D T : Dict) (hn : NodupKeys T) (hz : dget T .tzUtc ≠ some .z)
    (htr : dget D .truncated = none) (hyr : dget D .year = none) (year : Option Int)
    (hce : dget D .century = year.map fun y => Val.num (y / 100))
    (hyc : dget D .yearOfCentury = year.map fun y => Val.num (y % 100)) :
    ∃ info, createInfo m D T = ctor m info ∧ ∀ k, dget info k =
      if k = .truncated then
        (if ((dget T .truncated).map tryNum).any Val.truthy then some (.flag true) else none)
      else ((dget T k).map tryNum).or
        (if k = .year then some (.num (year.getD 0))
         else if k = .century ∨ k = .yearOfCentury then none else (dget D k).map tryNum) := by
  have c1 : ((dget D .truncated).any Val.truthy) = false := by rw [htr]; rfl
  have c2 : (!dhas D .century && dhas D .yearOfCentury) = false := by
    unfold dhas; rw [hce, hyc]; cases year <;> rfl
  have h0 : intOr0 D .year = some 0 := by unfold intOr0; rw [hyr]; rfl
  have h1 : intOr0 D .yearOfCentury = some ((year.map (· % 100)).getD 0) := by
    unfold intOr0; rw [hyc]; exact intOr0V_map_num year (· % 100)
  have h2 : intOr0 D .century = some ((year.map (· / 100)).getD 0) := by
    unfold intOr0; rw [hce]; exact intOr0V_map_num year (· / 100)
  have hy : 0 + (year.map (· % 100)).getD 0 + 100 * (year.map (· / 100)).getD 0 = year.getD 0 := by
    cases year with
    | none => rfl
    | some y => simp only [Option.map_some, Option.getD_some]; omega
  rw [← hy]
  generalize (year.map (· % 100)).getD 0 = yc at h1
  generalize (year.map (· / 100)).getD 0 = c at h2
  have hT := dget_timeLoop_self T hn hz
  let D' := dset (dpop (dpop D .yearOfCentury) .century) .year (.num (0 + yc + 100 * c))
  let info1 := dupdate (dupdate [] (dmapVals tryNum D')) (timeLoop T T)
  let info2 := if (dget info1 .truncated).any Val.truthy then dset (dpop info1 .truncated) .truncated (.flag true)
    else dpop info1 .truncated
  have e1 : ∀ k, dget info1 k = ((dget T k).map tryNum).or
      (if k = .year then some (.num (0 + yc + 100 * c))
       else if k = .century ∨ k = .yearOfCentury then none else (dget D k).map tryNum) := by
    intro k
    simp only [info1, D', dget_dupdate, hT, dget_dmapVals, dget_dset, dget_dpop, dget_nil, Option.or_none]
    congr 1
    by_cases a : Key.year = k
    · subst a; simp [tryNum]
    · by_cases b : Key.century = k
      · subst b; simp
      · by_cases c' : Key.yearOfCentury = k
        · subst c'; simp
        · simp [a, b, c', Ne.symm a, Ne.symm b, Ne.symm c']
  refine ⟨info2, ?_, ?_⟩
  · unfold createInfo
    simp only [c1, c2, h0, h1, h2, Bool.false_eq_true, ↓reduceIte]
    rfl
  · intro k
    have et : dget info1 .truncated = (dget T .truncated).map tryNum := by
      rw [e1]; simp [htr]
    by_cases hk : k = .truncated
    · subst hk
      simp only [↓reduceIte, info2, et]
      split
      · simp [dget_dset]
      · simp [dget_dpop]
    · simp only [hk, ↓reduceIte, info2]
      rw [← e1]
      split
      · simp [dget_dset, dget_dpop, Ne.symm hk]
      · simp [dget_dpop, Ne.symm hk]

theorem map_tryNum_num (x : Option Int) : (x.map Val.num).map tryNum = x.map Val.num := by
  cases x <;> rfl

theorem numOfVal_map_num (x : Option Int) : numOfVal (x.map Val.num) = some x := by
  cases x <;> rfl

/-- The keys that are a `TypeError` for `TimePoint(**info)` are exactly those `__init__` does not name. -/
theorem nonCtorKeys_spec (k : Key) : isCtorKey k = !nonCtorKeys.contains k := by
  cases k <;> decide

/-- `TimePoint(**info)` from the lookups of `info`. -/
theorem ctor_eval (m : Mode) (info : Dict) (a : TPArgs)
    (hbad : dget info .century = none ∧ dget info .yearOfCentury = none ∧ dget info .tzSign = none ∧
      dget info .unix = none ∧ dget info .tzUtc = none)
    (htr : dget info .truncated = none)
    (hp : dget info .truncatedProperty = none ∨ dget info .truncatedProperty = some .none)
    (hd : dget info .truncatedDumpFormat = none ∨ dget info .truncatedDumpFormat = some .none)
    (hf : dget info .dumpFormat = none ∨ dget info .dumpFormat = some .none)
    (hx : dget info .numExpandedYearDigits = none ∨ ∃ e, dget info .numExpandedYearDigits = some (.num e))
    (h1 : numArg info .year = some a.year) (h2 : numArg info .monthOfYear = some a.month)
    (h3 : numArg info .weekOfYear = some a.week) (h4 : numArg info .dayOfYear = some a.doy)
    (h5 : numArg info .dayOfMonth = some a.dom) (h6 : numArg info .dayOfWeek = some a.dow)
    (h7 : numArg info .hourOfDay = some a.hh) (h8 : numArg info .minuteOfHour = some a.mi)
    (h9 : numArg info .secondOfMinute = some a.ss) (h10 : numArg info .tzHour = some a.tzh)
    (h11 : numArg info .tzMinute = some a.tzm) :
    ctor m info = resOf (mkTP m a) := by
  have b1 : nonCtorKeys.any (dhas info) = false := by
    simp only [nonCtorKeys, List.any_cons, List.any_nil, dhas]
    rw [hbad.1, hbad.2.1, hbad.2.2.1, hbad.2.2.2.1, hbad.2.2.2.2]
    rfl
  have b2 : noneOrAbsent info .truncatedProperty = true := by
    unfold noneOrAbsent; rcases hp with h | h <;> rw [h] <;> rfl
  have b3 : noneOrAbsent info .truncatedDumpFormat = true := by
    unfold noneOrAbsent; rcases hd with h | h <;> rw [h] <;> rfl
  have b4 : noneOrAbsent info .dumpFormat = true := by
    unfold noneOrAbsent; rcases hf with h | h <;> rw [h] <;> rfl
  have b5 : (dget info .numExpandedYearDigits == some .none) = false := by
    rcases hx with h | ⟨e, h⟩ <;> rw [h] <;> rfl
  have b6 : ∃ e, numArg info .numExpandedYearDigits = some e := by
    unfold numArg
    rcases hx with h | ⟨e, h⟩ <;> rw [h]
    · exact ⟨none, rfl⟩
    · exact ⟨some e, rfl⟩
  obtain ⟨e, b6⟩ := b6
  unfold ctor
  simp only [b1, htr, b2, b3, b4, b5, b6, h1, h2, h3, h4, h5, h6, h7, h8, h9, h10, h11, Option.any_none,
    Bool.false_eq_true, ↓reduceIte, Bool.and_self, Bool.not_true]
  cases mkTP m a <;> rfl

theorem tryNum_comp_num : tryNum ∘ Val.num = Val.num := rfl

theorem numOfVal_some_num (n : Int) : numOfVal (some (Val.num n)) = some (some n) := rfl

theorem numOfVal_none : numOfVal none = some none := rfl

theorem entry_none (k : Key) : entry k none = [] := rfl

/-- The zone keywords `process_time_zone_info` supplies when no zone group was captured:
    `assumed_time_zone` if given, else nothing at all if `default_to_unknown_time_zone`, else the
    local zone. -/
def defaultZoneArgs (cfg : PCfg) (loc : TZ) : Option Int × Option Int :=
  match cfg.assumed with
  | some a => (some a.h, some a.mi)
  | none => if cfg.defaultUnknown then (none, none) else (some loc.h, some loc.mi)

/-- The zone keywords that reach the constructor: from the `%z` groups if captured, else what
    `process_time_zone_info` supplies. -/
def zoneArgs (cfg : PCfg) (loc : TZ) : Option (Bool × Int × Int) → Option Int × Option Int
  | none => defaultZoneArgs cfg loc
  | some (neg, h, mi) => if neg then (some (-h), some (-mi)) else (some h, some mi)

theorem processTZ_zoneEntries (cfg : PCfg) (loc : TZ) (zone : Option (Bool × Int × Int)) :
    processTZ cfg loc (zoneEntries zone) =
      some (entry .tzHour (zoneArgs cfg loc zone).1 ++ entry .tzMinute (zoneArgs cfg loc zone).2) := by
  obtain ⟨assumed, unk⟩ := cfg
  cases zone with
  | none =>
    cases assumed <;> cases unk <;> simp [processTZ, zoneEntries, zoneArgs, defaultZoneArgs, entry]
  | some z =>
    obtain ⟨neg, h, mi⟩ := z
    cases neg <;> simp [processTZ, zoneEntries, zoneArgs, entry, dget, dpop, dset]

theorem dget_zoneDict (zh zm : Option Int) (k : Key) :
    dget (entry .tzHour zh ++ entry .tzMinute zm) k =
      if k = .tzHour then zh.map Val.num else if k = .tzMinute then zm.map Val.num else none := by
  simp only [dget_append, dget_entry]
  cases k <;> simp

theorem nodup_zoneDict (zh zm : Option Int) : NodupKeys (entry .tzHour zh ++ entry .tzMinute zm) := by
  cases zh <;> cases zm <;> simp [NodupKeys, keys, entry]

/-- **Field formats** (no `%s`, no `Z` group): the constructor receives exactly the captured
    numbers, `year = 100·century + year_of_century` (0 without `%Y`), and the zone keywords of
    `zoneArgs`. -/
theorem strpZone_fields (m : Mode) (cfg : PCfg) (loc : TZ) (year month dom doy hh mi ss : Option Int)
    (zone : Option (Bool × Int × Int)) :
    strpZone m cfg loc
        { year := year, month := month, dom := dom, doy := doy, hh := hh, mi := mi, ss := ss, zone := zone } =
      resOf (mkTP m ⟨some (year.getD 0), month, none, doy, dom, none, hh, mi, ss,
        (zoneArgs cfg loc zone).1, (zoneArgs cfg loc zone).2⟩) := by
  have hG : Matched.groupdict ⟨year, month, dom, doy, hh, mi, ss, zone, false, none⟩ =
      dateEntries year month dom doy ++ timeEntries hh mi ss ++ zoneEntries zone := by
    simp [Matched.groupdict, dateEntries, timeEntries, utcEntries, entry_none, List.append_assoc]
  obtain ⟨pd, pt, pz⟩ := partition_eval _ _ _ (keys_dateEntries year month dom doy) (keys_timeEntries hh mi ss)
    (keys_zoneEntries zone)
  have hu : dget (dateEntries year month dom doy ++ timeEntries hh mi ss ++ zoneEntries zone) .unix = none := by
    simp [dget_append, dget_dateEntries, dget_timeEntries, dget_zoneEntries]
  unfold strpZone glue
  rw [hG]
  simp only [applyTranslators, hu, pd, pt, pz, processTZ_zoneEntries]
  generalize (zoneArgs cfg loc zone).1 = zh
  generalize (zoneArgs cfg loc zone).2 = zm
  have hn : NodupKeys (dupdate (timeEntries hh mi ss) (entry .tzHour zh ++ entry .tzMinute zm)) :=
    nodup_dupdate _ _ (nodup_timeEntries hh mi ss) (nodup_zoneDict zh zm)
  have hz : dget (dupdate (timeEntries hh mi ss) (entry .tzHour zh ++ entry .tzMinute zm)) .tzUtc ≠ some .z := by
    simp [dget_dupdate, dget_timeEntries, dget_zoneDict]
  obtain ⟨info, e, hl⟩ := createInfo_eval m (dateEntries year month dom doy) _ hn hz
    (by simp [dget_dateEntries]) (by simp [dget_dateEntries]) year (by simp [dget_dateEntries])
    (by simp [dget_dateEntries])
  rw [e]
  apply ctor_eval
  all_goals
    simp [numArg, hl, dget_dupdate, dget_timeEntries, dget_zoneDict, dget_dateEntries,
      numOfVal_map_num, tryNum_comp_num, numOfVal_some_num, numOfVal_none]

/-- The zone groups and the `%s` group of a match. -/
def otherEntries (zone : Option (Bool × Int × Int)) (n : Option Int) : Dict := zoneEntries zone ++ entry .unix n

theorem keys_otherEntries_sub (zone : Option (Bool × Int × Int)) (n : Option Int) :
    (keys (otherEntries zone n)).Sublist (zoneKeys ++ [Key.unix]) := by
  unfold otherEntries
  rw [keys_append]
  exact (keys_zoneEntries_sub zone).append (keys_entry _ n)

theorem dget_otherEntries (zone : Option (Bool × Int × Int)) (n : Option Int) (k : Key) :
    dget (otherEntries zone n) k =
      if k = .tzSign then zone.map (fun z => Val.sign z.1)
      else if k = .tzHour then zone.map (fun z => Val.num z.2.1)
      else if k = .tzMinute then zone.map (fun z => Val.num z.2.2)
      else if k = .unix then n.map Val.num else none := by
  unfold otherEntries
  rw [dget_append, dget_zoneEntries, dget_entry]
  cases k <;> simp

theorem groupdict_split (year month dom doy hh mi ss : Option Int) (zone : Option (Bool × Int × Int))
    (n : Option Int) :
    Matched.groupdict ⟨year, month, dom, doy, hh, mi, ss, zone, false, n⟩ =
      dateEntries year month dom doy ++ timeEntries hh mi ss ++ otherEntries zone n := by
  simp [Matched.groupdict, dateEntries, timeEntries, otherEntries, utcEntries, List.append_assoc]

theorem nodup_groupdict (year month dom doy hh mi ss : Option Int) (zone : Option (Bool × Int × Int))
    (n : Option Int) :
    NodupKeys (dateEntries year month dom doy ++ timeEntries hh mi ss ++ otherEntries zone n) := by
  unfold NodupKeys
  rw [keys_append, keys_append]
  exact (by decide : (dateKeys ++ timeKeys ++ (zoneKeys ++ [Key.unix])).Nodup).sublist
    (((keys_dateEntries_sub year month dom doy).append (keys_timeEntries_sub hh mi ss)).append
      (keys_otherEntries_sub zone n))

theorem dget_props_cal (y mo d hh mi ss : Int) (tz : TZ) (k : Key) :
    dget (propsOfPoint ⟨.cal y mo d, hh, mi, ss, tz⟩) k =
      match k with
      | .numExpandedYearDigits => some (.num 0) | .year => some (.num y) | .monthOfYear => some (.num mo)
      | .dayOfYear => some .none | .dayOfMonth => some (.num d) | .dayOfWeek => some .none
      | .weekOfYear => some .none | .hourOfDay => some (.num hh) | .minuteOfHour => some (.num mi)
      | .secondOfMinute => some (.num ss) | .truncated => some (.flag false)
      | .truncatedProperty => some .none | .truncatedDumpFormat => some .none | .dumpFormat => some .none
      | .tzHour => some (.num tz.h) | .tzMinute => some (.num tz.mi)
      | _ => none := by
  cases k <;> rfl

theorem nodup_props (q : TP) : NodupKeys (propsOfPoint q) :=
  (by decide : [Key.numExpandedYearDigits, .year, .monthOfYear, .dayOfYear, .dayOfMonth, .dayOfWeek, .weekOfYear,
    .hourOfDay, .minuteOfHour, .secondOfMinute, .truncated, .truncatedProperty, .truncatedDumpFormat, .dumpFormat,
    .tzHour, .tzMinute].Nodup)

theorem isEmpty_false_of_dget (d : Dict) (k : Key) (v : Val) (h : dget d k = some v) : d.isEmpty = false := by
  cases d with
  | nil => simp [dget] at h
  | cons e rest => rfl

/-- The sign a captured `%z` applies to the (overwritten) offset. -/
def zsgn (zone : Option (Bool × Int × Int)) (x : Int) : Int :=
  if zone.map (·.1) = some true then -x else x

/-- **`%s` formats**: whatever other groups the format captures beside `%s` (any date and time
    fields; with or without `%z`) and whatever the parser configuration, the constructor receives
    the fields of the LOCAL-zone point of that Unix time, with the local offset (negated when a
    `%z` captured a minus sign). -/
theorem strpZone_unix (m : Mode) (cfg : PCfg) (loc : TZ) (n : Int) (y mo d h mi s : Int) (tz : TZ)
    (hmk : mkTZ m loc.h loc.mi = some loc)
    (hq : fromUnix m n (some loc) = some ⟨.cal y mo d, h, mi, s, tz⟩)
    (year month dom doy hh mi' ss : Option Int) (zone : Option (Bool × Int × Int)) :
    strpZone m cfg loc ⟨year, month, dom, doy, hh, mi', ss, zone, false, some n⟩ =
      resOf (mkTP m ⟨some y, some mo, none, none, some d, none, some h, some mi, some s,
        some (zsgn zone tz.h), some (zsgn zone tz.mi)⟩) := by
  -- each dict on the way (`G` the match, `P` the properties of the `%s` point, `info`, its buckets, `tzres`)
  -- is named and carried as its lookup function (`h?l`) and the distinctness of its keys (`h?n`)
  unfold strpZone glue
  rw [groupdict_split]
  generalize hGd : dateEntries year month dom doy ++ timeEntries hh mi' ss ++ otherEntries zone (some n) = G
  have hGn : NodupKeys G := hGd ▸ nodup_groupdict year month dom doy hh mi' ss zone (some n)
  have hG : ∀ k, dget G k = (dget (dateEntries year month dom doy) k).or
      ((dget (timeEntries hh mi' ss) k).or (dget (otherEntries zone (some n)) k)) := by
    intro k; rw [← hGd, dget_append, dget_append, Option.or_assoc]
  have hGu : dget G .unix = some (.num n) := by
    rw [hG]; simp [dget_dateEntries, dget_timeEntries, dget_otherEntries]
  generalize hP : propsOfPoint ⟨.cal y mo d, h, mi, s, tz⟩ = P
  have hPl := fun k => hP ▸ dget_props_cal y mo d h mi s tz k
  have hPn : NodupKeys P := hP ▸ nodup_props _
  simp only [applyTranslators, hGu, unixProps, hmk, hq, Option.map_some, hP]
  generalize hI : dupdate (dpop G .unix) P = info
  have hIn : NodupKeys info := hI ▸ nodup_dupdate _ _ (nodup_dpop _ _ hGn) hPn
  -- of the match, only the groups the `%s` point has no property for survive: the two halves of `%Y`
  -- and the sign of `%z`
  have hIl : ∀ k, dget info k = (dget P k).or
      (if k = .century then year.map fun y => Val.num (y / 100)
       else if k = .yearOfCentury then year.map fun y => Val.num (y % 100)
       else if k = .tzSign then zone.map fun z => Val.sign z.1 else none) := by
    intro k
    rw [← hI, dget_dupdate, dget_dpop, hG]
    cases hp : dget P k with
    | some v => rfl
    | none =>
      rw [hPl] at hp
      cases k <;> simp at hp <;> simp [dget_dateEntries, dget_timeEntries, dget_otherEntries]
  have hZl : ∀ k, dget (zoneBucket info) k = if (!isDateKey k && !isTimeKey k) = true then dget info k else none := by
    intro k; unfold zoneBucket; rw [dget_dfilter]
  have hne : (zoneBucket info).isEmpty = false :=
    isEmpty_false_of_dget _ .year (.num y) (by rw [hZl, hIl, hPl]; rfl)
  have hsign : dget (zoneBucket info) .tzSign = zone.map (fun z => Val.sign z.1) := by
    rw [hZl, hIl, hPl]; simp [isDateKey, isTimeKey]
  have hzh : dget (dpop (zoneBucket info) .tzSign) .tzHour = some (.num tz.h) := by
    rw [dget_dpop, hZl, hIl, hPl]; simp [isDateKey, isTimeKey]
  have hzm : dget (dset (dpop (zoneBucket info) .tzSign) .tzHour (.num (-tz.h))) .tzMinute = some (.num tz.mi) := by
    rw [dget_dset, dget_dpop, hZl, hIl, hPl]; simp [isDateKey, isTimeKey]
  have hp : processTZ cfg loc (zoneBucket info) = some
      (if zone.map (·.1) = some true then
        dset (dset (dpop (zoneBucket info) .tzSign) .tzHour (.num (-tz.h))) .tzMinute (.num (-tz.mi))
       else dpop (zoneBucket info) .tzSign) := by
    unfold processTZ
    simp only [hne, Bool.false_eq_true, ↓reduceIte, hsign]
    rcases zone with _ | ⟨neg, zh, zm⟩
    · simp
    · cases neg
      · simp
      · simp [hzh, hzm]
  rw [hp]
  simp only
  generalize hR : (if zone.map (·.1) = some true then
        dset (dset (dpop (zoneBucket info) .tzSign) .tzHour (.num (-tz.h))) .tzMinute (.num (-tz.mi))
       else dpop (zoneBucket info) .tzSign) = tzres
  have hZn : NodupKeys (zoneBucket info) := nodup_dfilter _ _ hIn
  have hRn : NodupKeys tzres := by
    rw [← hR]; split
    · exact nodup_dset _ _ _ (nodup_dset _ _ _ (nodup_dpop _ _ hZn))
    · exact nodup_dpop _ _ hZn
  have hRl : ∀ k, dget tzres k = if k = .tzSign then none else if k = .tzHour then some (.num (zsgn zone tz.h))
      else if k = .tzMinute then some (.num (zsgn zone tz.mi)) else dget (zoneBucket info) k := by
    intro k
    rw [← hR]
    by_cases c : zone.map (·.1) = some true
    · simp only [c, ↓reduceIte, dget_dset, dget_dpop, zsgn]
      cases k <;> simp
    · simp only [c, ↓reduceIte, dget_dpop, zsgn]
      cases k <;> simp [hZl, hIl, hPl, isDateKey, isTimeKey]
  have hTl : ∀ k, dget (timeBucket info) k = if (!isDateKey k && isTimeKey k) = true then dget info k else none := by
    intro k; unfold timeBucket; rw [dget_dfilter]
  have hDl : ∀ k, dget (dateBucket info) k = if isDateKey k = true then dget info k else none := by
    intro k; unfold dateBucket; rw [dget_dfilter]
  have hn : NodupKeys (dupdate (timeBucket info) tzres) := nodup_dupdate _ _ (nodup_dfilter _ _ hIn) hRn
  have hz : dget (dupdate (timeBucket info) tzres) .tzUtc ≠ some .z := by
    rw [dget_dupdate, hRl, hTl, hZl, hIl, hPl]
    simp [isDateKey, isTimeKey]
  obtain ⟨info', e, hl⟩ := createInfo_eval m (dateBucket info) _ hn hz (by rw [hDl]; rfl) (by rw [hDl]; rfl) year
    (by rw [hDl, hIl, hPl]; simp [isDateKey]) (by rw [hDl, hIl, hPl]; simp [isDateKey])
  rw [e]
  apply ctor_eval
  all_goals
    simp [numArg, hl, dget_dupdate, hRl, hTl, hZl, hDl, hIl, hPl, isDateKey, isTimeKey, tryNum, Val.truthy, numOfVal]

/-- The constructor puts the zone `TimeZone(hours=…, minutes=…)` built on the point. -/
theorem mkTP_tz (m : Mode) (a : TPArgs) (p : TP) (h : mkTP m a = some p) :
    mkTZOpt m a.tzh a.tzm = some p.tz := by
  unfold mkTP at h
  cases hy : a.year with
  | none => rw [hy] at h; cases h
  | some y =>
    rw [hy] at h
    simp only at h
    cases hz : mkTZOpt m a.tzh a.tzm with
    | none => rw [hz] at h; cases h
    | some tz =>
      rw [hz] at h
      simp only at h
      split at h
      · cases h
      · split at h
        · unfold finishTP at h
          split at h
          all_goals (cases h; try rfl)
        · cases h

theorem mkTZOpt_none_none (m : Mode) : mkTZOpt m none none = some ⟨0, 0⟩ := rfl

theorem mkTZOpt_zero (m : Mode) : mkTZOpt m (some 0) (some 0) = some ⟨0, 0⟩ := by
  unfold mkTZOpt
  rw [Lemmas.minutesInHour_eq]
  rfl

/-- No zone keyword at all is the zone (0, 0). -/
theorem mkTP_no_zone (m : Mode) (y mo w doy dom dow hh mi ss : Option Int) :
    mkTP m ⟨y, mo, w, doy, dom, dow, hh, mi, ss, none, none⟩ =
      mkTP m ⟨y, mo, w, doy, dom, dow, hh, mi, ss, some 0, some 0⟩ := by
  unfold mkTP
  simp only [mkTZOpt_none_none, mkTZOpt_zero]

open IsoDT.Model.Strf (mkPoint timeOk dateOk pickDate Err)

theorem mkTZOpt_some (m : Mode) (h mi : Int) : mkTZOpt m (some h) (some mi) = mkTZ m h mi := rfl

/-- Groups that are captured together (the three of `%z`) are all absent or all present. -/
theorem zone_groups {α β γ : Type} (sg : Option α) (zh : Option β) (zm : Option γ)
    (h1 : sg.isSome = zh.isSome) (h2 : sg.isSome = zm.isSome) :
    (sg = none ∧ zh = none ∧ zm = none) ∨ ∃ s h mi, sg = some s ∧ zh = some h ∧ zm = some mi := by
  cases sg <;> cases zh <;> cases zm <;> simp at h1 h2 ⊢

open IsoDT.Gen.Strftime (Fld clsOf) in
/-- The groups `Strf.matchPieces` captured (texts), as the numbers they spell. -/
def matchedOf (b : List (Fld × List Char)) (n : Option Int) : Matched :=
  { year := match Strf.numOf b .century, Strf.numOf b .yearOfCentury with
      | some c, some yc => some (100 * c + yc)
      | _, _ => none
    month := Strf.numOf b .monthOfYear, dom := Strf.numOf b .dayOfMonth, doy := Strf.numOf b .dayOfYear
    hh := Strf.numOf b .hourOfDay, mi := Strf.numOf b .minuteOfHour, ss := Strf.numOf b .secondOfMinute
    zone := match b.lookup .tzSign, Strf.numOf b .tzHourAbs, Strf.numOf b .tzMinuteAbs with
      | some s, some h, some mi => some (s == ['-'], h, mi)
      | _, _, _ => none
    utc := false, unix := n }

open IsoDT.Gen.Strftime (Fld clsOf) in
/-- **The summary model agrees with the glue model** (field formats): on the groups of a match
    without `%s`, in which `century` and `year_of_century` come together (`%Y`, `%F`) and so do the
    three zone groups (`%z`), `Strf.assemble` — `Model/Strftime.lean`'s three-line summary of the glue
    — answers what the dictionary-level model answers. -/
theorem assemble_eq_strpZone_fields (m : Mode) (cfg : PCfg) (loc : TZ) (b : List (Fld × List Char))
    (hu : b.lookup .unix = none)
    (hy : (Strf.numOf b .century).isSome = (Strf.numOf b .yearOfCentury).isSome)
    (hz1 : (b.lookup .tzSign).isSome = (Strf.numOf b .tzHourAbs).isSome)
    (hz2 : (b.lookup .tzSign).isSome = (Strf.numOf b .tzMinuteAbs).isSome)
    (hany : (b.any fun e => clsOf e.1 == .zone) = (b.lookup .tzSign).isSome) :
    resOf (Strf.assemble m cfg loc b).toOption = strpZone m cfg loc (matchedOf b none) := by
  unfold Strf.assemble matchedOf
  rw [strpZone_fields, hu]
  simp only [hany, Strf.mkPoint_eq_mkTP]
  generalize Strf.numOf b .century = c at hy ⊢
  generalize Strf.numOf b .yearOfCentury = yc at hy ⊢
  generalize Strf.numOf b .tzHourAbs = zh at hz1 ⊢
  generalize Strf.numOf b .tzMinuteAbs = zm at hz2 ⊢
  generalize b.lookup .tzSign = sg at hz1 hz2 ⊢
  have hyear : 100 * c.getD 0 + yc.getD 0 = (match c, yc with
      | some c, some yc => some (100 * c + yc)
      | _, _ => none).getD 0 := by
    cases c <;> cases yc <;> simp at hy ⊢
  rw [hyear]
  rcases zone_groups sg zh zm hz1 hz2 with ⟨rfl, rfl, rfl⟩ | ⟨sv, hv, mv, rfl, rfl, rfl⟩
  · obtain ⟨assumed, unk⟩ := cfg
    cases assumed with
    | some a => simp [zoneArgs, defaultZoneArgs, PCfg.defaultZone]
    | none =>
      cases unk
      · simp [zoneArgs, defaultZoneArgs, PCfg.defaultZone]
      · simp [zoneArgs, defaultZoneArgs, PCfg.defaultZone, mkTP_no_zone]
  · by_cases cneg : sv = ['-']
    · simp [zoneArgs, cneg]
    · simp [zoneArgs, cneg]

/-- `%s` formats, at the level of points: with a legal local zone the result is the local-zone point
    `q` of the Unix time, relabelled with the negated local offset when a `%z` captured a minus. -/
theorem strpZone_unix_point (m : Mode) (cfg : PCfg) (loc : TZ) (hloc : loc.Valid) (n : Int) :
    ∃ q, fromUnix m n (some loc) = some q ∧ q.inst m = unixEpoch.inst m + n ∧ q.Strict m ∧ q.tz = loc ∧
      q.date.rep = 0 ∧
      ∀ (year month dom doy hh mi ss : Option Int) (zone : Option (Bool × Int × Int)),
        strpZone m cfg loc ⟨year, month, dom, doy, hh, mi, ss, zone, false, some n⟩ =
          .ok (if zone.map (·.1) = some true then { q with tz := ⟨-loc.h, -loc.mi⟩ } else q) false := by
  obtain ⟨q, e, hi, hs, ht, hr⟩ := fromUnix_spec m n (some loc) (fun zz h => by cases h; exact hloc)
  have ht' : q.tz = loc := by simpa using ht
  refine ⟨q, e, hi, hs, ht', hr, ?_⟩
  intro year month dom doy hh mi ss zone
  obtain ⟨date, h, mi', s, tz⟩ := q
  obtain ⟨y, mo, d, rfl⟩ := rep0_cal date hr
  simp only at ht'
  subst ht'
  -- the constructor accepts the point under either sign of its (legal) offset
  have acc : ∀ z : TZ, z.Valid → mkTP m ⟨some y, some mo, none, none, some d, none, some h, some mi', some s,
      some z.h, some z.mi⟩ = some ⟨.cal y mo d, h, mi', s, z⟩ := fun z hz => by
    obtain ⟨a, b, c, d', e', f, g, i, _⟩ := hs.1
    exact ConstructTrunc.mkTP_complete m ⟨.cal y mo d, h, mi', s, z⟩ ⟨a, b, c, d', e', f, g, i, hz⟩
  rw [strpZone_unix m cfg tz n y mo d h mi' s tz (ConstructTrunc.mkTZOpt_of_valid m tz hloc) e]
  by_cases c : zone.map (·.1) = some true
  · have hneg : (⟨-tz.h, -tz.mi⟩ : TZ).Valid := by
      unfold TZ.Valid at hloc ⊢
      simp only
      omega
    simp only [zsgn, c, ↓reduceIte, acc _ hneg, resOf]
  · simp only [zsgn, c, ↓reduceIte, acc tz hloc, resOf]

/-- The answer to `%s` is determined by its instant: it is THE strict calendar-date point of the local
    zone at epoch + n.  (So a concrete answer is checked by computing one instant, where running
    `fromUnix` walks there from 1970 year by year.) -/
theorem strpZone_unix_eq (m : Mode) (n : Int) (loc : TZ) (hloc : loc.Valid) (cfg : PCfg) (q : TP)
    (hs : q.Strict m) (hr : q.date.rep = 0) (ht : q.tz = loc) (hi : q.inst m = unixEpoch.inst m + n) :
    fromUnix m n (some loc) = some q ∧ strpZone m cfg loc { unix := some n } = .ok q false := by
  obtain ⟨q', e, hi', hs', ht', hr', hall⟩ := strpZone_unix_point m cfg loc hloc n
  have : q' = q := strict_unique m q' q hs' hs (by rw [hr, hr']) (by rw [ht, ht']) (by rw [hi, hi'])
  subst this
  exact ⟨e, by rw [hall]; rfl⟩

open IsoDT.Gen.Strftime (Fld clsOf) in
/-- **The summary model agrees with the glue model** (`%s` formats): on the groups of a match with
    `%s` whose text spells the whole number `n` (and whose zone groups, if any, come together), under
    a legal local zone. -/
theorem assemble_eq_strpZone_unix (m : Mode) (cfg : PCfg) (loc : TZ) (hloc : loc.Valid)
    (b : List (Fld × List Char)) (txt : List Char) (n : Int)
    (hu : b.lookup .unix = some txt) (hp : Strf.parseUnix txt = .ok n)
    (hz1 : (b.lookup .tzSign).isSome = (Strf.numOf b .tzHourAbs).isSome)
    (hz2 : (b.lookup .tzSign).isSome = (Strf.numOf b .tzMinuteAbs).isSome) :
    resOf (Strf.assemble m cfg loc b).toOption = strpZone m cfg loc (matchedOf b (some n)) := by
  obtain ⟨q, e, _, _, ht, _, hall⟩ := strpZone_unix_point m cfg loc hloc n
  unfold Strf.assemble matchedOf
  rw [hall]
  simp only [hu, hp, e]
  generalize Strf.numOf b .tzHourAbs = zh at hz1 ⊢
  generalize Strf.numOf b .tzMinuteAbs = zm at hz2 ⊢
  generalize b.lookup .tzSign = sg at hz1 hz2 ⊢
  rcases zone_groups sg zh zm hz1 hz2 with ⟨rfl, rfl, rfl⟩ | ⟨sv, hv, mv, rfl, rfl, rfl⟩
  · simp [resOf, Except.toOption]
  · by_cases cneg : sv = ['-']
    · simp [resOf, Except.toOption, cneg, ht]
    · simp [resOf, Except.toOption, cneg]

open IsoDT.Gen.Strftime (Fld) in
theorem numOf_isSome (b : List (Fld × List Char)) (f : Fld) : (Strf.numOf b f).isSome = (b.lookup f).isSome := by
  unfold Strf.numOf
  cases b.lookup f <;> rfl

end IsoDT.Lemmas.StrpZone
