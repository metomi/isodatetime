/-
  IsoDT.Lemmas.NominalMono — nominal (month/year) addition is strictly monotone.

  A duration all of whose components are `≥ 0`, with years or months non-zero, moves every valid
  point strictly forward (by at least one day more than its exact part); its negation moves every
  valid point strictly backward.  The reason: calendar dates are laid out in month order, so a
  clamped month step to the next (previous) month lands after (before) every day of the current
  month, and likewise for years in each of the three date representations.
-/
import IsoDT.Lemmas.Nominal
import IsoDT.Lemmas.Dur

namespace IsoDT.Lemmas
open IsoDT IsoDT.Model
open IsoDT.Spec (Date TZ TP)

/-- A single-signed, non-negative nominal interval: unit form, every component `≥ 0`, years or
    months non-zero (so it is not the zero duration and not exact). -/
def NominalNonneg : Dur → Prop
  | .weeks _ => False
  | .units y mo d h mi s => 0 ≤ y ∧ 0 ≤ mo ∧ 0 ≤ d ∧ 0 ≤ h ∧ 0 ≤ mi ∧ 0 ≤ s ∧ (y ≠ 0 ∨ mo ≠ 0)

instance (d : Dur) : Decidable (NominalNonneg d) := by
  cases d <;> unfold NominalNonneg <;> infer_instance

theorem nominalNonneg_units (d : Dur) (h : NominalNonneg d) :
    ∃ y mo dd hh mi s, d = .units y mo dd hh mi s ∧ 0 ≤ y ∧ 0 ≤ mo ∧ 0 ≤ dd ∧ 0 ≤ hh ∧ 0 ≤ mi ∧ 0 ≤ s ∧
      (y ≠ 0 ∨ mo ≠ 0) := by
  cases d with
  | weeks w => exact absurd h (by simp [NominalNonneg])
  | units y mo dd hh mi s => exact ⟨y, mo, dd, hh, mi, s, rfl, h⟩

theorem dayNumCal_lt_of_monthIdx_lt (m : Mode) (y1 mo1 d1 y2 mo2 d2 : Int)
    (h1 : Spec.ValidCal m y1 mo1 d1) (h2 : Spec.ValidCal m y2 mo2 d2)
    (hlt : 12 * y1 + mo1 < 12 * y2 + mo2) :
    Spec.dayNumCal m y1 mo1 d1 < Spec.dayNumCal m y2 mo2 d2 := by
  apply (lexLt_iff m (y1, mo1, d1) (y2, mo2, d2) h1 h2).mp
  simp only [lexLt, Bool.or_eq_true, Bool.and_eq_true, decide_eq_true_eq, beq_iff_eq]
  have := h1.1
  have := h2.2.1
  omega

theorem dayNumWeek_lt_of_year_lt (m : Mode) (y1 w1 d1 y2 w2 d2 : Int) (h1 : Spec.ValidWeek m y1 w1 d1)
    (h2 : Spec.ValidWeek m y2 w2 d2) (hlt : y1 < y2) :
    Spec.dayNumWeek m y1 w1 d1 < Spec.dayNumWeek m y2 w2 d2 := by
  have := weekYearStart_le_of_lt m y1 y2 hlt
  have := weekYearStart_succ m y1
  obtain ⟨_, a2, _, a4⟩ := h1
  obtain ⟨b1, _, b3, _⟩ := h2
  unfold Spec.dayNumWeek
  omega

/-- `b` lies on the side of `a` that the sign of `n` points to. -/
def Toward (n a b : Int) : Prop := (0 < n → a < b) ∧ (n < 0 → b < a) ∧ (n = 0 → b = a)

theorem addMonths_dayNum (m : Mode) (p : TP) (n : Int) (hp : p.Strict m) :
    ∃ q, addMonths m p n = some q ∧ q.Strict m ∧ q.date.rep = p.date.rep ∧ q.tz = p.tz ∧
      q.hh = p.hh ∧ q.mi = p.mi ∧ q.ss = p.ss ∧
      Toward n (p.date.dayNum m) (q.date.dayNum m) := by
  obtain ⟨y, mo, d, q, ec, vc, eq', ecq, sq, rq, tq, hq, miq, ssq⟩ := addMonths_spec m p n hp
  refine ⟨q, eq', sq, rq, tq, hq, miq, ssq, ?_⟩
  rw [← (convert_back m 0 (by omega) p.date _ hp.1.1 ec).2.2.2,
    ← (convert_back m 0 (by omega) q.date _ sq.1.1 ecq).2.2.2]
  obtain ⟨_, v, idx, _⟩ := monthSteps_spec m (decide (n > 0)) n.natAbs y mo d vc
  -- the month index moves by `n`, and calendar dates are laid out in month order
  simp only [decide_eq_true_eq] at idx
  exact ⟨fun _ => dayNumCal_lt_of_monthIdx_lt m _ _ _ _ _ _ vc v (by split at idx <;> omega),
    fun _ => dayNumCal_lt_of_monthIdx_lt m _ _ _ _ _ _ v vc (by split at idx <;> omega),
    fun h => by subst h; rfl⟩

theorem addYears_dayNum (m : Mode) (p : TP) (n : Int) (hp : p.Strict m) :
    Toward n (p.date.dayNum m) ((addYears m p n).date.dayNum m) := by
  suffices h : (0 < n → p.date.dayNum m < (addYears m p n).date.dayNum m) ∧
      (n < 0 → (addYears m p n).date.dayNum m < p.date.dayNum m) from
    ⟨h.1, h.2, fun h0 => by rw [h0, addYears_zero]⟩
  obtain ⟨sq, _, _, _, _, _, hd⟩ := addYears_spec m p n hp
  have vq := sq.1.1
  have vp := hp.1.1
  rw [hd] at vq ⊢
  -- the year moves by `n`; in each representation valid dates are laid out in year order
  cases hdt : p.date with
  | cal y mo d =>
    rw [hdt] at vq vp
    exact ⟨fun _ => dayNumCal_lt_of_monthIdx_lt m _ _ _ _ _ _ vp vq (by omega),
      fun _ => dayNumCal_lt_of_monthIdx_lt m _ _ _ _ _ _ vq vp (by omega)⟩
  | ord y doy =>
    rw [hdt] at vq vp
    exact ⟨fun _ => dayNumOrd_lt_of_year_lt m _ _ _ _ vp vq (by omega),
      fun _ => dayNumOrd_lt_of_year_lt m _ _ _ _ vq vp (by omega)⟩
  | week y w d =>
    rw [hdt] at vq vp
    exact ⟨fun _ => dayNumWeek_lt_of_year_lt m _ _ _ _ _ _ vp vq (by omega),
      fun _ => dayNumWeek_lt_of_year_lt m _ _ _ _ _ _ vq vp (by omega)⟩

/-- Two successive moves by whole days (`a` to `b` to `c`), each to the side its amount points to:
    if both amounts are `≥ 0` and one is not zero, the instant moves on by a day or more. -/
theorem two_moves (i i' a b c n k : Int) (hi : i' - i = 86400 * (c - a))
    (h1 : Toward n a b) (h2 : Toward k b c) :
    (0 ≤ k → 0 ≤ n → (k ≠ 0 ∨ n ≠ 0) → i + 86400 ≤ i') ∧
    (k ≤ 0 → n ≤ 0 → (k ≠ 0 ∨ n ≠ 0) → i' + 86400 ≤ i) := by
  unfold Toward at h1 h2
  omega

theorem addDur_units_mono (m : Mode) (p : TP) (y mo d h mi s : Int) (hv : p.Valid m) :
    ∃ q, addDur m p (.units y mo d h mi s) = some q ∧ q.Strict m ∧ q.date.rep = p.date.rep ∧
      q.tz = p.tz ∧
      (0 ≤ y → 0 ≤ mo → (y ≠ 0 ∨ mo ≠ 0) →
        p.inst m + (86400 * d + 3600 * h + 60 * mi + s) + 86400 ≤ q.inst m) ∧
      (y ≤ 0 → mo ≤ 0 → (y ≠ 0 ∨ mo ≠ 0) →
        q.inst m + 86400 ≤ p.inst m + (86400 * d + 3600 * h + 60 * mi + s)) := by
  obtain ⟨p1, e1, g1⟩ := addUnits_spec m p d h mi s hv
  obtain ⟨p2, e2, s2, r2, t2, hh2, mi2, ss2, dm⟩ := addMonths_dayNum m p1 mo g1.strict
  obtain ⟨s3, r3, t3, hh3, mi3, ss3, _⟩ := addYears_spec m p2 y s2
  have hq : addDur m p (.units y mo d h mi s) = some (addYears m p2 y) := by
    simp only [addDur, Dur.toDays, Option.bind_eq_bind, Option.pure_def, e1, Option.bind_some, e2]
  have htz : (addYears m p2 y).tz = p1.tz := by rw [t3, t2]
  -- months and years keep the time of day, so the instant moves by whole days
  have hi : (addYears m p2 y).inst m - p1.inst m =
      86400 * ((addYears m p2 y).date.dayNum m - p1.date.dayNum m) := by
    rw [inst_diff m _ _ htz, TP.secOfDay, TP.secOfDay, hh3, mi3, ss3, hh2, mi2, ss2, Int.sub_self,
      Int.add_zero]
  rw [← g1.inst]
  exact ⟨_, hq, s3, by rw [r3, r2, g1.rep], by rw [htz, g1.tz],
    two_moves _ _ _ _ _ mo y hi dm (addYears_dayNum m p2 y s2)⟩

theorem nominalNonneg_exactSeconds (m : Mode) (d : Dur) (hd : NominalNonneg d) :
    0 ≤ d.exactSeconds m := by
  obtain ⟨y, mo, dd, hh, mi, s, rfl, _, _, h3, h4, h5, h6, _⟩ := nominalNonneg_units d hd
  rw [exactSeconds_units]
  omega

/-- **Monotonicity of nominal addition.**  For every valid point `p` (24:00 allowed) and every
    non-negative nominal interval `d` (years or months non-zero): `p + d` is defined, is a strict
    valid point in `p`'s representation and offset, and is strictly later than `p` — in fact at
    least one day later than `p` moved by the exact part of `d` alone. -/
theorem addDur_nominal_lt (m : Mode) (p : TP) (d : Dur) (hp : p.Valid m) (hd : NominalNonneg d) :
    ∃ q, addDur m p d = some q ∧ q.Strict m ∧ q.date.rep = p.date.rep ∧ q.tz = p.tz ∧
      p.inst m < q.inst m ∧ p.inst m + d.exactSeconds m + 86400 ≤ q.inst m := by
  have hnn := nominalNonneg_exactSeconds m d hd
  obtain ⟨y, mo, dd, hh, mi, s, rfl, h1, h2, _, _, _, _, h7⟩ := nominalNonneg_units d hd
  obtain ⟨q, e, sq, rq, tq, up, _⟩ := addDur_units_mono m p y mo dd hh mi s hp
  have := up h1 h2 h7
  rw [exactSeconds_units] at hnn ⊢
  exact ⟨q, e, sq, rq, tq, by omega, this⟩

theorem subDur_nominal_lt (m : Mode) (p : TP) (d : Dur) (hp : p.Valid m) (hd : NominalNonneg d) :
    ∃ q, subDur m p d = some q ∧ q.Strict m ∧ q.date.rep = p.date.rep ∧ q.tz = p.tz ∧
      q.inst m < p.inst m ∧ q.inst m + d.exactSeconds m + 86400 ≤ p.inst m := by
  have hnn := nominalNonneg_exactSeconds m d hd
  obtain ⟨y, mo, dd, hh, mi, s, rfl, h1, h2, _, _, _, _, h7⟩ := nominalNonneg_units d hd
  obtain ⟨q, e, sq, rq, tq, _, dn⟩ :=
    addDur_units_mono m p (y * -1) (mo * -1) (dd * -1) (hh * -1) (mi * -1) (s * -1) hp
  have := dn (by omega) (by omega) (by omega)
  rw [exactSeconds_units] at hnn ⊢
  exact ⟨q, e, sq, rq, tq, by omega, by omega⟩

theorem nominalNonneg_mul (d : Dur) (n : Int) (hd : NominalNonneg d) (hn : 1 ≤ n) :
    NominalNonneg (d.mul n) := by
  obtain ⟨y, mo, dd, hh, mi, s, rfl, h1, h2, h3, h4, h5, h6, h7⟩ := nominalNonneg_units d hd
  have hn0 : (0 : Int) ≤ n := by omega
  refine ⟨Int.mul_nonneg h1 hn0, Int.mul_nonneg h2 hn0, Int.mul_nonneg h3 hn0, Int.mul_nonneg h4 hn0,
    Int.mul_nonneg h5 hn0, Int.mul_nonneg h6 hn0, ?_⟩
  rcases h7 with c | c
  · exact Or.inl (Int.mul_ne_zero c (by omega))
  · exact Or.inr (Int.mul_ne_zero c (by omega))

end IsoDT.Lemmas
