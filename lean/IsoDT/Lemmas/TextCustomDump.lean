/-
  IsoDT.Lemmas.TextCustomDump — the dumper half of the custom-format clause of C08 / C06:
  `TimePointDumper.dump(p, format)` for every complete custom format is the specified text
  `customText` of the specified point `CFmt.target` (`dump_custom`).

  `_dump_expression_with_properties` first brings the point to the representation the property list
  asks for (week ↔ calendar; an ordinal format leaves a calendar point alone and reads the day of year
  through `get_ordinal_date`), then re-zones it to the literal zone, checks the year against the
  format's digits and prints.  The specification converts to the zone first and to the format's
  representation afterwards; `toTimeZone_date_indep` and `date_unique` show the two routes meet (C06 + C03).
-/
import IsoDT.Lemmas.Cmp
import IsoDT.Lemmas.TextCustomExpr
import IsoDT.Lemmas.TextRoundDec

namespace IsoDT.Text.Custom
open IsoDT IsoDT.Model IsoDT.Lemmas IsoDT.Text
open IsoDT.Spec (Date TZ TP)
open _root_.IsoDT.Gen.Templates (timeDesignator dumper_0 dumper_2 dumper_3 dumpTables parserTables)

theorem ofTP_date (n : Nat) (P : TP) : (XTP.ofTP n P).date? = some P.date := by
  obtain ⟨d, hh, mi, ss, tz⟩ := P; cases d <;> rfl

theorem ofTP_view (m : Mode) (n : Nat) (P : TP) (k : Nat) :
    (XTP.ofTP n P).view m k = convert m k P.date := by
  unfold XTP.view; rw [ofTP_date]

theorem ofTP_secondDec (n : Nat) (P : TP) : (XTP.ofTP n P).secondDec = none := by
  obtain ⟨d, hh, mi, ss, tz⟩ := P; cases d <;> rfl

theorem withTime_self (n : Nat) (P : TP) :
    (XTP.ofTP n P).withTime (some P.hh) (some P.mi) (some P.ss) none none none = XTP.ofTP n P := by
  obtain ⟨d, hh, mi, ss, tz⟩ := P; cases d <;> rfl

theorem withRep_ofTP (m : Mode) (n : Nat) (P : TP) (k : Nat) (d : Date)
    (h : convert m k P.date = some d) :
    (XTP.ofTP n P).withRep m k = some (XTP.ofTP n { P with date := d }) := by
  unfold XTP.withRep
  rw [ofTP_view, h]
  obtain ⟨pd, hh, mi, ss, tz⟩ := P
  cases d <;> cases pd <;> rfl

/-- The properties the date rules put on the list; the time and zone rules put none of them there. -/
def dateProp : DProp → Bool
  | .yearSign | .expandedYearDigits | .century | .yearOfCentury | .yearOfDecade | .monthOfYear
  | .dayOfMonth | .dayOfYear | .weekOfYear | .dayOfWeek => true
  | _ => false

theorem contains_dateProp (D R : List DProp) (hR : R.all (fun p => !dateProp p) = true) (p : DProp)
    (hp : dateProp p = true) : (D ++ R).contains p = D.contains p := by
  have : R.contains p = false := by
    cases h : R.contains p with
    | false => rfl
    | true =>
      have := List.all_eq_true.mp hR p (List.contains_iff_mem.mp h)
      rw [hp] at this; exact absurd this (by decide)
  rw [List.contains_append, this, Bool.or_false]

/-- What `_dump_expression_with_properties` reads off the property list of a complete format: the
    date representation `k` it asks for, the `CC` token, and whether the `+X` token is there. -/
structure PropsFor (props : List DProp) (k : Nat) (x : Bool) : Prop where
  week : (props.contains .weekOfYear || props.contains .dayOfWeek) = decide (k = 2)
  cal : (props.contains .monthOfYear || props.contains .dayOfMonth || props.contains .dayOfYear) =
    decide (k ≠ 2)
  century : props.contains .century = true
  expanded : props.contains .expandedYearDigits = x

theorem propsFor_date (x : Bool) (k : DateKind) (R : List DProp)
    (hR : R.all (fun p => !dateProp p) = true) : PropsFor (datePropsC x k ++ R) k.k x := by
  constructor
  · rw [contains_dateProp _ R hR .weekOfYear rfl, contains_dateProp _ R hR .dayOfWeek rfl]
    cases x <;> cases k <;> rfl
  · rw [contains_dateProp _ R hR .monthOfYear rfl, contains_dateProp _ R hR .dayOfMonth rfl,
      contains_dateProp _ R hR .dayOfYear rfl]
    cases x <;> cases k <;> rfl
  · rw [contains_dateProp _ R hR .century rfl]
    cases x <;> rfl
  · rw [contains_dateProp _ R hR .expandedYearDigits rfl]
    cases x <;> cases k <;> rfl

theorem zoneProps_noDate (zs : ZSpec) : (zonePropsC zs).all (fun p => !dateProp p) = true := by
  cases zs with
  | utc => rfl
  | own s => cases s <;> rfl
  | lit s z => show (litProps (zsign z)).all _ = true; unfold litProps; split <;> rfl

theorem expr_props (f : CFmt) (ned : Nat) : PropsFor (f.expr ned).props f.kind.k f.expanded :=
  propsFor_date _ _ _ (by
    rw [List.all_append, zoneProps_noDate, Bool.and_true]
    cases f.frac <;> rfl)

/-- The representation `repStep` leaves a point of representation `r` in when the format asks for `k`
    (its `wantsWeek` / `wantsCal` tests): week formats need a week date; calendar and ordinal formats
    need a calendar-year date (a week date becomes a calendar date, calendar and ordinal dates stay as
    they are). -/
def interRep (k r : Nat) : Nat := if k = 2 then 2 else if r = 2 then 0 else r

theorem interRep_lt (k r : Nat) (hr : r < 3) : interRep k r < 3 := by
  unfold interRep
  split
  · omega
  · split <;> omega

theorem interRep_week (k r : Nat) : k = 2 ↔ interRep k r = 2 := by
  unfold interRep
  split
  · simp [*]
  · split <;> simp [*]

theorem yearCheck_plain (y : Int) :
    (!(decide (0 ≤ y) && decide (y ≤ 9999))) = true ↔ ¬ YearInRange 0 y := by
  simp [YearInRange]
  omega

theorem yearCheck_expanded (ned : Nat) (hn : ned ≠ 0) (y : Int) :
    (!(decide (-((10 : Int) ^ (ned + 4) - 1) ≤ y) && decide (y ≤ (10 : Int) ^ (ned + 4) - 1))) = true ↔
      ¬ YearInRange ned y := by
  have hc : ((10 : Int) ^ (ned + 4)) = ((10 ^ (4 + ned) : Nat) : Int) := by
    rw [Nat.add_comm]; simp
  simp only [YearInRange, hn, if_false, hc]
  generalize 10 ^ (4 + ned) = K
  simp only [Bool.not_eq_true', Bool.and_eq_false_iff, decide_eq_false_iff_not]
  omega

/-- Step 1 of `_dump_expression_with_properties`: the date representation. -/
def repStep (m : Mode) (p : XTP) (props : List DProp) : Except DumpErr XTP :=
  let wantsWeek := props.contains .weekOfYear || props.contains .dayOfWeek
  let wantsCal := props.contains .monthOfYear || props.contains .dayOfMonth ||
    props.contains .dayOfYear
  if p.truncated then .ok p
  else if wantsWeek then
    (if wantsCal || p.isWeek then .ok p
     else match p.withRep m 2 with
       | some q => .ok q
       | none => .error .unsupported)
  else if p.isWeek && wantsCal then
    (match p.withRep m 0 with
     | some q => .ok q
     | none => .error .unsupported)
  else .ok p

/-- Step 2: the custom time zone. -/
def zoneStep (m : Mode) (p1 : XTP) (custom : Option (Int × Int)) : Except DumpErr XTP :=
  match custom with
  | none => .ok p1
  | some (h, mi) =>
    match mkTZ m h mi with
    | none => .error .err
    | some z => p1.toTimeZone m z

/-- Step 3: the year bounds and `expression % property_map`. -/
def finishStep (m : Mode) (dt : DumpTables) (p2 : XTP) (e : Expr) : Except DumpErr (List Char) := do
  let y ← (match p2.year with
    | some y => .ok y
    | none => if e.props.contains .century || e.props.contains .expandedYearDigits ||
                 e.props.contains .yearSign || e.props.contains .yearOfCentury ||
                 e.props.contains .yearOfDecade then .error .unsupported else .ok 0 : Except DumpErr Int)
  if e.props.contains .century && (!e.props.contains .expandedYearDigits || dt.ned = 0) &&
      !(0 ≤ y && y ≤ 9999) then .error .err
  else if e.props.contains .expandedYearDigits &&
      !(-((10 : Int) ^ (dt.ned + 4) - 1) ≤ y && y ≤ (10 : Int) ^ (dt.ned + 4) - 1) then .error .err
  else
    match renderSegs m p2 e.segs with
    | some s => .ok s
    | none => .error .unsupported

theorem dumpExpr_steps (m : Mode) (dt : DumpTables) (p : XTP) (e : Expr) :
    dumpExpr m dt p e =
      (repStep m p e.props).bind fun p1 => (zoneStep m p1 e.customTZ).bind fun p2 => finishStep m dt p2 e :=
  rfl

section withTime
variable (h mi s : Option Int) (hd md sd : Option (List Char))

theorem withRep_withTime (m : Mode) (B : XTP) (k : Nat) :
    (B.withTime h mi s hd md sd).withRep m k = (B.withRep m k).map (·.withTime h mi s hd md sd) := by
  unfold XTP.withRep
  have hv : (B.withTime h mi s hd md sd).view m k = B.view m k := rfl
  rw [hv]
  cases B.view m k with
  | none => rfl
  | some d => cases d <;> rfl

theorem repStep_withTime (m : Mode) (n : Nat) (P : TP) (k : Nat) (x : Bool) (d1 : Date) (props : List DProp)
    (hp : PropsFor props k x) (hd1 : convert m (interRep k P.date.rep) P.date = some d1) :
    repStep m ((XTP.ofTP n P).withTime h mi s hd md sd) props =
      .ok ((XTP.ofTP n { P with date := d1 }).withTime h mi s hd md sd) := by
  unfold repStep
  have ht : ((XTP.ofTP n P).withTime h mi s hd md sd).truncated = false := ofTP_truncated n P
  have hw : ((XTP.ofTP n P).withTime h mi s hd md sd).isWeek = decide (P.date.rep = 2) := ofTP_isWeek n P
  simp only [hp.week, hp.cal, ht, hw, Bool.false_eq_true, if_false, withRep_withTime]
  by_cases hk : k = 2
  · by_cases hr : P.date.rep = 2
    · have : d1 = P.date := by
        have := convert_self m P.date
        rw [interRep, if_pos hk, ← hr, this] at hd1
        exact (Option.some.inj hd1).symm
      subst this
      simp [hk, hr]
    · rw [interRep, if_pos hk] at hd1
      simp [hk, hr, withRep_ofTP m n P 2 d1 hd1]
  · by_cases hr : P.date.rep = 2
    · rw [interRep, if_neg hk, if_pos hr] at hd1
      simp [hk, hr, withRep_ofTP m n P 0 d1 hd1]
    · have : d1 = P.date := by
        have := convert_self m P.date
        rw [interRep, if_neg hk, if_neg hr, this] at hd1
        exact (Option.some.inj hd1).symm
      subst this
      simp [hk, hr]

end withTime

theorem repStep_ofTP (m : Mode) (n : Nat) (P : TP) (k : Nat) (x : Bool) (d1 : Date) (props : List DProp)
    (hp : PropsFor props k x) (hd1 : convert m (interRep k P.date.rep) P.date = some d1) :
    repStep m (XTP.ofTP n P) props = .ok (XTP.ofTP n { P with date := d1 }) := by
  have := repStep_withTime (some P.hh) (some P.mi) (some P.ss) none none none m n P k x d1 props hp hd1
  rwa [withTime_self n P, withTime_self n { P with date := d1 }] at this

theorem zoneStep_ofTP (m : Mode) (n : Nat) (P1 P2 : TP) (z : TZ) (hz : z.Valid)
    (custom : Option (Int × Int)) (hZ : (custom = none ∧ z = P1.tz) ∨ custom = some (z.h, z.mi))
    (hP2 : toTimeZone m P1 z = some P2) :
    zoneStep m (XTP.ofTP n P1) custom = .ok (XTP.ofTP n P2) := by
  unfold zoneStep
  rcases hZ with ⟨rfl, rfl⟩ | rfl
  · have : P2 = P1 := by
      unfold toTimeZone at hP2
      rw [if_pos ⟨rfl, rfl⟩] at hP2
      exact (Option.some.inj hP2).symm
    rw [this]
  · simp only [show mkTZ m z.h z.mi = some z from Lemmas.ConstructTrunc.mkTZOpt_of_valid m z hz]
    exact xtp_toTimeZone m n _ P2 z hP2

theorem zoneStep_same (m : Mode) (X : XTP) (hunk : X.tzUnknown = false) (tz : TZ) (htz : X.tz = tz)
    (hz : tz.Valid) (custom : Option (Int × Int)) (hZ : custom = none ∨ custom = some (tz.h, tz.mi)) :
    zoneStep m X custom = .ok X := by
  unfold zoneStep
  rcases hZ with rfl | rfl
  · rfl
  · simp only [show mkTZ m tz.h tz.mi = some tz from Lemmas.ConstructTrunc.mkTZOpt_of_valid m tz hz]
    unfold XTP.toTimeZone
    simp [hunk, htz]

theorem finishStep_year (m : Mode) (dt : DumpTables) (X : XTP) (y : Int) (hyr : X.year = some y) (e : Expr)
    (k : Nat) (x : Bool) (hp : PropsFor e.props k x) (hxn : x = true → dt.ned ≠ 0) :
    finishStep m dt X e =
      if YearInRange (yd x dt.ned) y then
        match renderSegs m X e.segs with
        | some s => .ok s
        | none => .error .unsupported
      else .error .err := by
  unfold finishStep yd
  simp only [bind, Except.bind, hyr, hp.century, hp.expanded, Bool.true_and]
  cases x with
  | false =>
    simp only [Bool.not_false, Bool.true_or, Bool.true_and, Bool.false_and, Bool.false_eq_true, if_false,
      yearCheck_plain, ite_not]
  | true =>
    have hn := hxn rfl
    simp only [Bool.not_true, Bool.false_or, decide_eq_false hn, Bool.false_and, Bool.false_eq_true, if_false,
      Bool.true_and, if_true, yearCheck_expanded dt.ned hn, ite_not]

theorem dumpExpr_class (m : Mode) (dt : DumpTables) (X X1 X2 : XTP) (e : Expr) (k : Nat) (x : Bool)
    (hp : PropsFor e.props k x) (h1 : repStep m X e.props = .ok X1) (h2 : zoneStep m X1 e.customTZ = .ok X2)
    (y : Int) (hyr : X2.year = some y) (hxn : x = true → dt.ned ≠ 0) (text : List Char)
    (hr : YearInRange (yd x dt.ned) y → renderSegs m X2 e.segs = some text) :
    dumpExpr m dt X e = if YearInRange (yd x dt.ned) y then .ok text else .error .err := by
  rw [dumpExpr_steps, h1]
  simp only [Except.bind]
  rw [h2]
  simp only
  rw [finishStep_year m dt X2 y hyr e k x hp hxn]
  by_cases hy : YearInRange (yd x dt.ned) y
  · rw [if_pos hy, if_pos hy, hr hy]
  · rw [if_neg hy, if_neg hy]

/-! ## `expression % property_map`: the fields -/

/-- The date properties are read through `get_calendar_date` / `get_ordinal_date` / `get_week_date`,
    whatever representation the point is kept in. -/
theorem intProp_cal (m : Mode) (n : Nat) (P : TP) (y mo d : Int)
    (h : convert m 0 P.date = some (.cal y mo d)) (h0 : 0 ≤ mo) (h1 : 0 ≤ d) :
    intProp m (XTP.ofTP n P) .monthOfYear = some mo.toNat ∧
      intProp m (XTP.ofTP n P) .dayOfMonth = some d.toNat := by
  obtain ⟨pd, hh, mi, ss, tz⟩ := P
  cases pd with
  | cal a b c =>
    simp only [convert, Option.some.injEq, Date.cal.injEq] at h
    obtain ⟨rfl, rfl, rfl⟩ := h
    simp [intProp, XTP.ofTP, h0, h1]
  | ord a b => simp only at h; simp [intProp, XTP.ofTP, XTP.view, XTP.date?, h, h0, h1]
  | week a b c => simp only at h; simp [intProp, XTP.ofTP, XTP.view, XTP.date?, h, h0, h1]

theorem intProp_ord (m : Mode) (n : Nat) (P : TP) (y doy : Int)
    (h : convert m 1 P.date = some (.ord y doy)) (h0 : 0 ≤ doy) :
    intProp m (XTP.ofTP n P) .dayOfYear = some doy.toNat := by
  obtain ⟨pd, hh, mi, ss, tz⟩ := P
  cases pd with
  | cal a b c => simp only at h; simp [intProp, XTP.ofTP, XTP.view, XTP.date?, h, h0]
  | ord a b =>
    simp only [convert, Option.some.injEq, Date.ord.injEq] at h
    obtain ⟨rfl, rfl⟩ := h
    simp [intProp, XTP.ofTP, h0]
  | week a b c => simp only at h; simp [intProp, XTP.ofTP, XTP.view, XTP.date?, h, h0]

theorem intProp_week (m : Mode) (n : Nat) (P : TP) (y w d : Int)
    (h : convert m 2 P.date = some (.week y w d)) (h0 : 0 ≤ w) (h1 : 0 ≤ d) :
    intProp m (XTP.ofTP n P) .weekOfYear = some w.toNat ∧
      intProp m (XTP.ofTP n P) .dayOfWeek = some d.toNat := by
  obtain ⟨pd, hh, mi, ss, tz⟩ := P
  cases pd with
  | cal a b c => simp only at h; simp [intProp, XTP.ofTP, XTP.view, XTP.date?, h, h0, h1]
  | ord a b => simp only at h; simp [intProp, XTP.ofTP, XTP.view, XTP.date?, h, h0, h1]
  | week a b c =>
    simp only [convert, Option.some.injEq, Date.week.injEq] at h
    obtain ⟨rfl, rfl, rfl⟩ := h
    simp [intProp, XTP.ofTP, h0, h1]

theorem render_body (m : Mode) (n : Nat) (P : TP) (ext : Bool) (kind : DateKind) (dQ : Date)
    (hv : P.date.Valid m) (hc : convert m kind.k P.date = some dQ) :
    renderSegs m (XTP.ofTP n P) (bodySegs ext kind) = some (bodyText ext dQ) := by
  obtain ⟨_, hvQ, hrQ, _⟩ := convert_back m kind.k (kind_lt kind) P.date dQ hv hc
  have hfit := dateFit_of_valid m dQ hvQ
  rcases rep_kind hrQ with ⟨rfl, y, mo, d, rfl⟩ | ⟨rfl, y, doy, rfl⟩ | ⟨rfl, y, w, d, rfl⟩
  · obtain ⟨a1, a2, a3, a4⟩ := hfit
    have e1 := pad2 mo a1 a2
    have e2 := pad2 d a3 a4
    obtain ⟨i1, i2⟩ := intProp_cal m n P y mo d hc a1 a3
    cases ext <;> simp [bodySegs, bodyText, dsep, renderSegs, i1, i2, e1, e2]
  · obtain ⟨a1, a2⟩ := hfit
    have e1 : padNat 3 doy.toNat = renderNat 3 doy.toNat := padNat_eq _ _ (by simp only [Nat.reducePow]; omega)
    have i1 := intProp_ord m n P y doy hc a1
    cases ext <;> simp [bodySegs, bodyText, dsep, renderSegs, i1, e1]
  · obtain ⟨a1, a2, a3, a4⟩ := hfit
    have e1 := pad2 w a1 a2
    have e2 : padNat 1 d.toNat = renderNat 1 d.toNat := padNat_eq _ _ (by simp only [Nat.reducePow]; omega)
    obtain ⟨i1, i2⟩ := intProp_week m n P y w d hc a1 a3
    cases ext <;> simp [bodySegs, bodyText, dsep, renderSegs, i1, i2, e1, e2]

theorem pad2_mod (v : Nat) : padNat 2 (v % 100) = renderNat 2 (v % 100) :=
  padNat_eq _ _ (Nat.mod_lt _ (by decide))

/-- Century and year of century are the low four digits of the year whatever the year is; the range is
    needed for the expanded digits alone. -/
theorem render_yearC (m : Mode) (n : Nat) (P : TP) (x : Bool) (ned : Nat) (hxn : x = true → ned ≠ 0)
    (hy : YearInRange (yd x ned) (dateYear P.date)) :
    renderSegs m (XTP.ofTP n P) (yearSegsC x ned) =
      some (yearText (yd x ned) (dateYear P.date)) := by
  have hyr := ofTP_year n P
  generalize dateYear P.date = y at hyr hy ⊢
  have hc : y.natAbs % 10000 / 100 = y.natAbs / 100 % 100 := Nat.mod_mul_right_div_self y.natAbs 100 100
  have e1 := pad2_mod (y.natAbs / 100)
  have e2 := pad2_mod y.natAbs
  cases x with
  | false =>
    simp [yearSegsC, yearText, renderSegs, intProp, hyr, hc, e1, e2, renderNat_four, renderNat_mod100]
  | true =>
    have hn := hxn rfl
    have e0 := padNat_eq ned (y.natAbs / 10000) (yearInRange_x true ned hxn y hy) hn
    have hs : (if 0 ≤ y then ['+'] else ['-']) = [if y < 0 then '-' else '+'] := by
      by_cases hneg : y < 0
      · rw [if_neg (Int.not_le.mpr hneg), if_pos hneg]
      · rw [if_pos (Int.not_lt.mp hneg), if_neg hneg]
    simp [yearSegsC, yearText, hn, renderSegs, intProp, strProp, hyr, hc, hs, e0, e1, e2, renderNat_year]

theorem render_clock (m : Mode) (n : Nat) (P : TP) (ext : Bool) (h0 : 0 ≤ P.hh) (h1 : P.hh ≤ 24)
    (h2 : 0 ≤ P.mi) (h3 : P.mi < 60) (h4 : 0 ≤ P.ss) (h5 : P.ss < 60) :
    renderSegs m (XTP.ofTP n P) (clockSegs ext) = some (clockText ext P) := by
  have e1 := pad2 P.hh h0 (Int.lt_of_le_of_lt h1 (by decide))
  have e2 := pad2 P.mi h2 (Int.lt_trans h3 (by decide))
  have e3 := pad2 P.ss h4 (Int.lt_trans h5 (by decide))
  cases ext <;>
    simp [clockSegs, clockText, csep, renderSegs, intProp, ofTP_hour, ofTP_minute, ofTP_second, e1, e2, e3,
      h0, h2, h4]

/-- The decimal part of a whole-second point: `_decimal_string` of no fraction is `0`. -/
theorem render_frac (m : Mode) (n : Nat) (P : TP) (fr : Frac) :
    renderSegs m (XTP.ofTP n P) (fracSegs fr) = some (fracText fr) := by
  cases fr <;> simp [fracSegs, fracText, renderSegs, strProp, ofTP_second, ofTP_secondDec, decimalString]

theorem render_digits (m : Mode) (p : XTP) (pre : List Char) (l : List Char) :
    renderSegs m p (pre.map Seg.raw ++ l.map Seg.raw) = some (pre ++ l) := by
  rw [← List.map_append]; exact renderSegs_raw m p _

theorem render_zoneC (m : Mode) (n : Nat) (P : TP) (ext : Bool) (zs : ZSpec) (hz : P.tz.Valid)
    (hlit : ∀ s z, zs = .lit s z → P.tz = z) :
    renderSegs m (XTP.ofTP n P) (zoneSegsC ext zs) = some (zoneText ext zs P.tz) := by
  cases zs with
  | utc => rfl
  | own s =>
    obtain ⟨h1, h2, h3, h4, _, _⟩ := hz
    have e1 : padNat 2 P.tz.h.natAbs = renderNat 2 P.tz.h.natAbs :=
      padNat_eq _ _ (Nat.lt_succ_of_le (natAbs_le h1 h2))
    have e2 : padNat 2 P.tz.mi.natAbs = renderNat 2 P.tz.mi.natAbs :=
      padNat_eq _ _ (Nat.lt_of_le_of_lt (natAbs_le h3 h4) (by decide))
    have hsg : (if P.tz.h < 0 ∨ P.tz.mi < 0 then ['-'] else ['+']) = [zsign P.tz] := by
      unfold zsign; split <;> rfl
    cases s with
    | hm =>
      cases ext <;>
        simp [zoneSegsC, zoneText, zoneDigits, renderSegs, intProp, strProp, ofTP_tz, e1, e2, hsg]
    | h => simp [zoneSegsC, zoneText, zoneDigits, renderSegs, intProp, strProp, ofTP_tz, e1, hsg]
  | lit s z =>
    have htz := hlit s z rfl
    subst htz
    have hraw := renderSegs_raw m (XTP.ofTP n P) (zoneDigits ext s P.tz)
    simp only [zoneSegsC, zoneText, litSegs]
    by_cases hs : P.tz.h < 0 ∨ P.tz.mi < 0
    · have : zsign P.tz = '-' := by simp [zsign, hs]
      rw [this]
      simp [renderSegs, hraw]
    · have : zsign P.tz = '+' := by simp [zsign, hs]
      rw [this]
      simp [renderSegs, strProp, ofTP_tz, hs, hraw]

theorem dateSegs_timeFree (x : Bool) (ned : Nat) (ext : Bool) (k : DateKind) :
    (yearSegsC x ned ++ bodySegs ext k).all timeFree = true := by
  cases x <;> cases ext <;> cases k <;> rfl

theorem zoneSegsC_timeFree (ext : Bool) (zs : ZSpec) : (zoneSegsC ext zs).all timeFree = true := by
  cases zs with
  | utc => rfl
  | own s => cases s <;> cases ext <;> rfl
  | lit s z =>
    simp only [zoneSegsC, litSegs, List.all_cons, Bool.and_eq_true]
    refine ⟨by split <;> rfl, ?_⟩
    simp [List.all_map, timeFree]

/-- **The compiled format printed**: the point `P` (already in the dumper's intermediate representation
    and in the target zone) through a compiled expression of the class is year, date fields of `P`
    re-expressed in the format's representation, `T`, whatever the time part `TS` prints, and the zone.
    Year, date and zone do not read the time of day, so `P` may carry any time-of-day fields. -/
theorem render_class (m : Mode) (n ned : Nat) (x ext : Bool) (kind : DateKind) (zs : ZSpec)
    (hxn : x = true → ned ≠ 0) (P : TP) (hd : P.date.Valid m) (hz : P.tz.Valid)
    (h mi s : Option Int) (hd' md sd : Option (List Char)) (dQ : Date)
    (hc : convert m kind.k P.date = some dQ) (hyear : dateYear dQ = dateYear P.date)
    (hy : YearInRange (yd x ned) (dateYear dQ)) (hlit : ∀ s z, zs = .lit s z → P.tz = z)
    (TS : List Seg) (tt : List Char)
    (ht : renderSegs m ((XTP.ofTP n P).withTime h mi s hd' md sd) TS = some tt) :
    renderSegs m ((XTP.ofTP n P).withTime h mi s hd' md sd)
        ((yearSegsC x ned ++ bodySegs ext kind) ++ Seg.raw 'T' :: (TS ++ zoneSegsC ext zs)) =
      some ((yearText (yd x ned) (dateYear dQ) ++ bodyText ext dQ) ++
        'T' :: (tt ++ zoneText ext zs P.tz)) := by
  rw [hyear] at hy ⊢
  refine renderSegs_append _ _ _ _ _ _ ?_ ?_
  · rw [renderSegs_withTime _ _ _ _ _ _ _ _ _ (dateSegs_timeFree _ _ _ _)]
    exact renderSegs_append _ _ _ _ _ _ (render_yearC m n P x ned hxn hy) (render_body m n P ext kind dQ hd hc)
  · have hzone : renderSegs m ((XTP.ofTP n P).withTime h mi s hd' md sd) (zoneSegsC ext zs) =
        some (zoneText ext zs P.tz) := by
      rw [renderSegs_withTime _ _ _ _ _ _ _ _ _ (zoneSegsC_timeFree _ _)]
      exact render_zoneC m n P ext zs hz hlit
    have := renderSegs_append m _ _ _ _ _ ht hzone
    simp only [renderSegs, this, Option.map_some]

/-! ## The two routes meet: representation first (the code) or zone first (the specification) -/

theorem strict_fields_eq (m : Mode) (a b : TP) (ha : a.Strict m) (hb : b.Strict m) (htz : a.tz = b.tz)
    (hi : a.inst m = b.inst m) :
    a.date.dayNum m = b.date.dayNum m ∧ a.hh = b.hh ∧ a.mi = b.mi ∧ a.ss = b.ss := by
  obtain ⟨hd, hs⟩ := (inst_order m a b ha hb htz).2.mp hi
  obtain ⟨⟨_, a1, _, a3, a4, a5, a6, _, _⟩, a9⟩ := ha
  obtain ⟨⟨_, b1, _, b3, b4, b5, b6, _, _⟩, b9⟩ := hb
  unfold TP.secOfDay at hs
  refine ⟨hd, ?_⟩
  omega

/-- Re-zoning does not look at the representation of the date: two points that differ only in how the
    same day is written are re-zoned to points that differ only in how the same day is written. -/
theorem toTimeZone_date_indep (m : Mode) (P : TP) (d' : Date) (z : TZ) (hv : P.Valid m)
    (hv' : d'.Valid m) (hn : d'.dayNum m = P.date.dayNum m) (Q Q' : TP)
    (hQ : toTimeZone m P z = some Q) (hQ' : toTimeZone m { P with date := d' } z = some Q') :
    Q'.hh = Q.hh ∧ Q'.mi = Q.mi ∧ Q'.ss = Q.ss ∧ Q'.tz = Q.tz ∧ Q'.date.dayNum m = Q.date.dayNum m := by
  have hvP' : ({ P with date := d' } : TP).Valid m := by
    obtain ⟨_, b⟩ := hv
    exact ⟨hv', b⟩
  unfold toTimeZone at hQ hQ'
  by_cases c : z.h = P.tz.h ∧ z.mi = P.tz.mi
  · rw [if_pos c] at hQ hQ'
    obtain rfl := Option.some.inj hQ
    obtain rfl := Option.some.inj hQ'
    exact ⟨rfl, rfl, rfl, rfl, hn⟩
  · rw [if_neg c] at hQ hQ'
    obtain ⟨q0, he, g⟩ := addDur_exact_units m P 0 (z.h - P.tz.h) (z.mi - P.tz.mi) 0 hv
    obtain ⟨q0', he', g'⟩ := addDur_exact_units m { P with date := d' } 0 (z.h - P.tz.h) (z.mi - P.tz.mi) 0 hvP'
    rw [he] at hQ
    rw [he'] at hQ'
    obtain rfl := Option.some.inj hQ
    obtain rfl := Option.some.inj hQ'
    have hinst : ({ P with date := d' } : TP).inst m = P.inst m := by
      simp only [TP.inst, TP.secOfDay, hn]
    obtain ⟨e1, e2, e3, e4⟩ := strict_fields_eq m q0' q0 g'.strict g.strict (g'.tz.trans g.tz.symm)
      (by rw [g'.inst, g.inst, hinst])
    exact ⟨e2, e3, e4, rfl, e1⟩

/-- Calendar and ordinal dates share their year; so re-expressing a date keeps the year unless it
    moves between the week-year and the calendar-year representations. -/
theorem dateYear_convert (m : Mode) (k : Nat) (dt r : Date) (hv : dt.Valid m)
    (hc : convert m k dt = some r) (hrep : k = 2 ↔ dt.rep = 2) : dateYear r = dateYear dt := by
  by_cases hk : k = dt.rep
  · rw [hk, convert_self] at hc
    rw [← Option.some.inj hc]
  · cases dt with
    | cal y mo d =>
      rcases k with _ | _ | _ | k
      · exact absurd rfl hk
      · obtain ⟨doy, he, _, _⟩ := ordFromCal_spec m y mo d hv
        simp only [convert, he, Option.map_some, Option.some.injEq] at hc
        rw [← hc]; rfl
      · exact absurd (hrep.mp rfl) (by simp [Date.rep])
      · simp [convert] at hc
    | ord y doy =>
      rcases k with _ | _ | _ | k
      · obtain ⟨mo, d, he, _, _⟩ := calFromOrd_spec m y doy hv
        simp only [convert, he, Option.map_some, Option.some.injEq] at hc
        rw [← hc]; rfl
      · exact absurd rfl hk
      · exact absurd (hrep.mp rfl) (by simp [Date.rep])
      · simp [convert] at hc
    | week y w d =>
      rcases k with _ | _ | _ | k
      · exact absurd (hrep.mpr rfl) (by decide)
      · exact absurd (hrep.mpr rfl) (by decide)
      · exact absurd rfl hk
      · simp [convert] at hc

theorem target_zone_valid (f : CFmt) (ned : Nat) (hf : f.WF ned) (p : TP) (hz : p.tz.Valid) :
    (f.zone.target p).Valid := by
  obtain ⟨_, h2⟩ := hf
  cases hzs : f.zone with
  | utc => exact utc_valid
  | own s => exact hz
  | lit s z => rw [hzs] at h2; exact h2.1

/-- **Dump with a complete custom format**: the text is the specified text of the specified point —
    `p` converted to the format's zone and representation — provided that point's year is within the
    digits the format prints (0000–9999 without the `+X` token, `|y| < 10^(4+ned)` with it);
    otherwise the dump is the dumper's bounds error. -/
theorem dump_custom (m : Mode) (dt : DumpTables) (hdt : dt ∈ dumpTables) (n : Nat) (f : CFmt)
    (hf : f.WF dt.ned) (p q : TP) (hv : p.Valid m) (hq : f.target m p = some q) :
    dump m dt (XTP.ofTP n p) f.text =
      if YearInRange (f.yd dt.ned) (dateYear q.date) then .ok (customText dt.ned f q) else .error .err := by
  have hz := target_zone_valid f dt.ned hf p (valid_tz hv)
  -- the specification's route
  obtain ⟨q1, hq1, _, htz1, _, hvq1, _⟩ := toTimeZone_spec m p (f.zone.target p) hv hz
  obtain ⟨dq, hdq, hqeq⟩ : ∃ dq, convert m f.kind.k q1.date = some dq ∧ ({ q1 with date := dq } : TP) = q := by
    simpa [CFmt.target, hq1] using hq
  obtain ⟨_, hvdq, hrdq, hndq⟩ := convert_back m f.kind.k (kind_lt _) q1.date dq hvq1.1 hdq
  -- the code's route
  obtain ⟨d1, hd1, hvd1, hrd1, hnd1⟩ :=
    convert_spec m (interRep f.kind.k p.date.rep) (interRep_lt _ _ (rep_lt_three _)) p.date hv.1
  have hvP1 : ({ p with date := d1 } : TP).Valid m := by
    obtain ⟨_, b⟩ := hv; exact ⟨hvd1, b⟩
  obtain ⟨P2, hP2, _, htz2, hrep2, hvP2, _⟩ := toTimeZone_spec m { p with date := d1 } (f.zone.target p) hvP1 hz
  obtain ⟨dQ, hdQ, hvdQ, hrdQ, hndQ⟩ := convert_spec m f.kind.k (kind_lt _) P2.date hvP2.1
  -- they meet
  obtain ⟨e1, e2, e3, e4, e5⟩ := toTimeZone_date_indep m p d1 (f.zone.target p) hv hvd1 hnd1 q1 P2 hq1 hP2
  have hdd : dQ = dq := date_unique m dQ dq hvdQ hvdq (by rw [hrdQ, hrdq]) (by rw [hndQ, hndq, e5])
  have hqP2 : ({ P2 with date := dQ } : TP) = q := by
    rw [← hqeq, hdd]
    obtain ⟨a1, a2, a3, a4, a5⟩ := P2
    obtain ⟨b1, b2, b3, b4, b5⟩ := q1
    simp only at e1 e2 e3 e4
    simp [e1, e2, e3, e4]
  have hyear : dateYear dQ = dateYear P2.date := by
    apply dateYear_convert m f.kind.k P2.date dQ hvP2.1 hdQ
    simp only at hrep2
    rw [hrep2, hrd1]
    exact interRep_week _ _
  have hqd : dateYear q.date = dateYear dQ := by rw [← hqP2]
  have hZ : ((f.expr dt.ned).customTZ = none ∧ f.zone.target p = p.tz) ∨
      (f.expr dt.ned).customTZ = some ((f.zone.target p).h, (f.zone.target p).mi) := by
    cases hzs : f.zone with
    | utc => right; simp [CFmt.expr, customC, hzs, ZSpec.target]
    | own s => left; simp [CFmt.expr, customC, hzs, ZSpec.target]
    | lit s z => right; simp [CFmt.expr, customC, hzs, ZSpec.target]
  rw [dump_compiled m dt _ f.text _ (noPercent_class _ _ _ _ (timeFmt_plain f.ext f.frac).2.2 _)
      (getExpr_custom dt hdt f hf),
    dumpExpr_class m dt _ _ _ _ f.kind.k f.expanded (expr_props f dt.ned)
      (repStep_ofTP m n p f.kind.k f.expanded d1 _ (expr_props f dt.ned) hd1)
      (zoneStep_ofTP m n { p with date := d1 } P2 (f.zone.target p) hz _ hZ hP2) _ (ofTP_year n P2) hf.1
      (customText dt.ned f q) ?_, ← hyear, ← hqd]
  · rfl
  · intro hy
    obtain ⟨hdP2, h0, h1, h2, h3, h4, h5, _, hz2⟩ := hvP2
    have := render_class m n dt.ned f.expanded f.ext f.kind f.zone hf.1 P2 hdP2 hz2 (some P2.hh) (some P2.mi)
      (some P2.ss) none none none dQ hdQ hyear (hyear ▸ hy) (by intro s z hzs; rw [htz2, hzs]; rfl)
      (clockSegs f.ext ++ fracSegs f.frac) (clockText f.ext P2 ++ fracText f.frac)
      (by
        rw [withTime_self]
        exact renderSegs_append _ _ _ _ _ _ (render_clock m n P2 f.ext h0 h1 h2 h3 h4 h5) (render_frac m n P2 f.frac))
    rw [withTime_self] at this
    rw [← hqP2]
    exact this

end IsoDT.Text.Custom
