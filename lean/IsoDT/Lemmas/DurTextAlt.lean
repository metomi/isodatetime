/-
  IsoDT.Lemmas.DurTextAlt — the date-time-like alternative spelling of durations (`Model.DurTextAlt`).

  The fallback is the time point parser with another constructor, so on a text rendered from ANY listed
  non-truncated date form (complete, reduced, signed) and any listed time form / zone form it is decided by
  the generic decoding theorems (`C07_args`, `C07_args_date` of `Props/C07b`) and by what
  `TimePoint.__init__(is_duration=True)` does with the decoded arguments: a chain of guards in front of
  one point, off which the duration is read.  The fallback is reached when no designator regex of
  `DurationParser.parse` matches; a leading sign then refuses.  On the text `str()` prints, `parseA` is
  `DurText.parse`.
-/
import IsoDT.Props.C07b
import IsoDT.Props.C10
import IsoDT.Model.DurTextAlt

namespace IsoDT.Model.DurTextAlt
open IsoDT IsoDT.Model IsoDT.Text IsoDT.Gen
open IsoDT.Props.C07 (zoneText decodeFacts C07_args C07_args_date)
open _root_.IsoDT.Gen.Templates (timeDesignator dateTypeOrder parserTables parser_2_all)

theorem altCfg_mem (m : Mode) : (altCfg m).pt ∈ parserTables := .tail _ (.tail _ (.head _))

theorem altCfg_ned_ne (m : Mode) : ¬ (altCfg m).pt.ned = 0 := by
  show ¬ (2 = 0)
  decide

/-- `TimePointParser.parse` (`parse_eq_bind`) and the fallback's parse differ in the constructor only. -/
theorem parseAltTP_eq (m : Mode) (s : List Char) :
    parseAltTP m s = ((getInfo (altCfg m) s).bind (assemble (altCfg m) · none)).bind (ctorDur m) := by
  unfold parseAltTP
  cases getInfo (altCfg m) s with
  | none => rfl
  | some info =>
    simp only [Option.bind_some]
    cases assemble (altCfg m) info none <;> rfl

theorem parseAltTP_some (m : Mode) (s : List Char) (p : XTP) (h : parseAltTP m s = some p) :
    ∃ info a, getInfo (altCfg m) s = some info ∧ assemble (altCfg m) info none = some a ∧
      ctorDur m a = some p := by
  rw [parseAltTP_eq] at h
  obtain ⟨a, h, hc⟩ := Option.bind_eq_some_iff.mp h
  obtain ⟨info, hi, ha⟩ := Option.bind_eq_some_iff.mp h
  exact ⟨info, a, hi, ha, hc⟩

/-! ## The constructor with `is_duration=True` -/

/-- The point `TimePoint.__init__(..., is_duration=True)` builds once the offset `tz` is made: the
    arguments as they are, with the hour / minute / second defaults only. -/
def durPoint (a : Args) (tz : Spec.TZ) : XTP :=
  { ned := a.ned, year := a.year, month := a.month, day := a.day, doy := a.doy, week := a.week,
    dow := a.dow,
    hour := if !a.truncated && a.hour.isNone then some 0 else a.hour,
    minute := if !a.truncated && a.hourDec.isNone && a.minute.isNone then some 0 else a.minute,
    second :=
      if !a.truncated && a.hourDec.isNone && a.minuteDec.isNone && a.second.isNone then some 0
      else a.second,
    hourDec := a.hourDec, minuteDec := a.minuteDec, secondDec := a.secondDec, tz := tz,
    tzUnknown := a.truncated && a.tzHour.isNone && a.tzMinute.isNone,
    truncated := a.truncated, truncProp := a.truncProp, dumpFmt := a.dumpFmt }

theorem ctorDur_eq (m : Mode) (a : Args) : ctorDur m a =
    if a.hourDec.isSome && (a.hour.isNone || a.minute.isSome || a.second.isSome) then none
    else if a.minuteDec.isSome && (a.minute.isNone || a.second.isSome) then none
    else if a.secondDec.isSome && a.second.isNone then none
    else if !(decOk a.hourDec && decOk a.minuteDec && decOk a.secondDec) then none
    else if !a.truncated && a.year.isNone then none
    else
      match mkTZ m (a.tzHour.getD 0) (a.tzMinute.getD 0) with
      | none => none
      | some tz =>
        if (truthy a.month || truthy a.day) && (truthy a.week || truthy a.dow) then none
        else if (truthy a.month || truthy a.day) && a.doy.isSome then none
        else if (truthy a.week || truthy a.dow) && a.doy.isSome then none
        else some (durPoint a tz) := rfl

theorem ctorDur_some (m : Mode) (a : Args) (p : XTP) (h : ctorDur m a = some p) :
    (a.truncated = false → a.year.isSome = true) ∧
    ∃ tz, mkTZ m (a.tzHour.getD 0) (a.tzMinute.getD 0) = some tz ∧ p = durPoint a tz := by
  rw [ctorDur_eq] at h
  simp only [Option.ite_none_left_eq_some] at h
  obtain ⟨_, _, _, _, hy, h⟩ := h
  cases hz : mkTZ m (a.tzHour.getD 0) (a.tzMinute.getD 0) with
  | none => rw [hz] at h; cases h
  | some tz =>
    simp only [hz, Option.ite_none_left_eq_some] at h
    refine ⟨fun ht => ?_, tz, rfl, (Option.some.inj h.2.2.2).symm⟩
    rw [ht] at hy
    cases hyr : a.year with
    | some _ => rfl
    | none => rw [hyr] at hy; exact absurd rfl hy

/-- The days of the `result_map`: the day of year of an ordinal date, else the day of month of a
    calendar date that has its month, else 0 (`days=None`). -/
def daysArg (doy month day : Option Int) : Int :=
  match doy with
  | some n => n
  | none => if month.isSome then day.getD 0 else 0

/-- The duration read off the point built from whole, non-truncated arguments with a year: a week date
    is refused; else every field as given, 0 where it is missing. -/
theorem durOf_durPoint (m : Mode) (a : Args) (tz : Spec.TZ) (y : Int) (ht : a.truncated = false)
    (hy : a.year = some y) (h1 : a.hourDec = none) (h2 : a.minuteDec = none) (h3 : a.secondDec = none) :
    durOf m (durPoint a tz) =
      if a.week.isSome then .err
      else .ok (.units y (a.month.getD 0) (daysArg a.doy a.month a.day)
        (a.hour.getD 0) (a.minute.getD 0) (a.second.getD 0)) := by
  have default0 : ∀ o : Option Int, (if o.isNone then some 0 else o) = some (o.getD 0) := fun o => by
    cases o <;> rfl
  unfold durOf durPoint
  simp only [ht, hy, h1, h2, h3, Bool.not_false, Bool.true_and, Option.isNone_none, default0,
    Option.getD_some, IsoDT.Lemmas.DurText.mkDur_units, Bool.and_self, if_true]
  rfl

/-- Months of the duration: the month group, else 0 (NOT 1: no defaults with `is_duration`). -/
def monthOf (de : Template) (v : Vals) : Nat := if hasGroup de .monthOfYear then v.month else 0

def daysOf (de : Template) (v : Vals) : Nat :=
  if hasGroup de .dayOfYear then v.doy else if hasGroup de .dayOfMonth then v.day else 0

/-- The duration a (date form, time form) spells for the values `v`: every present field as written,
    every omitted field ZERO. -/
def durOfVals (de te : Template) (v : Vals) : Dur :=
  .units (yearOf de v) (monthOf de v) (daysOf de v) (hourOf te v) (minuteOf te v) (secondOf te v)

theorem decOf_none (t : Template) (f : Fld) (s : List Char) (h : hasGroup t f = false) : decOf t f s = none := by
  unfold decOf
  rw [h]
  rfl

theorem argsOf_date (cfg : Cfg) (de te : Template) (zone : ZoneInfo) (v : Vals) (hd : dateShapeOK de = true)
    (a : Args) (ha : a = argsOf cfg de te zone v) :
    ((truthy a.month || truthy a.day) && (truthy a.week || truthy a.dow)) = false ∧
    ((truthy a.month || truthy a.day) && a.doy.isSome) = false ∧
    ((truthy a.week || truthy a.dow) && a.doy.isSome) = false ∧
    a.week.isSome = hasGroup de .weekOfYear ∧ a.month.getD 0 = monthOf de v ∧
    daysArg a.doy a.month a.day = daysOf de v := by
  subst ha
  have hd := dateShape_cases de hd
  simp only [datePattern, Prod.mk.injEq] at hd
  rcases hd with ⟨d1, d2, d3, d4, d5⟩ | ⟨d1, d2, d3, d4, d5⟩ | ⟨d1, d2, d3, d4, d5⟩ | ⟨d1, d2, d3, d4, d5⟩ |
    ⟨d1, d2, d3, d4, d5⟩ | ⟨d1, d2, d3, d4, d5⟩ <;>
  simp [argsOf, fieldOf, truthy, monthOf, daysOf, daysArg, d1, d2, d3, d4, d5]

/-- **Constructor and duration**: on the decoded arguments of any documented date pattern and any time
    form without a fraction, `TimePoint(..., is_duration=True)` never fails except through the zone,
    no bound is checked, and the duration built from it is `durOfVals` — or an error for a week date. -/
theorem durOf_ctorDur (m : Mode) (cfg : Cfg) (de te : Template) (zone : ZoneInfo) (v : Vals)
    (hd : dateShapeOK de = true)
    (hnd : hasGroup te .hourDec = false ∧ hasGroup te .minuteDec = false ∧ hasGroup te .secondDec = false) :
    altOfTP m (ctorDur m (argsOf cfg de te zone v)) =
      match mkTZ m (zone.hour.getD 0) (zone.minute.getD 0) with
      | none => .err
      | some _ => if hasGroup de .weekOfYear then .err else .ok (durOfVals de te v) := by
  have h1 : (argsOf cfg de te zone v).hourDec = none := decOf_none te _ _ hnd.1
  have h2 : (argsOf cfg de te zone v).minuteDec = none := decOf_none te _ _ hnd.2.1
  have h3 : (argsOf cfg de te zone v).secondDec = none := decOf_none te _ _ hnd.2.2
  -- without fractions, truncation or a missing year only the offset and the date clashes can refuse
  rw [ctorDur_eq, h1, h2, h3]
  show altOfTP m (match mkTZ m (zone.hour.getD 0) (zone.minute.getD 0) with
    | none => none
    | some tz => _) = _
  cases mkTZ m (zone.hour.getD 0) (zone.minute.getD 0) with
  | none => rfl
  | some tz =>
    obtain ⟨c1, c2, c3, hw, hmo, hdays⟩ := argsOf_date cfg de te zone v hd _ rfl
    simp only [c1, c2, c3, Bool.false_eq_true, if_false]
    show durOf m (durPoint _ tz) = _
    rw [durOf_durPoint m _ tz _ rfl rfl h1 h2 h3, hw, hmo, hdays]
    simp only [argsOf, fieldOf_getD]
    rfl

/-- Does `TimeZone(...)` accept the zone the text spells?  No zone, `Z`, `±hh`: always; `±hhmm` /
    `±hh:mm`: iff the minutes are below 60. -/
def zoneAccepted (zo : Option ZEntry) (v : Vals) : Bool :=
  match zo with
  | none => true
  | some ze => hasGroup ze.tmpl .tzUtc || !hasGroup ze.tmpl .tzMinute || decide (v.tzMinute < 60)

theorem zoneAccepted_spec (m : Mode) (zo : Option ZEntry) (v : Vals) (hH : v.tzHour < 100) :
    (mkTZ m ((zoneOf (altCfg m).zone (zo.map (·.tmpl)) v).hour.getD 0)
      ((zoneOf (altCfg m).zone (zo.map (·.tmpl)) v).minute.getD 0)).isSome = zoneAccepted zo v := by
  cases zo with
  | none => simp [zoneOf, altCfg, zoneAccepted, mkTZ_zero]
  | some ze =>
    simp only [Option.map_some, zoneAccepted]
    rw [mkTZ_zoneOf m _ ze.tmpl v hH]
    cases hasGroup ze.tmpl .tzUtc <;> cases hasGroup ze.tmpl .tzMinute <;>
      by_cases h60 : v.tzMinute < 60 <;> simp [h60]

/-- **The fallback on `date T time zone`**: every complete date form × every time form without a
    fraction × every zone form (or none) of the table, all values that fit the group widths — in
    particular month 00..99, day 00..99, ordinal day 000..999, hour 00..99, minute / second 00..99: the
    result is the duration with exactly the spelled components (`durOfVals`), whatever the zone says;
    an error exactly when the date is a week date or the zone minutes are 60 or more. -/
theorem parseAltDur_rendered (m : Mode)
    (de : Entry) (hde : de ∈ parser_2_all.dateEntries) (hdc : de.typ = .complete)
    (te : Entry) (hte : te ∈ parser_2_all.timeEntries) (htt : te.typ ≠ .truncated) (htf : te.fmt = de.fmt)
    (hnd : hasGroup te.tmpl .hourDec = false ∧ hasGroup te.tmpl .minuteDec = false ∧
      hasGroup te.tmpl .secondDec = false)
    (zo : Option ZEntry) (hzo : ∀ ze, zo = some ze → ze ∈ parser_2_all.zoneEntries ∧ ze.fmt = de.fmt)
    (v : Vals) (hv : v.Fit 2) :
    parseAltDur m (trender de.tmpl (envOf de.tmpl v) ++
        'T' :: (trender te.tmpl (envOf te.tmpl v) ++ zoneText zo v)) =
      if zoneAccepted zo v = true ∧ hasGroup de.tmpl .weekOfYear = false then
        .ok (durOfVals de.tmpl te.tmpl v)
      else .err := by
  have df := decodeFacts (altCfg m).pt (altCfg_mem m)
  obtain ⟨_, _, hds⟩ := df.dates de hde (by rw [hdc]; decide)
  unfold parseAltDur
  rw [parseAltTP_eq, C07_args (altCfg m) (altCfg_mem m) de hde hdc (fun h => absurd h (altCfg_ned_ne m)) te hte htt
    htf zo hzo v hv, Option.bind_some, durOf_ctorDur m (altCfg m) de.tmpl te.tmpl _ v hds hnd]
  have hz := zoneAccepted_spec m zo v (fit_nat 2 v hv .tzHour rfl)
  cases hm : mkTZ m ((zoneOf (altCfg m).zone (zo.map (·.tmpl)) v).hour.getD 0)
      ((zoneOf (altCfg m).zone (zo.map (·.tmpl)) v).minute.getD 0) with
  | none => rw [hm] at hz; simp [← hz]
  | some tz =>
    rw [hm] at hz
    cases hw : hasGroup de.tmpl .weekOfYear <;> simp [← hz]

/-- **The fallback on a date alone**: every complete or reduced date form of the table (`CC`, `CCYY`,
    `CCYY-MM`, `CCYYMMDD`, `CCYY-MM-DD`, `CCYYDDD`, `CCYY-DDD`, their signed variants with two expanded
    digits, and the week forms, which are refused). -/
theorem parseAltDur_date (m : Mode) (de : Entry)
    (hmem : de ∈ dateOrder parser_2_all (dateTypes false [])) (v : Vals) (hv : v.Fit 2) :
    parseAltDur m (trender de.tmpl (envOf de.tmpl v)) =
      if hasGroup de.tmpl .weekOfYear = false then .ok (durOfVals de.tmpl [] v) else .err := by
  have df := decodeFacts (altCfg m).pt (altCfg_mem m)
  obtain ⟨hde, hnt⟩ := dateOrder_nontrunc _ _ de hmem
  obtain ⟨_, _, hds⟩ := df.dates de hde hnt
  unfold parseAltDur
  rw [parseAltTP_eq, C07_args_date (altCfg m) (altCfg_mem m) de hmem hnt (Or.inl rfl)
    (fun h => absurd h (altCfg_ned_ne m)) v hv, Option.bind_some,
    durOf_ctorDur m (altCfg m) de.tmpl [] _ v hds ⟨rfl, rfl, rfl⟩]
  simp only [zoneOf, altCfg, Option.getD_some, mkTZ_zero]
  cases hasGroup de.tmpl .weekOfYear <;> simp

/-! ## Reaching the fallback: the designator regexes do not match -/

section Regex
open IsoDT.Model.DurText IsoDT.Lemmas.DurText

/-- `DURATION_REGEXES[0]` needs designator letters: a text whose first non-digit is none of `Y`, `M`,
    `D` and that is not empty (or a lone newline) is not matched. -/
theorem search0_none (s : List Char) (hY : fnd s ≠ some 'Y') (hM : fnd s ≠ some 'M') (hD : fnd s ≠ some 'D')
    (hE : DurText.atEnd s = false) : durRegex0.search ('P' :: s) = none := by
  rw [search_eq]
  unfold durRegex0
  rw [run_seq, run_lit, run_seq, opt_skip _ _ _ _ (run_digUnit_none .years 'Y' (by decide) s _ _ hY),
    run_seq, opt_skip _ _ _ _ (run_digUnit_none .months 'M' (by decide) s _ _ hM),
    opt_skip _ _ _ _ (run_digUnit_none .days 'D' (by decide) s _ _ hD)]
  simp [kEnd, hE]

/-- `DURATION_REGEXES[2]` is `^P\d+W$`: after the digits and the `W` the text must end. -/
theorem search2_none' (s : List Char)
    (h : fnd s ≠ some 'W' ∨ ∃ ds rest, s = ds ++ 'W' :: rest ∧ Digs ds ∧ ds ≠ [] ∧ DurText.atEnd rest = false) :
    durRegex2.search ('P' :: s) = none := by
  rcases h with h | ⟨ds, rest, rfl, hd, hne, hE⟩
  · exact search2_none s h
  · rw [search_eq]
    unfold durRegex2
    rw [run_seq, run_lit, run_digUnit .weeks 'W' (by decide) ds rest capEmpty kEnd hd hne]
    simp [kEnd, hE]

/-- **No designator regex matches** a text `P…` whose first non-digit character is none of the
    designator letters, that does not start with `T` and is not empty. -/
theorem firstMatch_alt_none (s : List Char)
    (hY : fnd s ≠ some 'Y') (hM : fnd s ≠ some 'M') (hD : fnd s ≠ some 'D')
    (hW : fnd s ≠ some 'W' ∨ ∃ ds rest, s = ds ++ 'W' :: rest ∧ Digs ds ∧ ds ≠ [] ∧ DurText.atEnd rest = false)
    (hT : ∀ t, s ≠ 'T' :: t) (hE : DurText.atEnd s = false) :
    DurText.firstMatch durRegexes ('P' :: s) = none := by
  simp only [durRegexes, DurText.firstMatch, search0_none s hY hM hD hE, search1_none s hY hM hD hT,
    search2_none' s hW]

theorem firstMatch_alt_none' (s : List Char)
    (hf : fnd s = none ∨ fnd s = some '-' ∨ fnd s = some '+' ∨ fnd s = some 'T')
    (hT : ∀ t, s ≠ 'T' :: t) (hE : DurText.atEnd s = false) :
    DurText.firstMatch durRegexes ('P' :: s) = none := by
  apply firstMatch_alt_none s _ _ _ (Or.inl _) hT hE <;>
    rcases hf with hf | hf | hf | hf <;> rw [hf] <;> decide

/-- No designator regex matches a text that does not start with `P`: each begins with the literal. -/
theorem firstMatch_not_P (c : Char) (s : List Char) (hc : c ≠ 'P') :
    DurText.firstMatch durRegexes (c :: s) = none := by
  have h : ∀ r, (Re.seq (.one (.chr 'P')) r).search (c :: s) = none := fun r => by
    rw [search_eq, run_seq, run_lit_ne _ _ _ _ _ hc]
  have h0 : durRegex0.search (c :: s) = none := h _
  have h1 : durRegex1.search (c :: s) = none := h _
  have h2 : durRegex2.search (c :: s) = none := h _
  simp only [durRegexes, DurText.firstMatch, h0, h1, h2]

theorem parseA_neg (m : Mode) (s : List Char) (h : ∀ c ∈ s, c.toNat < 128) :
    parseA m ('-' :: s) = parseBodyA m (-1) s := by
  unfold parseA
  rw [any_ge128_false _ (ascii_cons (by decide) h)]
  rfl

/-- **Sign rule, plus**: a leading `+` is never accepted (no regex and not the fallback: the text does
    not start with `P`). -/
theorem parseA_plus (m : Mode) (s : List Char) (hasc : ∀ c ∈ s, c.toNat < 128) :
    parseA m ('+' :: s) = .err := by
  unfold parseA
  rw [any_ge128_false _ (ascii_cons (by decide) hasc)]
  simp [parseBodyA, firstMatch_not_P '+' s (by decide)]

/-- **The fallback is reached, and the sign rule**: where no designator regex matches `P…`,
    `DurationParser.parse("P" + s)` is the fallback on `s`; with a leading `-` the fallback is skipped —
    whatever follows the `P` —, and a leading `+` is never accepted. -/
theorem parseA_of_none (m : Mode) (s : List Char) (hasc : ∀ c ∈ s, c.toNat < 128)
    (hnone : DurText.firstMatch durRegexes ('P' :: s) = none) :
    parseA m ('P' :: s) = (parseAltDur m s).toAR ∧ parseA m ('-' :: 'P' :: s) = .err ∧
      parseA m ('+' :: 'P' :: s) = .err := by
  have hP := ascii_cons (x := 'P') (by decide) hasc
  refine ⟨?_, ?_, parseA_plus m _ hP⟩
  · unfold parseA
    rw [any_ge128_false _ hP]
    simp [parseBodyA, hnone]
  · rw [parseA_neg m _ hP]
    simp [parseBodyA, hnone]

/-- A doubled minus, or a minus after the `P`… : `--P1Y` is refused as well. -/
theorem parseA_minus_not_P (m : Mode) (c : Char) (s : List Char) (hc : c ≠ 'P')
    (hasc : ∀ x ∈ c :: s, x.toNat < 128) : parseA m ('-' :: c :: s) = .err := by
  rw [parseA_neg m _ hasc]
  simp only [parseBodyA, firstMatch_not_P c s hc]
  split <;> simp

/-! ## `parseA` on designator texts: as `DurText.parse` -/

theorem parseBodyA_of_match (m : Mode) (sg : Int) (e : List Char)
    (h : (DurText.firstMatch durRegexes e).isSome = true) :
    parseBodyA m sg e = AR.ofPR (parseBody m sg e) := by
  unfold parseBodyA parseBody
  cases hf : DurText.firstMatch durRegexes e with
  | none => rw [hf] at h; cases h
  | some x =>
    obtain ⟨gs, cp⟩ := x
    simp only
    cases hc : DurText.convert sg cp gs Fields.zero with
    | ok f => rfl
    | error r => rfl

theorem firstMatch_desig (fy fmo fd : Option (List Char)) (ft : Option TimeF)
    (hy : GoodF fy) (hmo : GoodF fmo) (hd : GoodF fd) (ht : GoodT ft) :
    (DurText.firstMatch durRegexes (desig fy fmo fd ft)).isSome = true := by
  cases ft with
  | none => simp [durRegexes, DurText.firstMatch, search0_date fy fmo fd hy hmo hd]
  | some t =>
    obtain ⟨fh, fmi, fs⟩ := t
    obtain ⟨hh, hmi, hs⟩ := ht
    simp [durRegexes, DurText.firstMatch, search0_time_none fy fmo fd (fh, fmi, fs),
      search1_time fy fmo fd fh fmi fs hy hmo hd hh hmi hs]

theorem firstMatch_desigW (ds : List Char) (h : Digs ds) (hne : ds ≠ []) :
    (DurText.firstMatch durRegexes (desigW ds)).isSome = true := by
  unfold desigW
  cases h0 : durRegex0.search ('P' :: (ds ++ ['W'])) <;> cases h1 : durRegex1.search ('P' :: (ds ++ ['W'])) <;>
    simp [durRegexes, DurText.firstMatch, h0, h1, search2_weeks ds h hne]

/-- `parseA` and `DurText.parse` split the sign off in the same way, so they agree (up to `AR.ofPR`)
    wherever a designator regex matches what follows the sign. -/
theorem parseA_eq_parse (m : Mode) (s : List Char)
    (h : (∃ e, s = '-' :: e ∧ (DurText.firstMatch durRegexes e).isSome = true) ∨
      (∃ r, s = 'P' :: r) ∧ (DurText.firstMatch durRegexes s).isSome = true) :
    parseA m s = AR.ofPR (DurText.parse m s) := by
  unfold parseA DurText.parse
  split
  · rfl
  · rcases h with ⟨e, rfl, hm⟩ | ⟨⟨r, rfl⟩, hm⟩
    · exact parseBodyA_of_match m (-1) e hm
    · exact parseBodyA_of_match m 1 _ hm

/-- **`str()` output through `parseA`**: for every single-signed duration with binary64-exact time
    units, `parseA (str d)` is what `DurText.parse` gives (`C10_roundtrip`): `normal d`. -/
theorem parseA_str (m : Mode) (d : Dur) (hs : IsoDT.Props.C10.SingleSigned d) (hx : IsoDT.Props.C10.TimeExact d) :
    parseA m (toText d) = .ok (IsoDT.Props.C10.normal d) := by
  -- `str d` is a designator text, with or without a leading `-`
  have key : (∃ e, toText d = '-' :: e ∧ (DurText.firstMatch durRegexes e).isSome = true) ∨
      (∃ r, toText d = 'P' :: r) ∧ (DurText.firstMatch durRegexes (toText d)).isSome = true := by
    by_cases hnz : d.nonzero = true
    · cases d with
      | weeks w =>
        have hw : w ≠ 0 := by simpa [Dur.nonzero] using hnz
        have hm := firstMatch_desigW _ (natDigits_digs w.natAbs) (natDigits_ne_nil _)
        by_cases hpos : 0 < w
        · rw [toText_weeks_pos w hpos]; exact Or.inr ⟨⟨_, rfl⟩, hm⟩
        · rw [toText_weeks_neg w (by omega)]; exact Or.inl ⟨_, rfl, hm⟩
      | units y mo dd h mi s =>
        rcases hs with ⟨a1, a2, a3, a4, a5, a6⟩ | ⟨a1, a2, a3, a4, a5, a6⟩
        · rw [toText_units_pos y mo dd h mi s a1 a2 a3 a4 a5 a6 hnz]
          exact Or.inr ⟨⟨_, rfl⟩,
            firstMatch_desig _ _ _ _ (ofv_good y) (ofv_good mo) (ofv_good dd) (tOf_good h mi s)⟩
        · rw [toText_units_neg y mo dd h mi s a1 a2 a3 a4 a5 a6 hnz]
          exact Or.inl ⟨_, rfl, firstMatch_desig _ _ _ _ (ofv_good _) (ofv_good _) (ofv_good _) (tOf_good _ _ _)⟩
    · rw [toText_zero d (by simpa using hnz)]
      exact Or.inr ⟨⟨_, rfl⟩, firstMatch_desig (some ['0']) none none none
        (GoodF.some (Digs.cons (by decide) Digs.nil) (by simp)) GoodF.none GoodF.none trivial⟩
  rw [parseA_eq_parse m _ key, (IsoDT.Props.C10.C10_roundtrip m d hs hx).1]
  rfl

theorem renderW_eq (w v : Nat) : renderW w v = renderNat w v := by
  induction w with
  | zero => rfl
  | succ w ih => simp only [renderW, renderNat, ih, dch]

theorem digs_renderNat (w v : Nat) : Digs (renderNat w v) :=
  fun c hc => List.all_eq_true.mp (renderNat_digits w v) c hc

theorem fnd_digs (ds : List Char) (h : Digs ds) : fnd ds = none := by
  have := fnd_digs_append ds [] h
  simpa [fnd] using this

theorem fnd_digs_cons (ds : List Char) (c : Char) (t : List Char) (h : Digs ds) (hc : isDig c = false) :
    fnd (ds ++ c :: t) = some c := by
  rw [fnd_digs_append ds _ h, fnd_cons_nondig c t hc]

theorem renderNat_succ_ne_T (w v : Nat) (r t : List Char) : renderNat (w + 1) v ++ r ≠ 'T' :: t :=
  head_of_len_pos _ _ (digs_renderNat _ _) (by rw [renderNat_length]; omega) t

theorem atEnd_long (a b : Char) (r : List Char) : DurText.atEnd (a :: b :: r) = false := rfl

theorem atEnd_of_two_le (ds tl : List Char) (hl : 2 ≤ ds.length) : DurText.atEnd (ds ++ tl) = false :=
  match ds, hl with
  | _ :: _ :: _, _ => rfl

/-- The shape of the alternative texts met here: at least two digits, then nothing more, or a `-` or a
    `T` and any ASCII characters. -/
def AltShape (s : List Char) : Prop :=
  ∃ ds tl, s = ds ++ tl ∧ Digs ds ∧ 2 ≤ ds.length ∧ (tl = [] ∨ ∃ c t, tl = c :: t ∧ (c = '-' ∨ c = 'T')) ∧
    ∀ c ∈ tl, c.toNat < 128

theorem AltShape.digits (ds : List Char) (hd : Digs ds) (hl : 2 ≤ ds.length) : AltShape ds :=
  ⟨ds, [], (List.append_nil ds).symm, hd, hl, Or.inl rfl, fun _ h => nomatch h⟩

theorem AltShape.hyphen (ds t : List Char) (hd : Digs ds) (hl : 2 ≤ ds.length) (ht : ∀ c ∈ t, c.toNat < 128) :
    AltShape (ds ++ '-' :: t) :=
  ⟨ds, _, rfl, hd, hl, Or.inr ⟨_, _, rfl, Or.inl rfl⟩, ascii_cons (by decide) ht⟩

theorem AltShape.prepend (ds s : List Char) (hd : Digs ds) (h : AltShape s) : AltShape (ds ++ s) := by
  obtain ⟨ds', tl, rfl, hd', hl, htl, hasc⟩ := h
  exact ⟨ds ++ ds', tl, (List.append_assoc ds ds' tl).symm, hd.append hd',
    by rw [List.length_append]; omega, htl, hasc⟩

/-- **An alternative text through `DurationParser.parse`**: a text of that shape reaches the fallback;
    with a leading `-` it is refused (the fallback is skipped), with a leading `+` as well. -/
theorem parseA_of_alt (m : Mode) (s : List Char) (h : AltShape s) :
    parseA m ('P' :: s) = (parseAltDur m s).toAR ∧ parseA m ('-' :: 'P' :: s) = .err ∧
      parseA m ('+' :: 'P' :: s) = .err := by
  obtain ⟨ds, tl, rfl, hd, hl, htl, hasc⟩ := h
  refine parseA_of_none m _ (ascii_append (ascii_digs hd) hasc)
    (firstMatch_alt_none' _ ?_ (head_of_len_pos ds tl hd (by omega)) (atEnd_of_two_le ds tl hl))
  rcases htl with rfl | ⟨c, t, rfl, rfl | rfl⟩
  · rw [List.append_nil]; exact Or.inl (fnd_digs ds hd)
  · exact Or.inr (Or.inl (fnd_digs_cons ds '-' t hd (by decide)))
  · exact Or.inr (Or.inr (Or.inr (fnd_digs_cons ds 'T' t hd (by decide))))

/-- Likewise for a text that starts with the sign of an expanded year (`P+000004-03`, `P-000004`). -/
theorem parseA_of_alt_signed (m : Mode) (sg : Char) (rest : List Char) (r : AltR) (hsg : sg = '+' ∨ sg = '-')
    (hne : rest ≠ []) (hasc : ∀ c ∈ rest, c.toNat < 128) (h : parseAltDur m (sg :: rest) = r) :
    parseA m ('P' :: sg :: rest) = r.toAR ∧ parseA m ('-' :: 'P' :: sg :: rest) = .err ∧
      parseA m ('+' :: 'P' :: sg :: rest) = .err := by
  subst h
  refine parseA_of_none m _ (ascii_cons (by rcases hsg with rfl | rfl <;> decide) hasc)
    (firstMatch_alt_none' _ ?_ ?_ ?_)
  · rcases hsg with rfl | rfl
    · exact Or.inr (Or.inr (Or.inl (fnd_cons_nondig '+' rest (by decide))))
    · exact Or.inr (Or.inl (fnd_cons_nondig '-' rest (by decide)))
  · intro t e
    injection e with e _
    rcases hsg with rfl | rfl <;> exact absurd e (by decide)
  · match rest, hne with
    | _ :: _, _ => rfl

/-- Likewise for a basic week form `YYYYWww…`: the first non-digit is a `W`, but the text does not end
    after it, so `^P\d+W$` does not match either. -/
theorem parseA_of_alt_W (m : Mode) (ds rest : List Char) (hd : Digs ds) (hl : 2 ≤ ds.length)
    (hE : DurText.atEnd rest = false) (hasc : ∀ c ∈ rest, c.toNat < 128) :
    parseA m ('P' :: (ds ++ 'W' :: rest)) = (parseAltDur m (ds ++ 'W' :: rest)).toAR ∧
      parseA m ('-' :: 'P' :: (ds ++ 'W' :: rest)) = .err ∧ parseA m ('+' :: 'P' :: (ds ++ 'W' :: rest)) = .err := by
  have hf : fnd (ds ++ 'W' :: rest) = some 'W' := fnd_digs_cons ds 'W' _ hd (by decide)
  have hne : ds ≠ [] := by intro e; rw [e] at hl; cases hl
  exact parseA_of_none m _ (ascii_append (ascii_digs hd) (ascii_cons (by decide) hasc))
    (firstMatch_alt_none _ (by rw [hf]; decide) (by rw [hf]; decide) (by rw [hf]; decide)
      (Or.inr ⟨ds, _, rfl, hd, hne, hE⟩) (head_of_len_pos ds _ hd (by omega))
      (atEnd_of_two_le ds _ hl))

end Regex

/-! ## Texts no listed date form matches -/

theorem parseAltDur_no_info (m : Mode) (s : List Char) (h : getInfo (altCfg m) s = none) :
    parseAltDur m s = .err := by
  unfold parseAltDur
  rw [parseAltTP_eq, h]
  rfl

/-- A date text that no listed complete or reduced date form matches is refused — alone, and in front of
    a `T` and anything (truncated forms are never tried: `allow_truncated=False`). -/
theorem parseAltDur_refused_date (m : Mode) (date : List Char) (hT : timeDesignator ∉ date)
    (h : ∀ e ∈ dateOrder parser_2_all (dateTypes false []), tmatch e.tmpl date = none) :
    parseAltDur m date = .err ∧
      ∀ tail, timeDesignator ∉ tail → parseAltDur m (date ++ 'T' :: tail) = .err := by
  have hg : ∀ bad, getDateInfo (altCfg m) date bad = none := fun bad =>
    firstMatch_none _ _ fun e he => h e (dateOrder_mono _ _ _ (dateTypes_sub false bad) e he)
  refine ⟨parseAltDur_no_info m _ ?_, fun tail htail => parseAltDur_no_info m _ ?_⟩
  · unfold getInfo
    rw [splitOnChar_none _ _ hT]
    simp only [hg]
  · unfold getInfo
    rw [show ('T' : Char) = timeDesignator from rfl, splitOnChar_one _ _ _ hT htail]
    simp only [show (altCfg m).allowTruncated = false from rfl, Bool.and_false, hg, Bool.false_eq_true,
      if_false]

/-- The decidable check on a template `T`: no listed complete or reduced date form can match a text that
    `T` matches. -/
def refusedShape (T : Template) : Bool :=
  wf T && noT T && (dateOrder parser_2_all (dateTypes false [])).all (fun e => shapeDisjoint e.tmpl T)

/-- **Refused shapes**: every text spelled by a template that passes `refusedShape` (digit groups
    filled with any digits) is refused by the fallback, alone and in front of `T…`. -/
theorem parseAltDur_refused_shape (m : Mode) (T : Template) (hs : refusedShape T = true) (env : Env)
    (hf : fits T env = true) :
    parseAltDur m (trender T env) = .err ∧
      ∀ tail, timeDesignator ∉ tail → parseAltDur m (trender T env ++ 'T' :: tail) = .err := by
  simp only [refusedShape, Bool.and_eq_true, List.all_eq_true] at hs
  obtain ⟨⟨hw, hn⟩, hdis⟩ := hs
  have tf := tableFacts (altCfg m).pt (altCfg_mem m)
  apply parseAltDur_refused_date m _ (no_designator T hn env hf)
  intro e he
  exact shapeDisjoint_sound e.tmpl T (tf.dates e (dateOrder_sub _ _ e he)).1 hw (hdis e he) _ env
    (tmatch_trender T env hf)

end IsoDT.Model.DurTextAlt
