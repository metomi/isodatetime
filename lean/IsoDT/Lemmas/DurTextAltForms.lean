/-
  IsoDT.Lemmas.DurTextAltForms — the concrete spellings of the date-time-like alternative form of a
  duration (`DateSp`, `TimeSp`, `ZoneSp`, `WeekSp`): texts built from field values.  Each spelling is
  an entry of the live table, its text is that entry's rendering of the values, and its components are
  what the entry's groups denote; so the fallback on `date T time zone` is an instance of the
  table-driven `parseAltDur_rendered` / `parseAltDur_date`, composed from a date part, a time part and
  a zone part.  `AltSpelling` packages the outcome through `DurationParser.parse` for `Props/C10c`.
-/
import IsoDT.Lemmas.DurTextAlt

namespace IsoDT.Lemmas.DurTextAlt
open IsoDT IsoDT.Model IsoDT.Text IsoDT.Gen
open IsoDT.Model.DurText (toText renderW)
open IsoDT.Model.DurTextAlt
open IsoDT.Lemmas.DurText (Digs ascii_append ascii_cons ascii_digs)
open IsoDT.Props.C07 (zoneText)
open IsoDT.Props.C10 (normal normal_units SingleSigned TimeExact timeExact_of_lt C10_roundtrip)
open _root_.IsoDT.Gen.Templates (parser_2_all)

/-- The complete date spellings: calendar / ordinal, extended / basic. -/
inductive DateSp where
  | xc | bc | xo | bo
  deriving DecidableEq, Repr

/-- The date form of the live table. -/
def DateSp.entry : DateSp → Entry
  | .xc => ⟨.extended, .complete, ['C', 'C', 'Y', 'Y', '-', 'M', 'M', '-', 'D', 'D'],
      [.digits .century 2, .digits .yearOfCentury 2, .lit '-', .digits .monthOfYear 2, .lit '-',
       .digits .dayOfMonth 2]⟩
  | .bc => ⟨.basic, .complete, ['C', 'C', 'Y', 'Y', 'M', 'M', 'D', 'D'],
      [.digits .century 2, .digits .yearOfCentury 2, .digits .monthOfYear 2, .digits .dayOfMonth 2]⟩
  | .xo => ⟨.extended, .complete, ['C', 'C', 'Y', 'Y', '-', 'D', 'D', 'D'],
      [.digits .century 2, .digits .yearOfCentury 2, .lit '-', .digits .dayOfYear 3]⟩
  | .bo => ⟨.basic, .complete, ['C', 'C', 'Y', 'Y', 'D', 'D', 'D'],
      [.digits .century 2, .digits .yearOfCentury 2, .digits .dayOfYear 3]⟩

/-- `YYYY-MM-DD`, `YYYYMMDD`, `YYYY-DDD`, `YYYYDDD`. -/
def DateSp.text (sp : DateSp) (y mo d ddd : Nat) : List Char :=
  match sp with
  | .xc => renderW 4 y ++ '-' :: (renderW 2 mo ++ '-' :: renderW 2 d)
  | .bc => renderW 4 y ++ (renderW 2 mo ++ renderW 2 d)
  | .xo => renderW 4 y ++ '-' :: renderW 3 ddd
  | .bo => renderW 4 y ++ renderW 3 ddd

def DateSp.ext : DateSp → Bool
  | .xc | .xo => true
  | _ => false

/-- Months of the duration: as written in a calendar form, ZERO in an ordinal form. -/
def DateSp.months (sp : DateSp) (mo : Nat) : Nat :=
  match sp with
  | .xc | .bc => mo
  | _ => 0

def DateSp.days (sp : DateSp) (d ddd : Nat) : Nat :=
  match sp with
  | .xc | .bc => d
  | _ => ddd

/-- The time spellings without a fraction: `hh`, `hh:mm` / `hhmm`, `hh:mm:ss` / `hhmmss`. -/
inductive TimeSp where
  | h | hm | hms
  deriving DecidableEq, Repr

def TimeSp.entry : Bool → TimeSp → Entry
  | true, .h => ⟨.extended, .reduced, ['h', 'h'], [.digits .hourOfDay 2]⟩
  | false, .h => ⟨.basic, .reduced, ['h', 'h'], [.digits .hourOfDay 2]⟩
  | true, .hm => ⟨.extended, .reduced, ['h', 'h', ':', 'm', 'm'],
      [.digits .hourOfDay 2, .lit ':', .digits .minuteOfHour 2]⟩
  | false, .hm => ⟨.basic, .reduced, ['h', 'h', 'm', 'm'], [.digits .hourOfDay 2, .digits .minuteOfHour 2]⟩
  | true, .hms => ⟨.extended, .complete, ['h', 'h', ':', 'm', 'm', ':', 's', 's'],
      [.digits .hourOfDay 2, .lit ':', .digits .minuteOfHour 2, .lit ':', .digits .secondOfMinute 2]⟩
  | false, .hms => ⟨.basic, .complete, ['h', 'h', 'm', 'm', 's', 's'],
      [.digits .hourOfDay 2, .digits .minuteOfHour 2, .digits .secondOfMinute 2]⟩

def TimeSp.text (ext : Bool) (t : TimeSp) (h mi s : Nat) : List Char :=
  match t with
  | .h => renderW 2 h
  | .hm => if ext then renderW 2 h ++ ':' :: renderW 2 mi else renderW 2 h ++ renderW 2 mi
  | .hms => if ext then renderW 2 h ++ ':' :: (renderW 2 mi ++ ':' :: renderW 2 s)
      else renderW 2 h ++ (renderW 2 mi ++ renderW 2 s)

/-- Minutes / seconds of the duration: as written, ZERO when the form stops before them. -/
def TimeSp.minutes (t : TimeSp) (mi : Nat) : Nat :=
  match t with
  | .h => 0
  | _ => mi

def TimeSp.seconds (t : TimeSp) (s : Nat) : Nat :=
  match t with
  | .hms => s
  | _ => 0

/-- A zone spelling: none, `Z`, `±hh`, `±hhmm` (basic) / `±hh:mm` (extended). -/
inductive ZoneSp where
  | none | utc | hh (neg : Bool) (zh : Nat) | hhmm (neg : Bool) (zh zm : Nat)
  deriving DecidableEq, Repr

def ZoneSp.entry : Bool → ZoneSp → Option ZEntry
  | _, .none => Option.none
  | true, .utc => some ⟨.extended, ['Z'], [.group .tzUtc ['Z']]⟩
  | false, .utc => some ⟨.basic, ['Z'], [.group .tzUtc ['Z']]⟩
  | true, .hh _ _ => some ⟨.extended, ['+', 'h', 'h'], [.sign .tzSign, .digits .tzHour 2]⟩
  | false, .hh _ _ => some ⟨.basic, ['+', 'h', 'h'], [.sign .tzSign, .digits .tzHour 2]⟩
  | true, .hhmm _ _ _ => some ⟨.extended, ['+', 'h', 'h', ':', 'm', 'm'],
      [.sign .tzSign, .digits .tzHour 2, .lit ':', .digits .tzMinute 2]⟩
  | false, .hhmm _ _ _ => some ⟨.basic, ['+', 'h', 'h', 'm', 'm'],
      [.sign .tzSign, .digits .tzHour 2, .digits .tzMinute 2]⟩

def sgnChar (neg : Bool) : Char := if neg then '-' else '+'

def ZoneSp.text (ext : Bool) : ZoneSp → List Char
  | .none => []
  | .utc => ['Z']
  | .hh neg zh => sgnChar neg :: renderW 2 zh
  | .hhmm neg zh zm => if ext then sgnChar neg :: (renderW 2 zh ++ ':' :: renderW 2 zm)
      else sgnChar neg :: (renderW 2 zh ++ renderW 2 zm)

/-- `TimeZone(...)` accepts it: the minutes, if written, are below 60. -/
def ZoneSp.ok : ZoneSp → Bool
  | .hhmm _ _ zm => decide (zm < 60)
  | _ => true

def ZoneSp.Fit : ZoneSp → Prop
  | .hh _ zh => zh < 100
  | .hhmm _ zh zm => zh < 100 ∧ zm < 100
  | _ => True

def ZoneSp.neg : ZoneSp → Bool
  | .hh neg _ | .hhmm neg _ _ => neg
  | _ => false

def ZoneSp.hour : ZoneSp → Nat
  | .hh _ zh | .hhmm _ zh _ => zh
  | _ => 0

def ZoneSp.minute : ZoneSp → Nat
  | .hhmm _ _ zm => zm
  | _ => 0

/-- The field values of one alternative text: year `0000`–`9999` split into `CC` and `YY`, and what the
    zone writes. -/
def valsOf (y mo d ddd h mi s : Nat) (z : ZoneSp := .none) : Vals :=
  { cc := y / 100, yy := y % 100, month := mo, day := d, doy := ddd, hour := h, minute := mi, second := s,
    tzNeg := z.neg, tzHour := z.hour, tzMinute := z.minute }

theorem valsOf_fit (y mo d ddd h mi s : Nat) (z : ZoneSp) (hy : y < 10000) (hmo : mo < 100) (hd : d < 100)
    (hddd : ddd < 1000) (hh : h < 100) (hmi : mi < 100) (hs : s < 100) (hz : z.Fit) :
    (valsOf y mo d ddd h mi s z).Fit 2 := by
  have hzh : z.hour < 100 ∧ z.minute < 100 := by
    cases z with
    | hh _ _ => exact ⟨hz, Nat.zero_lt_succ _⟩
    | hhmm _ _ _ => exact hz
    | _ => exact ⟨Nat.zero_lt_succ _, Nat.zero_lt_succ _⟩
  simp only [Vals.Fit, valsOf]
  exact ⟨by decide, by omega, by omega, hmo, hd, hddd, by decide, by decide, hh, hmi, hs, hzh.1, hzh.2, by decide⟩

/-- `100·CC + YY` is the year again, in the shape `yearOf` computes to on `valsOf` for a form with
    century and year-of-century groups only (the leading 0 is the absent expanded-year part). -/
theorem year_join (y : Nat) : ((0 + 100 * (y / 100) + y % 100 : Nat) : Int) = y := by
  omega

theorem render_year_app (y : Nat) (X : List Char) :
    renderNat 2 (y / 100) ++ (renderNat 2 (y % 100) ++ X) = renderNat 4 y ++ X := by
  rw [← List.append_assoc, ← renderNat_four]

def fmtOf (ext : Bool) : FormatKey := if ext then .extended else .basic

theorem DateSp.entry_spec (sp : DateSp) :
    sp.entry ∈ parser_2_all.dateEntries ∧ sp.entry.typ = .complete ∧ sp.entry.fmt = fmtOf sp.ext ∧
      hasGroup sp.entry.tmpl .weekOfYear = false := by
  cases sp <;> exact ⟨by decide +kernel, rfl, rfl, rfl⟩

theorem DateSp.trender_entry (sp : DateSp) (y mo d ddd h mi s : Nat) (z : ZoneSp) :
    trender sp.entry.tmpl (envOf sp.entry.tmpl (valsOf y mo d ddd h mi s z)) = sp.text y mo d ddd := by
  cases sp <;> simp only [DateSp.text, renderW_eq, ← render_year_app] <;> rfl

theorem DateSp.durOfVals_entry (sp : DateSp) (te : Template) (y mo d ddd h mi s : Nat) (z : ZoneSp) :
    durOfVals sp.entry.tmpl te (valsOf y mo d ddd h mi s z) =
      .units y (sp.months mo) (sp.days d ddd) (hourOf te (valsOf y mo d ddd h mi s z))
        (minuteOf te (valsOf y mo d ddd h mi s z)) (secondOf te (valsOf y mo d ddd h mi s z)) := by
  cases sp <;> exact congrArg (Dur.units · _ _ _ _ _) (year_join y)

theorem TimeSp.entry_spec (ext : Bool) (t : TimeSp) :
    t.entry ext ∈ parser_2_all.timeEntries ∧ (t.entry ext).typ ≠ .truncated ∧ (t.entry ext).fmt = fmtOf ext ∧
      (hasGroup (t.entry ext).tmpl .hourDec = false ∧ hasGroup (t.entry ext).tmpl .minuteDec = false ∧
        hasGroup (t.entry ext).tmpl .secondDec = false) := by
  cases ext <;> cases t <;> exact ⟨by decide +kernel, by decide, rfl, rfl, rfl, rfl⟩

theorem TimeSp.trender_entry (ext : Bool) (t : TimeSp) (y mo d ddd h mi s : Nat) (z : ZoneSp) :
    trender (t.entry ext).tmpl (envOf (t.entry ext).tmpl (valsOf y mo d ddd h mi s z)) = t.text ext h mi s := by
  cases ext <;> cases t <;> simp only [TimeSp.text, renderW_eq] <;> rfl

theorem TimeSp.units_entry (ext : Bool) (t : TimeSp) (v : Vals) :
    hourOf (t.entry ext).tmpl v = v.hour ∧ minuteOf (t.entry ext).tmpl v = t.minutes v.minute ∧
      secondOf (t.entry ext).tmpl v = t.seconds v.second := by
  cases ext <;> cases t <;> exact ⟨rfl, rfl, rfl⟩

theorem ZoneSp.entry_spec (ext : Bool) (z : ZoneSp) (ze : ZEntry) (h : z.entry ext = some ze) :
    ze ∈ parser_2_all.zoneEntries ∧ ze.fmt = fmtOf ext := by
  cases ext <;> cases z <;> cases h <;> exact ⟨by decide +kernel, rfl⟩

theorem ZoneSp.zoneText_entry (ext : Bool) (z : ZoneSp) (y mo d ddd h mi s : Nat) :
    zoneText (z.entry ext) (valsOf y mo d ddd h mi s z) = z.text ext := by
  cases ext <;> cases z <;> simp only [ZoneSp.text, renderW_eq] <;> rfl

theorem ZoneSp.zoneAccepted_entry (ext : Bool) (z : ZoneSp) (y mo d ddd h mi s : Nat) :
    zoneAccepted (z.entry ext) (valsOf y mo d ddd h mi s z) = z.ok := by
  cases ext <;> cases z <;> rfl

/-- **The fallback on `date T time [zone]`, concretely**: every complete date spelling × `hh`,
    `hh:mm` / `hhmm`, `hh:mm:ss` / `hhmmss` × no zone, `Z`, `±hh`, `±hhmm` / `±hh:mm`, all field values
    of the right width. -/
theorem alt_date_time_zone (m : Mode) (sp : DateSp) (t : TimeSp) (z : ZoneSp) (y mo d ddd h mi s : Nat)
    (hy : y < 10000) (hmo : mo < 100) (hd : d < 100) (hddd : ddd < 1000) (hh : h < 100) (hmi : mi < 100)
    (hs : s < 100) (hz : z.Fit) :
    parseAltDur m (sp.text y mo d ddd ++ 'T' :: (t.text sp.ext h mi s ++ z.text sp.ext)) =
      if z.ok then .ok (.units y (sp.months mo) (sp.days d ddd) h (t.minutes mi) (t.seconds s)) else .err := by
  obtain ⟨hde, hdc, hdf, hweek⟩ := sp.entry_spec
  obtain ⟨hte, htt, htf, hnd⟩ := TimeSp.entry_spec sp.ext t
  obtain ⟨f1, f2, f3⟩ := TimeSp.units_entry sp.ext t (valsOf y mo d ddd h mi s z)
  have key := parseAltDur_rendered m sp.entry hde hdc (t.entry sp.ext) hte htt (htf.trans hdf.symm) hnd
    (z.entry sp.ext) (fun ze hze => hdf ▸ z.entry_spec sp.ext ze hze) (valsOf y mo d ddd h mi s z)
    (valsOf_fit y mo d ddd h mi s z hy hmo hd hddd hh hmi hs hz)
  rw [sp.trender_entry, t.trender_entry, z.zoneText_entry, z.zoneAccepted_entry, hweek, sp.durOfVals_entry,
    f1, f2, f3] at key
  rw [key]
  cases z.ok <;> rfl

theorem alt_date (m : Mode) (sp : DateSp) (y mo d ddd : Nat)
    (hy : y < 10000) (hmo : mo < 100) (hd : d < 100) (hddd : ddd < 1000) :
    parseAltDur m (sp.text y mo d ddd) = .ok (.units y (sp.months mo) (sp.days d ddd) 0 0 0) := by
  obtain ⟨hde, hdc, _, hweek⟩ := sp.entry_spec
  have hmem : sp.entry ∈ dateOrder parser_2_all (dateTypes false []) :=
    mem_dateOrder _ _ _ hde ((tableFacts _ (altCfg_mem m)).dates _ hde).2.2 (by rw [hdc]; decide)
  have key := parseAltDur_date m sp.entry hmem (valsOf y mo d ddd 0 0 0)
    (valsOf_fit y mo d ddd 0 0 0 .none hy hmo hd hddd (by decide) (by decide) (by decide) trivial)
  rw [sp.trender_entry, hweek, sp.durOfVals_entry] at key
  exact key

theorem alt_year (m : Mode) (y : Nat) (hy : y < 10000) :
    parseAltDur m (renderW 4 y) = .ok (.units y 0 0 0 0 0) := by
  have key := parseAltDur_date m
    ⟨.basic, .reduced, ['C', 'C', 'Y', 'Y'], [.digits .century 2, .digits .yearOfCentury 2]⟩
    (by decide +kernel) (valsOf y 0 0 0 0 0 0)
    (valsOf_fit y 0 0 0 0 0 0 .none hy (by decide) (by decide) (by decide) (by decide) (by decide) (by decide)
      trivial)
  rw [renderW_eq, ← List.append_nil (renderNat 4 y), ← render_year_app]
  exact key.trans (congrArg (fun n => AltR.ok (.units n 0 0 0 0 0)) (year_join y))

/-- `CC`: a two-digit text is a CENTURY — `P20` is 2000 years. -/
theorem alt_century (m : Mode) (c : Nat) (hc : c < 100) :
    parseAltDur m (renderW 2 c) = .ok (.units (100 * c) 0 0 0 0 0) := by
  have hv : ({ cc := c } : Vals).Fit 2 := by
    simp only [Vals.Fit]
    exact ⟨by decide, hc, by decide⟩
  have key := parseAltDur_date m ⟨.basic, .reduced, ['C', 'C'], [.digits .century 2]⟩
    (by decide +kernel) { cc := c } hv
  rw [renderW_eq, ← List.append_nil (renderNat 2 c)]
  exact key.trans (congrArg (fun n => AltR.ok (.units n 0 0 0 0 0)) (by omega : ((0 + 100 * c + 0 : Nat) : Int) = 100 * c))

/-- `YYYY-MM`: years and months; the days are ZERO (Python passes `days=None`, which
    `Duration.__init__` turns into `DAYS_IN_WEEK * weeks = 0`). -/
theorem alt_year_month (m : Mode) (y mo : Nat) (hy : y < 10000) (hmo : mo < 100) :
    parseAltDur m (renderW 4 y ++ '-' :: renderW 2 mo) = .ok (.units y mo 0 0 0 0) := by
  have key := parseAltDur_date m
    ⟨.basic, .reduced, ['C', 'C', 'Y', 'Y', '-', 'M', 'M'],
      [.digits .century 2, .digits .yearOfCentury 2, .lit '-', .digits .monthOfYear 2]⟩
    (by decide +kernel) (valsOf y mo 0 0 0 0 0)
    (valsOf_fit y mo 0 0 0 0 0 .none hy hmo (by decide) (by decide) (by decide) (by decide) (by decide) trivial)
  rw [renderW_eq, renderW_eq, ← List.append_nil (renderNat 2 mo), ← render_year_app]
  exact key.trans (congrArg (fun n => AltR.ok (.units n mo 0 0 0 0)) (year_join y))

/-- What it means for the alternative text `P<text>` to spell the duration `D`:
    * `DurationParser.parse("P" + text)` is `D` (every component a number, omitted ones 0);
    * the designator spelling `str(D)` parses to the same `D` — so the two spellings denote EQUAL
      durations (`==`, `hash`, `get_seconds`, `+` see the same object state);
    * with a leading `-` or `+` the alternative text is refused. -/
structure AltSpelling (m : Mode) (text : List Char) (D : Dur) : Prop where
  alt : parseA m ('P' :: text) = .ok D
  desig : parseA m (toText D) = .ok D ∧ DurText.parse m (toText D) = .ok D
  minus : parseA m ('-' :: 'P' :: text) = .err
  plus : parseA m ('+' :: 'P' :: text) = .err

theorem AltSpelling.cast {m : Mode} {s t : List Char} {D : Dur} (hs : AltSpelling m s D) (h : s = t) :
    AltSpelling m t D := h ▸ hs

/-- From the fallback's answer to the full statement, for a text of the shape `parseA_of_alt` handles;
    the designator half is `C10_roundtrip` (non-negative components, time units below 2^53). -/
theorem altSpelling_of (m : Mode) (text : List Char) (y mo d h mi s : Nat) (hs : AltShape text)
    (hh : h < 100) (hmi : mi < 100) (hs' : s < 100) (hp : parseAltDur m text = .ok (.units y mo d h mi s)) :
    AltSpelling m text (.units y mo d h mi s) := by
  obtain ⟨h1, h2, h3⟩ := parseA_of_alt m text hs
  have hss : SingleSigned (.units y mo d h mi s) :=
    Or.inl ⟨Int.natCast_nonneg _, Int.natCast_nonneg _, Int.natCast_nonneg _, Int.natCast_nonneg _,
      Int.natCast_nonneg _, Int.natCast_nonneg _⟩
  have hx : TimeExact (.units y mo d h mi s) :=
    timeExact_of_lt _ _ _ _ _ _ (by omega) (by omega) (by omega)
  have d1 := parseA_str m _ hss hx
  have d2 := (C10_roundtrip m _ hss hx).1
  rw [normal_units] at d1 d2
  rw [hp] at h1
  exact ⟨h1, ⟨d1, d2⟩, h2, h3⟩

theorem ascii_renderNat (w v : Nat) : ∀ c ∈ renderNat w v, c.toNat < 128 := ascii_digs (digs_renderNat w v)

/-- A date spelling, alone or in front of `T…`, has the shape `parseA_of_alt` asks for: the basic forms
    are all digits, the extended ones four digits and a `-`. -/
theorem DateSp.altShape (sp : DateSp) (y mo d ddd : Nat) (X : List Char) (hX : X = [] ∨ ∃ t, X = 'T' :: t)
    (hasc : ∀ c ∈ X, c.toNat < 128) : AltShape (sp.text y mo d ddd ++ X) := by
  have dg := digs_renderNat
  have a := ascii_renderNat
  have l : ∀ w v, 2 ≤ w → 2 ≤ (renderNat w v).length := fun w v h => by rw [renderNat_length]; exact h
  have hX' : X = [] ∨ ∃ c t, X = c :: t ∧ (c = '-' ∨ c = 'T') := hX.imp id fun ⟨t, e⟩ => ⟨_, t, e, Or.inr rfl⟩
  cases sp <;> simp only [DateSp.text, renderW_eq, List.append_assoc, List.cons_append]
  · exact .hyphen _ _ (dg 4 y) (l 4 y (by decide))
      (ascii_append (a 2 mo) (ascii_cons (by decide) (ascii_append (a 2 d) hasc)))
  · exact .prepend _ _ (dg 4 y) (.prepend _ _ (dg 2 mo) ⟨_, X, rfl, dg 2 d, l 2 d (by decide), hX', hasc⟩)
  · exact .hyphen _ _ (dg 4 y) (l 4 y (by decide)) (ascii_append (a 3 ddd) hasc)
  · exact .prepend _ _ (dg 4 y) ⟨_, X, rfl, dg 3 ddd, l 3 ddd (by decide), hX', hasc⟩

theorem TimeSp.text_ascii (ext : Bool) (t : TimeSp) (h mi s : Nat) : ∀ c ∈ t.text ext h mi s, c.toNat < 128 := by
  have d := ascii_renderNat 2
  have colon : (':' : Char).toNat < 128 := by decide
  cases ext <;> cases t <;> simp only [TimeSp.text, renderW_eq, ↓reduceIte, Bool.false_eq_true]
  · exact d h
  · exact ascii_append (d h) (d mi)
  · exact ascii_append (d h) (ascii_append (d mi) (d s))
  · exact d h
  · exact ascii_append (d h) (ascii_cons colon (d mi))
  · exact ascii_append (d h) (ascii_cons colon (ascii_append (d mi) (ascii_cons colon (d s))))

theorem sgnChar_ascii (neg : Bool) : (sgnChar neg).toNat < 128 := by cases neg <;> decide

theorem ZoneSp.text_ascii (ext : Bool) (z : ZoneSp) : ∀ c ∈ z.text ext, c.toNat < 128 := by
  have d := ascii_renderNat 2
  cases z with
  | none => exact fun _ h => nomatch h
  | utc => exact ascii_cons (by decide) fun _ h => nomatch h
  | hh neg zh => exact ascii_cons (sgnChar_ascii neg) (renderW_eq 2 zh ▸ d zh)
  | hhmm neg zh zm =>
    cases ext <;> simp only [ZoneSp.text, renderW_eq, ↓reduceIte, Bool.false_eq_true]
    · exact ascii_cons (sgnChar_ascii neg) (ascii_append (d zh) (d zm))
    · exact ascii_cons (sgnChar_ascii neg) (ascii_append (d zh) (ascii_cons (by decide) (d zm)))

theorem DateSp.altShape_time (sp : DateSp) (t : TimeSp) (z : ZoneSp) (y mo d ddd h mi s : Nat) :
    AltShape (sp.text y mo d ddd ++ 'T' :: (t.text sp.ext h mi s ++ z.text sp.ext)) :=
  sp.altShape y mo d ddd _ (Or.inr ⟨_, rfl⟩)
    (ascii_cons (by decide) (ascii_append (t.text_ascii _ h mi s) (z.text_ascii _)))

/-- The week-date spellings: `YYYY-Www-D`, `YYYYWwwD`, `YYYY-Www`, `YYYYWww`. -/
inductive WeekSp where
  | xw | bw | xwr | bwr
  deriving DecidableEq, Repr

def WeekSp.entry : WeekSp → Entry
  | .xw => ⟨.extended, .complete, ['C', 'C', 'Y', 'Y', '-', 'W', 'w', 'w', '-', 'D'],
      [.digits .century 2, .digits .yearOfCentury 2, .lit '-', .lit 'W', .digits .weekOfYear 2, .lit '-',
       .digits .dayOfWeek 1]⟩
  | .bw => ⟨.basic, .complete, ['C', 'C', 'Y', 'Y', 'W', 'w', 'w', 'D'],
      [.digits .century 2, .digits .yearOfCentury 2, .lit 'W', .digits .weekOfYear 2, .digits .dayOfWeek 1]⟩
  | .xwr => ⟨.extended, .reduced, ['C', 'C', 'Y', 'Y', '-', 'W', 'w', 'w'],
      [.digits .century 2, .digits .yearOfCentury 2, .lit '-', .lit 'W', .digits .weekOfYear 2]⟩
  | .bwr => ⟨.basic, .reduced, ['C', 'C', 'Y', 'Y', 'W', 'w', 'w'],
      [.digits .century 2, .digits .yearOfCentury 2, .lit 'W', .digits .weekOfYear 2]⟩

def WeekSp.text (sp : WeekSp) (y w k : Nat) : List Char :=
  match sp with
  | .xw => renderW 4 y ++ '-' :: 'W' :: (renderW 2 w ++ '-' :: renderW 1 k)
  | .bw => renderW 4 y ++ 'W' :: (renderW 2 w ++ renderW 1 k)
  | .xwr => renderW 4 y ++ '-' :: 'W' :: renderW 2 w
  | .bwr => renderW 4 y ++ 'W' :: renderW 2 w

theorem WeekSp.entry_spec (sp : WeekSp) :
    sp.entry ∈ dateOrder parser_2_all (dateTypes false []) ∧ hasGroup sp.entry.tmpl .weekOfYear = true := by
  cases sp <;> exact ⟨by decide +kernel, rfl⟩

theorem WeekSp.trender_entry (sp : WeekSp) (y w k : Nat) :
    trender sp.entry.tmpl (envOf sp.entry.tmpl { cc := y / 100, yy := y % 100, week := w, dow := k }) =
      sp.text y w k := by
  cases sp <;> simp only [WeekSp.text, renderW_eq, ← render_year_app] <;> rfl

/-- Every week-date spelling is read by the time point parser and then refused. -/
theorem alt_week (m : Mode) (sp : WeekSp) (y w k : Nat) (hy : y < 10000) (hw : w < 100) (hk : k < 10) :
    parseAltDur m (sp.text y w k) = .err := by
  have hv : ({ cc := y / 100, yy := y % 100, week := w, dow := k } : Vals).Fit 2 := by
    simp only [Vals.Fit]
    exact ⟨by decide, by omega, by omega, by decide, by decide, by decide, hw, hk, by decide⟩
  have key := parseAltDur_date m sp.entry sp.entry_spec.1 _ hv
  rw [sp.trender_entry, sp.entry_spec.2] at key
  exact key

end IsoDT.Lemmas.DurTextAlt
