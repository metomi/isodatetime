/-
  IsoDT.Lemmas.Rec — recurrences in terms of instants.  The bounds test compares instants; the
  neighbours are one addition filtered by the bounds test; and the loop of `__iter__` is the
  series of repeated additions of the interval (of its negation when iterating backwards) cut at
  the first point out of bounds.  What one addition does to the instant (`Climbs`) is all that
  distinguishes an exact interval from a month/year one.  For an exact positive interval the
  series is arithmetic in the instant (`ExactRec`, `SeriesOK`); last, what the constructor stores
  for each notation.  `Lemmas/RecurrenceQ.lean` is the counterpart over rational points.
-/
import IsoDT.Lemmas.Nominal
import IsoDT.Lemmas.Dur

namespace IsoDT.Lemmas
open IsoDT IsoDT.Model
open IsoDT.Spec (Date TZ TP)

theorem tpLt_iff (m : Mode) (a b : TP) (ha : a.Valid m) (hb : b.Valid m) :
    tpLt m a b = true ↔ a.inst m < b.inst m := by
  unfold tpLt; rw [cmp_spec m a b ha hb]
  simp only [beq_iff_eq, Option.some.injEq, sgn_neg_iff]; omega

theorem tpGt_iff (m : Mode) (a b : TP) (ha : a.Valid m) (hb : b.Valid m) :
    tpGt m a b = true ↔ a.inst m > b.inst m := by
  unfold tpGt; rw [cmp_spec m a b ha hb]
  simp only [beq_iff_eq, Option.some.injEq, sgn_one_iff]; omega

theorem tpEq_iff (m : Mode) (a b : TP) (ha : a.Valid m) (hb : b.Valid m) :
    tpEq m a b = true ↔ a.inst m = b.inst m := by
  unfold tpEq; rw [cmp_spec m a b ha hb]
  simp only [beq_iff_eq, Option.some.injEq, sgn_zero_iff]; omega

theorem tpLe_iff (m : Mode) (a b : TP) (ha : a.Valid m) (hb : b.Valid m) :
    tpLe m a b = true ↔ a.inst m ≤ b.inst m := by
  unfold tpLe
  rw [Bool.or_eq_true, tpLt_iff m a b ha hb, tpEq_iff m a b ha hb]; omega

/-! ### the bounds test -/

/-- The test against an optional lower bound (`start`, `min_point`), as instants. -/
theorem notLt_iff (m : Mode) (o : Option TP) (p : TP) (hp : p.Valid m) (ho : ∀ s, o = some s → s.Valid m) :
    (match (generalizing := false) o with | some s => !tpLt m p s | none => true) = true ↔
      ∀ s, o = some s → s.inst m ≤ p.inst m := by
  cases o with
  | none => exact ⟨fun _ _ h => (nomatch h), fun _ => rfl⟩
  | some s =>
    show (!tpLt m p s) = true ↔ _
    rw [Bool.not_eq_true', ← Bool.not_eq_true, tpLt_iff m p s hp (ho s rfl)]
    exact ⟨fun h s' hs' => by cases hs'; omega, fun h => by have := h s rfl; omega⟩

/-- The test against an optional upper bound (`end`, `max_point`), as instants. -/
theorem notGt_iff (m : Mode) (o : Option TP) (p : TP) (hp : p.Valid m) (ho : ∀ e, o = some e → e.Valid m) :
    (match (generalizing := false) o with | some e => !tpGt m p e | none => true) = true ↔
      ∀ e, o = some e → p.inst m ≤ e.inst m := by
  cases o with
  | none => exact ⟨fun _ _ h => (nomatch h), fun _ => rfl⟩
  | some e =>
    show (!tpGt m p e) = true ↔ _
    rw [Bool.not_eq_true', ← Bool.not_eq_true, tpGt_iff m p e hp (ho e rfl)]
    exact ⟨fun h e' he' => by cases he'; omega, fun h => by have := h e rfl; omega⟩

theorem some_ne_one {n : Int} (hn : 2 ≤ n) : (some n : Option Int) ≠ some 1 :=
  fun h => by cases h; exact absurd hn (by decide)

theorem inBounds_iff (m : Mode) (r : Rec) (hsv : ∀ s, r.start = some s → s.Valid m)
    (hev : ∀ e, r.end_ = some e → e.Valid m) (p : TP) (hp : p.Valid m) :
    inBounds m r p = true ↔
      (∀ s, r.start = some s → s.inst m ≤ p.inst m) ∧ (∀ e, r.end_ = some e → p.inst m ≤ e.inst m) := by
  unfold inBounds
  rw [Bool.and_eq_true]
  exact and_congr (notLt_iff m r.start p hp hsv) (notGt_iff m r.end_ p hp hev)

theorem inBounds_congr (m : Mode) (r : Rec) (hsv : ∀ s, r.start = some s → s.Valid m)
    (hev : ∀ e, r.end_ = some e → e.Valid m) (p q : TP) (hp : p.Valid m) (hq : q.Valid m)
    (h : q.inst m = p.inst m) : inBounds m r q = inBounds m r p := by
  rw [Bool.eq_iff_iff, inBounds_iff m r hsv hev p hp, inBounds_iff m r hsv hev q hq, h]

theorem inBounds_iff_end (m : Mode) (r : Rec) (hsv : ∀ s, r.start = some s → s.Valid m)
    (hev : ∀ e, r.end_ = some e → e.Valid m) (s : TP) (hs : r.start = some s) (q : TP) (hq : q.Valid m)
    (hsq : s.inst m ≤ q.inst m) :
    inBounds m r q = true ↔ ∀ e, r.end_ = some e → q.inst m ≤ e.inst m := by
  rw [inBounds_iff m r hsv hev q hq]
  exact and_iff_right fun s' h => by rw [hs] at h; cases h; exact hsq

theorem inBounds_false_of_lt_start (m : Mode) (r : Rec) (s p : TP) (hs : r.start = some s)
    (h : tpLt m p s = true) : inBounds m r p = false := by
  unfold inBounds; simp only [hs, h, Bool.not_true, Bool.false_and]

theorem inBounds_false_of_gt_end (m : Mode) (r : Rec) (e p : TP) (he : r.end_ = some e)
    (h : tpGt m p e = true) : inBounds m r p = false := by
  unfold inBounds; simp only [he, h, Bool.not_true, Bool.and_false]

/-! ### the neighbours -/

theorem getNext_eq (m : Mode) (r : Rec) (d : Dur) (hd : r.dur = some d) (hm : r.reps ≠ some 1) (p : TP) :
    getNext m r p = (addDur m p d).filter (inBounds m r) := by
  unfold getNext
  rw [if_neg hm, hd]
  dsimp only
  cases addDur m p d <;> rfl

theorem getPrev_eq (m : Mode) (r : Rec) (d : Dur) (hd : r.dur = some d) (hm : r.reps ≠ some 1) (p : TP) :
    getPrev m r p = (subDur m p d).filter (inBounds m r) := by
  unfold getPrev
  rw [if_neg hm, hd]
  dsimp only
  cases subDur m p d <;> rfl

theorem step_inBounds (m : Mode) (r : Rec) (rev : Bool) (p q : TP)
    (h : (if rev then getPrev m r p else getNext m r p) = some q) : inBounds m r q = true := by
  by_cases hm : r.reps = some 1
  · cases rev <;> simp [getNext, getPrev, hm] at h
  · cases hd : r.dur with
    | none => cases rev <;> simp [getNext, getPrev, hm, hd] at h
    | some d =>
      rw [getPrev_eq m r d hd hm, getNext_eq m r d hd hm] at h
      cases rev
      · exact (Option.filter_eq_some_iff.mp h).2
      · exact (Option.filter_eq_some_iff.mp h).2

/-! ### repeated addition -/

/-- `p, p + d, (p + d) + d, …`: `n` points, each the previous one plus `d` (one `__add__`); the
    list stops early only if an addition fails. -/
def repeatAdd (m : Mode) (d : Dur) : Nat → TP → List TP
  | 0, _ => []
  | k + 1, p => p :: (match addDur m p d with
                      | some q => repeatAdd m d k q
                      | none => [])

/-- `p, p − d, (p − d) − d, …`: `n` points, each the previous one minus `d` (one `__sub__`). -/
def repeatSub (m : Mode) (d : Dur) : Nat → TP → List TP
  | 0, _ => []
  | k + 1, p => p :: (match subDur m p d with
                      | some q => repeatSub m d k q
                      | none => [])

/-- Subtracting is adding the negation (`TimePoint.__sub__`), so the backward series is a forward
    series; everything below is stated for `repeatAdd` and read off for `repeatSub` through this. -/
theorem repeatSub_eq (m : Mode) (d : Dur) : repeatSub m d = repeatAdd m (d.mul (-1)) := by
  funext n
  induction n with
  | zero => rfl
  | succ k ih => funext p; simp only [repeatSub, repeatAdd, subDur, ih]

theorem repeatAdd_head (m : Mode) (d : Dur) (n : Nat) (p : TP) (hn : 1 ≤ n) :
    (repeatAdd m d n p).head? = some p := by
  cases n with
  | zero => omega
  | succ k => rfl

theorem repeatAdd_chain (m : Mode) (d : Dur) : ∀ (n : Nat) (p : TP)
    (i : Nat) (h : i + 1 < (repeatAdd m d n p).length),
      addDur m ((repeatAdd m d n p)[i]'(by omega)) d = some ((repeatAdd m d n p)[i + 1]) := by
  intro n
  induction n with
  | zero => intro p i h; simp [repeatAdd] at h
  | succ k ih =>
    intro p i h
    cases e : addDur m p d with
    | none => simp [repeatAdd, e] at h
    | some q =>
      simp only [repeatAdd, e] at h ⊢
      cases i with
      | zero =>
        simp only [List.getElem_cons_zero, List.getElem_cons_succ]
        cases k with
        | zero => simp [repeatAdd] at h
        | succ k' => simp only [repeatAdd, List.getElem_cons_zero]; exact e
      | succ j =>
        simp only [List.getElem_cons_succ]
        exact ih q j (by simpa using h)

theorem repeatSub_chain (m : Mode) (d : Dur) (n : Nat) (p : TP) (i : Nat)
    (h : i + 1 < (repeatSub m d n p).length) :
    subDur m ((repeatSub m d n p)[i]'(by omega)) d = some ((repeatSub m d n p)[i + 1]) := by
  simp only [repeatSub_eq] at h ⊢
  exact repeatAdd_chain m _ n p i h

theorem repeatAdd_takeWhile_stable (m : Mode) (d : Dur) (f : TP → Bool) : ∀ (n : Nat) (p : TP),
    ((repeatAdd m d n p).takeWhile f).length < n → ∀ n', n ≤ n' →
      (repeatAdd m d n' p).takeWhile f = (repeatAdd m d n p).takeWhile f := by
  intro n
  induction n with
  | zero => intro p h; omega
  | succ k ih =>
    intro p h n' hn'
    cases n' with
    | zero => omega
    | succ k' =>
      simp only [repeatAdd] at h ⊢
      by_cases c : f p = true
      · rw [List.takeWhile_cons_of_pos c] at h
        rw [List.takeWhile_cons_of_pos c, List.takeWhile_cons_of_pos c]
        congr 1
        cases e : addDur m p d with
        | none => rfl
        | some q =>
          simp only [e] at h ⊢
          exact ih q (by simpa using h) k' (by omega)
      · rw [List.takeWhile_cons_of_neg c, List.takeWhile_cons_of_neg c]

/-- Adding `d` sends every valid point to a point with `0 ≤ h < 24` in the same representation
    and offset whose `key` is larger by at least `gap`.  `key` is the instant when `d` moves
    forward, minus the instant when it moves backward. -/
structure Climbs (m : Mode) (d : Dur) (key : TP → Int) (gap : Int) : Prop where
  pos : 0 < gap
  step : ∀ p, p.Valid m → ∃ q, addDur m p d = some q ∧ q.Strict m ∧ q.date.rep = p.date.rep ∧
    q.tz = p.tz ∧ key p + gap ≤ key q

/-- What a list of points got by repeated climbing steps from `p` has: all points valid in `p`'s
    representation and offset (with `0 ≤ h < 24` if `p` is, the points after the first in any
    case), the `i`-th at least `i` gaps above `p`, strictly increasing in `key`. -/
structure Climbing (m : Mode) (key : TP → Int) (gap : Int) (p : TP) (l : List TP) : Prop where
  mem : ∀ q ∈ l, q.Valid m ∧ q.date.rep = p.date.rep ∧ q.tz = p.tz ∧ key p ≤ key q
  strict : p.Strict m → ∀ q ∈ l, q.Strict m
  tailStrict : ∀ q ∈ l.tail, q.Strict m
  lower : ∀ (i : Nat) (h : i < l.length), key p + gap * (i : Int) ≤ key (l[i])
  pairwise : l.Pairwise (fun a b => key a < key b)

theorem Climbing.prefix {m : Mode} {key : TP → Int} {gap : Int} {p : TP} {l l' : List TP}
    (h : Climbing m key gap p l) (hp : l' <+: l) : Climbing m key gap p l' :=
  ⟨fun q hq => h.mem q (hp.subset hq), fun sp q hq => h.strict sp q (hp.subset hq),
    fun q hq => h.tailStrict q (hp.sublist.tail.subset hq),
    fun i hi => by
      have := h.lower i (Nat.lt_of_lt_of_le hi hp.length_le)
      rwa [← hp.getElem hi] at this,
    h.pairwise.sublist hp.sublist⟩

theorem repeatAdd_spec (m : Mode) (d : Dur) (key : TP → Int) (gap : Int) (hc : Climbs m d key gap) :
    ∀ (n : Nat) (p : TP), p.Valid m →
      (repeatAdd m d n p).length = n ∧ Climbing m key gap p (repeatAdd m d n p) := by
  intro n
  induction n with
  | zero =>
    intro p _
    exact ⟨rfl, fun _ h => (nomatch h), fun _ _ h => (nomatch h), fun _ h => (nomatch h),
      fun i h => absurd h (Nat.not_lt_zero i), List.Pairwise.nil⟩
  | succ k ih =>
    intro p hp
    obtain ⟨q, e, sq, rq, tq, kq⟩ := hc.step p hp
    have hpq : key p < key q := Int.lt_of_lt_of_le (Int.lt_add_of_pos_right _ hc.pos) kq
    obtain ⟨i1, c⟩ := ih q sq.1
    simp only [repeatAdd, e]
    refine ⟨by rw [List.length_cons, i1], ?_, ?_, fun x hx => c.strict sq x hx, ?_, ?_⟩
    · intro x hx
      rcases List.mem_cons.mp hx with rfl | hx
      · exact ⟨hp, rfl, rfl, Int.le_refl _⟩
      · obtain ⟨v, r, t, le⟩ := c.mem x hx
        exact ⟨v, r.trans rq, t.trans tq, Int.le_trans (Int.le_of_lt hpq) le⟩
    · intro sp x hx
      rcases List.mem_cons.mp hx with rfl | hx
      · exact sp
      · exact c.strict sq x hx
    · intro i h
      cases i with
      | zero =>
        rw [List.getElem_cons_zero, Int.natCast_zero, Int.mul_zero, Int.add_zero]
        exact Int.le_refl _
      | succ j =>
        rw [List.getElem_cons_succ, Int.natCast_succ, Int.mul_add, Int.mul_one, ← Int.add_assoc,
          Int.add_right_comm]
        exact Int.le_trans (Int.add_le_add_right kq _) (c.lower j (by simpa using h))
    · rw [List.pairwise_cons]
      exact ⟨fun x hx => Int.lt_of_lt_of_le hpq (c.mem x hx).2.2.2, c.pairwise⟩

/-! ### the loop of `__iter__` -/

def stepDur (rev : Bool) (d : Dur) : Dur := if rev then d.mul (-1) else d

/-- **The loop of `__iter__` is the series of repeated additions cut at the first point out of
    bounds** — any interval, any points, forwards and backwards. -/
theorem iterFrom_eq_takeWhile (m : Mode) (r : Rec) (d : Dur) (hd : r.dur = some d)
    (hm : r.reps ≠ some 1) (rev : Bool) : ∀ (fuel : Nat) (p : TP),
      iterFrom m r rev fuel p = (repeatAdd m (stepDur rev d) fuel p).takeWhile (inBounds m r) := by
  have hstep : ∀ p, (if rev = true then getPrev m r p else getNext m r p) =
      (addDur m p (stepDur rev d)).filter (inBounds m r) := by
    intro p
    cases rev
    · exact getNext_eq m r d hd hm p
    · exact getPrev_eq m r d hd hm p
  intro fuel
  induction fuel with
  | zero => intro p; rfl
  | succ k ih =>
    intro p
    simp only [iterFrom, repeatAdd, hstep]
    by_cases cp : inBounds m r p = true
    · rw [if_pos cp, List.takeWhile_cons_of_pos cp]
      congr 1
      cases e : addDur m p (stepDur rev d) with
      | none => rfl
      | some q =>
        by_cases cq : inBounds m r q = true
        · simp only [Option.filter_some, cq, ↓reduceIte]; exact ih q
        · simp only [Option.filter_some, cq, Bool.false_eq_true, ↓reduceIte]
          cases k with
          | zero => rfl
          | succ k' => exact (List.takeWhile_cons_of_neg cq).symm
    · rw [if_neg cp, List.takeWhile_cons_of_neg cp]

/-- The shapes of `__iter__`: nothing to start from; the single-point case; the loop. -/
theorem iter_shape (m : Mode) (r : Rec) :
    (∀ fuel, iter m r fuel = []) ∨
    (∃ p, ∀ fuel, iter m r fuel = if fuel = 0 then [] else if inBounds m r p = true then [p] else []) ∨
    (∃ p, ∀ fuel, iter m r fuel = iterFrom m r r.start.isNone fuel p) := by
  cases hp : (if r.start.isNone = true then r.end_ else r.start) with
  | none => left; intro fuel; unfold iter; simp only [hp]
  | some p =>
    right
    cases hd : r.dur with
    | none =>
      left; refine ⟨p, fun fuel => ?_⟩; unfold iter; simp only [hp, hd, Bool.or_true, ↓reduceIte]
    | some d =>
      by_cases c : (r.reps == some 1 || !d.nonzero) = true
      · left; refine ⟨p, fun fuel => ?_⟩; unfold iter; simp only [hp, hd, c, ↓reduceIte]
      · right; refine ⟨p, fun fuel => ?_⟩; unfold iter
        simp only [hp, hd, c, Bool.false_eq_true, ↓reduceIte]

/-- `__iter__` of a recurrence with more than one repetition and a non-zero interval is the loop
    from its anchor: the start, or the end if there is no start. -/
theorem iter_eq_iterFrom (m : Mode) (r : Rec) (d : Dur) (hd : r.dur = some d) (hm : r.reps ≠ some 1)
    (hnz : d.nonzero = true) (p : TP) (hp : (if r.start.isNone = true then r.end_ else r.start) = some p)
    (fuel : Nat) : iter m r fuel = iterFrom m r r.start.isNone fuel p := by
  have h1 : (r.reps == some 1) = false := beq_eq_false_iff_ne.mpr hm
  unfold iter
  simp only [hp, hd, h1, hnz, Bool.not_true, Bool.or_self, Bool.false_eq_true, ↓reduceIte]

theorem iter_fwd (m : Mode) (r : Rec) (d : Dur) (hd : r.dur = some d) (hm : r.reps ≠ some 1)
    (hnz : d.nonzero = true) (s : TP) (hs : r.start = some s) (fuel : Nat) :
    iter m r fuel = (repeatAdd m d fuel s).takeWhile (inBounds m r) := by
  rw [iter_eq_iterFrom m r d hd hm hnz s (by rw [hs]; rfl) fuel, hs]
  exact iterFrom_eq_takeWhile m r d hd hm false fuel s

/-- A recurrence without a start point (`R/d/end`) iterates backwards from its end. -/
theorem iter_rev (m : Mode) (r : Rec) (d : Dur) (hd : r.dur = some d) (hm : r.reps ≠ some 1)
    (hnz : d.nonzero = true) (e : TP) (hs : r.start = none) (he : r.end_ = some e) (fuel : Nat) :
    iter m r fuel = (repeatSub m d fuel e).takeWhile (inBounds m r) := by
  rw [iter_eq_iterFrom m r d hd hm hnz e (by rw [hs]; exact he) fuel, hs, repeatSub_eq]
  exact iterFrom_eq_takeWhile m r d hd hm true fuel e

/-! ### a recurrence with an exact positive interval -/

/-- The facts about a constructed recurrence the iteration lemmas need: interval `d` exact of
    length `L > 0`, more than one repetition, and instants of its (optional) bounds. -/
structure ExactRec (m : Mode) (r : Rec) (d : Dur) (L : Int) : Prop where
  dur : r.dur = some d
  exact : d.isExact = true
  len : d.exactSeconds m = L
  pos : 0 < L
  multi : r.reps ≠ some 1
  startValid : ∀ s, r.start = some s → s.Valid m
  endValid : ∀ e, r.end_ = some e → e.Valid m

theorem ExactRec.nonzero {m : Mode} {r : Rec} {d : Dur} {L : Int} (hr : ExactRec m r d L) :
    d.nonzero = true := nonzero_of_pos m d (by rw [hr.len]; exact hr.pos)

theorem exactRec_fmt3_unbounded (m : Mode) (s : TP) (d : Dur) (hs : s.Valid m) (hex : d.isExact = true)
    (hpos : 0 < d.exactSeconds m) : ExactRec m ⟨none, some s, some d, none, none, 3⟩ d (d.exactSeconds m) :=
  ⟨rfl, hex, rfl, hpos, by simp, fun _ h => by cases h; exact hs, fun _ h => nomatch h⟩

theorem exactRec_fmt4_unbounded (m : Mode) (e : TP) (d : Dur) (he : e.Valid m) (hex : d.isExact = true)
    (hpos : 0 < d.exactSeconds m) : ExactRec m ⟨none, none, some d, some e, none, 4⟩ d (d.exactSeconds m) :=
  ⟨rfl, hex, rfl, hpos, by simp, fun _ h => (nomatch h), fun _ h => by cases h; exact he⟩

theorem exactRec_bounded (m : Mode) (n : Int) (s e : TP) (d : Dur) (f : Nat) (hn : 2 ≤ n) (hs : s.Valid m)
    (he : e.Valid m) (hex : d.isExact = true) (hpos : 0 < d.exactSeconds m) :
    ExactRec m ⟨some n, some s, some d, some e, none, f⟩ d (d.exactSeconds m) :=
  ⟨rfl, hex, rfl, hpos, some_ne_one hn, fun _ h => by cases h; exact hs, fun _ h => by cases h; exact he⟩

/-- A list of points is the arithmetic series `i0, i0 + step, i0 + 2·step, …` of valid points in
    one representation and offset. -/
def SeriesOK (m : Mode) (rep : Nat) (tz : TZ) : List TP → Int → Int → Prop
  | [], _, _ => True
  | p :: rest, i0, step =>
    p.inst m = i0 ∧ p.Valid m ∧ p.date.rep = rep ∧ p.tz = tz ∧ SeriesOK m rep tz rest (i0 + step) step

theorem repeatAdd_series (m : Mode) (d : Dur) (hex : d.isExact = true) : ∀ (n : Nat) (p : TP), p.Valid m →
    (repeatAdd m d n p).length = n ∧
    SeriesOK m p.date.rep p.tz (repeatAdd m d n p) (p.inst m) (d.exactSeconds m) := by
  intro n
  induction n with
  | zero => intro p _; exact ⟨rfl, trivial⟩
  | succ k ih =>
    intro p hp
    obtain ⟨q, e, g⟩ := addDur_exact m p d hp hex
    obtain ⟨i1, i2⟩ := ih q g.strict.1
    rw [g.rep, g.tz, g.inst] at i2
    simp only [repeatAdd, e]
    exact ⟨by rw [List.length_cons, i1], rfl, hp, rfl, rfl, i2⟩

theorem seriesOK_prefix (m : Mode) (rep : Nat) (tz : TZ) : ∀ (l' l : List TP) (i0 step : Int),
    l' <+: l → SeriesOK m rep tz l i0 step → SeriesOK m rep tz l' i0 step := by
  intro l'
  induction l' with
  | nil => intro _ _ _ _ _; trivial
  | cons p t ih =>
    intro l i0 step hp hs
    cases l with
    | nil => exact absurd hp (by simp)
    | cons a rest =>
      obtain ⟨rfl, ht⟩ := List.cons_prefix_cons.mp hp
      obtain ⟨h1, h2, h3, h4, h5⟩ := hs
      exact ⟨h1, h2, h3, h4, ih rest _ _ ht h5⟩

theorem seriesOK_takeWhile (m : Mode) (rep : Nat) (tz : TZ) (f : TP → Bool) (l : List TP) (i0 step : Int)
    (h : SeriesOK m rep tz l i0 step) : SeriesOK m rep tz (l.takeWhile f) i0 step :=
  seriesOK_prefix m rep tz _ l i0 step (List.takeWhile_prefix f) h

/-- An increasing series cut by a test that, on its points, says "not later than `E`", where `E`
    lies in `[i0 + (n−1)·L, i0 + n·L)`: its first `n` points. -/
theorem series_takeWhile_length (m : Mode) (rep : Nat) (tz : TZ) (f : TP → Bool) (E L : Int) (hpos : 0 < L) :
    ∀ (l : List TP) (i0 : Int) (n : Nat), SeriesOK m rep tz l i0 L →
      (∀ q ∈ l, (f q = true ↔ q.inst m ≤ E)) →
      i0 + ((n : Int) - 1) * L ≤ E → E < i0 + (n : Int) * L → n ≤ l.length →
      (l.takeWhile f).length = n := by
  intro l
  induction l with
  | nil => intro _ n _ _ _ _ hn; exact (Nat.le_zero.mp hn).symm
  | cons p rest ih =>
    intro i0 n hs hf h1 h2 hn
    obtain ⟨a1, _, _, _, a5⟩ := hs
    have hfp := hf p List.mem_cons_self
    cases n with
    | zero =>
      have : ¬ f p = true := by rw [hfp, a1]; simp only [Int.natCast_zero, Int.zero_mul] at h2; omega
      rw [List.takeWhile_cons_of_neg this]; rfl
    | succ j =>
      rw [Int.natCast_succ, Int.add_mul, Int.one_mul] at h2
      rw [Int.natCast_succ, Int.add_sub_cancel] at h1
      have hj : 0 ≤ (j : Int) * L := Int.mul_nonneg (Int.natCast_nonneg j) (Int.le_of_lt hpos)
      have : f p = true := by rw [hfp, a1]; omega
      rw [List.takeWhile_cons_of_pos this, List.length_cons,
        ih (i0 + L) j a5 (fun q hq => hf q (List.mem_cons_of_mem _ hq))
          (by rw [Int.sub_mul, Int.one_mul]; omega) (by omega) (by simpa using hn)]

/-! ### what the constructor builds -/

theorem lt_zero_false (m : Mode) (d : Dur) (hex : d.isExact = true) (hpos : 0 ≤ d.exactSeconds m) :
    Dur.lt m d Dur.zero = false :=
  Bool.eq_false_iff.mpr fun h => by have := (lt_zero_iff m d hex).mp h; omega

theorem isZeroDur_false (m : Mode) (d : Dur) (hex : d.isExact = true) (hpos : 0 < d.exactSeconds m) :
    isZeroDur m d = false :=
  Bool.eq_false_iff.mpr fun h => by have := (isZeroDur_iff m d hex).mp h; omega

/-- An interval the constructor takes as it is: neither `< Duration()` nor `== Duration()`. -/
structure Accepted (m : Mode) (d : Dur) : Prop where
  notNeg : Dur.lt m d Dur.zero = false
  notZero : isZeroDur m d = false

theorem accepted_exact (m : Mode) (d : Dur) (hex : d.isExact = true) (hpos : 0 < d.exactSeconds m) :
    Accepted m d :=
  ⟨lt_zero_false m d hex (Int.le_of_lt hpos), isZeroDur_false m d hex hpos⟩

/-- The constructor on an accepted interval, start/duration notation:
    the end bound is ONE addition of the multiplied interval. -/
theorem mkRec_fmt3 (m : Mode) (reps : Option Int) (s : TP) (d : Dur) (ha : Accepted m d) (hreps : ∀ n, reps = some n → 2 ≤ n) :
    mkRec m reps (some s) (some d) none =
      match reps with
      | none => some ⟨none, some s, some d, none, none, 3⟩
      | some n => (addDur m s (d.mul (n - 1))).map fun e => ⟨some n, some s, some d, some e, none, 3⟩ := by
  unfold mkRec
  cases reps with
  | none => simp only [Bool.false_eq_true, ↓reduceIte, ha.notNeg, ha.notZero, reduceCtorEq, or_self]
  | some n =>
    have := hreps n rfl
    have c1 : ¬ n ≤ 0 := by omega
    have c2 : ¬ (n = 1) := by omega
    simp only [c1, decide_false, Bool.false_eq_true, ↓reduceIte, ha.notNeg, ha.notZero, Option.some.injEq, c2,
      or_self]

/-- The same in duration/end notation: the start bound is ONE subtraction of the multiplied interval. -/
theorem mkRec_fmt4 (m : Mode) (reps : Option Int) (e : TP) (d : Dur) (ha : Accepted m d) (hreps : ∀ n, reps = some n → 2 ≤ n) :
    mkRec m reps none (some d) (some e) =
      match reps with
      | none => some ⟨none, none, some d, some e, none, 4⟩
      | some n => (subDur m e (d.mul (n - 1))).map fun s => ⟨some n, some s, some d, some e, none, 4⟩ := by
  unfold mkRec
  cases reps with
  | none => simp only [Bool.false_eq_true, ↓reduceIte, ha.notNeg, ha.notZero, reduceCtorEq, or_self]
  | some n =>
    have := hreps n rfl
    have c1 : ¬ n ≤ 0 := by omega
    have c2 : ¬ (n = 1) := by omega
    simp only [c1, decide_false, Bool.false_eq_true, ↓reduceIte, ha.notNeg, ha.notZero, Option.some.injEq, c2,
      or_self]

/-- One repetition: the single anchor point, whatever the interval (start/duration, duration/end). -/
theorem mkRec_one3 (m : Mode) (a : TP) (d : Dur) (hl : Dur.lt m d Dur.zero = false) :
    mkRec m (some 1) (some a) (some d) none = some ⟨some 1, some a, none, some a, none, 3⟩ := by
  unfold mkRec; simp [hl]

theorem mkRec_one4 (m : Mode) (a : TP) (d : Dur) (hl : Dur.lt m d Dur.zero = false) :
    mkRec m (some 1) none (some d) (some a) = some ⟨some 1, some a, none, some a, none, 4⟩ := by
  unfold mkRec; simp [hl]

/-- `R1/start/second` is the single point `start`. -/
theorem mkRec_one1 (m : Mode) (a b : TP) :
    mkRec m (some 1) (some a) none (some b) = some ⟨some 1, some a, none, some a, some a, 1⟩ := by
  unfold mkRec
  simp only [show ¬ ((1 : Int) ≤ 0) by omega, decide_false, Bool.false_eq_true, ↓reduceIte]

/-- A point is within bounds that are the point itself (the comparison of a point with itself
    needs no validity). -/
theorem inBounds_self (m : Mode) (a : TP) (sec : Option TP) (f : Nat) :
    inBounds m ⟨some 1, some a, none, some a, sec, f⟩ a = true := by
  simp [inBounds, tpLt, tpGt, cmp]

theorem iter_single (m : Mode) (r : Rec) (a : TP) (hs : r.start = some a) (hd : r.dur = none)
    (hb : inBounds m r a = true) (fuel : Nat) (hf : 1 ≤ fuel) : iter m r fuel = [a] := by
  unfold iter
  simp only [hs, hd, Option.isNone_some, Bool.false_eq_true, ↓reduceIte, Bool.or_true,
    show ¬ fuel = 0 by omega, hb]

/-- start/duration notation, `n ≥ 2` repetitions. -/
theorem mkRec_fmt3_bounded (m : Mode) (n : Int) (s : TP) (d : Dur) (hn : 2 ≤ n) (hs : s.Valid m)
    (hex : d.isExact = true) (hpos : 0 < d.exactSeconds m) :
    ∃ e, mkRec m (some n) (some s) (some d) none = some ⟨some n, some s, some d, some e, none, 3⟩ ∧
      ExactRec m ⟨some n, some s, some d, some e, none, 3⟩ d (d.exactSeconds m) ∧
      e.Strict m ∧ e.inst m = s.inst m + d.exactSeconds m * (n - 1) ∧
      e.date.rep = s.date.rep ∧ e.tz = s.tz := by
  obtain ⟨e, he, g⟩ := addDur_exact m s (d.mul (n - 1)) hs (mul_exact d _ hex)
  refine ⟨e, ?_, exactRec_bounded m n s e d 3 hn hs g.strict.1 hex hpos, g.strict,
    by rw [g.inst, exactSeconds_mul], g.rep, g.tz⟩
  rw [mkRec_fmt3 m _ s d (accepted_exact m d hex hpos)
    (fun k h => by cases h; exact hn)]
  dsimp only
  rw [he]; rfl

/-- start/duration notation, unbounded. -/
theorem mkRec_fmt3_unbounded (m : Mode) (s : TP) (d : Dur) (hex : d.isExact = true)
    (hpos : 0 < d.exactSeconds m) :
    mkRec m none (some s) (some d) none = some ⟨none, some s, some d, none, none, 3⟩ :=
  mkRec_fmt3 m none s d (accepted_exact m d hex hpos)
    (fun _ h => nomatch h)

/-- duration/end notation, `n ≥ 2` repetitions: the derived start. -/
theorem mkRec_fmt4_bounded (m : Mode) (n : Int) (e : TP) (d : Dur) (hn : 2 ≤ n) (he : e.Valid m)
    (hex : d.isExact = true) (hpos : 0 < d.exactSeconds m) :
    ∃ s, mkRec m (some n) none (some d) (some e) = some ⟨some n, some s, some d, some e, none, 4⟩ ∧
      ExactRec m ⟨some n, some s, some d, some e, none, 4⟩ d (d.exactSeconds m) ∧
      s.Strict m ∧ s.inst m = e.inst m - d.exactSeconds m * (n - 1) ∧
      s.date.rep = e.date.rep ∧ s.tz = e.tz := by
  obtain ⟨s, hs, g⟩ := subDur_exact m e (d.mul (n - 1)) he (mul_exact d _ hex)
  refine ⟨s, ?_, exactRec_bounded m n s e d 4 hn g.strict.1 he hex hpos, g.strict,
    by rw [g.inst, exactSeconds_mul]; omega, g.rep, g.tz⟩
  rw [mkRec_fmt4 m _ e d (accepted_exact m d hex hpos)
    (fun k h => by cases h; exact hn)]
  dsimp only
  rw [hs]; rfl

theorem mkRec_fmt4_unbounded (m : Mode) (e : TP) (d : Dur) (hex : d.isExact = true)
    (hpos : 0 < d.exactSeconds m) :
    mkRec m none none (some d) (some e) = some ⟨none, none, some d, some e, none, 4⟩ :=
  mkRec_fmt4 m none e d (accepted_exact m d hex hpos)
    (fun _ h => nomatch h)

/-- start/second-point notation: the interval is the exact difference of the two points; the end
    bound, if there are repetitions, is ONE addition of the multiplied interval. -/
theorem mkRec_fmt1 (m : Mode) (reps : Option Int) (s e2 : TP) (hs : s.Valid m) (he : e2.Valid m)
    (hlt : s.inst m < e2.inst m) (hreps : ∀ n, reps = some n → 2 ≤ n) :
    ∃ d en, subTP m e2 s = some d ∧ d.isExact = true ∧ d.exactSeconds m = e2.inst m - s.inst m ∧
      mkRec m reps (some s) none (some e2) = some ⟨reps, some s, some d, en, some e2, 1⟩ ∧
      ExactRec m ⟨reps, some s, some d, en, some e2, 1⟩ d (e2.inst m - s.inst m) ∧
      (reps = none → en = none) ∧
      (∀ n, reps = some n → ∃ e, en = some e ∧ e.Strict m ∧
        e.inst m = s.inst m + (e2.inst m - s.inst m) * (n - 1) ∧ e.date.rep = s.date.rep ∧ e.tz = s.tz) := by
  obtain ⟨dd, hh, mm, ss, hd, hl, _, _⟩ := subTP_spec m e2 s he hs
  have hex : (Dur.units 0 0 dd hh mm ss).isExact = true := rfl
  have hsec : (Dur.units 0 0 dd hh mm ss).exactSeconds m = e2.inst m - s.inst m :=
    (exactSeconds_units m 0 0 dd hh mm ss).trans hl
  have c1 : tpEq m s e2 = false :=
    Bool.eq_false_iff.mpr fun h => absurd ((tpEq_iff m s e2 hs he).mp h) (Int.ne_of_lt hlt)
  have c2 : tpLt m e2 s = false :=
    Bool.eq_false_iff.mpr fun h => absurd ((tpLt_iff m e2 s he hs).mp h) (Int.lt_asymm hlt)
  refine ⟨_, reps.bind fun n => addDur m s ((Dur.units 0 0 dd hh mm ss).mul (n - 1)), hd, hex, hsec, ?_⟩
  have hx : ∀ en : Option TP, (∀ e, en = some e → e.Valid m) →
      ExactRec m ⟨reps, some s, some (.units 0 0 dd hh mm ss), en, some e2, 1⟩ _ (e2.inst m - s.inst m) :=
    fun en hen => ⟨rfl, hex, hsec, Int.sub_pos_of_lt hlt, fun h => absurd (hreps 1 h) (by decide),
      fun _ h => by cases h; exact hs, hen⟩
  unfold mkRec
  cases reps with
  | none =>
    exact ⟨by simp only [Bool.false_eq_true, ↓reduceIte, reduceCtorEq, c1, c2, hd]; rfl,
      hx _ (fun _ h => by cases h), fun _ => rfl, fun _ h => nomatch h⟩
  | some n =>
    have := hreps n rfl
    have k1 : ¬ n ≤ 0 := by omega
    have k2 : ¬ (n = 1) := by omega
    obtain ⟨e, he', g⟩ := addDur_exact m s ((Dur.units 0 0 dd hh mm ss).mul (n - 1)) hs (mul_exact _ _ hex)
    refine ⟨?_, hx _ (fun e' h => ?_), fun h => (nomatch h), fun k hk => ?_⟩
    · simp only [k1, decide_false, Bool.false_eq_true, ↓reduceIte, Option.some.injEq, k2, c1, c2, hd, he',
        Option.map_some, Option.bind_some]
    · rw [Option.bind_some, he'] at h; cases h; exact g.strict.1
    · cases hk
      exact ⟨e, he', g.strict, by rw [g.inst, exactSeconds_mul, hsec], g.rep, g.tz⟩

end IsoDT.Lemmas
