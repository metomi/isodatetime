/-
  IsoDT.Lemmas.TextTables — the structural facts about the regenerated tables (`Gen.Templates`) that the
  text-layer theorems rest on, each decided by kernel evaluation over all parser configurations.
  A change of a token, width, character or of the order of a table re-runs these.
-/
import IsoDT.Lemmas.TextParse

namespace IsoDT.Text
open IsoDT
open _root_.IsoDT.Gen.Templates (timeDesignator dateTypeOrder parserTables)

/-- No rendering of the template contains the time designator, so `get_info` splits a text at the `T`
    between the date and the time and nowhere else. -/
def noT (t : Template) : Bool := !(litChars t).contains timeDesignator

/-- The format `get_info` bars for the time and the zone once the date has matched in the other one. -/
def otherFormat : FormatKey → FormatKey
  | .basic => .extended
  | .extended => .basic

/-- A zone regular expression is `Z`, or a sign followed by digits and colons only. -/
def zoneShapeOK : Template → Bool
  | [.group .tzUtc ['Z']] => true
  | .sign .tzSign :: rest => (litChars rest).all (· == ':')
  | _ => false

/-- A complete date form: not marked truncated, with a century group (a year without one is implicitly
    truncated), and not matching the empty text (an empty date in front of `T` takes the
    `allow_truncated` shortcut of `get_info` instead of the regular expressions). -/
def completeDateOK (e : Entry) : Bool :=
  !(groupFields e.tmpl).contains .truncated && (groupFields e.tmpl).contains .century &&
    (tmatch e.tmpl []).isNone

/-- A non-truncated time form: no truncation marker, only `:`, `,`, `.` between its digit groups (so no
    `Z`, `+`, `-` at which the zone split could cut), and not matching the empty text. -/
def plainTimeOK (e : Entry) : Bool :=
  !(groupFields e.tmpl).contains .truncated &&
    (litChars e.tmpl).all (fun c => c == ':' || c == ',' || c == '.') && (tmatch e.tmpl []).isNone

/-- Everything the generic theorems need to know about one configuration's tables. -/
def tableOK (pt : ParserTables) : Bool :=
  pt.dateEntries.all (fun e => wf e.tmpl && noT e.tmpl && pt.formats.contains e.fmt) &&
  pt.timeEntries.all (fun e => wf e.tmpl && noT e.tmpl) &&
  pt.zoneEntries.all (fun e => wf e.tmpl && noT e.tmpl && zoneShapeOK e.tmpl) &&
  allAfter okPair (dateOrder pt (dateTypes false [.reduced])) &&
  allAfter okPair (dateOrder pt (dateTypes true [.reduced])) &&
  allAfter okPair (dateOrder pt (dateTypes false [])) &&
  allAfter okPairT pt.timeEntries &&
  allAfter okPairZ pt.zoneEntries &&
  pt.dateEntries.all (fun e => e.typ != .complete || completeDateOK e) &&
  pt.timeEntries.all (fun e => e.typ == .truncated || plainTimeOK e) &&
  pt.formats.all (fun f => pt.formats.count f == 1)

theorem tables_ok : parserTables.all tableOK = true := by decide +kernel

theorem tableOK_of_mem (pt : ParserTables) (h : pt ∈ parserTables) : tableOK pt = true :=
  List.all_eq_true.mp tables_ok pt h

theorem designator_eq : timeDesignator = 'T' := by decide

end IsoDT.Text
