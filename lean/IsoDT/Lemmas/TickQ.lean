/-
  IsoDT.Lemmas.TickQ — `_tick_over` and the exact part of `__add__` over rational hour / minute /
  second slots (`Model.TimePointQ`): the meaning of a `TPQ` (`TPQ.inst`), legal `TPQ`s
  (`TPQ.Valid`), and the carry lemmas.  Every statement of `_tick_over` keeps the instant; at the
  end every slot is in range and every slot that must hold a whole number does.  The order and
  uniqueness arguments of the rational files (day and second of day, hour / minute / second,
  floor division, duration ordering) rest on one fact about mixed-radix numbers (`radix_lt`,
  `radix_eq`).
-/
import IsoDT.Lemmas.Tick
import IsoDT.Model.TimePointQ

namespace IsoDT.Lemmas
open IsoDT IsoDT.Model
open IsoDT.Spec (Date TZ TP)

def IsInt (x : Rat) : Prop := x.den = 1
instance (x : Rat) : Decidable (IsInt x) := by unfold IsInt; infer_instance

end IsoDT.Lemmas

namespace IsoDT.Model
open IsoDT.Lemmas

def HMS.secs (t : HMS) : Rat := 3600 * t.hh + 60 * t.mi.getD 0 + t.ss.getD 0

def HMS.Ok (t : HMS) : Prop :=
  match t.mi, t.ss with
  | some mi, some ss =>
    IsInt t.hh ∧ IsInt mi ∧ 0 ≤ t.hh ∧ t.hh ≤ 24 ∧ 0 ≤ mi ∧ mi < 60 ∧ 0 ≤ ss ∧ ss < 60 ∧
      (t.hh = 24 → mi = 0 ∧ ss = 0)
  | some mi, none => IsInt t.hh ∧ 0 ≤ t.hh ∧ t.hh ≤ 24 ∧ 0 ≤ mi ∧ mi < 60 ∧ (t.hh = 24 → mi = 0)
  | none, none => 0 ≤ t.hh ∧ t.hh ≤ 24
  | none, some _ => False

instance : (t : HMS) → Decidable t.Ok
  | ⟨_, some _, some _⟩ => by unfold HMS.Ok; infer_instance
  | ⟨_, some _, none⟩ => by unfold HMS.Ok; infer_instance
  | ⟨_, none, none⟩ => by unfold HMS.Ok; infer_instance
  | ⟨_, none, some _⟩ => by unfold HMS.Ok; infer_instance

def TPQ.hms (p : TPQ) : HMS := ⟨p.hh, p.mi, p.ss⟩

/-- The instant `p` denotes, in seconds since 0001-01-01T00:00:00Z: linear in every slot (a
    `None` slot counts 0), so also the meaning of a point whose slots are out of range mid-carry
    and of the 24:00 form. -/
def TPQ.inst (m : Mode) (p : TPQ) : Rat :=
  86400 * ((p.date.dayNum m : Int) : Rat) + p.hms.secs - ((p.tz.seconds : Int) : Rat)

def TPQ.Valid (m : Mode) (p : TPQ) : Prop := p.date.Valid m ∧ p.tz.Valid ∧ p.hms.Ok

instance (m : Mode) (p : TPQ) : Decidable (p.Valid m) := by unfold TPQ.Valid; infer_instance

def DurQ.seconds (d : DurQ) : Rat := 86400 * (d.days : Rat) + 3600 * d.h + 60 * d.mi + d.s

end IsoDT.Model

namespace IsoDT.Lemmas
open IsoDT IsoDT.Model
open IsoDT.Spec (Date TZ TP)

theorem isInt_intCast (n : Int) : IsInt (n : Rat) := Rat.den_intCast n

theorem IsInt.eq_intCast {x : Rat} (h : IsInt x) : x = ((x.num : Int) : Rat) :=
  Rat.ext (by simp) (by simpa [IsInt] using h)

theorem IsInt.exists_int {x : Rat} (h : IsInt x) : ∃ n : Int, x = n := ⟨x.num, h.eq_intCast⟩

theorem isInt_add {x y : Rat} (hx : IsInt x) (hy : IsInt y) : IsInt (x + y) := by
  rw [hx.eq_intCast, hy.eq_intCast, ← Rat.intCast_add]; exact isInt_intCast _

theorem isInt_sub {x y : Rat} (hx : IsInt x) (hy : IsInt y) : IsInt (x - y) := by
  rw [hx.eq_intCast, hy.eq_intCast, ← Rat.intCast_sub]; exact isInt_intCast _

theorem not_isInt_add_frac (a : Int) (f : Rat) (h0 : 0 < f) (h1 : f < 1) (b : Int) : (a : Rat) + f ≠ (b : Rat) := by
  intro h
  have e : f = ((b - a : Int) : Rat) := by rw [Rat.intCast_sub]; grind
  have c0 : ((0 : Int) : Rat) = 0 := rfl
  have c1 : ((1 : Int) : Rat) = 1 := rfl
  rw [e, ← c0, Rat.intCast_lt_intCast] at h0
  rw [e, ← c1, Rat.intCast_lt_intCast] at h1
  omega

theorem floor_eq_of {x : Rat} {k : Int} (h1 : (k : Rat) ≤ x) (h2 : x < (k : Rat) + 1) : x.floor = k := by
  have a : k ≤ x.floor := Rat.le_floor_iff.2 h1
  have b : x.floor < k + 1 := Rat.floor_lt_iff.2 (by simpa using h2)
  omega

theorem radix_lt (B : Rat) (n1 n2 : Int) (s1 s2 : Rat) (h1 : 0 ≤ s1 ∧ s1 < B) (h2 : 0 ≤ s2 ∧ s2 < B) :
    B * (n1 : Rat) + s1 < B * (n2 : Rat) + s2 ↔ n1 < n2 ∨ (n1 = n2 ∧ s1 < s2) := by
  -- the one non-linear step: whole numbers that differ, differ by at least 1
  have step : ∀ a b : Int, a < b → B * (a : Rat) + B ≤ B * (b : Rat) := fun a b h => by
    have := Rat.mul_le_mul_of_nonneg_left
      (Rat.intCast_le_intCast.2 (show a + 1 ≤ b from h)) (Rat.le_trans h1.1 (Rat.le_of_lt h1.2))
    rwa [Rat.intCast_add, Rat.mul_add, Rat.intCast_ofNat, Rat.mul_one] at this
  rcases Int.lt_trichotomy n1 n2 with h | h | h
  · have := step _ _ h
    exact ⟨fun _ => Or.inl h, fun _ => by grind⟩
  · subst h
    exact ⟨fun h => Or.inr ⟨rfl, Rat.add_lt_add_left.1 h⟩,
      fun h => Rat.add_lt_add_left.2 (h.resolve_left (Int.lt_irrefl _)).2⟩
  · have := step _ _ h
    exact ⟨fun h' => by grind, fun h' => by omega⟩

theorem radix_eq (B : Rat) (n1 n2 : Int) (s1 s2 : Rat) (h1 : 0 ≤ s1 ∧ s1 < B) (h2 : 0 ≤ s2 ∧ s2 < B)
    (e : B * (n1 : Rat) + s1 = B * (n2 : Rat) + s2) : n1 = n2 ∧ s1 = s2 := by
  have a := mt (radix_lt B n1 n2 s1 s2 h1 h2).2 (by rw [e]; exact Rat.lt_irrefl)
  have b := mt (radix_lt B n2 n1 s2 s1 h2 h1).2 (by rw [e]; exact Rat.lt_irrefl)
  have : n1 = n2 := by omega
  subst this
  exact ⟨rfl, by grind⟩

theorem floor_div_spec (x L : Rat) (hL : 0 < L) :
    ((x / L).floor : Rat) * L ≤ x ∧ x < ((x / L).floor : Rat) * L + L := by
  have hne : L ≠ 0 := Rat.ne_of_gt hL
  have h1 := Rat.floor_le (x / L)
  have h2 := Rat.lt_floor_add_one (x / L)
  have h3 := Rat.mul_le_mul_of_nonneg_right h1 (Rat.le_of_lt hL)
  have h4 := Rat.mul_lt_mul_of_pos_right h2 hL
  rw [Rat.div_mul_cancel hne] at h3 h4
  rw [Rat.intCast_add, Rat.add_mul, show ((1 : Int) : Rat) = 1 from rfl, Rat.one_mul] at h4
  exact ⟨h3, h4⟩

theorem divmodQ_spec (x : Rat) (n : Int) (hn : 0 < n) :
    x = ((divmodQ x n).1 : Rat) * (n : Rat) + (divmodQ x n).2 ∧ 0 ≤ (divmodQ x n).2 ∧
      (divmodQ x n).2 < (n : Rat) := by
  obtain ⟨h1, h2⟩ := floor_div_spec x n (Rat.intCast_pos.2 hn)
  simp only [divmodQ]
  exact ⟨by rw [Rat.add_comm, Rat.sub_add_cancel], by grind⟩

theorem divmodQ_unique (x : Rat) (n q : Int) (r : Rat) (hn : 0 < n) (e : x = (q : Rat) * (n : Rat) + r)
    (h : 0 ≤ r ∧ r < (n : Rat)) : divmodQ x n = (q, r) := by
  obtain ⟨e', b⟩ := divmodQ_spec x n hn
  obtain ⟨e1, e2⟩ := radix_eq (n : Rat) (divmodQ x n).1 q (divmodQ x n).2 r b h
    (by rw [Rat.mul_comm, ← e', Rat.mul_comm]; exact e)
  exact Prod.ext e1 e2

theorem emod_cast (x n : Int) (hn : 0 < n) :
    ((x % n : Int) : Rat) = (x : Rat) - (n : Rat) * ((x / n : Int) : Rat) ∧ 0 ≤ ((x % n : Int) : Rat) ∧
      ((x % n : Int) : Rat) < (n : Rat) := by
  refine ⟨?_, Rat.intCast_le_intCast.2 (Int.emod_nonneg _ (by omega)),
    Rat.intCast_lt_intCast.2 (Int.emod_lt_of_pos _ hn)⟩
  rw [← Rat.intCast_mul, ← Rat.intCast_sub]; congr 1
  have := Int.mul_ediv_add_emod x n; omega

theorem divmodQ_intCast (a n : Int) (hn : 0 < n) :
    divmodQ (a : Rat) n = (a / n, ((a % n : Int) : Rat)) := by
  obtain ⟨m1, m2⟩ := emod_cast a n hn
  exact divmodQ_unique _ n _ _ hn (by rw [m1, Rat.mul_comm, Rat.add_comm, Rat.sub_add_cancel]) m2

theorem divmodQ_intCast_add (a n : Int) (hn : 0 < n) (f : Rat) (h0 : 0 ≤ f) (h1 : f < 1) :
    divmodQ ((a : Rat) + f) n = (a / n, ((a % n : Int) : Rat) + f) := by
  obtain ⟨m1, m2, _⟩ := emod_cast a n hn
  have m3 : ((a % n + 1 : Int) : Rat) ≤ (n : Rat) :=
    Rat.intCast_le_intCast.2 (by have := Int.emod_lt_of_pos a hn; omega)
  rw [Rat.intCast_add] at m3
  have c1 : ((1 : Int) : Rat) = 1 := rfl
  exact divmodQ_unique _ n _ _ hn (by rw [m1]; grind) ⟨by grind, by grind⟩

theorem divmodQ_small (x : Rat) (n : Int) (hn : 0 < n) (h0 : 0 ≤ x) (h1 : x < (n : Rat)) :
    divmodQ x n = (0, x) :=
  divmodQ_unique x n 0 x hn (by rw [Rat.intCast_zero, Rat.zero_mul, Rat.zero_add]) ⟨h0, h1⟩

theorem sub_sub_self' (x y : Rat) : x - (x - y) = y := by grind

theorem rat_sub_zero (x : Rat) : x - 0 = x := by grind

theorem truncQ_intCast (a : Int) : truncQ (a : Rat) = a := by
  unfold truncQ
  split
  · exact Rat.ceil_intCast a
  · exact Rat.floor_intCast a

theorem truncQ_intCast_add (a : Int) (ha : 0 ≤ a) (f : Rat) (h0 : 0 ≤ f) (h1 : f < 1) :
    truncQ ((a : Rat) + f) = a := by
  have c0 : ((0 : Int) : Rat) = 0 := rfl
  have hnn : ¬ ((a : Rat) + f < 0) := by
    have := Rat.intCast_le_intCast.2 ha
    rw [c0] at this
    grind
  unfold truncQ
  rw [if_neg hnn]
  exact floor_eq_of (by grind) (by grind)

/-- Python's `int()` on a number: the floor from zero upward, the ceiling below zero. -/
theorem truncQ_bounds (x : Rat) :
    (0 ≤ x → (truncQ x : Rat) ≤ x ∧ x < (truncQ x : Rat) + 1 ∧ 0 ≤ truncQ x) ∧
    (x < 0 → x ≤ (truncQ x : Rat) ∧ (truncQ x : Rat) < x + 1 ∧ truncQ x ≤ 0) := by
  unfold truncQ
  constructor <;> intro h
  · rw [if_neg (Rat.not_lt.2 h)]
    exact ⟨Rat.floor_le x, by simpa using Rat.lt_floor_add_one x, Rat.le_floor_iff.2 (by simpa using h)⟩
  · rw [if_pos h]
    exact ⟨Rat.le_ceil, Rat.ceil_lt, Rat.ceil_le_iff.2 (by simpa using Rat.le_of_lt h)⟩

/-! ### the time-of-day statements of `_tick_over` -/

theorem tickTimeQ_spec (m : Mode) (t0 : HMS) (hs : t0.ss.isSome = true → t0.mi.isSome = true) :
    ∃ nd t, tickTimeQ m t0 = some (nd, t) ∧ t.secs + 86400 * (nd : Rat) = t0.secs ∧ t.Ok ∧ t.hh < 24 ∧
      t.mi.isSome = t0.mi.isSome ∧ t.ss.isSome = t0.ss.isSome := by
  -- every `let` of `tickTimeQ` pushes a fraction one slot down or carries a whole multiple one slot
  -- up, so `3600·hh + 60·mi + ss` stays; what each `divmod` leaves is in range (`divmodQ_spec`,
  -- and `emod_cast` where the slot is whole by then)
  obtain ⟨hh, mi, ss⟩ := t0
  cases mi with
  | none =>
    cases ss with
    | some s => cases hs rfl
    | none =>
      simp only [tickTimeQ, hoursInDay_eq, Option.map_some]
      obtain ⟨e, l, u⟩ := divmodQ_spec hh 24 (by decide)
      generalize divmodQ hh 24 = r at e l u
      rw [Rat.intCast_ofNat] at e u
      refine ⟨_, _, rfl, ?_, ⟨l, Rat.le_of_lt u⟩, u, rfl, rfl⟩
      simp only [HMS.secs, Option.getD_none]
      grind
  | some mi =>
    cases ss with
    | none =>
      simp only [tickTimeQ, hoursInDay_eq, minutesInHour_eq, Option.map_some, sub_sub_self']
      generalize truncQ hh = a
      obtain ⟨e1, l1, u1⟩ := divmodQ_spec (mi + (hh - (a : Rat)) * ((60 : Int) : Rat)) 60 (by decide)
      generalize divmodQ (mi + (hh - (a : Rat)) * ((60 : Int) : Rat)) 60 = r1 at e1 l1 u1
      rw [← Rat.intCast_add, divmodQ_intCast _ _ (by decide)]
      obtain ⟨h1, h2, h3⟩ := emod_cast (a + r1.1) 24 (by decide)
      simp only [Rat.intCast_ofNat, Rat.intCast_add] at e1 u1 h1 h3
      refine ⟨_, _, rfl, ?_, ⟨isInt_intCast _, h2, Rat.le_of_lt h3, l1, u1, fun h => absurd h (Rat.ne_of_lt h3)⟩,
        h3, rfl, rfl⟩
      simp only [HMS.secs, Option.getD_some, Option.getD_none]
      grind
    | some ss =>
      simp only [tickTimeQ, hoursInDay_eq, minutesInHour_eq, secondsInMinute_eq, Option.map_some, sub_sub_self']
      generalize truncQ hh = a
      generalize truncQ (mi + (hh - (a : Rat)) * ((60 : Int) : Rat)) = b
      obtain ⟨e1, l1, u1⟩ := divmodQ_spec
        (ss + (mi + (hh - (a : Rat)) * ((60 : Int) : Rat) - (b : Rat)) * ((60 : Int) : Rat)) 60 (by decide)
      generalize divmodQ
        (ss + (mi + (hh - (a : Rat)) * ((60 : Int) : Rat) - (b : Rat)) * ((60 : Int) : Rat)) 60 = r1 at e1 l1 u1
      rw [← Rat.intCast_add, divmodQ_intCast _ _ (by decide)]
      dsimp only
      rw [← Rat.intCast_add, divmodQ_intCast _ _ (by decide)]
      obtain ⟨m1, m2, m3⟩ := emod_cast (b + r1.1) 60 (by decide)
      obtain ⟨h1, h2, h3⟩ := emod_cast (a + (b + r1.1) / 60) 24 (by decide)
      simp only [Rat.intCast_ofNat, Rat.intCast_add] at e1 u1 m1 m3 h1 h3
      refine ⟨_, _, rfl, ?_, ⟨isInt_intCast _, isInt_intCast _, h2, Rat.le_of_lt h3, m2, m3, l1, u1,
        fun h => absurd h (Rat.ne_of_lt h3)⟩, h3, rfl, rfl⟩
      simp only [HMS.secs, Option.getD_some]
      grind

theorem tickTimeQ_ok_id (m : Mode) (t : HMS) (hok : t.Ok) (hlt : t.hh < 24) :
    tickTimeQ m t = some (0, t) := by
  obtain ⟨hh, mi, ss⟩ := t
  change hh < 24 at hlt
  cases mi with
  | none =>
    cases ss with
    | some s => exact hok.elim
    | none => simp only [tickTimeQ, hoursInDay_eq, Option.map_some, divmodQ_small hh 24 (by decide) hok.1 hlt]
  | some mi =>
    cases ss with
    | none =>
      obtain ⟨ih, h0, _, m0, m1, _⟩ : IsInt hh ∧ _ := hok
      obtain ⟨a, rfl⟩ := ih.exists_int
      simp only [tickTimeQ, hoursInDay_eq, minutesInHour_eq, Option.map_some, truncQ_intCast,
        Rat.sub_self, Rat.zero_mul, Rat.add_zero, rat_sub_zero, Rat.intCast_zero,
        divmodQ_small mi 60 (by decide) m0 m1, divmodQ_small _ 24 (by decide) h0 hlt]
    | some ss =>
      obtain ⟨ih, im, h0, _, m0, m1, s0, s1, _⟩ : IsInt hh ∧ _ := hok
      obtain ⟨a, rfl⟩ := ih.exists_int
      obtain ⟨b, rfl⟩ := im.exists_int
      simp only [tickTimeQ, hoursInDay_eq, minutesInHour_eq, secondsInMinute_eq, Option.map_some,
        truncQ_intCast, Rat.sub_self, Rat.zero_mul, Rat.add_zero, rat_sub_zero, Rat.intCast_zero,
        divmodQ_small ss 60 (by decide) s0 s1, divmodQ_small _ 60 (by decide) m0 m1,
        divmodQ_small _ 24 (by decide) h0 hlt]

theorem carryDays_spec (m : Mode) (date : Date) (tz : TZ) (n : Int) (hp : PreValid date) :
    ∃ dt, carryDays m date tz n = some dt ∧ dt.Valid m ∧ dt.dayNum m = date.dayNum m + n ∧
      dt.rep = date.rep := by
  obtain ⟨q, he, hi, hv, a1, a2, a3, a4, a5, a6, htz, hr⟩ :=
    tickOver_spec m ⟨date, (calOf m).hoursInDay * n, 0, 0, tz⟩ hp
  refine ⟨q.date, by simp only [carryDays, he, Option.map_some], hv, ?_, hr⟩
  simp only [TP.inst, TP.secOfDay, hoursInDay_eq, htz] at hi
  omega

/-- What `__add__` threads from statement to statement: the instant moved by `delta` so far, a
    legal point with `hh < 24`, offset, representation and `None` pattern kept. -/
structure GoodQ (m : Mode) (p q : TPQ) (delta : Rat) : Prop where
  inst : q.inst m = p.inst m + delta
  valid : q.Valid m
  lt24 : q.hh < 24
  tz : q.tz = p.tz
  rep : q.date.rep = p.date.rep
  mi : q.mi.isSome = p.mi.isSome
  ss : q.ss.isSome = p.ss.isSome

theorem ok_pattern {t : HMS} (h : t.Ok) : t.ss.isSome = true → t.mi.isSome = true := by
  obtain ⟨hh, mi, ss⟩ := t
  cases mi <;> cases ss <;> simp_all [HMS.Ok]

/-- `_tick_over` from any slot values (the state after `slot += x`). -/
theorem tickOverQ_spec (m : Mode) (p : TPQ) (hp : PreValid p.date)
    (hs : p.ss.isSome = true → p.mi.isSome = true) (htz : p.tz.Valid) :
    ∃ q, tickOverQ m p = some q ∧ GoodQ m p q 0 := by
  obtain ⟨nd, ⟨th, tm, ts⟩, e1, hsec, hok, hlt, hmi, hss⟩ := tickTimeQ_spec m ⟨p.hh, p.mi, p.ss⟩ hs
  obtain ⟨dt, e2, hv, hn, hr⟩ := carryDays_spec m p.date p.tz nd hp
  refine ⟨{ p with date := dt, hh := th, mi := tm, ss := ts },
    by simp only [tickOverQ, e1, e2, Option.map_some], ?_, ⟨hv, htz, hok⟩, hlt, rfl, hr, hmi, hss⟩
  simp only [TPQ.inst, TPQ.hms, hn, Rat.intCast_add]
  grind

theorem normalise24Q_spec (m : Mode) (p : TPQ) (h : p.Valid m) :
    ∃ q, normalise24Q m p = some q ∧ GoodQ m p q 0 := by
  unfold normalise24Q
  rw [hoursInDay_eq, Rat.intCast_ofNat]
  by_cases c : p.hh = 24
  · rw [if_pos c]
    exact tickOverQ_spec m p (preValid_of_valid m _ h.1) (ok_pattern h.2.2) h.2.1
  · rw [if_neg c]
    refine ⟨p, rfl, ⟨(Rat.add_zero _).symm, h, ?_, rfl, rfl, rfl, rfl⟩⟩
    have hok := h.2.2
    obtain ⟨date, hh, mi, ss, tz⟩ := p
    cases mi <;> cases ss <;> simp only [TPQ.hms, HMS.Ok] at hok <;> grind

/-- One `if x: slot += x; self._tick_over()` block of `__add__`, from a good point: `p'` is the
    point after `slot += x`, which moves the instant by `dx` (nothing if the guard `c` fails). -/
theorem bump_tickQ (m : Mode) (p0 p p' : TPQ) (delta dx : Rat) (c : Prop) [Decidable c]
    (g : GoodQ m p0 p delta) (hc : ¬ c → dx = 0)
    (hpre : PreValid p'.date) (htz : p'.tz = p.tz) (hrep : p'.date.rep = p.date.rep)
    (hmi : p'.mi.isSome = p.mi.isSome) (hss : p'.ss.isSome = p.ss.isSome)
    (hinst : p'.inst m = p.inst m + dx) :
    ∃ q, (if c then tickOverQ m p' else some p) = some q ∧ GoodQ m p0 q (delta + dx) := by
  by_cases h : c
  · rw [if_pos h]
    obtain ⟨q, he, g'⟩ := tickOverQ_spec m p' hpre (by rw [hmi, hss]; exact ok_pattern g.valid.2.2)
      (by rw [htz]; exact g.valid.2.1)
    exact ⟨q, he, by rw [g'.inst, Rat.add_zero, hinst, g.inst, Rat.add_assoc], g'.valid, g'.lt24,
      by rw [g'.tz, htz, g.tz], by rw [g'.rep, hrep, g.rep], by rw [g'.mi, hmi, g.mi], by rw [g'.ss, hss, g.ss]⟩
  · rw [if_neg h, hc h, Rat.add_zero]; exact ⟨p, rfl, g⟩

theorem stepSQ_spec (m : Mode) (p p0 : TPQ) (delta s : Rat) (g : GoodQ m p p0 delta) :
    ∃ q, stepSQ m p0 s = some q ∧ GoodQ m p q (delta + s) := by
  have hpre := preValid_of_valid m _ g.valid.1
  obtain ⟨date, hh, mi, ss, tz⟩ := p0
  cases ss with
  | some ss =>
    exact bump_tickQ m p _ _ delta s _ g Decidable.not_not.1 hpre rfl rfl rfl rfl
      (by cases mi <;> simp only [TPQ.inst, TPQ.hms, HMS.secs, Option.getD_some, Option.getD_none] <;> grind)
  | none =>
    cases mi with
    | some mi =>
      exact bump_tickQ m p _ _ delta s _ g Decidable.not_not.1 hpre rfl rfl rfl rfl
        (by simp only [TPQ.inst, TPQ.hms, HMS.secs, Option.getD_some, Option.getD_none,
              secondsInMinute_eq, Rat.intCast_ofNat]; grind)
    | none =>
      exact bump_tickQ m p _ _ delta s _ g Decidable.not_not.1 hpre rfl rfl rfl rfl
        (by simp only [TPQ.inst, TPQ.hms, HMS.secs, Option.getD_none, secondsInHour_eq, Rat.intCast_ofNat]; grind)

theorem stepMQ_spec (m : Mode) (p p0 : TPQ) (delta x : Rat) (g : GoodQ m p p0 delta) :
    ∃ q, stepMQ m p0 x = some q ∧ GoodQ m p q (delta + 60 * x) := by
  have hpre := preValid_of_valid m _ g.valid.1
  have hc : ¬ x ≠ 0 → 60 * x = 0 := fun h => by rw [Decidable.not_not.1 h, Rat.mul_zero]
  obtain ⟨date, hh, mi, ss, tz⟩ := p0
  cases mi with
  | some mi =>
    exact bump_tickQ m p _ _ delta (60 * x) _ g hc hpre rfl rfl rfl rfl
      (by simp only [TPQ.inst, TPQ.hms, HMS.secs, Option.getD_some]; grind)
  | none =>
    exact bump_tickQ m p _ _ delta (60 * x) _ g hc hpre rfl rfl rfl rfl
      (by simp only [TPQ.inst, TPQ.hms, HMS.secs, Option.getD_none, minutesInHour_eq, Rat.intCast_ofNat]; grind)

theorem stepHQ_spec (m : Mode) (p p0 : TPQ) (delta x : Rat) (g : GoodQ m p p0 delta) :
    ∃ q, stepHQ m p0 x = some q ∧ GoodQ m p q (delta + 3600 * x) :=
  bump_tickQ m p _ _ delta (3600 * x) _ g (fun h => by rw [Decidable.not_not.1 h, Rat.mul_zero])
    (preValid_of_valid m _ g.valid.1) rfl rfl rfl rfl (by simp only [TPQ.inst, TPQ.hms, HMS.secs]; grind)

theorem stepDQ_spec (m : Mode) (p p0 : TPQ) (delta : Rat) (x : Int) (g : GoodQ m p p0 delta) :
    ∃ q, stepDQ m p0 x = some q ∧ GoodQ m p q (delta + 86400 * (x : Rat)) :=
  bump_tickQ m p _ _ delta (86400 * (x : Rat)) _ g
    (fun h => by rw [Decidable.not_not.1 h, Rat.intCast_zero, Rat.mul_zero])
    (preValid_bumpDay _ _ (preValid_of_valid m _ g.valid.1)) rfl (rep_bumpDay _ _) rfl rfl
    (by simp only [TPQ.inst, TPQ.hms, dayNum_bumpDay, Rat.intCast_add]; grind)

theorem addExactQ_spec (m : Mode) (p : TPQ) (d : DurQ) (hv : p.Valid m) :
    ∃ q, addExactQ m p d = some q ∧ GoodQ m p q d.seconds := by
  unfold addExactQ
  obtain ⟨p0, e0, g0⟩ := normalise24Q_spec m p hv
  obtain ⟨p1, e1, g1⟩ := stepSQ_spec m p p0 0 d.s g0
  obtain ⟨p2, e2, g2⟩ := stepMQ_spec m p p1 _ d.mi g1
  obtain ⟨p3, e3, g3⟩ := stepHQ_spec m p p2 _ d.h g2
  obtain ⟨p4, e4, g4⟩ := stepDQ_spec m p p3 _ d.days g3
  rw [e0, Option.bind_some, e1, Option.bind_some, e2, Option.bind_some, e3, Option.bind_some, e4]
  refine ⟨p4, rfl, ?_⟩
  have e : d.seconds = 0 + d.s + 60 * d.mi + 3600 * d.h + 86400 * (d.days : Rat) := by
    simp only [DurQ.seconds]; grind
  rw [e]; exact g4

/-! ### the rational model extends the whole-second model -/

theorem ofTP_inst (m : Mode) (p : TP) : (TPQ.ofTP p).inst m = ((p.inst m : Int) : Rat) := by
  simp only [TPQ.inst, TPQ.hms, TPQ.ofTP, HMS.secs, Option.getD_some, TP.inst, TP.secOfDay,
    Rat.intCast_sub, Rat.intCast_add, Rat.intCast_mul]
  rfl

theorem ofTP_valid (m : Mode) (p : TP) : (TPQ.ofTP p).Valid m ↔ p.Valid m := by
  obtain ⟨date, hh, mi, ss, tz⟩ := p
  simp only [TPQ.Valid, TPQ.hms, TPQ.ofTP, HMS.Ok, TP.Valid, isInt_intCast, true_and, ← Rat.intCast_ofNat,
    Rat.intCast_le_intCast, Rat.intCast_lt_intCast, Rat.intCast_inj]
  constructor
  · rintro ⟨a, b, c⟩; exact ⟨a, c.1, c.2.1, c.2.2.1, c.2.2.2.1, c.2.2.2.2.1, c.2.2.2.2.2.1, c.2.2.2.2.2.2, b⟩
  · rintro ⟨a, c1, c2, c3, c4, c5, c6, c7, b⟩; exact ⟨a, b, c1, c2, c3, c4, c5, c6, c7⟩

def TruncQ.liftF (f : Rat) (p : TP) : TPQ := ⟨p.date, (p.hh : Rat), some (p.mi : Rat), some ((p.ss : Rat) + f), p.tz⟩

open TruncQ (liftF)

theorem liftF_zero (p : TP) : liftF 0 p = TPQ.ofTP p := by
  simp only [TruncQ.liftF, TPQ.ofTP, Rat.add_zero]

theorem tickTimeQ_liftF (m : Mode) (hh mi ss : Int) (f : Rat) (h0 : 0 ≤ f) (h1 : f < 1) :
    tickTimeQ m ⟨(hh : Rat), some (mi : Rat), some ((ss : Rat) + f)⟩ =
      some ((hh + (mi + ss / 60) / 60) / 24,
        ⟨(((hh + (mi + ss / 60) / 60) % 24 : Int) : Rat), some (((mi + ss / 60) % 60 : Int) : Rat),
          some (((ss % 60 : Int) : Rat) + f)⟩) := by
  simp only [tickTimeQ, hoursInDay_eq, minutesInHour_eq, secondsInMinute_eq, Option.map_some,
    truncQ_intCast, Rat.sub_self, Rat.zero_mul, Rat.add_zero, rat_sub_zero]
  rw [divmodQ_intCast_add _ _ (by omega) f h0 h1]
  dsimp only
  rw [← Rat.intCast_add, divmodQ_intCast _ _ (by omega)]
  dsimp only
  rw [← Rat.intCast_add, divmodQ_intCast _ _ (by omega)]

/-- **`_tick_over` keeps the fraction of a second.** -/
theorem tickOverQ_liftF (m : Mode) (f : Rat) (h0 : 0 ≤ f) (h1 : f < 1) (p : TP) :
    tickOverQ m (liftF f p) = (tickOver m p).map (liftF f) := by
  obtain ⟨date, hh, mi, ss, tz⟩ := p
  simp only [tickOverQ, TruncQ.liftF, tickTimeQ_liftF m hh mi ss f h0 h1, carryDays]
  have e : ((calOf m).hoursInDay * ((hh + (mi + ss / 60) / 60) / 24) + (0 + 0 / 60) / 60) / 24
      = (hh + (mi + ss / 60) / 60) / 24 := by rw [hoursInDay_eq]; omega
  unfold tickOver
  simp only [secondsInMinute_eq, minutesInHour_eq, hoursInDay_eq] at e ⊢
  rw [e]
  cases date with
  | cal y mo d =>
    dsimp only
    cases tickDayOfMonth m y mo (d + (hh + (mi + ss / 60) / 60) / 24) with
    | none => rfl
    | some r => obtain ⟨a, b, c⟩ := r; rfl
  | ord y doy => rfl
  | week y w d => rfl

theorem tickOverQ_ofTP (m : Mode) (p : TP) : tickOverQ m (TPQ.ofTP p) = (tickOver m p).map TPQ.ofTP := by
  have h := tickOverQ_liftF m 0 (Rat.le_refl) (by decide) p
  rwa [liftF_zero, funext liftF_zero] at h

theorem date_ofTP (p : TP) : (TPQ.ofTP p).date = p.date := rfl

theorem ofTP_map_bind {α : Type} (o : Option TP) (f : TPQ → Option α) :
    (o.map TPQ.ofTP).bind f = o.bind fun p => f (TPQ.ofTP p) := by cases o <;> rfl

theorem map_bind_fun {α β γ : Type} (o : Option α) (f : α → Option β) (g : β → γ) :
    (o.bind f).map g = o.bind fun x => (f x).map g := by cases o <;> rfl

theorem normalise24Q_ofTP (m : Mode) (p : TP) :
    normalise24Q m (TPQ.ofTP p) = (normalise24 m p).map TPQ.ofTP := by
  unfold normalise24Q normalise24
  simp only [TPQ.ofTP, Rat.intCast_inj]
  split
  · exact tickOverQ_ofTP m p
  · rfl

/-- One `if x: slot += x; self._tick_over()` block on a whole-second point with a whole `x`. -/
theorem bump_ofTP (m : Mode) (p p' : TP) (x : Int) :
    (if (x : Rat) ≠ 0 then tickOverQ m (TPQ.ofTP p') else some (TPQ.ofTP p)) =
      (if x ≠ 0 then tickOver m p' else some p).map TPQ.ofTP := by
  by_cases c : x = 0
  · subst c; rfl
  · rw [if_pos c, if_pos (fun h => c (Rat.intCast_eq_zero_iff.1 h))]; exact tickOverQ_ofTP m p'

theorem stepSQ_ofTP (m : Mode) (p : TP) (s : Int) :
    stepSQ m (TPQ.ofTP p) (s : Rat) = (stepS m p s).map TPQ.ofTP := by
  simp only [stepSQ, TPQ.ofTP, ← Rat.intCast_add]
  exact bump_ofTP m p { p with ss := p.ss + s } s

theorem stepMQ_ofTP (m : Mode) (p : TP) (s : Int) :
    stepMQ m (TPQ.ofTP p) (s : Rat) = (stepM m p s).map TPQ.ofTP := by
  simp only [stepMQ, TPQ.ofTP, ← Rat.intCast_add]
  exact bump_ofTP m p { p with mi := p.mi + s } s

theorem stepHQ_ofTP (m : Mode) (p : TP) (s : Int) :
    stepHQ m (TPQ.ofTP p) (s : Rat) = (stepH m p s).map TPQ.ofTP := by
  simp only [stepHQ, TPQ.ofTP, ← Rat.intCast_add]
  exact bump_ofTP m p { p with hh := p.hh + s } s

theorem stepDQ_ofTP (m : Mode) (p : TP) (d : Int) :
    stepDQ m (TPQ.ofTP p) d = (stepD m p d).map TPQ.ofTP := by
  unfold stepDQ stepD
  split
  · exact tickOverQ_ofTP m { p with date := bumpDay p.date d }
  · rfl

/-- Without years and months `__add__` is its exact part. -/
theorem addUnits_eq_addDur (m : Mode) (p : TP) (d h mi s : Int) :
    addDur m p (.units 0 0 d h mi s) = addUnits m p d h mi s := by
  cases e : addUnits m p d h mi s <;> simp [addDur, Dur.toDays, e, addMonths, addYears]

theorem addExactQ_ofTP (m : Mode) (p : TP) (d h mi s : Int) :
    addExactQ m (TPQ.ofTP p) ⟨d, (h : Rat), (mi : Rat), (s : Rat)⟩ =
      (addUnits m p d h mi s).map TPQ.ofTP := by
  unfold addExactQ addUnits
  simp only [normalise24Q_ofTP, ofTP_map_bind, stepSQ_ofTP, stepMQ_ofTP, stepHQ_ofTP, stepDQ_ofTP, map_bind_fun]
end IsoDT.Lemmas
