/-
  IsoDT.Lemmas.TextParse — first match in a pairwise-disjoint try-order, the string splitting of
  `get_info`, and the characters a rendered template can contain.
-/
import IsoDT.Lemmas.Text

namespace IsoDT.Text
open IsoDT

/-- First element (in list order) whose template matches: `firstMatch` / `firstMatchZ` generically. -/
def firstBy {α : Type} (tm : α → Template) : List α → List Char → Option (α × Env)
  | [], _ => none
  | e :: es, s =>
    match tmatch (tm e) s with
    | some env => some (e, env)
    | none => firstBy tm es s

theorem firstMatch_eq (l : List Entry) (s : List Char) : firstMatch l s = firstBy Entry.tmpl l s := by
  induction l with
  | nil => rfl
  | cons a l ih => simp only [firstMatch, firstBy, ih]; cases tmatch a.tmpl s <;> rfl

theorem firstMatchZ_eq (l : List ZEntry) (s : List Char) : firstMatchZ l s = firstBy ZEntry.tmpl l s := by
  induction l with
  | nil => rfl
  | cons a l ih => simp only [firstMatchZ, firstBy, ih]; cases tmatch a.tmpl s <;> rfl

/-- `b` may come after `a` in a date try-order: nothing `b` matches is matched by `a` — unless `a` is the
    very same regular expression with the same expression text and type (the tables list a few forms
    under both `basic` and `extended`); for a `complete` form it must then also be the same format. -/
def okPair (a b : Entry) : Bool :=
  shapeDisjoint a.tmpl b.tmpl ||
    (a.tmpl = b.tmpl && a.expr = b.expr && a.typ = b.typ && (a.fmt = b.fmt || b.typ != .complete))

/-- The same for time entries (only the expression text is returned by `get_time_info`). -/
def okPairT (a b : Entry) : Bool :=
  shapeDisjoint a.tmpl b.tmpl || (a.tmpl = b.tmpl && a.expr = b.expr)

def okPairZ (a b : ZEntry) : Bool :=
  shapeDisjoint a.tmpl b.tmpl || (a.tmpl = b.tmpl && a.expr = b.expr)

def allAfter {α : Type} (ok : α → α → Bool) : List α → Bool
  | [] => true
  | a :: l => l.all (ok a) && allAfter ok l

def prec {α : Type} [DecidableEq α] (ok : α → α → Bool) : List α → α → Bool
  | [], _ => true
  | a :: l, e => if a = e then true else ok a e && prec ok l e

theorem allAfter_filter {α : Type} (ok : α → α → Bool) (p : α → Bool) (l : List α)
    (h : allAfter ok l = true) : allAfter ok (l.filter p) = true := by
  induction l with
  | nil => rfl
  | cons a l ih =>
    simp only [allAfter, Bool.and_eq_true, List.all_eq_true] at h
    by_cases hp : p a = true
    · simp only [List.filter_cons, hp, if_true, allAfter, Bool.and_eq_true, List.all_eq_true]
      exact ⟨fun x hx => h.1 x (List.mem_filter.mp hx).1, ih h.2⟩
    · simp only [List.filter_cons, hp]
      exact ih h.2

theorem prec_of_allAfter {α : Type} [DecidableEq α] (ok : α → α → Bool) (l : List α)
    (h : allAfter ok l = true) (e : α) (he : e ∈ l) : prec ok l e = true := by
  induction l with
  | nil => rfl
  | cons a l ih =>
    simp only [allAfter, Bool.and_eq_true, List.all_eq_true] at h
    simp only [prec]
    split
    · rfl
    · rename_i hne
      rcases List.mem_cons.mp he with rfl | hel
      · exact absurd rfl hne
      · simp [h.1 e hel, ih h.2 hel]

def overlaps : List Entry → List (List Char × List Char)
  | [] => []
  | a :: l => ((l.filter fun b => !okPair a b).map fun b => (a.expr, b.expr)) ++ overlaps l

theorem overlaps_eq_nil_iff (l : List Entry) : overlaps l = [] ↔ allAfter okPair l = true := by
  induction l with
  | nil => simp only [overlaps, allAfter]
  | cons a l ih =>
    simp only [overlaps, allAfter, List.append_eq_nil_iff, List.map_eq_nil_iff, List.filter_eq_nil_iff,
      Bool.not_eq_true', Bool.not_eq_false, Bool.and_eq_true, List.all_eq_true, ih]

theorem allAfter_of_overlaps_nil (l : List Entry) (h : overlaps l = []) : allAfter okPair l = true :=
  (overlaps_eq_nil_iff l).mp h

theorem prec_of_not_overlapped (l : List Entry) (e : Entry) (he : e ∈ l)
    (h : ∀ p ∈ overlaps l, p.2 ≠ e.expr) : prec okPair l e = true := by
  induction l with
  | nil => rfl
  | cons a l ih =>
    simp only [prec]
    split
    · rfl
    · rename_i hne
      have hel : e ∈ l := (List.mem_cons.mp he).resolve_left (Ne.symm hne)
      simp only [overlaps, List.mem_append, List.mem_map, List.mem_filter] at h
      rw [ih hel fun p hp => h p (Or.inr hp), Bool.and_true]
      cases hk : okPair a e with
      | true => rfl
      | false => exact absurd rfl (h (a.expr, e.expr) (Or.inl ⟨e, ⟨hel, by rw [hk]; rfl⟩, rfl⟩))

/-- **First match**, generically: if every element tried before `e` is `ok` with `e` — i.e. cannot match
    anything `e` matches, or is the same regular expression and related to `e` by `R` — then a text
    `e` matches is decoded by `e`'s regular expression, by an element related to `e`. -/
theorem firstBy_prec {α : Type} [DecidableEq α] (tm : α → Template) (ok : α → α → Bool)
    (R : α → α → Prop)
    (hok : ∀ a e, ok a e = true → shapeDisjoint (tm a) (tm e) = true ∨ (tm a = tm e ∧ R a e))
    (hR : ∀ e, R e e) (l : List α) (hwf : ∀ x ∈ l, wf (tm x) = true) (e : α) (he : e ∈ l)
    (hp : prec ok l e = true) (s : List Char) (env : Env) (hm : tmatch (tm e) s = some env) :
    ∃ e', e' ∈ l ∧ firstBy tm l s = some (e', env) ∧ tm e' = tm e ∧ R e' e := by
  induction l with
  | nil => simp at he
  | cons a l ih =>
    simp only [prec] at hp
    by_cases hae : a = e
    · subst hae
      exact ⟨a, List.mem_cons_self, by simp [firstBy, hm], rfl, hR a⟩
    · simp only [hae, if_false, Bool.and_eq_true] at hp
      have hel : e ∈ l := by
        rcases List.mem_cons.mp he with h | h
        · exact absurd h.symm hae
        · exact h
      rcases hok a e hp.1 with hd | ⟨h1, h2⟩
      · have hn := shapeDisjoint_sound (tm a) (tm e) (hwf a List.mem_cons_self) (hwf e he) hd s env hm
        obtain ⟨e', m1, m2, m3⟩ := ih (fun x hx => hwf x (List.mem_cons_of_mem _ hx)) hel hp.2
        exact ⟨e', List.mem_cons_of_mem _ m1, by simp [firstBy, hn, m2], m3⟩
      · exact ⟨a, List.mem_cons_self, by simp [firstBy, h1, hm], h1, h2⟩

/-- What an entry found in a date try-order shares with the entry the text was rendered from. -/
def SameDate (a e : Entry) : Prop :=
  a.expr = e.expr ∧ a.typ = e.typ ∧ (e.typ = .complete → a.fmt = e.fmt)

theorem okPair_spec (a e : Entry) (h : okPair a e = true) :
    shapeDisjoint a.tmpl e.tmpl = true ∨ (a.tmpl = e.tmpl ∧ SameDate a e) := by
  simp only [okPair, Bool.or_eq_true, Bool.and_eq_true, decide_eq_true_eq] at h
  rcases h with hd | ⟨⟨⟨h1, h2⟩, h3⟩, h4⟩
  · exact Or.inl hd
  · refine Or.inr ⟨h1, h2, h3, fun hc => ?_⟩
    rcases h4 with h4 | h4
    · exact h4
    · simp [hc] at h4

theorem okPairT_spec (a e : Entry) (h : okPairT a e = true) :
    shapeDisjoint a.tmpl e.tmpl = true ∨ (a.tmpl = e.tmpl ∧ a.expr = e.expr) := by
  simp only [okPairT, Bool.or_eq_true, Bool.and_eq_true, decide_eq_true_eq] at h
  exact h

theorem okPairZ_spec (a e : ZEntry) (h : okPairZ a e = true) :
    shapeDisjoint a.tmpl e.tmpl = true ∨ (a.tmpl = e.tmpl ∧ a.expr = e.expr) := by
  simp only [okPairZ, Bool.or_eq_true, Bool.and_eq_true, decide_eq_true_eq] at h
  exact h

theorem firstMatch_none (l : List Entry) (s : List Char)
    (h : ∀ e ∈ l, tmatch e.tmpl s = none) : firstMatch l s = none := by
  induction l with
  | nil => rfl
  | cons a l ih =>
    simp [firstMatch, h a List.mem_cons_self, ih (fun e he => h e (List.mem_cons_of_mem _ he))]

theorem firstMatch_some (l : List Entry) (s : List Char) (e : Entry) (env : Env)
    (h : firstMatch l s = some (e, env)) : e ∈ l ∧ tmatch e.tmpl s = some env := by
  induction l with
  | nil => cases h
  | cons a l ih =>
    simp only [firstMatch] at h
    split at h
    · rename_i env' hm
      simp only [Option.some.injEq, Prod.mk.injEq] at h
      obtain ⟨rfl, rfl⟩ := h
      exact ⟨List.mem_cons_self, hm⟩
    · obtain ⟨h1, h2⟩ := ih h
      exact ⟨List.mem_cons_of_mem _ h1, h2⟩

theorem splitOnChar_none (c : Char) (a : List Char) (h : c ∉ a) : splitOnChar c a = [a] := by
  induction a with
  | nil => rfl
  | cons x a ih =>
    simp only [List.mem_cons, not_or] at h
    have hx : x ≠ c := fun e => h.1 e.symm
    simp [splitOnChar, hx, ih h.2]

theorem splitOnChar_one (c : Char) (a b : List Char) (ha : c ∉ a) (hb : c ∉ b) :
    splitOnChar c (a ++ c :: b) = [a, b] := by
  induction a with
  | nil => simp [splitOnChar, splitOnChar_none c b hb]
  | cons x a ih =>
    simp only [List.mem_cons, not_or] at ha
    have hx : x ≠ c := fun e => ha.1 e.symm
    simp [splitOnChar, hx, ih ha.2]

theorem splitLast_none (c : Char) (a : List Char) (h : c ∉ a) : splitLast c a = none := by
  induction a with
  | nil => rfl
  | cons x a ih =>
    simp only [List.mem_cons, not_or] at h
    have hx : x ≠ c := fun e => h.1 e.symm
    simp [splitLast, ih h.2, hx]

theorem splitLast_append (c : Char) (a b : List Char) (hb : c ∉ b) :
    splitLast c (a ++ c :: b) = some (a, b) := by
  induction a with
  | nil => simp [splitLast, splitLast_none c b hb]
  | cons x a ih => simp [splitLast, ih]

/-- Every non-digit character a rendering of the template can contain. -/
def litChars : Template → List Char
  | [] => []
  | .lit c :: t => c :: litChars t
  | .group _ ls :: t => ls ++ litChars t
  | .sign _ :: t => '+' :: '-' :: litChars t
  | _ :: t => litChars t

theorem all_digits_mem (s : List Char) (h : s.all isDigit = true) (c : Char) (hc : c ∈ s) :
    isDigit c = true := by
  simp only [List.all_eq_true] at h
  exact h c hc

theorem mem_litChars_cons (it : Item) (t : Template) (c : Char) (h : c ∈ litChars t) :
    c ∈ litChars (it :: t) := by
  cases it <;> simp [litChars, h]

theorem trender_chars (t : Template) (env : Env) (h : fits t env = true) (c : Char)
    (hc : c ∈ trender t env) : isDigit c = true ∨ c ∈ litChars t := by
  induction t generalizing env with
  | nil => simp [trender] at hc
  | cons it t ih =>
    have hf := fits_cons h
    have rest : ∀ env, fits t env = true → c ∈ trender t env → isDigit c = true ∨ c ∈ litChars (it :: t) :=
      fun env hf hc => (ih env hf hc).imp_right (mem_litChars_cons it t c)
    cases it with
    | lit x =>
      simp only [trender, List.mem_cons] at hc
      rcases hc with rfl | hc
      · exact Or.inr (by simp [litChars])
      · exact rest env hf hc
    | digits f n =>
      obtain ⟨s, env, rfl, _, hd, hf⟩ := hf
      simp only [trender, List.mem_append] at hc
      exact hc.elim (fun hc => Or.inl (all_digits_mem s hd c hc)) (rest env hf)
    | digitsPlus f =>
      obtain ⟨s, rfl, _, hd, rfl⟩ := hf
      simp only [trender, List.append_nil] at hc
      exact Or.inl (all_digits_mem s hd c hc)
    | sign f =>
      obtain ⟨s, env, rfl, hs, hf⟩ := hf
      simp only [trender, List.mem_append] at hc
      rcases hc with hc | hc
      · rcases hs with rfl | rfl <;> simp at hc <;> subst hc <;> exact Or.inr (by simp [litChars])
      · exact rest env hf hc
    | group f ls =>
      obtain ⟨env, rfl, hf⟩ := hf
      simp only [trender, List.mem_append] at hc
      exact hc.elim (fun hc => Or.inr (by simp [litChars, hc])) (rest env hf)

def groupFields : Template → List Fld
  | [] => []
  | .lit _ :: t => groupFields t
  | .digits f _ :: t => f :: groupFields t
  | .digitsPlus f :: t => f :: groupFields t
  | .sign f :: t => f :: groupFields t
  | .group f _ :: t => f :: groupFields t

theorem fits_fields (t : Template) (env : Env) (h : fits t env = true) :
    env.map Prod.fst = groupFields t := by
  induction t generalizing env with
  | nil =>
    cases env with
    | nil => rfl
    | cons _ _ => simp [fits] at h
  | cons it t ih =>
    have hf := fits_cons h
    cases it with
    | lit x => simpa [groupFields] using ih env hf
    | digits f n => obtain ⟨s, env, rfl, _, _, hf⟩ := hf; simp [groupFields, ih env hf]
    | digitsPlus f => obtain ⟨s, rfl, _, _, rfl⟩ := hf; simp [groupFields]
    | sign f => obtain ⟨s, env, rfl, _, hf⟩ := hf; simp [groupFields, ih env hf]
    | group f ls => obtain ⟨env, rfl, hf⟩ := hf; simp [groupFields, ih env hf]

theorem Env.has_iff (env : Env) (f : Fld) : Env.has env f = (env.map Prod.fst).contains f := by
  induction env with
  | nil => rfl
  | cons gs env ih =>
    obtain ⟨g, s⟩ := gs
    unfold Env.has at ih ⊢
    simp only [Env.get?, List.map_cons, List.contains_cons]
    by_cases hg : g = f
    · subst hg; simp
    · have : (f == g) = false := by simp [Ne.symm hg]
      simp [hg, ih, this]

theorem Env.has_fits (t : Template) (env : Env) (h : fits t env = true) (f : Fld) :
    Env.has env f = (groupFields t).contains f := by
  rw [Env.has_iff, fits_fields t env h]

/-! ## The zero offset (`Z`, or no zone at all) -/

theorem mkTZ_zero (m : Mode) : Model.mkTZ m 0 0 = some ⟨0, 0⟩ := by cases m <;> rfl

end IsoDT.Text
