/-
  IsoDT.Lemmas.DurTextQ — lemmas for C10 on durations with decimal components and for C09
  (Props/C10b.lean).  Python's floats enter only as the parameters `reprF`, `readF` of
  `Model.DurTextQ`; the laws asked of them are `FloatText`, `FloatPlain`, `FloatDec` (instances:
  Lemmas/DurTextQFloat.lean).  Under them `toTextQ` writes a designator string whose time fields are
  `GoodA` (Lemmas/DurText.lean: each greedy `\d.*` group backs off to exactly its own field), and
  `parseBodyQ` reads the components back.  For C09: which answers `parseBodyQ` can give at all.
-/
import IsoDT.Model.DurTextQ
import IsoDT.Lemmas.DurText
import IsoDT.Lemmas.DurationQ

namespace IsoDT.Lemmas.DurTextQ
open IsoDT IsoDT.Model IsoDT.Model.DurText IsoDT.Model.DurTextQ IsoDT.Gen IsoDT.Lemmas IsoDT.Lemmas.DurText

/-- A character `repr(float)` can print for a positive finite float: a digit, `.`, or one of
    `e`, `-`, `+` (exponent layout). -/
def FloatCh (c : Char) : Prop := isDig c = true ∨ c = '.' ∨ c = 'e' ∨ c = '-' ∨ c = '+'

/-- What the round trip needs of CPython's `repr(float)` / `float(str)` on a domain `D` of values.

    True of CPython with `D q` := "`q` is (the value of) a finite binary64 float":
    `read_repr` is the shortest-repr round trip `float(repr(x)) == x`; `repr_chars` holds because
    `repr` of a positive finite float is `digits.digits` (for `1e-4 ≤ x < 1e16`, see `FloatPlain`)
    or `d[.ddd]e±XX` (otherwise); `read_nat` because `float` of a digit string is correctly rounded,
    hence exact on a representable whole number (`__str__` prints whole values through `int`). -/
structure FloatText (reprF : Rat → List Char) (readF : List Char → FR) (D : Rat → Prop) : Prop where
  /-- `float(repr(x)) == x`. -/
  read_repr : ∀ q, D q → readF (reprF q) = .val q
  /-- `repr(x)`, `x > 0`, starts with a digit and consists of digits, `.`, `e`, `-`, `+`. -/
  repr_chars : ∀ q, D q → 0 < q → ∃ d0 body, reprF q = d0 :: body ∧ isDig d0 = true ∧ ∀ c ∈ body, FloatCh c
  /-- `float("<digits of n>") == n` for a representable whole number `n`. -/
  read_nat : ∀ n : Nat, D (n : Rat) → readF (natDigits n) = .val (n : Rat)

/-- The plain layout: in the no-exponent range of `repr` (`1e-4 ≤ x < 1e16`; every float that is not
    whole is below `2^52 < 1e16`, so for the non-whole values `__str__` hands to `str` this is
    `1e-4 ≤ x`) the text is `digits.digits`. -/
def FloatPlain (reprF : Rat → List Char) (D : Rat → Prop) : Prop :=
  ∀ q, D q → 0 < q → ∃ a b, reprF q = a ++ '.' :: b ∧ Digs a ∧ a ≠ [] ∧ Digs b ∧ b ≠ []

/-- The value written by `a.b` (`a`, `b` digit strings). -/
def decVal (a b : List Char) : Rat := mkRat (digitsVal (a ++ b)) (10 ^ b.length)

/-- `float` is correctly rounded: on a decimal text (any length, leading / trailing zeros, `1.`
    with nothing after the point) whose value is representable it is exact. -/
structure FloatDec (readF : List Char → FR) (D : Rat → Prop) : Prop where
  read_digits : ∀ ds, Digs ds → ds ≠ [] → D (digitsVal ds : Rat) → readF ds = .val (digitsVal ds : Rat)
  read_point : ∀ a b, Digs a → a ≠ [] → Digs b → D (decVal a b) → readF (a ++ '.' :: b) = .val (decVal a b)

theorem FloatText.of_dec {reprF : Rat → List Char} {readF : List Char → FR} {D : Rat → Prop}
    (fd : FloatDec readF D)
    (hr : ∀ q, D q → ∃ a b, reprF q = a ++ '.' :: b ∧ Digs a ∧ a ≠ [] ∧ Digs b ∧ decVal a b = q) :
    FloatText reprF readF D where
  read_repr := by
    intro q hq
    obtain ⟨a, b, e, ha, hne, hb, hv⟩ := hr q hq
    rw [e, fd.read_point a b ha hne hb (by rw [hv]; exact hq), hv]
  repr_chars := by
    intro q hq _
    obtain ⟨a, b, e, ha, hne, hb, _⟩ := hr q hq
    cases a with
    | nil => exact absurd rfl hne
    | cons d0 a' =>
      refine ⟨d0, a' ++ '.' :: b, by rw [e]; rfl, ha.head, ?_⟩
      intro c hc
      simp only [List.mem_append, List.mem_cons] at hc
      rcases hc with hc | hc | hc
      · exact Or.inl (ha.tail c hc)
      · exact Or.inr (Or.inl hc)
      · exact Or.inl (hb c hc)
  read_nat := by
    intro n hn
    have := fd.read_digits (natDigits n) (natDigits_digs n) (natDigits_ne_nil n)
      (by rw [digitsVal_natDigits]; exact hn)
    rw [digitsVal_natDigits] at this
    exact this

/-- The digit run is within the interpreter's `int()` digit limit. -/
def LimOk (lim : Nat) (f : Option (List Char)) : Prop := ∀ ds, f = some ds → lim = 0 ∨ ds.length ≤ lim

theorem LimOk.none (lim : Nat) : LimOk lim none := by intro ds h; cases h

/-- `float(value.replace(",", "."))` of a present field is the finite value `q`; an absent field
    stands for the default 0. -/
def Rd (readF : List Char → FR) (f : Option (List Char)) (q : Rat) : Prop :=
  match f with
  | none => q = 0
  | some t => readF (replaceComma t) = .val q

theorem convertQ_int (lim : Nat) (readF : List Char → FR) (sg : Int) (cp : Caps) (n : DUnit) (ns : List DUnit)
    (a : Acc) (f : Option (List Char)) (hn : n.isIntKey = true) (hcp : cp n = f) (hf : GoodF f)
    (hl : LimOk lim f) :
    convertQ lim readF sg cp (n :: ns) a =
      convertQ lim readF sg cp ns ⟨fun x => if x = n then selI f sg (a.fi x) else a.fi x, a.fq, a.inf⟩ := by
  cases f with
  | none => simp [convertQ, hn, hcp, intFieldQ, selI]
  | some ds =>
    obtain ⟨h1, h2⟩ := hf ds rfl
    have hlim : ¬ (lim ≠ 0 ∧ lim < ds.length) := by
      rcases hl ds rfl with h | h <;> omega
    simp only [convertQ, hn, hcp, intFieldQ, h2, h1.all, ne_eq, not_false_eq_true, and_self, ↓reduceIte, hlim]
    rfl

theorem convertQ_flt (lim : Nat) (readF : List Char → FR) (sg : Int) (cp : Caps) (n : DUnit) (ns : List DUnit)
    (a : Acc) (f : Option (List Char)) (q : Rat) (hn : n.isIntKey = false) (hcp : cp n = f)
    (hr : Rd readF f q) :
    convertQ lim readF sg cp (n :: ns) a = convertQ lim readF sg cp ns
      ⟨a.fi, fun x => if x = n ∧ f.isSome = true then q * (sg : Rat) else a.fq x, a.inf⟩ := by
  cases f with
  | none => simp [convertQ, hn, hcp]
  | some t =>
    have hr' : readF (replaceComma t) = .val q := hr
    simp only [convertQ, hn, hcp, hr', Bool.false_eq_true, ↓reduceIte, Option.isSome_some, and_true]
    rfl

theorem Rd.ite {readF : List Char → FR} {f : Option (List Char)} {q : Rat} (h : Rd readF f q) (sg : Rat) :
    (if f.isSome = true then q * sg else 0) = q * sg := by
  cases f with
  | none => rw [show q = 0 from h]; simp
  | some t => rfl

def RdT (readF : List Char → FR) : Option TimeF → Rat → Rat → Rat → Prop
  | none, qh, qmi, qs => qh = 0 ∧ qmi = 0 ∧ qs = 0
  | some (fh, fmi, fs), qh, qmi, qs => Rd readF fh qh ∧ Rd readF fmi qmi ∧ Rd readF fs qs

theorem accZero_fq (n : DUnit) : Acc.zero.fq n = 0 := rfl
theorem accZero_fi : Acc.zero.fi = Fields.zero := rfl
theorem accZero_inf : Acc.zero.inf = false := rfl

theorem parseBodyQ_desig (lim : Nat) (readF : List Char → FR) (m : Mode) (sg : Int)
    (fy fmo fd : Option (List Char)) (ft : Option TimeF)
    (hy : GoodF fy) (hmo : GoodF fmo) (hd : GoodF fd) (ly : LimOk lim fy) (lmo : LimOk lim fmo)
    (ld : LimOk lim fd) (ht : GoodAT ft) (qh qmi qs : Rat) (hr : RdT readF ft qh qmi qs) :
    parseBodyQ lim readF m sg (desig fy fmo fd ft) =
      .ok (DurationQ.mk m (ival fy * sg) (ival fmo * sg) 0 (ival fd * sg)
        (qh * (sg : Rat)) (qmi * (sg : Rat)) (qs * (sg : Rat))) := by
  cases ft with
  | none =>
    obtain ⟨rfl, rfl, rfl⟩ := hr
    simp only [parseBodyQ, firstMatch_date fy fmo fd hy hmo hd, durGroups0]
    rw [convertQ_int lim readF sg _ .years _ _ fy rfl (dateCaps_apply ..) hy ly,
      convertQ_int lim readF sg _ .months _ _ fmo rfl (dateCaps_apply ..) hmo lmo,
      convertQ_int lim readF sg _ .days _ _ fd rfl (dateCaps_apply ..) hd ld]
    simp only [convertQ, Acc.toDur, accZero_fq, accZero_fi, accZero_inf, reduceCtorEq, if_false, if_true,
      zero_apply, selI_zero, Rat.zero_mul, Bool.false_eq_true]
  | some t =>
    obtain ⟨fh, fmi, fs⟩ := t
    obtain ⟨hh, hmi, hs⟩ := ht
    obtain ⟨rh, rmi, rs⟩ := hr
    simp only [parseBodyQ, firstMatch_time fy fmo fd fh fmi fs hy hmo hd hh hmi hs, durGroups1]
    rw [convertQ_int lim readF sg _ .years _ _ fy rfl (allCaps_apply ..) hy ly,
      convertQ_int lim readF sg _ .months _ _ fmo rfl (allCaps_apply ..) hmo lmo,
      convertQ_int lim readF sg _ .days _ _ fd rfl (allCaps_apply ..) hd ld,
      convertQ_flt lim readF sg _ .hours _ _ fh qh rfl (allCaps_apply ..) rh,
      convertQ_flt lim readF sg _ .minutes _ _ fmi qmi rfl (allCaps_apply ..) rmi,
      convertQ_flt lim readF sg _ .seconds _ _ fs qs rfl (allCaps_apply ..) rs]
    simp only [convertQ, Acc.toDur, accZero_fq, accZero_fi, accZero_inf, reduceCtorEq, if_false, if_true,
      false_and, true_and, zero_apply, selI_zero, Bool.false_eq_true, rh.ite, rmi.ite, rs.ite]

theorem parseBodyQ_desigW (lim : Nat) (readF : List Char → FR) (m : Mode) (sg : Int) (ds : List Char)
    (h : Digs ds) (hne : ds ≠ []) (hl : lim = 0 ∨ ds.length ≤ lim) :
    parseBodyQ lim readF m sg (desigW ds) = .ok (DurationQ.mk m 0 0 ((digitsVal ds : Int) * sg) 0 0 0 0) := by
  simp only [parseBodyQ, firstMatch_weeks ds h hne, durGroups2]
  rw [convertQ_int lim readF sg _ .weeks _ _ (some ds) rfl (by simp [capSet]) (GoodF.some h hne)
    (by intro ds' e; injection e with e; rw [← e]; exact hl)]
  simp only [convertQ, Acc.toDur, accZero_fq, accZero_fi, accZero_inf, reduceCtorEq, if_false, if_true,
    zero_apply, selI_zero, ival, Bool.false_eq_true]

/-- The field an hours / minutes / seconds slot prints as before `.replace(".", ",")`: absent when 0. -/
def ofqR (reprF : Rat → List Char) (v : Rat) : Option (List Char) :=
  if v ≠ 0 then some (numText reprF v) else none

/-- ... and after it. -/
def ofq (reprF : Rat → List Char) (v : Rat) : Option (List Char) := (ofqR reprF v).map replaceDot

def tOfQ (reprF : Rat → List Char) (h mi s : Rat) : Option TimeF :=
  if h = 0 ∧ mi = 0 ∧ s = 0 then none else some (ofq reprF h, ofq reprF mi, ofq reprF s)

theorem unitPartQ_eq (reprF : Rat → List Char) (v : Rat) (u : Char) :
    unitPartQ reprF v u = fld (ofqR reprF v) u := by
  unfold unitPartQ ofqR
  split <;> rfl

theorem ofqR_none_iff (reprF : Rat → List Char) (v : Rat) : ofqR reprF v = none ↔ v = 0 := by
  unfold ofqR; split <;> simp_all

theorem replaceDot_append (a b : List Char) : replaceDot (a ++ b) = replaceDot a ++ replaceDot b := by
  simp [replaceDot]

theorem replaceDot_cons (c : Char) (a : List Char) (hc : c ≠ '.') : replaceDot (c :: a) = c :: replaceDot a := by
  simp [replaceDot, hc]

theorem replaceDot_fld (f : Option (List Char)) (u : Char) (hu : u ≠ '.') :
    replaceDot (fld f u) = fld (f.map replaceDot) u := by
  cases f with
  | none => rfl
  | some ds => simp [fld, replaceDot, hu]

theorem replaceDot_fld_good (f : Option (List Char)) (u : Char) (hu : u ≠ '.') (hf : GoodF f) :
    replaceDot (fld f u) = fld f u := by
  rw [replaceDot_fld f u hu]
  cases f with
  | none => rfl
  | some ds =>
    show fld (some (replaceDot ds)) u = _
    rw [replaceDot_id ds ((hf ds rfl).1.not_mem (by decide))]

def dotT : Option TimeF → Option TimeF
  | none => none
  | some (fh, fmi, fs) => some (fh.map replaceDot, fmi.map replaceDot, fs.map replaceDot)

theorem replaceDot_desig (fy fmo fd : Option (List Char)) (ft : Option TimeF) (hy : GoodF fy) (hmo : GoodF fmo)
    (hd : GoodF fd) : replaceDot (desig fy fmo fd ft) = desig fy fmo fd (dotT ft) := by
  unfold desig
  rw [replaceDot_cons _ _ (by decide), replaceDot_append, replaceDot_append, replaceDot_append,
    replaceDot_fld_good fy 'Y' (by decide) hy, replaceDot_fld_good fmo 'M' (by decide) hmo,
    replaceDot_fld_good fd 'D' (by decide) hd]
  cases ft with
  | none => rfl
  | some t =>
    obtain ⟨fh, fmi, fs⟩ := t
    simp only [timePart, dotT, List.append_nil]
    rw [replaceDot_cons _ _ (by decide), replaceDot_append, replaceDot_append,
      replaceDot_fld fh 'H' (by decide), replaceDot_fld fmi 'M' (by decide), replaceDot_fld fs 'S' (by decide)]

theorem dotT_timeOf (reprF : Rat → List Char) (h mi s : Rat) :
    dotT (timeOf (ofqR reprF h) (ofqR reprF mi) (ofqR reprF s)) = tOfQ reprF h mi s := by
  simp only [timeOf, tOfQ, ofqR_none_iff]
  split <;> rfl

/-- `__str__` of a unit-form duration with non-negative years / months / days, past the sign test. -/
theorem toTextPosQ_units (reprF : Rat → List Char) (y mo d : Int) (h mi s : Rat) (hy : 0 ≤ y) (hmo : 0 ≤ mo)
    (hd : 0 ≤ d) :
    toTextPosQ reprF (.units y mo d h mi s) = desig (ofv y) (ofv mo) (ofv d) (tOfQ reprF h mi s) := by
  show replaceDot ('P' :: stripT _) = _
  rw [unitPart_nonneg y _ hy, unitPart_nonneg mo _ hmo, unitPart_nonneg d _ hd, unitPartQ_eq, unitPartQ_eq,
    unitPartQ_eq, stripT_time]
  exact (replaceDot_desig _ _ _ _ (ofv_good y) (ofv_good mo) (ofv_good d)).trans
    (congrArg _ (dotT_timeOf reprF h mi s))

theorem rat_whole (q : Rat) (hd : q.den = 1) (h0 : 0 ≤ q) : ((q.num.natAbs : Nat) : Rat) = q := by
  apply Rat.ext
  · have : 0 ≤ q.num := Rat.num_nonneg.mpr h0
    simp; omega
  · simp [hd]

theorem replaceComma_id (s : List Char) (h : ',' ∉ s) : replaceComma s = s := map_subst_id ',' '.' s h

/-- `.replace(".", ",")` on output, `.replace(",", ".")` on input: the identity on comma-free text. -/
theorem replaceComma_replaceDot (s : List Char) (h : ',' ∉ s) : replaceComma (replaceDot s) = s := by
  unfold replaceComma replaceDot
  rw [List.map_map]
  refine (List.map_congr_left fun c hc => ?_).trans (List.map_id s)
  have hc' : c ≠ ',' := fun e => h (e ▸ hc)
  by_cases hd : c = '.'
  · simp [hd]
  · simp [hd, hc']

theorem floatCh_free (c : Char) (h : FloatCh c) :
    (if c = '.' then ',' else c) ≠ 'H' ∧ (if c = '.' then ',' else c) ≠ 'M' ∧ (if c = '.' then ',' else c) ≠ 'S' ∧
      (if c = '.' then ',' else c) ≠ '\n' ∧ (if c = '.' then ',' else c).toNat < 128 := by
  rcases h with h | rfl | rfl | rfl | rfl
  · have : c ≠ '.' := dig_ne_of c _ h (by decide)
    rw [if_neg this]; exact dig_free c h
  all_goals decide

theorem floatCh_ne_comma (c : Char) (h : FloatCh c) : c ≠ ',' := by
  rcases h with h | rfl | rfl | rfl | rfl
  · exact dig_ne_of c _ h (by decide)
  all_goals decide

theorem numText_whole (reprF : Rat → List Char) (q : Rat) (hd : q.den = 1) (h0 : 0 ≤ q) :
    numText reprF q = natDigits q.num.natAbs := by
  have : 0 ≤ q.num := Rat.num_nonneg.mpr h0
  unfold numText intText
  rw [if_pos hd, if_neg (by omega)]

/-! The three ways `__str__` prints a non-negative time slot. -/

theorem ofq_zero (reprF : Rat → List Char) : ofq reprF 0 = none := by simp [ofq, ofqR]

theorem ofq_whole (reprF : Rat → List Char) (h : Rat) (hz : h ≠ 0) (hd : h.den = 1) (h0 : 0 ≤ h) :
    ofq reprF h = some (natDigits h.num.natAbs) := by
  simp only [ofq, ofqR, ne_eq, hz, not_false_eq_true, if_true, Option.map_some, numText_whole reprF h hd h0,
    replaceDot_id _ ((natDigits_digs _).not_mem (by decide))]

theorem ofq_frac (reprF : Rat → List Char) (h : Rat) (hd : h.den ≠ 1) :
    ofq reprF h = some (replaceDot (reprF h)) := by
  have hz : h ≠ 0 := by rintro rfl; exact hd rfl
  simp only [ofq, ofqR, ne_eq, hz, not_false_eq_true, if_true, Option.map_some, numText, if_neg hd]

/-- The printed field of a non-negative slot in the domain: it starts with a digit, contains no unit
    letter, and `float(field.replace(",", "."))` gives the slot back. -/
theorem ofq_good {reprF : Rat → List Char} {readF : List Char → FR} {D : Rat → Prop}
    (ft : FloatText reprF readF D) (h : Rat) (h0 : 0 ≤ h) (hD : D h) :
    GoodA (ofq reprF h) ∧ Rd readF (ofq reprF h) h := by
  by_cases hz : h = 0
  · subst hz
    rw [ofq_zero]; exact ⟨GoodA.none, rfl⟩
  · by_cases hd : h.den = 1
    · rw [ofq_whole reprF h hz hd h0]
      refine ⟨GoodA.ofGoodF (GoodF.some (natDigits_digs _) (natDigits_ne_nil _)), ?_⟩
      show readF (replaceComma _) = _
      rw [replaceComma_id _ ((natDigits_digs _).not_mem (by decide))]
      have := ft.read_nat h.num.natAbs (by rw [rat_whole h hd h0]; exact hD)
      rw [this, rat_whole h hd h0]
    · obtain ⟨d0, body, er, hd0, hb⟩ := ft.repr_chars h hD (by grind)
      rw [ofq_frac reprF h hd, er]
      refine ⟨?_, ?_⟩
      · intro t et
        injection et with et
        subst et
        refine ⟨⟨d0, replaceDot body, replaceDot_cons _ _ (dig_ne_of _ _ hd0 (by decide)), hd0⟩, ?_⟩
        intro c hc
        simp only [replaceDot, List.mem_map] at hc
        obtain ⟨c', hc', rfl⟩ := hc
        apply floatCh_free
        rcases List.mem_cons.mp hc' with rfl | hm
        · exact Or.inl hd0
        · exact hb c' hm
      · show readF (replaceComma _) = _
        rw [replaceComma_replaceDot]
        · rw [← er]; exact ft.read_repr h hD
        · intro hm
          rcases List.mem_cons.mp hm with e1 | hm
          · exact dig_ne_of _ _ hd0 (by decide) e1.symm
          · exact floatCh_ne_comma _ (hb _ hm) rfl

theorem tOfQ_good {reprF : Rat → List Char} {readF : List Char → FR} {D : Rat → Prop}
    (ft : FloatText reprF readF D) (h mi s : Rat) (h0 : 0 ≤ h) (mi0 : 0 ≤ mi) (s0 : 0 ≤ s)
    (hD : D h) (miD : D mi) (sD : D s) :
    GoodAT (tOfQ reprF h mi s) ∧ RdT readF (tOfQ reprF h mi s) h mi s := by
  unfold tOfQ
  split
  · rename_i hz
    exact ⟨trivial, hz⟩
  · exact ⟨⟨(ofq_good ft h h0 hD).1, (ofq_good ft mi mi0 miD).1, (ofq_good ft s s0 sD).1⟩,
      ⟨(ofq_good ft h h0 hD).2, (ofq_good ft mi mi0 miD).2, (ofq_good ft s s0 sD).2⟩⟩

theorem fnlQ_nonneg (vs : List Rat) (h : ∀ v ∈ vs, 0 ≤ v) : fullyNegLoopQ vs false = false := by
  induction vs with
  | nil => rfl
  | cons v vs ih =>
    have hv := h v (by simp)
    have := ih (fun x hx => h x (by simp [hx]))
    simp only [fullyNegLoopQ]
    split
    · rfl
    · rw [if_neg (by grind)]; exact this

theorem fnlQ_nonpos (vs : List Rat) (acc : Bool) (h : ∀ v ∈ vs, v ≤ 0) :
    fullyNegLoopQ vs acc = (acc || vs.any (fun v => decide (v < 0))) := by
  induction vs generalizing acc with
  | nil => simp [fullyNegLoopQ]
  | cons v vs ih =>
    have hv := h v (by simp)
    have := fun a => ih a (fun x hx => h x (by simp [hx]))
    simp only [fullyNegLoopQ, List.any_cons]
    rw [if_neg (by grind)]
    by_cases hn : v < 0
    · rw [if_pos hn, this]; simp [hn]
    · rw [if_neg hn, this]; simp [hn]

theorem mkQ_units (m : Mode) (a b c : Int) (e f g : Rat) : DurationQ.mk m a b 0 c e f g = .units a b c e f g := by
  simp [DurationQ.mk]

theorem mkQ_weeks (m : Mode) (w : Int) (hw : w ≠ 0) : DurationQ.mk m 0 0 w 0 0 0 0 = .weeks w := by
  simp only [DurationQ.mk, hw, ne_eq, not_false_eq_true, and_self, ↓reduceIte, daysInWeek_eq, Int.zero_add]
  congr 1
  omega

theorem durQ_eq_refl (m : Mode) (d : DurationQ) : DurationQ.eq m d d = true := by
  rw [IsoDT.Lemmas.DQ.eq_iff]; exact ⟨rfl, rfl⟩

theorem toTextQ_zero (reprF : Rat → List Char) (d : DurationQ) (h : d.nonzero = false) :
    toTextQ reprF d = ['P', '0', 'Y'] := by
  unfold toTextQ; simp [h]

theorem nonzero_iff_compsQ (d : DurationQ) : d.nonzero = true ↔ ∃ v ∈ compsQ d, v ≠ 0 := by
  cases d <;> simp only [DurationQ.nonzero, Bool.or_eq_true, bne_iff_ne, ne_eq, or_assoc, compsQ, List.mem_cons,
    List.not_mem_nil, or_false, exists_eq_or_imp, Rat.intCast_eq_zero_iff, exists_eq_left]

theorem toTextQ_nonneg (reprF : Rat → List Char) (d : DurationQ) (hnz : d.nonzero = true)
    (h : ∀ v ∈ compsQ d, 0 ≤ v) : toTextQ reprF d = toTextPosQ reprF d := by
  unfold toTextQ
  rw [hnz, fnlQ_nonneg _ h]
  rfl

theorem toTextQ_nonpos (reprF : Rat → List Char) (d : DurationQ) (hnz : d.nonzero = true)
    (h : ∀ v ∈ compsQ d, v ≤ 0) : toTextQ reprF d = '-' :: toTextPosQ reprF d.abs := by
  obtain ⟨v, hv, hv0⟩ := (nonzero_iff_compsQ d).mp hnz
  have hany : (compsQ d).any (fun v => decide (v < 0)) = true :=
    List.any_eq_true.mpr ⟨v, hv, decide_eq_true (by have := h v hv; grind)⟩
  unfold toTextQ
  rw [hnz, fnlQ_nonpos _ _ h, hany]
  rfl

theorem toTextQ_units_pos (reprF : Rat → List Char) (y mo d : Int) (h mi s : Rat) (hy : 0 ≤ y) (hmo : 0 ≤ mo)
    (hd : 0 ≤ d) (hh : 0 ≤ h) (hmi : 0 ≤ mi) (hs : 0 ≤ s)
    (hnz : (DurationQ.units y mo d h mi s).nonzero = true) :
    toTextQ reprF (.units y mo d h mi s) = desig (ofv y) (ofv mo) (ofv d) (tOfQ reprF h mi s) := by
  rw [toTextQ_nonneg _ _ hnz (by simpa [compsQ, Rat.intCast_nonneg] using ⟨hy, hmo, hd, hh, hmi, hs⟩)]
  exact toTextPosQ_units reprF y mo d h mi s hy hmo hd

theorem toTextQ_units_neg (reprF : Rat → List Char) (y mo d : Int) (h mi s : Rat) (hy : y ≤ 0) (hmo : mo ≤ 0)
    (hd : d ≤ 0) (hh : h ≤ 0) (hmi : mi ≤ 0) (hs : s ≤ 0)
    (hnz : (DurationQ.units y mo d h mi s).nonzero = true) :
    toTextQ reprF (.units y mo d h mi s) =
      '-' :: desig (ofv (-y)) (ofv (-mo)) (ofv (-d)) (tOfQ reprF (-h) (-mi) (-s)) := by
  rw [toTextQ_nonpos _ _ hnz (by simpa [compsQ, Rat.intCast_nonpos] using ⟨hy, hmo, hd, hh, hmi, hs⟩)]
  have e : (DurationQ.units y mo d h mi s).abs = .units (-y) (-mo) (-d) (-h) (-mi) (-s) := by
    simp only [DurationQ.abs, Int.ofNat_natAbs_of_nonpos, hy, hmo, hd, Rat.abs_of_nonpos hh,
      Rat.abs_of_nonpos hmi, Rat.abs_of_nonpos hs]
  rw [e, toTextPosQ_units reprF (-y) (-mo) (-d) _ _ _ (by omega) (by omega) (by omega)]

theorem toTextPosQ_weeks (reprF : Rat → List Char) (w : Int) (hw : 0 ≤ w) :
    toTextPosQ reprF (.weeks w) = desigW (natDigits w.natAbs) := toTextPos_weeks w hw

theorem toTextQ_weeks_pos (reprF : Rat → List Char) (w : Int) (hw : 0 < w) :
    toTextQ reprF (.weeks w) = desigW (natDigits w.natAbs) := by
  rw [toTextQ_nonneg _ _ (by simp [DurationQ.nonzero]; omega)
    (by simpa [compsQ, Rat.intCast_nonneg] using Int.le_of_lt hw)]
  exact toTextPosQ_weeks reprF w (by omega)

theorem toTextQ_weeks_neg (reprF : Rat → List Char) (w : Int) (hw : w < 0) :
    toTextQ reprF (.weeks w) = '-' :: desigW (natDigits w.natAbs) := by
  rw [toTextQ_nonpos _ _ (by simp [DurationQ.nonzero]; omega)
    (by simpa [compsQ, Rat.intCast_nonpos] using Int.le_of_lt hw)]
  have e : (DurationQ.weeks w).abs = .weeks (-w) := by
    simp only [DurationQ.abs, Int.ofNat_natAbs_of_nonpos (by omega : w ≤ 0)]
  rw [e, toTextPosQ_weeks reprF (-w) (by omega), Int.natAbs_neg]

theorem intFieldQ_good (lim : Nat) (f : Option (List Char)) (hf : GoodF f) : intFieldQ lim f ≠ .out := by
  cases f with
  | none => intro h; cases h
  | some ds =>
    obtain ⟨h1, h2⟩ := hf ds rfl
    simp only [intFieldQ, h2, h1.all, ne_eq, not_false_eq_true, and_self, if_true]
    split <;> intro h <;> cases h

/-- On captures of the three patterns the conversion loop can only fail with a `ValueError`
    (`float()` of a malformed group, `int()` beyond the digit limit): never "outside the model". -/
theorem convertQ_error (lim : Nat) (readF : List Char → FR) (sg : Int) (cp : Caps) (hc : CapI cp) :
    ∀ (gs : List DUnit) (a : Acc) (e : PRQ), convertQ lim readF sg cp gs a = .error e → e = .valueErr := by
  intro gs
  induction gs with
  | nil => intro a e h; cases h
  | cons n ns ih =>
    intro a e h
    unfold convertQ at h
    -- every branch either goes on with the rest of the groups or stops with `valueErr`
    split at h
    · rename_i hk
      split at h
      · exact ih _ _ h
      · exact ih _ _ h
      · exact (Except.error.inj h).symm
      · rename_i ho; exact absurd ho (intFieldQ_good lim _ (hc n hk))
    · split at h
      · exact ih _ _ h
      · split at h
        · exact ih _ _ h
        · exact ih _ _ h
        · exact (Except.error.inj h).symm

/-- The conversion loop sees a float group only through `value.replace(",", ".")`. -/
theorem convertQ_congr (lim : Nat) (readF : List Char → FR) (sg : Int) (cp cp' : Caps)
    (hI : ∀ n, n.isIntKey = true → cp n = cp' n)
    (hF : ∀ n, n.isIntKey = false → (cp n).map replaceComma = (cp' n).map replaceComma) :
    ∀ (gs : List DUnit) (a : Acc), convertQ lim readF sg cp gs a = convertQ lim readF sg cp' gs a := by
  intro gs
  induction gs with
  | nil => intro a; rfl
  | cons n ns ih =>
    intro a
    unfold convertQ
    cases hk : n.isIntKey with
    | true =>
      simp only [↓reduceIte, hI n hk]
      split <;> simp only [ih]
    | false =>
      simp only [Bool.false_eq_true, ↓reduceIte]
      have := hF n hk
      -- both absent, or both present with the same point spelling
      cases h1 : cp n <;> cases h2 : cp' n <;>
        simp only [h1, h2, Option.map_some, Option.map_none, reduceCtorEq, Option.some.injEq] at this
      · exact ih a
      · simp only [this]
        split <;> simp only [ih]

theorem replaceComma_idem (s : List Char) : replaceComma (replaceComma s) = replaceComma s := by
  unfold replaceComma
  rw [List.map_map]
  refine List.map_congr_left fun c _ => ?_
  by_cases hc : c = ','
  · simp [hc]
  · simp [hc]

theorem GoodA.point {f : Option (List Char)} (h : GoodA f) : GoodA (f.map replaceComma) := by
  intro t e
  cases f with
  | none => cases e
  | some t0 =>
    simp only [Option.map_some, Option.some.injEq] at e
    subst e
    obtain ⟨⟨d0, body, rfl, hd⟩, hfree⟩ := h t0 rfl
    refine ⟨⟨d0, replaceComma body, ?_, hd⟩, ?_⟩
    · have : d0 ≠ ',' := dig_ne_of _ _ hd (by decide)
      simp [replaceComma, this]
    · intro c hc
      simp only [replaceComma, List.mem_map] at hc
      obtain ⟨c', hc', rfl⟩ := hc
      by_cases hx : c' = ','
      · rw [if_pos hx]; decide
      · rw [if_neg hx]; exact hfree c' hc'

def pointT : Option TimeF → Option TimeF
  | none => none
  | some (fh, fmi, fs) => some (fh.map replaceComma, fmi.map replaceComma, fs.map replaceComma)

theorem GoodAT.point {ft : Option TimeF} (h : GoodAT ft) : GoodAT (pointT ft) := by
  cases ft with
  | none => trivial
  | some t =>
    obtain ⟨fh, fmi, fs⟩ := t
    exact ⟨h.1.point, h.2.1.point, h.2.2.point⟩

theorem map_replaceComma_idem (f : Option (List Char)) :
    (f.map replaceComma).map replaceComma = f.map replaceComma := by
  cases f with
  | none => rfl
  | some t => simp [replaceComma_idem]

theorem parseBodyQ_point (lim : Nat) (readF : List Char → FR) (m : Mode) (sg : Int)
    (fy fmo fd : Option (List Char)) (ft : Option TimeF) (hy : GoodF fy) (hmo : GoodF fmo) (hd : GoodF fd)
    (ht : GoodAT ft) :
    parseBodyQ lim readF m sg (desig fy fmo fd ft) = parseBodyQ lim readF m sg (desig fy fmo fd (pointT ft)) := by
  cases ft with
  | none => rfl
  | some t =>
    obtain ⟨fh, fmi, fs⟩ := t
    have ht' := ht.point
    obtain ⟨hh, hmi, hs⟩ := ht
    obtain ⟨hh', hmi', hs'⟩ := ht'
    simp only [parseBodyQ, firstMatch_time fy fmo fd fh fmi fs hy hmo hd hh hmi hs,
      firstMatch_time fy fmo fd _ _ _ hy hmo hd hh' hmi' hs', pointT]
    rw [convertQ_congr lim readF sg (allCaps fy fmo fd fh fmi fs)
      (allCaps fy fmo fd (fh.map replaceComma) (fmi.map replaceComma) (fs.map replaceComma))]
    · intro n hn
      rw [allCaps_apply, allCaps_apply]
      cases n <;> first | rfl | exact absurd hn (by decide)
    · intro n hn
      rw [allCaps_apply, allCaps_apply]
      cases n <;> first | exact absurd hn (by decide) | exact (map_replaceComma_idem _).symm

theorem parseBodyQ_of_match (lim : Nat) (readF : List Char → FR) (m : Mode) (sg : Int) (e : List Char)
    (gs : List DUnit) (cp : Caps) (h : firstMatch durRegexes e = some (gs, cp)) :
    parseBodyQ lim readF m sg e =
      (match convertQ lim readF sg cp gs Acc.zero with
        | .ok a => if a.inf then .okInf else .ok (a.toDur m)
        | .error r => r) := by
  unfold parseBodyQ; rw [h]; rfl

theorem parseBodyQ_nomatch_P (lim : Nat) (readF : List Char → FR) (m : Mode) (sg : Int) (rest : List Char)
    (h : firstMatch durRegexes ('P' :: rest) = none) :
    parseBodyQ lim readF m sg ('P' :: rest) = if sg = 1 then ofPR (altPath m rest) else .syntaxErr := by
  unfold parseBodyQ; rw [h]; rfl

theorem parseBodyQ_nomatch_other (lim : Nat) (readF : List Char → FR) (m : Mode) (sg : Int) (e : List Char)
    (h : firstMatch durRegexes e = none) (hne : ∀ rest, e ≠ 'P' :: rest) :
    parseBodyQ lim readF m sg e = .syntaxErr := by
  unfold parseBodyQ; rw [h]
  show (match e with
    | 'P' :: rest => if sg = 1 then ofPR (altPath m rest) else PRQ.syntaxErr
    | _ => PRQ.syntaxErr) = _
  split
  · rename_i rest; exact absurd rfl (hne rest)
  · rfl

theorem altPath_ok (m : Mode) (rest : List Char) (d0 : Dur) (h : altPath m rest = .ok d0) :
    ∃ y mo d hh mi s : Nat, d0 = mkDur m y mo 0 d hh mi s := by
  unfold altPath at h
  cases hp : altParse rest with
  | some r =>
    obtain ⟨y, mo, d, hh, mi, s⟩ := r
    rw [hp] at h
    simp only at h
    injection h with h
    exact ⟨y, mo, d, hh, mi, s, h.symm⟩
  | none =>
    rw [hp] at h
    simp only at h
    split at h
    · cases h
    · split at h <;> cases h

theorem ofPR_ok (r : PR) (d : DurationQ) (h : ofPR r = .ok d) : ∃ d0, r = .ok d0 ∧ d = DurationQ.ofDur d0 := by
  cases r with
  | ok d0 => simp only [ofPR] at h; injection h with h; exact ⟨d0, rfl, h.symm⟩
  | syntaxErr => cases h
  | valueErr => cases h
  | outside => cases h

theorem ofPR_outside (r : PR) (h : ofPR r = .outside) : r = .outside := by
  cases r with
  | ok d0 => cases h
  | syntaxErr => cases h
  | valueErr => cases h
  | outside => rfl

/-- What `parseBodyQ` can answer: an `ok` answer is `Duration(...)` of whole years / months / weeks /
    days, and `outside` is answered only on the date-time-like fallback. -/
theorem parseBodyQ_answer (lim : Nat) (readF : List Char → FR) (m : Mode) (sg : Int) (e : List Char) :
    (∀ d, parseBodyQ lim readF m sg e = .ok d →
      ∃ (y mo w dd : Int) (hh mi sec : Rat), d = DurationQ.mk m y mo w dd hh mi sec) ∧
    (parseBodyQ lim readF m sg e = .outside →
      sg = 1 ∧ ∃ rest, e = 'P' :: rest ∧ firstMatch durRegexes e = none ∧ altPath m rest = .outside) := by
  cases hfm : firstMatch durRegexes e with
  | some p =>
    obtain ⟨gs, cp⟩ := p
    rw [parseBodyQ_of_match lim readF m sg e gs cp hfm]
    cases hcv : convertQ lim readF sg cp gs Acc.zero with
    | error r =>
      rw [convertQ_error lim readF sg cp (firstMatch_capI e gs cp hfm) gs _ r hcv]
      exact ⟨fun d h => (by cases h), fun h => (by cases h)⟩
    | ok a =>
      simp only
      split
      · exact ⟨fun d h => (by cases h), fun h => (by cases h)⟩
      · exact ⟨fun d h => ⟨_, _, _, _, _, _, _, (PRQ.ok.inj h).symm⟩, fun h => (by cases h)⟩
  | none =>
    by_cases hP : ∃ rest, e = 'P' :: rest
    · obtain ⟨rest, rfl⟩ := hP
      rw [parseBodyQ_nomatch_P lim readF m sg rest hfm]
      split
      · rename_i hsg
        refine ⟨fun d h => ?_, fun h => ⟨hsg, rest, rfl, rfl, ofPR_outside _ h⟩⟩
        obtain ⟨d0, h0, rfl⟩ := ofPR_ok _ _ h
        obtain ⟨y, mo, dd, hh, mi, s, rfl⟩ := altPath_ok m _ d0 h0
        exact ⟨y, mo, 0, dd, (hh : Int), (mi : Int), (s : Int),
          (IsoDT.Lemmas.DQ.ofDur_mk m y mo 0 dd hh mi s).symm⟩
      · exact ⟨fun d h => (by cases h), fun h => (by cases h)⟩
    · rw [parseBodyQ_nomatch_other lim readF m sg e hfm (fun rest he => hP ⟨rest, he⟩)]
      exact ⟨fun d h => (by cases h), fun h => (by cases h)⟩

end IsoDT.Lemmas.DurTextQ
