/-
  IsoDT.Lemmas.Strftime

  Part 1 (`namespace IsoDT.Spec.Posix`) is *specification*, meant to be read: the POSIX meaning of the
  eleven supported strftime conversions on the civil (calendar) date-time fields of a time point, over a
  fixed-width decimal renderer; what a format "over the supported directives and literal text" is; when a
  format determines a full date, time and zone.  Nothing in part 1 refers to `Gen` or `Model`.

  Part 2 (`namespace IsoDT.Lemmas.Strf`) relates the executable model (`Model/Strftime.lean`, over the
  regenerated `Gen.Strftime` tables) to part 1.
-/
import IsoDT.Model.Strftime
import IsoDT.Lemmas.ConstructTrunc
import IsoDT.Lemmas.Cmp

/-! # Part 1 — specification -/

namespace IsoDT.Spec.Posix
open IsoDT IsoDT.Spec

def dch (d : Nat) : Char := Char.ofNat (48 + d)

/-- Exactly `w` decimal digits: `v mod 10^w`, most significant digit first. -/
def render : Nat → Nat → List Char
  | 0, _ => []
  | w + 1, v => render w (v / 10) ++ [dch (v % 10)]

/-- Decimal notation of a natural number, no leading zeros. -/
def decimal (n : Nat) : List Char :=
  if n < 10 then [dch n] else decimal (n / 10) ++ [dch (n % 10)]
decreasing_by omega

def decimalInt (z : Int) : List Char :=
  if z < 0 then '-' :: decimal z.natAbs else decimal z.toNat

/-- The civil date-time a conversion specification looks at (`struct tm` plus the UTC offset in
    minutes east of Greenwich and the Unix time of the instant). -/
structure Civil where
  year : Int
  month : Int
  day : Int
  yday : Int
  hour : Int
  minute : Int
  second : Int
  utcOff : Int
  unix : Int

/-- Instant of 1970-01-01T00:00:00Z in the mode's calendar. -/
def epochInst (m : Mode) : Int := 86400 * dayNumCal m 1970 1 1

/-- `c` is the civil date-time of `p`: the calendar date with `p`'s day number (whatever
    representation `p` keeps), its day of the year, `p`'s clock fields and offset, and the number of
    seconds from the Unix epoch to `p`'s instant. -/
def IsCivil (m : Mode) (p : TP) (c : Civil) : Prop :=
  ValidCal m c.year c.month c.day ∧ dayNumCal m c.year c.month c.day = p.date.dayNum m ∧
  c.yday = p.date.dayNum m - dby m c.year + 1 ∧
  c.hour = p.hh ∧ c.minute = p.mi ∧ c.second = p.ss ∧ c.utcOff = 60 * p.tz.h + p.tz.mi ∧
  c.unix = p.inst m - epochInst m

inductive Dir where
  | Y | m | d | j | H | M | S | F | X | z | s
  deriving DecidableEq, Repr

def Dir.toChar : Dir → Char
  | .Y => 'Y' | .m => 'm' | .d => 'd' | .j => 'j' | .H => 'H' | .M => 'M' | .S => 'S'
  | .F => 'F' | .X => 'X' | .z => 'z' | .s => 's'

def Dir.all : List Dir := [.Y, .m, .d, .j, .H, .M, .S, .F, .X, .z, .s]

def Dir.ofChar (c : Char) : Option Dir := Dir.all.find? fun dir => dir.toChar == c

inductive FItem where
  | lit (c : Char)
  | conv (dir : Dir)
  deriving DecidableEq, Repr

/-- A format string over the supported directives and literal text: `%` is always followed by one
    of the eleven letters; everything else is literal. -/
def parseFmt : List Char → Option (List FItem)
  | [] => some []
  | [c] => if c = '%' then none else some [.lit c]
  | c :: c' :: rest =>
    if c = '%' then
      match Dir.ofChar c' with
      | some dir => (parseFmt rest).map fun r => .conv dir :: r
      | none => none
    else (parseFmt (c' :: rest)).map fun r => .lit c :: r

/-- POSIX `strftime`, one conversion: `%Y` four-digit year, `%m %d %H %M %S` two digits, `%j` three,
    `%F` = `%Y-%m-%d`, `%X` = `%H:%M:%S` (POSIX locale), `%z` = sign and hhmm of the offset, `%s` the
    Unix time in decimal. -/
def field (c : Civil) : Dir → List Char
  | .Y => render 4 c.year.toNat
  | .m => render 2 c.month.toNat
  | .d => render 2 c.day.toNat
  | .j => render 3 c.yday.toNat
  | .H => render 2 c.hour.toNat
  | .M => render 2 c.minute.toNat
  | .S => render 2 c.second.toNat
  | .F => render 4 c.year.toNat ++ '-' :: render 2 c.month.toNat ++ '-' :: render 2 c.day.toNat
  | .X => render 2 c.hour.toNat ++ ':' :: render 2 c.minute.toNat ++ ':' :: render 2 c.second.toNat
  | .z => (if c.utcOff < 0 then '-' else '+') ::
            (render 2 (c.utcOff.natAbs / 60) ++ render 2 (c.utcOff.natAbs % 60))
  | .s => decimalInt c.unix

def itemText (c : Civil) : FItem → List Char
  | .lit ch => [ch]
  | .conv dir => field c dir

def posix (c : Civil) (items : List FItem) : List Char := items.flatMap (itemText c)

/-- The date-time fields a conversion names. -/
inductive SField where
  | year | month | day | yday | hour | minute | second | zone | unix
  deriving DecidableEq, Repr

def Dir.fields : Dir → List SField
  | .Y => [.year] | .m => [.month] | .d => [.day] | .j => [.yday]
  | .H => [.hour] | .M => [.minute] | .S => [.second]
  | .F => [.year, .month, .day] | .X => [.hour, .minute, .second] | .z => [.zone] | .s => [.unix]

def fieldsOf : List FItem → List SField
  | [] => []
  | .lit _ :: r => fieldsOf r
  | .conv dir :: r => dir.fields ++ fieldsOf r

/-- The format determines a full date, time and zone: no field is named twice, and either `%s` is the
    only conversion, or year, hour, minute, second and zone are named together with month and day or
    (exclusively) with the day of the year. -/
def Determined (items : List FItem) : Prop :=
  (fieldsOf items).Nodup ∧
  (fieldsOf items = [.unix] ∨
   (.unix ∉ fieldsOf items ∧ .year ∈ fieldsOf items ∧ .hour ∈ fieldsOf items ∧ .minute ∈ fieldsOf items ∧
    .second ∈ fieldsOf items ∧ .zone ∈ fieldsOf items ∧
    ((.month ∈ fieldsOf items ∧ .day ∈ fieldsOf items ∧ .yday ∉ fieldsOf items) ∨
     (.yday ∈ fieldsOf items ∧ .month ∉ fieldsOf items ∧ .day ∉ fieldsOf items))))

instance (items : List FItem) : Decidable (Determined items) := by unfold Determined; infer_instance

end IsoDT.Spec.Posix

/-! # Part 2 — the model against the specification -/

namespace IsoDT.Lemmas.Strf
open IsoDT IsoDT.Model IsoDT.Model.Strf IsoDT.Lemmas
open IsoDT.Spec (Date TZ TP)
open IsoDT.Spec.Posix
open IsoDT.Gen.Strftime (Fld Fmt Pat Cls Piece fmtOf patOf clsOf)

deriving instance DecidableEq for Except

theorem dch_eq : Model.Strf.dch = Spec.Posix.dch := rfl

theorem dch_spec (d : Nat) (h : d < 10) : (Spec.Posix.dch d).toNat = 48 + d ∧ isDigitC (Spec.Posix.dch d) = true := by
  have : ∀ d : Fin 10, (Spec.Posix.dch d.val).toNat = 48 + d.val ∧ isDigitC (Spec.Posix.dch d.val) = true := by decide
  exact this ⟨d, h⟩

theorem showNat_eq_decimal (n : Nat) : showNat n = decimal n := by
  induction n using Nat.strongRecOn with
  | _ n ih =>
    rw [showNat, decimal]
    by_cases h : n < 10
    · simp only [h, ↓reduceIte, dch_eq]
    · simp only [h, ↓reduceIte, dch_eq]
      rw [ih (n / 10) (by omega)]

theorem showInt_eq_decimalInt (z : Int) : showInt z = decimalInt z := by
  unfold showInt decimalInt
  simp only [showNat_eq_decimal]

theorem render_length (w v : Nat) : (render w v).length = w := by
  induction w generalizing v with
  | zero => rfl
  | succ w ih => simp [render, ih]

theorem render_digits (w v : Nat) : ∀ c ∈ render w v, isDigitC c = true := by
  induction w generalizing v with
  | zero => intro c hc; simp [render] at hc
  | succ w ih =>
    intro c hc
    simp only [render, List.mem_append, List.mem_singleton] at hc
    rcases hc with hc | hc
    · exact ih _ c hc
    · subst hc; exact (dch_spec _ (Nat.mod_lt _ (by decide))).2

theorem render_zero (w : Nat) : render w 0 = List.replicate w '0' := by
  induction w with
  | zero => rfl
  | succ w ih =>
    simp only [render, Nat.zero_div, Nat.zero_mod, ih]
    have : Spec.Posix.dch 0 = '0' := by decide
    rw [this, ← List.replicate_succ']

theorem decimal_ne_nil (n : Nat) : decimal n ≠ [] := by
  rw [decimal]; split <;> simp

theorem decimal_digits (n : Nat) : ∀ c ∈ decimal n, isDigitC c = true := by
  induction n using Nat.strongRecOn with
  | _ n ih =>
    rw [decimal]
    by_cases h : n < 10
    · simp only [h, ↓reduceIte, List.mem_singleton]
      intro c hc; subst hc; exact (dch_spec n h).2
    · simp only [h, ↓reduceIte, List.mem_append, List.mem_singleton]
      intro c hc
      rcases hc with hc | hc
      · exact ih (n / 10) (by omega) c hc
      · subst hc; exact (dch_spec _ (Nat.mod_lt _ (by decide))).2

/-- `"%0wd" % n` is the fixed-width rendering whenever `n` has at most `w` digits. -/
theorem pad_decimal (w n : Nat) (hw : 1 ≤ w) (h : n < 10 ^ w) :
    List.replicate (w - (decimal n).length) '0' ++ decimal n = render w n := by
  induction w generalizing n with
  | zero => omega
  | succ w ih =>
    rw [decimal]
    by_cases h10 : n < 10
    · simp only [h10, ↓reduceIte, List.length_singleton, render, Nat.add_sub_cancel]
      rw [Nat.div_eq_of_lt h10, render_zero, Nat.mod_eq_of_lt h10]
    · simp only [h10, ↓reduceIte, render, List.length_append, List.length_singleton]
      have hw' : 1 ≤ w := by
        rcases Nat.eq_zero_or_pos w with rfl | hp
        · simp at h; omega
        · exact hp
      have hlt : n / 10 < 10 ^ w := by
        rw [Nat.pow_succ] at h
        exact Nat.div_lt_of_lt_mul (by rw [Nat.mul_comm]; exact h)
      rw [← ih (n / 10) hw' hlt, Nat.add_sub_add_right, List.append_assoc]

theorem render_split (a b v : Nat) : render (a + b) v = render a (v / 10 ^ b) ++ render b (v % 10 ^ b) := by
  induction b generalizing v with
  | zero => simp [render]
  | succ b ih =>
    show render (a + b) (v / 10) ++ [Spec.Posix.dch (v % 10)] = _
    rw [ih, render, ← List.append_assoc, Nat.pow_succ', Nat.div_div_eq_div_mul, Nat.mod_mul_right_div_self,
      Nat.mod_mul_right_mod]

theorem toNat_lt_pow (w : Nat) (z : Int) (h0 : 0 ≤ z) (h1 : z < 10 ^ w) : z.toNat < 10 ^ w :=
  (Int.toNat_lt h0).mpr (by rw [Int.natCast_pow]; exact h1)

theorem zpad_eq_render (w : Nat) (z : Int) (hw : 1 ≤ w) (h0 : 0 ≤ z) (h1 : z < 10 ^ w) :
    zpad w z = render w z.toNat := by
  unfold zpad
  rw [if_neg (Int.not_lt.mpr h0), showNat_eq_decimal]
  exact pad_decimal w z.toNat hw (toNat_lt_pow w z h0 h1)

theorem parseNat_snoc (s : List Char) (c : Char) :
    parseNat (s ++ [c]) = 10 * parseNat s + (c.toNat - 48) := by
  unfold parseNat
  rw [List.foldl_append]
  rfl

theorem parseNat_render (w v : Nat) : parseNat (render w v) = v % 10 ^ w := by
  induction w generalizing v with
  | zero => simp [render, parseNat, Nat.mod_one]
  | succ w ih =>
    rw [render, parseNat_snoc, ih, (dch_spec _ (Nat.mod_lt v (by decide))).1]
    rw [Nat.pow_succ, Nat.mul_comm (10 ^ w) 10, Nat.mod_mul]
    omega

theorem parseNat_decimal (n : Nat) : parseNat (decimal n) = n := by
  induction n using Nat.strongRecOn with
  | _ n ih =>
    rw [decimal]
    by_cases h : n < 10
    · simp only [h, ↓reduceIte]
      have := (dch_spec n h).1
      simp only [parseNat, List.foldl_cons, List.foldl_nil, this]
      omega
    · simp only [h, ↓reduceIte]
      rw [parseNat_snoc, ih (n / 10) (by omega), (dch_spec _ (Nat.mod_lt n (by decide))).1]
      omega

theorem zpad_fits (w : Nat) (z : Int) (hw : 1 ≤ w) (h0 : 0 ≤ z) (h1 : z < 10 ^ w) :
    (zpad w z).length = w ∧ (∀ ch ∈ zpad w z, isDigitC ch = true) ∧ (parseNat (zpad w z) : Int) = z := by
  rw [zpad_eq_render w z hw h0 h1]
  refine ⟨render_length _ _, render_digits _ _, ?_⟩
  rw [parseNat_render, Nat.mod_eq_of_lt (toNat_lt_pow w z h0 h1), Int.toNat_of_nonneg h0]

/-- The translation the specification expects of each conversion, over the properties of
    `Gen.Strftime`. -/
def piecesOf : Dir → List Piece
  | .Y => [.fld .century, .fld .yearOfCentury]
  | .m => [.fld .monthOfYear]
  | .d => [.fld .dayOfMonth]
  | .j => [.fld .dayOfYear]
  | .H => [.fld .hourOfDay]
  | .M => [.fld .minuteOfHour]
  | .S => [.fld .secondOfMinute]
  | .F => [.fld .century, .fld .yearOfCentury, .lit '-', .fld .monthOfYear, .lit '-', .fld .dayOfMonth]
  | .X => [.fld .hourOfDay, .lit ':', .fld .minuteOfHour, .lit ':', .fld .secondOfMinute]
  | .z => [.fld .tzSign, .fld .tzHourAbs, .fld .tzMinuteAbs]
  | .s => [.fld .unix]

def piecesOfItem : FItem → List Piece
  | .lit c => [.lit c]
  | .conv dir => piecesOf dir

def piecesOfItems (items : List FItem) : List Piece := items.flatMap piecesOfItem

/-- The regenerated `STRFTIME_TRANSLATE_INFO` translates each of the eleven conversions as expected. -/
theorem lookupDir_toChar (dir : Dir) : lookupDir dir.toChar = some (piecesOf dir) := by
  cases dir <;> decide

theorem lookupDir_none (c : Char) (h : Dir.ofChar c = none) : lookupDir c = none := by
  have hk : ∀ e ∈ Gen.Strftime.table, ∃ dir ∈ Dir.all, dir.toChar = e.1 := by decide
  have : Gen.Strftime.table.find? (fun e => e.1 == c) = none := by
    rw [List.find?_eq_none]
    intro e he hbeq
    obtain ⟨dir, hd, hdc⟩ := hk e he
    have := List.find?_eq_none.mp h dir hd
    rw [hdc] at this
    exact this hbeq
  unfold lookupDir
  rw [this]

theorem ofChar_some (c : Char) (dir : Dir) (h : Dir.ofChar c = some dir) : c = dir.toChar := by
  have := List.find?_some h
  simp only [beq_iff_eq] at this
  exact this.symm

theorem isWord_toChar (dir : Dir) : isWord dir.toChar = true := by cases dir <;> decide

theorem toChar_ne_percent (dir : Dir) : dir.toChar ≠ '%' := by cases dir <;> decide

theorem piecesOf_no_pct (dir : Dir) : Piece.lit '%' ∉ piecesOf dir := by cases dir <;> decide

theorem scan_ch (c : Char) (rest : List Char) (h : c ≠ '%') : scan (c :: rest) = .ch c :: scan rest := by
  cases rest with
  | nil => rfl
  | cons d r => simp only [scan, h, false_and, ↓reduceIte]

theorem scan_dir (d : Char) (rest : List Char) (h : isWord d = true) : scan ('%' :: d :: rest) = .dir d :: scan rest := by
  simp only [scan, h, and_self, ↓reduceIte]

theorem ofChar_toChar (dir : Dir) : Dir.ofChar dir.toChar = some dir := by cases dir <;> rfl

theorem parseFmt_lit (c : Char) (rest : List Char) (h : c ≠ '%') :
    parseFmt (c :: rest) = (parseFmt rest).map fun r => .lit c :: r := by
  cases rest with
  | nil => simp only [parseFmt, h, ↓reduceIte, Option.map_some]
  | cons d r => simp only [parseFmt, h, ↓reduceIte]

theorem parseFmt_conv (dir : Dir) (rest : List Char) :
    parseFmt ('%' :: dir.toChar :: rest) = (parseFmt rest).map fun r => .conv dir :: r := by
  simp only [parseFmt, ↓reduceIte, ofChar_toChar]

theorem parseFmt_induct {P : List Char → List FItem → Prop} (nil : P [] [])
    (lit : ∀ c rest r, c ≠ '%' → parseFmt rest = some r → P rest r → P (c :: rest) (.lit c :: r))
    (conv : ∀ dir rest r, parseFmt rest = some r → P rest r → P ('%' :: dir.toChar :: rest) (.conv dir :: r))
    (fmt : List Char) (items : List FItem) (h : parseFmt fmt = some items) : P fmt items := by
  induction fmt using parseFmt.induct generalizing items with
  | case1 => cases h; exact nil
  | case2 => simp [parseFmt] at h
  | case3 c hc =>
    simp only [parseFmt, hc, ↓reduceIte, Option.some.injEq] at h
    subst h
    exact lit c [] [] hc rfl nil
  | case4 c' rest dir hdir ih =>
    simp only [parseFmt, ↓reduceIte, hdir] at h
    obtain ⟨r, hr, rfl⟩ := Option.map_eq_some_iff.mp h
    exact ofChar_some c' dir hdir ▸ conv dir rest r hr (ih r hr)
  | case5 c' rest hdir => simp [parseFmt, hdir] at h
  | case6 c c' rest hc ih =>
    simp only [parseFmt, hc, ↓reduceIte] at h
    obtain ⟨r, hr, rfl⟩ := Option.map_eq_some_iff.mp h
    exact lit c _ r hc hr (ih r hr)

/-- On a format over the supported directives and literal text, the library's splitter and table
    produce exactly the specification's reading of it. -/
theorem translate_scan (fmt : List Char) (items : List FItem) (h : parseFmt fmt = some items) :
    translate (scan fmt) = .ok (piecesOfItems items) ∧ Piece.lit '%' ∉ piecesOfItems items := by
  apply parseFmt_induct _ _ _ fmt items h
  · exact ⟨rfl, by simp [piecesOfItems]⟩
  · intro c rest r hc _ ih
    refine ⟨by rw [scan_ch c rest hc, translate, ih.1]; rfl, ?_⟩
    simpa [piecesOfItems, piecesOfItem, Ne.symm hc] using ih.2
  · intro dir rest r _ ih
    refine ⟨by rw [scan_dir _ rest (isWord_toChar dir), translate, lookupDir_toChar, ih.1]; rfl, ?_⟩
    simpa [piecesOfItems, piecesOfItem, piecesOf_no_pct dir] using ih.2

/-- One unknown `%`-letter anywhere makes the translation fail with `StrftimeSyntaxError`. -/
theorem translate_unsupported (items : List Item) (c : Char) (hmem : Item.dir c ∈ items)
    (hc : Dir.ofChar c = none) : translate items = .error .syntax := by
  induction items with
  | nil => simp at hmem
  | cons it rest ih =>
    cases it with
    | ch x =>
      simp only [List.mem_cons, reduceCtorEq, false_or] at hmem
      simp only [translate, ih hmem]
    | dir x =>
      simp only [translate]
      rcases List.mem_cons.mp hmem with e | hr
      · cases e
        rw [lookupDir_none _ hc]
      · rw [ih hr]
        cases lookupDir x <;> rfl

theorem _root_.IsoDT.Spec.Posix.IsCivil.unix_eq {m : Mode} {p : TP} {c : Civil} (hc : IsCivil m p c) :
    c.unix = p.inst m - epochInst m := hc.2.2.2.2.2.2.2

theorem unixEpoch_inst (m : Mode) : unixEpoch.inst m = epochInst m := by
  rw [unixEpoch_eq]
  simp [TP.inst, Spec.Date.dayNum, TP.secOfDay, TZ.seconds, epochInst]

theorem forDump_spec (m : Mode) (p : TP) (hv : p.Valid m) :
    ∃ d, forDump m p = some { p with date := d } ∧ d.Valid m ∧ d.rep ≠ 2 ∧ d.dayNum m = p.date.dayNum m := by
  unfold forDump
  by_cases h : p.date.rep = 2
  · rw [if_pos h]
    obtain ⟨r, he, hrv, hrr, hn⟩ := convert_spec m 0 (by omega) p.date hv.1
    exact ⟨r, by rw [he]; rfl, hrv, by omega, hn⟩
  · rw [if_neg h]
    exact ⟨p.date, rfl, hv.1, h, rfl⟩

theorem isCivil_date (m : Mode) (p : TP) (d : Date) (c : Civil) (hc : IsCivil m p c)
    (hn : d.dayNum m = p.date.dayNum m) : IsCivil m { p with date := d } c := by
  simpa only [IsCivil, TP.inst, TP.secOfDay, hn] using hc

theorem civil_ord (m : Mode) (p : TP) (c : Civil) (hc : IsCivil m p c) :
    Spec.ValidOrd m c.year c.yday ∧ Spec.dayNumOrd m c.year c.yday = p.date.dayNum m := by
  obtain ⟨hcv, hcn, hyd, _⟩ := hc
  have hr := dayNumCal_range m _ _ _ hcv
  have hs := dby_succ m c.year
  unfold Spec.ValidOrd Spec.dayNumOrd
  rw [hcn] at hr
  omega

/-- The dump context the model builds for a point whose civil date-time is `c`. -/
def ctxOf (p : TP) (c : Civil) : DumpCtx := ⟨c.year, c.month, c.day, c.yday, p.hh, p.mi, p.ss, p.tz, c.unix⟩

/-- The getters `month_of_year`, `day_of_month`, `day_of_year`, `year`, … of a valid calendar- or
    ordinal-date point return its civil fields. -/
theorem dumpCtx_spec (m : Mode) (p : TP) (hv : p.Valid m) (hrep : p.date.rep ≠ 2) (c : Civil)
    (hc : IsCivil m p c) :
    dumpCtx m p = some (ctxOf p c) := by
  have ⟨hcv, hcn, _, _, _, _, _, hux⟩ := hc
  obtain ⟨r0, he0, hv0, hr0, hn0⟩ := convert_spec m 0 (by omega) p.date hv.1
  obtain ⟨r1, he1, hv1, hr1, hn1⟩ := convert_spec m 1 (by omega) p.date hv.1
  have e0 : r0 = .cal c.year c.month c.day :=
    date_unique m r0 (.cal c.year c.month c.day) hv0 hcv (by rw [hr0]; rfl) (by rw [hn0]; exact hcn.symm)
  have e1 : r1 = .ord c.year c.yday :=
    date_unique m r1 (.ord c.year c.yday) hv1 (civil_ord m p c hc).1 (by rw [hr1]; rfl)
      (by rw [hn1]; exact (civil_ord m p c hc).2.symm)
  subst e0 e1
  have hyear : dateYear p.date = c.year := by
    cases hd : p.date with
    | cal y mo d =>
      rw [hd] at he0
      simp only [convert, Option.some.injEq, Spec.Date.cal.injEq] at he0
      exact he0.1
    | ord y n =>
      rw [hd] at he1
      simp only [convert, Option.some.injEq, Spec.Date.ord.injEq] at he1
      exact he1.1
    | week y w d => rw [hd] at hrep; exact absurd rfl hrep
  unfold dumpCtx
  rw [he0, he1, secondsSinceUnixEpoch_spec m p hv, unixEpoch_inst]
  simp only [hyear, hux, ctxOf]

/-! ### rendering: the `%`-formatting of the translated pieces is the POSIX text -/

/-- On a valid point the getters deliver its civil date-time (for a week date: through the calendar
    date of the same day). -/
theorem dump_ctx (m : Mode) (p : TP) (hv : p.Valid m) (c : Civil) (hc : IsCivil m p c) :
    (forDump m p).bind (dumpCtx m) = some (ctxOf p c) := by
  obtain ⟨d, hfd, hdv, hrep, hn⟩ := forDump_spec m p hv
  rw [hfd, Option.bind_some]
  exact dumpCtx_spec m { p with date := d } ⟨hdv, hv.2⟩ hrep c (isCivil_date m p d c hc hn)

def valOf (c : DumpCtx) (f : Fld) : List Char := renderPiece c (.fld f)

/-- The printed text of `f` is matched (entirely) by the capture pattern of `f`. -/
def Fits (c : DumpCtx) (f : Fld) : Prop :=
  match patOf f with
  | .digits n => (valOf c f).length = n ∧ ∀ ch ∈ valOf c f, isDigitC ch = true
  | .signPM => valOf c f = ['+'] ∨ valOf c f = ['-']
  | .unixNum => unixSyntax (valOf c f) = true

theorem civil_date_ranges (m : Mode) (p : TP) (c : Civil) (hc : IsCivil m p c) :
    1 ≤ c.month ∧ c.month ≤ 12 ∧ 1 ≤ c.day ∧ c.day ≤ 31 ∧ 1 ≤ c.yday ∧ c.yday ≤ 366 := by
  obtain ⟨hcv, hcn, hyd, _⟩ := hc
  have hr := dayNumCal_range m _ _ _ hcv
  have hs := dby_succ m c.year
  have hb := yearLen_bounds m c.year
  obtain ⟨m1, m2, d1, d2⟩ := hcv
  have hml := monthLen_bounds m c.year c.month m1 m2
  rw [hcn] at hr
  omega

theorem tz_sign_abs (z : TZ) (hz : z.Valid) :
    ∃ H M : Nat, tzHourAbs z = H ∧ tzMinuteAbs z = M ∧ H ≤ 99 ∧ M < 60 ∧
      if tzSign z < 0 then z.h = -H ∧ z.mi = -M ∧ 0 < 60 * H + M else z.h = H ∧ z.mi = M := by
  obtain ⟨h1, h2, h3, h4, h5, h6⟩ := hz
  refine ⟨z.h.natAbs, z.mi.natAbs, ?_, ?_, by omega, by omega, ?_⟩
  · unfold tzHourAbs; split <;> omega
  · unfold tzMinuteAbs; split <;> omega
  · unfold tzSign; split <;> split <;> omega

theorem tz_of_minutes (z : TZ) (hz : z.Valid) :
    (tzSign z < 0 ↔ 60 * z.h + z.mi < 0) ∧ (tzHourAbs z).toNat = (60 * z.h + z.mi).natAbs / 60 ∧
      (tzMinuteAbs z).toNat = (60 * z.h + z.mi).natAbs % 60 := by
  obtain ⟨H, M, eH, eM, _, bM, hs⟩ := tz_sign_abs z hz
  have e : (60 * z.h + z.mi).natAbs = 60 * H + M ∧ (tzSign z < 0 ↔ 60 * z.h + z.mi < 0) := by
    split at hs <;> omega
  rw [eH, eM, e.1, Nat.mul_add_div (by decide), Nat.div_eq_of_lt bM, Nat.mul_add_mod, Nat.mod_eq_of_lt bM]
  exact ⟨e.2, rfl, rfl⟩

theorem zone_back (z : TZ) (hz : z.Valid) :
    (if tzSign z < 0 then (⟨-(tzHourAbs z), -(tzMinuteAbs z)⟩ : TZ) else ⟨tzHourAbs z, tzMinuteAbs z⟩) = z := by
  obtain ⟨H, M, eH, eM, _, _, hs⟩ := tz_sign_abs z hz
  rw [eH, eM]
  by_cases c : tzSign z < 0
  · rw [if_pos c] at hs ⊢; rw [← hs.1, ← hs.2.1]
  · rw [if_neg c] at hs ⊢; rw [← hs.1, ← hs.2]

/-- The one place that looks at the rows of the table and at the ranges of the getters: every numeric
    property of a valid point is a natural number with at most as many digits as its `%0Nd` template
    prints, which is also the number of digits its capture pattern takes.  (The two year properties
    are the year's last four digits, whatever the year.) -/
theorem fld_width (m : Mode) (p : TP) (hv : p.Valid m) (c : Civil) (hc : IsCivil m p c) (f : Fld)
    (w : Nat) (v : Int) (hval : fldVal (ctxOf p c) f = .int v) (hpat : patOf f = .digits w) :
    fmtOf f = .zeroPad w ∧ 1 ≤ w ∧ 0 ≤ v ∧ v < 10 ^ w := by
  obtain ⟨r1, r2, r3, r4, r5, r6⟩ := civil_date_ranges m p c hc
  obtain ⟨-, a1, a2, a3, a4, a5, a6, -, hz⟩ := hv
  obtain ⟨H, M, eH, eM, bH, bM, -⟩ := tz_sign_abs p.tz hz
  have le : ∀ {lo v hi : Int} (w : Nat), lo ≤ v → v ≤ hi → 0 ≤ lo → hi < 10 ^ w → 0 ≤ v ∧ v < 10 ^ w :=
    fun _ h1 h2 h3 h4 => ⟨Int.le_trans h3 h1, Int.lt_of_le_of_lt h2 h4⟩
  have lt : ∀ {v hi : Int} (w : Nat), 0 ≤ v → v < hi → hi ≤ 10 ^ w → 0 ≤ v ∧ v < 10 ^ w :=
    fun _ h1 h2 h3 => ⟨h1, Int.lt_of_lt_of_le h2 h3⟩
  cases f <;> cases hval <;> cases hpat <;> refine ⟨rfl, by decide, ?_⟩
  case century =>
    exact lt 2 (Int.ediv_nonneg (Int.emod_nonneg _ (by decide : (10000 : Int) ≠ 0)) (by decide : (0 : Int) ≤ 100))
      (Int.ediv_lt_of_lt_mul (b := 100) (by decide : (0 : Int) < 100)
        (Int.emod_lt_of_pos _ (by decide : (0 : Int) < 10000))) (by decide)
  case yearOfCentury =>
    exact lt 2 (Int.emod_nonneg _ (by decide : (100 : Int) ≠ 0)) (Int.emod_lt_of_pos _ (by decide : (0 : Int) < 100))
      (by decide)
  case monthOfYear => exact le 2 r1 r2 (by decide) (by decide)
  case dayOfMonth => exact le 2 r3 r4 (by decide) (by decide)
  case dayOfYear => exact le 3 r5 r6 (by decide) (by decide)
  case hourOfDay => exact le 2 a1 a2 (by decide) (by decide)
  case minuteOfHour => exact lt 2 a3 a4 (by decide)
  case secondOfMinute => exact lt 2 a5 a6 (by decide)
  case tzHourAbs => exact eH ▸ le 2 (Int.natCast_nonneg H) (Int.ofNat_le.mpr bH) (by decide) (by decide)
  case tzMinuteAbs => exact eM ▸ lt 2 (Int.natCast_nonneg M) (Int.ofNat_lt.mpr bM) (by decide)

theorem numFld (m : Mode) (p : TP) (hv : p.Valid m) (c : Civil) (hc : IsCivil m p c) (f : Fld)
    (w : Nat) (v : Int) (hval : fldVal (ctxOf p c) f = .int v) (hpat : patOf f = .digits w) :
    valOf (ctxOf p c) f = render w v.toNat ∧ Fits (ctxOf p c) f ∧
      (parseNat (valOf (ctxOf p c) f) : Int) = v := by
  obtain ⟨hfmt, hw, h0, h1⟩ := fld_width m p hv c hc f w v hval hpat
  have e : valOf (ctxOf p c) f = zpad w v := by
    show fmtVal (fmtOf f) (fldVal (ctxOf p c) f) = _
    rw [hval, hfmt]; rfl
  obtain ⟨f1, f2, f3⟩ := zpad_fits w v hw h0 h1
  unfold Fits
  rw [hpat, e]
  exact ⟨zpad_eq_render w v hw h0 h1, ⟨f1, f2⟩, f3⟩

theorem render_year (y : Int) (h0 : 0 ≤ y) (h1 : y ≤ 9999) :
    render 2 (absI y % 10000 / 100).toNat ++ render 2 (absI y % 100).toNat = render 4 y.toNat := by
  obtain ⟨n, rfl⟩ := Int.eq_ofNat_of_zero_le h0
  have e : (n : Int) % 10000 = n := Int.emod_eq_of_lt h0 (Int.lt_of_le_of_lt h1 (by decide))
  rw [show absI (n : Int) = n from if_neg (Int.not_lt.mpr h0), e]
  exact (render_split 2 2 n).symm

theorem year_parts (y : Int) (h0 : 0 ≤ y) (h1 : y ≤ 9999) :
    100 * (absI y % 10000 / 100) + absI y % 100 = y := by
  rw [show absI y = y from if_neg (Int.not_lt.mpr h0), Int.emod_eq_of_lt h0 (Int.lt_of_le_of_lt h1 (by decide))]
  exact Int.mul_ediv_add_emod y 100

theorem render_dir (m : Mode) (p : TP) (hv : p.Valid m) (c : Civil) (hc : IsCivil m p c) (dir : Dir)
    (hy : SField.year ∈ dir.fields → 0 ≤ c.year ∧ c.year ≤ 9999) :
    renderPieces (ctxOf p c) (piecesOf dir) = field c dir := by
  have ⟨_, _, _, eH, eM, eS, eZ, _⟩ := hc
  have num := fun f w v hval hpat => (numFld m p hv c hc f w v hval hpat).1
  have year : SField.year ∈ dir.fields →
      valOf (ctxOf p c) .century ++ valOf (ctxOf p c) .yearOfCentury = render 4 c.year.toNat := fun h => by
    rw [num .century 2 _ rfl rfl, num .yearOfCentury 2 _ rfl rfl]
    exact render_year c.year (hy h).1 (hy h).2
  have hms : valOf (ctxOf p c) .hourOfDay = render 2 c.hour.toNat ∧
      valOf (ctxOf p c) .minuteOfHour = render 2 c.minute.toNat ∧
      valOf (ctxOf p c) .secondOfMinute = render 2 c.second.toNat := by
    rw [eH, eM, eS]
    exact ⟨num _ 2 _ rfl rfl, num _ 2 _ rfl rfl, num _ 2 _ rfl rfl⟩
  cases dir
  case Y => exact (congrArg (_ ++ ·) (List.append_nil _)).trans (year (by decide))
  case m => exact (List.append_nil _).trans (num .monthOfYear 2 _ rfl rfl)
  case d => exact (List.append_nil _).trans (num .dayOfMonth 2 _ rfl rfl)
  case j => exact (List.append_nil _).trans (num .dayOfYear 3 _ rfl rfl)
  case H => exact (List.append_nil _).trans hms.1
  case M => exact (List.append_nil _).trans hms.2.1
  case S => exact (List.append_nil _).trans hms.2.2
  case F =>
    show valOf _ .century ++ (valOf _ .yearOfCentury ++ (['-'] ++ (valOf _ .monthOfYear ++
      (['-'] ++ (valOf _ .dayOfMonth ++ []))))) = _
    rw [← List.append_assoc, year (by decide), num .monthOfYear 2 _ rfl rfl, num .dayOfMonth 2 _ rfl rfl,
      List.append_nil]
    rfl
  case X =>
    show valOf _ .hourOfDay ++ ([':'] ++ (valOf _ .minuteOfHour ++ ([':'] ++ (valOf _ .secondOfMinute ++ [])))) = _
    rw [hms.1, hms.2.1, hms.2.2, List.append_nil]
    rfl
  case z =>
    obtain ⟨zs, zh, zm⟩ := tz_of_minutes p.tz hv.tz
    show [if tzSign p.tz < 0 then '-' else '+'] ++ (valOf _ .tzHourAbs ++ (valOf _ .tzMinuteAbs ++ [])) = _
    rw [num .tzHourAbs 2 _ rfl rfl, num .tzMinuteAbs 2 _ rfl rfl, List.append_nil]
    show _ = (if c.utcOff < 0 then '-' else '+') :: _
    rw [eZ]
    simp only [zs, ← zh, ← zm]
    rfl
  case s => exact (List.append_nil _).trans (showInt_eq_decimalInt c.unix)

theorem render_items (m : Mode) (p : TP) (hv : p.Valid m) (c : Civil) (hc : IsCivil m p c)
    (items : List FItem) (hy : SField.year ∈ fieldsOf items → 0 ≤ c.year ∧ c.year ≤ 9999) :
    renderPieces (ctxOf p c) (piecesOfItems items) = posix c items := by
  induction items with
  | nil => rfl
  | cons it rest ih =>
    unfold renderPieces piecesOfItems posix at *
    rw [List.flatMap_cons, List.flatMap_append, List.flatMap_cons]
    cases it with
    | lit ch => rw [ih (fun h => hy h)]; rfl
    | conv dir =>
      rw [ih (fun h => hy (by simp [fieldsOf, h]))]
      congr 1
      exact render_dir m p hv c hc dir (fun h => hy (by simp [fieldsOf, h]))

/-! ### strptime: which regex groups a format names -/

/-- The specification field a property belongs to. -/
def sf : Fld → SField
  | .century => .year | .yearOfCentury => .year | .monthOfYear => .month | .dayOfMonth => .day
  | .dayOfYear => .yday | .hourOfDay => .hour | .minuteOfHour => .minute | .secondOfMinute => .second
  | .tzSign => .zone | .tzHourAbs => .zone | .tzMinuteAbs => .zone | .unix => .unix

theorem fldsOf_append (a b : List Piece) : fldsOf (a ++ b) = fldsOf a ++ fldsOf b := by
  induction a with
  | nil => rfl
  | cons x xs ih => cases x <;> simp [fldsOf, ih]

def allFlds : List Fld :=
  [.century, .yearOfCentury, .monthOfYear, .dayOfMonth, .dayOfYear, .hourOfDay, .minuteOfHour,
   .secondOfMinute, .tzSign, .tzHourAbs, .tzMinuteAbs, .unix]

theorem mem_allFlds (f : Fld) : f ∈ allFlds := by cases f <;> decide

theorem mem_allDirs (dir : Dir) : dir ∈ Dir.all := by cases dir <;> decide

theorem mem_fldsOf_dir (f : Fld) (dir : Dir) : f ∈ fldsOf (piecesOf dir) ↔ sf f ∈ dir.fields :=
  (by decide +kernel : ∀ dir ∈ Dir.all, ∀ f ∈ allFlds, (f ∈ fldsOf (piecesOf dir) ↔ sf f ∈ dir.fields))
    dir (mem_allDirs dir) f (mem_allFlds f)

theorem nodup_fldsOf_dir (dir : Dir) : (fldsOf (piecesOf dir)).Nodup := by cases dir <;> decide

theorem fldsOf_items_cons (it : FItem) (rest : List FItem) :
    fldsOf (piecesOfItems (it :: rest)) = fldsOf (piecesOfItem it) ++ fldsOf (piecesOfItems rest) := by
  simp [piecesOfItems, fldsOf_append]

theorem mem_fldsOf_items (f : Fld) (items : List FItem) :
    f ∈ fldsOf (piecesOfItems items) ↔ sf f ∈ fieldsOf items := by
  induction items with
  | nil => simp [piecesOfItems, fldsOf, fieldsOf]
  | cons it rest ih =>
    rw [fldsOf_items_cons, List.mem_append, ih]
    cases it with
    | lit ch => simp [piecesOfItem, fldsOf, fieldsOf]
    | conv dir => simp only [piecesOfItem, fieldsOf, List.mem_append, mem_fldsOf_dir]

theorem mem_fldsOf (f : Fld) (ps : List Piece) : f ∈ fldsOf ps ↔ Piece.fld f ∈ ps := by
  induction ps with
  | nil => simp [fldsOf]
  | cons x xs ih => cases x <;> simp [fldsOf, ih]

/-- The `century` property (and with it the year bounds check) is requested exactly by the
    conversions that name the year. -/
theorem century_mem (items : List FItem) (h : Piece.fld .century ∈ piecesOfItems items) :
    SField.year ∈ fieldsOf items :=
  (mem_fldsOf_items .century items).mp ((mem_fldsOf _ _).mpr h)

theorem nodup_fldsOf_items (items : List FItem) (h : (fieldsOf items).Nodup) :
    (fldsOf (piecesOfItems items)).Nodup := by
  induction items with
  | nil => simp [piecesOfItems, fldsOf]
  | cons it rest ih =>
    rw [fldsOf_items_cons]
    cases it with
    | lit ch => exact ih h
    | conv dir =>
      simp only [fieldsOf] at h
      rw [List.nodup_append] at h
      obtain ⟨_, h2, h3⟩ := h
      rw [List.nodup_append]
      refine ⟨nodup_fldsOf_dir dir, ih h2, ?_⟩
      intro a ha b hb hab
      subst hab
      exact h3 (sf a) ((mem_fldsOf_dir a dir).mp ha) (sf a) ((mem_fldsOf_items a rest).mp hb) rfl

theorem hasDup_false (fs : List Fld) (h : fs.Nodup) : hasDup fs = false := by
  induction fs with
  | nil => rfl
  | cons f rest ih =>
    rw [List.nodup_cons] at h
    simp only [hasDup, ih h.2, Bool.or_false, List.contains_eq_mem, decide_eq_false_iff_not]
    exact h.1

/-! ### strptime: the assembled regex matches what strftime printed, group by group -/

def bindingsOf (c : DumpCtx) (ps : List Piece) : List (Fld × List Char) :=
  (fldsOf ps).map fun f => (f, valOf c f)

theorem patOf_unix (f : Fld) (h : patOf f = .unixNum) : f = .unix := by
  cases f <;> simp [patOf] at h <;> rfl

theorem renderPieces_cons (c : DumpCtx) (x : Piece) (ps : List Piece) :
    renderPieces c (x :: ps) = renderPiece c x ++ renderPieces c ps := by
  simp [renderPieces]

theorem width_rendered (c : DumpCtx) (ps : List Piece) (hfit : ∀ f, Fits c f)
    (hnu : Fld.unix ∉ fldsOf ps) : (renderPieces c ps).length = (ps.map pieceWidth).sum := by
  induction ps with
  | nil => rfl
  | cons x xs ih =>
    rw [renderPieces_cons, List.length_append, List.map_cons, List.sum_cons]
    cases x with
    | lit ch =>
      rw [ih (by simpa [fldsOf] using hnu)]
      rfl
    | fld f =>
      simp only [fldsOf, List.mem_cons, not_or] at hnu
      rw [ih hnu.2]
      congr 1
      have hf := hfit f
      unfold Fits at hf
      show (valOf c f).length = pieceWidth (.fld f)
      have hpw : pieceWidth (.fld f) =
          match patOf f with
          | .digits n => n
          | .signPM => 1
          | .unixNum => 0 := rfl
      rw [hpw]
      cases hp : patOf f with
      | digits n => rw [hp] at hf; exact hf.1
      | signPM =>
        rw [hp] at hf
        rcases hf with hf | hf <;> (rw [hf]; rfl)
      | unixNum => exact absurd (patOf_unix f hp).symm hnu.1

theorem match_rendered (c : DumpCtx) (ps : List Piece) (hfit : ∀ f, Fits c f)
    (hnd : (fldsOf ps).Nodup) : matchPieces ps (renderPieces c ps) = some (bindingsOf c ps) := by
  induction ps with
  | nil => rfl
  | cons x xs ih =>
    rw [renderPieces_cons]
    cases x with
    | lit ch =>
      have := ih (by simpa [fldsOf] using hnd)
      simp only [renderPiece, List.singleton_append, matchPieces, ↓reduceIte, this]
      rfl
    | fld f =>
      simp only [fldsOf, List.nodup_cons] at hnd
      have ih' := ih hnd.2
      have hf := hfit f
      unfold Fits at hf
      have hb : bindingsOf c (.fld f :: xs) = (f, valOf c f) :: bindingsOf c xs := rfl
      show matchPieces (.fld f :: xs) (valOf c f ++ renderPieces c xs) = _
      rw [hb]
      unfold matchPieces
      cases hp : patOf f with
      | digits n =>
        rw [hp] at hf
        obtain ⟨hl, hd⟩ := hf
        have ht : (valOf c f ++ renderPieces c xs).take n = valOf c f := by
          rw [← hl]; exact List.take_left
        have hdr : (valOf c f ++ renderPieces c xs).drop n = renderPieces c xs := by
          rw [← hl]; exact List.drop_left
        simp only [ht, hdr, ih', Option.map_some, show (valOf c f).all isDigitC = true by simpa using hd, and_true, List.length_append]
        rw [if_pos (by omega)]
      | signPM =>
        rw [hp] at hf
        rcases hf with hf | hf <;> simp [hf, ih']
      | unixNum =>
        -- the Unix-time group has no width of its own: it takes what the fixed-width rest leaves
        rw [hp] at hf
        have hfu := patOf_unix f hp
        have hw := width_rendered c xs hfit (by rw [← hfu]; exact hnd.1)
        have hk : (valOf c f ++ renderPieces c xs).length - (xs.map pieceWidth).sum = (valOf c f).length := by
          rw [List.length_append, hw]; omega
        have ht : (valOf c f ++ renderPieces c xs).take (valOf c f).length = valOf c f := List.take_left
        have hdr : (valOf c f ++ renderPieces c xs).drop (valOf c f).length = renderPieces c xs :=
          List.drop_left
        simp only [hk, ht, hdr, hf, ih', Option.map_some, and_true]
        rw [if_pos (by rw [List.length_append, hw]; omega)]

theorem lookup_bindingsOf (c : DumpCtx) (ps : List Piece) (f : Fld) :
    (bindingsOf c ps).lookup f = if f ∈ fldsOf ps then some (valOf c f) else none := by
  unfold bindingsOf
  induction fldsOf ps with
  | nil => rfl
  | cons g rest ih =>
    simp only [List.map_cons, List.lookup_cons, List.mem_cons]
    by_cases h : f = g
    · subst h; simp
    · have : (f == g) = false := by simpa using h
      rw [this, ih]
      simp [h]

theorem isDigitC_ne_minus (ch : Char) (h : isDigitC ch = true) : ch ≠ '-' := by
  intro e; subst e; exact absurd h (by decide)

theorem decimal_head (n : Nat) : ∃ d0 tl, decimal n = d0 :: tl ∧ isDigitC d0 = true := by
  have hne := decimal_ne_nil n
  cases hd : decimal n with
  | nil => exact absurd hd hne
  | cons d0 tl => exact ⟨d0, tl, rfl, decimal_digits n d0 (by rw [hd]; simp)⟩

theorem takeWhile_all (l : List Char) (h : ∀ ch ∈ l, isDigitC ch = true) :
    l.takeWhile isDigitC = l ∧ l.dropWhile isDigitC = [] := by
  induction l with
  | nil => exact ⟨rfl, rfl⟩
  | cons x xs ih =>
    have hx := h x (by simp)
    have := ih (fun ch hc => h ch (by simp [hc]))
    simp [List.takeWhile, List.dropWhile, hx, this.1, this.2]

theorem unix_text (z : Int) :
    unixSyntax (decimalInt z) = true ∧ parseUnix (decimalInt z) = .ok z := by
  have tw := fun n => takeWhile_all _ (decimal_digits n)
  have ne : ∀ n, (decimal n).isEmpty = false := fun n => by
    cases h : decimal n with
    | nil => exact absurd h (decimal_ne_nil n)
    | cons => rfl
  unfold decimalInt
  split
  · simp only [unixSyntax, parseUnix, (tw _).1, (tw _).2, ne, parseNat_decimal, Bool.not_false, Bool.and_self,
      ↓reduceIte, true_and]
    congr 1
    omega
  · -- no minus sign: the text starts with a digit, so the model's `match`es on a leading `-` fall through
    obtain ⟨d0, tl, hd, hdig⟩ := decimal_head z.toNat
    have t := tw z.toNat
    have n1 := ne z.toNat
    have pn := parseNat_decimal z.toNat
    rw [hd] at t n1 pn ⊢
    unfold unixSyntax parseUnix
    simp only []
    split
    · next r e => exact absurd (List.cons.inj e).1 (isDigitC_ne_minus d0 hdig)
    · simp only [t.1, t.2, n1, pn, Bool.false_eq_true, ↓reduceIte]
      refine ⟨rfl, ?_⟩
      congr 1
      omega

/-! ### strptime: from the captured groups back to the point -/

theorem fits_all (m : Mode) (p : TP) (hv : p.Valid m) (c : Civil) (hc : IsCivil m p c) (f : Fld) :
    Fits (ctxOf p c) f := by
  cases f
  case tzSign =>
    show ([if tzSign p.tz < 0 then '-' else '+'] = ['+'] ∨ [if tzSign p.tz < 0 then '-' else '+'] = ['-'])
    split
    · exact Or.inr rfl
    · exact Or.inl rfl
  case unix =>
    show unixSyntax (showInt c.unix) = true
    rw [showInt_eq_decimalInt]
    exact (unix_text c.unix).1
  all_goals exact (numFld m p hv c hc _ _ _ rfl rfl).2.1

theorem numOf_bindings (c : DumpCtx) (ps : List Piece) (f : Fld) :
    numOf (bindingsOf c ps) f = if f ∈ fldsOf ps then some (parseNat (valOf c f) : Int) else none := by
  unfold numOf
  rw [lookup_bindingsOf]
  split <;> rfl

theorem fromUnix_local (m : Mode) (n : Int) (loc : TZ) (hz : loc.Valid) :
    ∃ q, fromUnix m n (some loc) = some q ∧ q.inst m = epochInst m + n ∧ q.Strict m ∧ q.tz = loc := by
  obtain ⟨q, e, hi, hs, ht, _⟩ := fromUnix_spec m n (some loc) (fun _ h => Option.some.inj h ▸ hz)
  exact ⟨q, e, unixEpoch_inst m ▸ hi, hs, ht⟩

/-- The time-of-day part of `_check_bounds`, in the two models' spellings. -/
theorem timeOk_eq (m : Mode) (hh mi ss : Int) :
    timeOk m hh mi ss =
      (decide (0 ≤ hh ∧ hh ≤ (calOf m).hoursInDay) &&
        (if hh = (calOf m).hoursInDay then decide (mi = 0 ∧ ss = 0)
         else decide (0 ≤ mi ∧ mi < (calOf m).minutesInHour ∧ 0 ≤ ss ∧ ss < (calOf m).secondsInMinute))) := by
  unfold timeOk
  by_cases c : hh = (calOf m).hoursInDay
  · simp only [c, ↓reduceIte]
    by_cases c2 : mi = 0 ∧ ss = 0
    · simp [c2.1, c2.2]
    · simp [c2]
  · simp only [c, ↓reduceIte]
    rw [Bool.eq_iff_iff]
    simp only [Bool.and_eq_true, decide_eq_true_eq]
    constructor
    · rintro ⟨⟨a, b, c', d⟩, e, f⟩; exact ⟨⟨a, b⟩, c', e, d, f⟩
    · rintro ⟨⟨a, b⟩, c', e, d, f⟩; exact ⟨⟨a, b, c', d⟩, e, f⟩

theorem dflt_true (v : Option Int) : dflt true v = some (v.getD 1) := by cases v <;> rfl

theorem dflt_false (v : Option Int) : dflt false v = v := rfl

theorem toOption_ite {ε α : Type} (c : Prop) [Decidable c] (x : α) (e : ε) :
    (if c then Except.ok x else Except.error e : Except ε α).toOption = if c then some x else none := by
  split <;> rfl

/-- `Strf.mkPoint` (the constructor as `Model/Strftime.lean` spells it) is `Model.mkTP`. -/
theorem mkPoint_eq_mkTP (m : Mode) (year : Int) (mo d doy hh mi ss : Option Int) (tzh tzm : Int) :
    (mkPoint m year mo d doy hh mi ss tzh tzm).toOption =
      mkTP m ⟨some year, mo, none, doy, d, none, hh, mi, ss, some tzh, some tzm⟩ := by
  unfold mkPoint mkTP
  simp only [show ∀ h mi, mkTZOpt m (some h) (some mi) = mkTZ m h mi from fun _ _ => rfl]
  cases mkTZ m tzh tzm with
  | none => rfl
  | some tz =>
    cases doy with
    | none =>
      -- no day of the year: both take month and day, 1 where absent, and check the same bounds
      simp only [Option.isSome_none, Option.isNone_none, Bool.and_false, Bool.false_eq_true, and_false, false_and,
        ↓reduceIte, Bool.and_true, Bool.not_false, dflt_true, pickDate, dateOk, timeOk_eq, boundsOk, inRange,
        finishTP, truthy, Bool.or_self, Lemmas.monthsInYear_eq, dflt_false, Bool.decide_and, Bool.and_assoc]
      exact toOption_ite _ _ _
    | some n =>
      -- a day of the year: any month or day beside it is refused, by `mkPoint` outright, by `mkTP` through
      -- the conflict rule, the bounds (a zero) or the leftover pattern of `finishTP`
      have fin : ∀ mo d : Option Int, (mo.isSome ∨ d.isSome) → ∀ hh mi ss,
          finishTP year mo d (some n) none none hh mi ss tz = none := by
        intro mo d h hh mi ss
        cases mo <;> cases d <;> first | rfl | simp at h
      by_cases hmd : mo.isSome = true ∨ d.isSome = true
      · simp only [Option.isSome_some, and_true, hmd, Option.isNone_some, Bool.false_and, dflt_false,
          fin mo d hmd, ite_self, ↓reduceIte]
        rfl
      · have hmo : mo = none := by cases mo <;> simp_all
        have hd : d = none := by cases d <;> simp_all
        subst hmo hd
        simp only [Option.getD_none, ne_eq, not_true_eq_false, or_self, Option.isSome_some, and_true,
          Option.isSome_none, Bool.false_eq_true, and_false, ↓reduceIte, truthy, Bool.or_self, Bool.false_and,
          Option.isNone_some, dflt_false, pickDate, dateOk, timeOk_eq, boundsOk, inRange, finishTP, Bool.true_and,
          Bool.and_true, Bool.decide_and, Bool.and_assoc]
        exact toOption_ite _ _ _

theorem toOption_eq_some {ε α : Type} (e : Except ε α) (a : α) : e.toOption = some a ↔ e = .ok a := by
  cases e <;> simp [Except.toOption]

theorem mkPoint_of_mkTP (m : Mode) (year : Int) (mo d doy hh mi ss : Option Int) (tzh tzm : Int) (q : TP)
    (h : mkTP m ⟨some year, mo, none, doy, d, none, hh, mi, ss, some tzh, some tzm⟩ = some q) :
    mkPoint m year mo d doy hh mi ss tzh tzm = .ok q :=
  (toOption_eq_some _ q).mp ((mkPoint_eq_mkTP m year mo d doy hh mi ss tzh tzm).trans h)

theorem hasZone_bindings (c : DumpCtx) (ps : List Piece) (h : Fld.tzSign ∈ fldsOf ps) :
    ((bindingsOf c ps).any fun e => clsOf e.1 == .zone) = true := by
  rw [List.any_eq_true]
  exact ⟨(.tzSign, valOf c .tzSign), List.mem_map.mpr ⟨.tzSign, h, rfl⟩, rfl⟩

theorem sign_captured (z : TZ) :
    (some [if tzSign z < 0 then '-' else '+'] == some ['-']) = decide (tzSign z < 0) := by
  by_cases h : tzSign z < 0
  · simp [h]
  · simp only [h, ↓reduceIte, decide_false]
    decide

/-- From the groups captured out of the printed text of a format that names year, hour, minute,
    second, zone and either month + day or the day of the year (and not `%s`), the parser rebuilds a
    valid point with the same local date, clock fields and offset, hence the same instant. -/
theorem assemble_full (m : Mode) (p : TP) (hv : p.Valid m) (c : Civil) (hc : IsCivil m p c)
    (hy : 0 ≤ c.year ∧ c.year ≤ 9999) (cfg : PCfg) (loc : TZ) (items : List FItem)
    (hfull : SField.unix ∉ fieldsOf items ∧ SField.year ∈ fieldsOf items ∧ SField.hour ∈ fieldsOf items ∧
      SField.minute ∈ fieldsOf items ∧ SField.second ∈ fieldsOf items ∧ SField.zone ∈ fieldsOf items ∧
      ((SField.month ∈ fieldsOf items ∧ SField.day ∈ fieldsOf items ∧ SField.yday ∉ fieldsOf items) ∨
       (SField.yday ∈ fieldsOf items ∧ SField.month ∉ fieldsOf items ∧ SField.day ∉ fieldsOf items))) :
    ∃ q, assemble m cfg loc (bindingsOf (ctxOf p c) (piecesOfItems items)) = .ok q ∧ q.inst m = p.inst m ∧
      q.Valid m ∧ q.tz = p.tz ∧ q.hh = p.hh ∧ q.mi = p.mi ∧ q.ss = p.ss := by
  obtain ⟨hnu, g1, g2, g3, g4, g5, g6⟩ := hfull
  have mem := fun f => mem_fldsOf_items f items
  have num : ∀ f w v, fldVal (ctxOf p c) f = .int v → patOf f = .digits w → sf f ∈ fieldsOf items →
      numOf (bindingsOf (ctxOf p c) (piecesOfItems items)) f = some v := fun f w v hval hpat h => by
    rw [numOf_bindings, if_pos ((mem f).mpr h), (numFld m p hv c hc f w v hval hpat).2.2]
  have absent : ∀ f, sf f ∉ fieldsOf items →
      numOf (bindingsOf (ctxOf p c) (piecesOfItems items)) f = none := fun f h => by
    rw [numOf_bindings, if_neg (mt (mem f).mp h)]
  have hsign : Fld.tzSign ∈ fldsOf (piecesOfItems items) := (mem .tzSign).mpr g5
  have vsign : valOf (ctxOf p c) .tzSign = [if tzSign p.tz < 0 then '-' else '+'] := rfl
  -- what `assemble` hands to the constructor
  have hasm : assemble m cfg loc (bindingsOf (ctxOf p c) (piecesOfItems items)) =
      mkPoint m c.year (numOf (bindingsOf (ctxOf p c) (piecesOfItems items)) .monthOfYear)
        (numOf (bindingsOf (ctxOf p c) (piecesOfItems items)) .dayOfMonth)
        (numOf (bindingsOf (ctxOf p c) (piecesOfItems items)) .dayOfYear)
        (some p.hh) (some p.mi) (some p.ss) p.tz.h p.tz.mi := by
    unfold assemble
    simp only [lookup_bindingsOf, mt (mem .unix).mp hnu, ↓reduceIte, hsign, vsign, sign_captured,
      hasZone_bindings _ _ hsign, num .century 2 (absI c.year % 10000 / 100) rfl rfl g1,
      num .yearOfCentury 2 (absI c.year % 100) rfl rfl g1, num .hourOfDay 2 p.hh rfl rfl g2,
      num .minuteOfHour 2 p.mi rfl rfl g3, num .secondOfMinute 2 p.ss rfl rfl g4,
      num .tzHourAbs 2 (tzHourAbs p.tz) rfl rfl g5, num .tzMinuteAbs 2 (tzMinuteAbs p.tz) rfl rfl g5,
      Option.getD_some, year_parts c.year hy.1 hy.2, decide_eq_true_eq, zone_back p.tz hv.tz]
  rcases g6 with ⟨d1, d2, d3⟩ | ⟨d1, d2, d3⟩
  · have hq : (⟨.cal c.year c.month c.day, p.hh, p.mi, p.ss, p.tz⟩ : TP).Valid m := ⟨hc.1, hv.2⟩
    refine ⟨_, ?_, ?_, hq, rfl, rfl, rfl, rfl⟩
    · rw [hasm, num .monthOfYear 2 c.month rfl rfl d1, num .dayOfMonth 2 c.day rfl rfl d2, absent .dayOfYear d3]
      exact mkPoint_of_mkTP _ _ _ _ _ _ _ _ _ _ _ (ConstructTrunc.mkTP_complete m _ hq)
    · simp only [TP.inst, TP.secOfDay, Spec.Date.dayNum, hc.2.1]
  · have hq : (⟨.ord c.year c.yday, p.hh, p.mi, p.ss, p.tz⟩ : TP).Valid m := ⟨(civil_ord m p c hc).1, hv.2⟩
    refine ⟨_, ?_, ?_, hq, rfl, rfl, rfl, rfl⟩
    · rw [hasm, absent .monthOfYear d2, absent .dayOfMonth d3, num .dayOfYear 3 c.yday rfl rfl d1]
      exact mkPoint_of_mkTP _ _ _ _ _ _ _ _ _ _ _ (ConstructTrunc.mkTP_complete m _ hq)
    · simp only [TP.inst, TP.secOfDay, Spec.Date.dayNum, (civil_ord m p c hc).2]

/-- `%s` (without `%z`): the text is read back as the local-zone point of that Unix time. -/
theorem assemble_unix (m : Mode) (p : TP) (c : Civil) (hux : c.unix = p.inst m - epochInst m)
    (cfg : PCfg) (loc : TZ) (hloc : loc.Valid) (items : List FItem) (hu : fieldsOf items = [.unix]) :
    ∃ q, assemble m cfg loc (bindingsOf (ctxOf p c) (piecesOfItems items)) = .ok q ∧ q.inst m = p.inst m ∧
      q.Strict m ∧ q.tz = loc := by
  obtain ⟨q, hq, hi, hs, ht⟩ := fromUnix_local m c.unix loc hloc
  refine ⟨q, ?_, by rw [hi, hux]; omega, hs, ht⟩
  have hv : valOf (ctxOf p c) .unix = decimalInt c.unix := showInt_eq_decimalInt _
  have h1 : Fld.unix ∈ fldsOf (piecesOfItems items) := by rw [mem_fldsOf_items, hu]; exact List.mem_singleton_self _
  have h2 : Fld.tzSign ∉ fldsOf (piecesOfItems items) := by rw [mem_fldsOf_items, hu]; decide
  unfold assemble
  simp only [lookup_bindingsOf, h1, h2, ↓reduceIte, hv, (unix_text c.unix).2, hq]
  rfl

theorem strptime_unix_text (m : Mode) (cfg : PCfg) (loc : TZ) (n : Int) :
    strptime m cfg loc (decimalInt n) ['%', 's'] =
      match fromUnix m n (some loc) with
      | some q => .ok q
      | none => .error .internal := by
  have ht : translate (scan ['%', 's']) = .ok [.fld .unix] := by decide
  obtain ⟨h1, h2⟩ := unix_text n
  unfold strptime
  rw [ht]
  have hd : hasDup (fldsOf [Piece.fld .unix]) = false := by decide
  simp only [hd, Bool.false_eq_true, ↓reduceIte]
  have hm : matchPieces [.fld .unix] (decimalInt n) = some [(.unix, decimalInt n)] := by
    simp [matchPieces, Gen.Strftime.patOf, h1]
  rw [hm]
  have e1 : (Fld.tzSign == Fld.unix) = false := by decide
  simp only [assemble, List.lookup, beq_self_eq_true, h2, e1]
  cases fromUnix m n (some loc) <;> simp

/-! ### strptime: what is absent from the format is absent from the captured groups -/

theorem matchPieces_lit (c : Char) (ps : List Piece) (data : List Char) (b : List (Fld × List Char))
    (h : matchPieces (.lit c :: ps) data = some b) : ∃ ds, data = c :: ds ∧ matchPieces ps ds = some b := by
  cases data with
  | nil => simp [matchPieces] at h
  | cons d ds =>
    simp only [matchPieces] at h
    split at h
    · next e => exact ⟨ds, by rw [e], h⟩
    · cases h

theorem matchPieces_fld (f : Fld) (ps : List Piece) (data : List Char) (b : List (Fld × List Char))
    (h : matchPieces (.fld f :: ps) data = some b) :
    ∃ k b', b = (f, data.take k) :: b' ∧ matchPieces ps (data.drop k) = some b' := by
  unfold matchPieces at h
  split at h
  · split at h
    · obtain ⟨b', hr, rfl⟩ := Option.map_eq_some_iff.mp h
      exact ⟨_, b', rfl, hr⟩
    · cases h
  · split at h
    · split at h
      · obtain ⟨b', hr, rfl⟩ := Option.map_eq_some_iff.mp h
        exact ⟨1, b', rfl, hr⟩
      · cases h
    · cases h
  · simp only at h
    split at h
    · obtain ⟨b', hr, rfl⟩ := Option.map_eq_some_iff.mp h
      exact ⟨_, b', rfl, hr⟩
    · cases h

theorem keys_of_match (ps : List Piece) (data : List Char) (b : List (Fld × List Char))
    (h : matchPieces ps data = some b) : b.map (·.1) = fldsOf ps := by
  induction ps generalizing data b with
  | nil => cases data <;> simp_all [matchPieces, fldsOf]
  | cons x xs ih =>
    cases x with
    | lit ch =>
      obtain ⟨ds, _, h'⟩ := matchPieces_lit ch xs data b h
      exact ih ds b h'
    | fld f =>
      obtain ⟨k, b', rfl, h'⟩ := matchPieces_fld f xs data b h
      simp [fldsOf, ih _ b' h']

/-- What an accepted `strptime` call went through: the format's pattern compiled (no group named twice),
    matched the text, and the groups assembled to the point. -/
theorem strptime_ok (m : Mode) (cfg : PCfg) (loc : TZ) (data fmt : List Char) (items : List FItem) (q : TP)
    (hf : parseFmt fmt = some items) (h : strptime m cfg loc data fmt = .ok q) :
    hasDup (fldsOf (piecesOfItems items)) = false ∧
      ∃ b, matchPieces (piecesOfItems items) data = some b ∧ assemble m cfg loc b = .ok q := by
  unfold strptime at h
  rw [(translate_scan fmt items hf).1] at h
  simp only at h
  split at h
  · cases h
  · next hd =>
    split at h
    · cases h
    · next b hb => exact ⟨by simpa using hd, b, hb, h⟩

theorem lookup_isSome_iff (b : List (Fld × List Char)) (f : Fld) :
    (b.lookup f).isSome = true ↔ f ∈ b.map (·.1) := by
  rw [List.lookup_isSome_iff, List.mem_map]
  exact ⟨fun ⟨p, hp, e⟩ => ⟨p, hp, (beq_iff_eq.mp e).symm⟩, fun ⟨p, hp, e⟩ => ⟨p, hp, beq_iff_eq.mpr e.symm⟩⟩
theorem lookup_absent (b : List (Fld × List Char)) (f : Fld) (h : f ∉ b.map (·.1)) : b.lookup f = none := by
  rw [← Option.not_isSome_iff_eq_none, lookup_isSome_iff]; exact h
theorem lookup_present (b : List (Fld × List Char)) (f : Fld) (h : f ∈ b.map (·.1)) :
    ∃ v, b.lookup f = some v :=
  Option.isSome_iff_exists.mp ((lookup_isSome_iff b f).mpr h)

/-- What an accepted `TimePoint(...)` call returns: absent clock fields are zero, an absent month or
    day is 1 (unless a day of the year is given), the zone is the one handed in. -/
theorem mkPoint_inv (m : Mode) (year : Int) (mo d doy hh mi ss : Option Int) (tzh tzm : Int) (q : TP)
    (h : mkPoint m year mo d doy hh mi ss tzh tzm = .ok q) :
    q.hh = hh.getD 0 ∧ q.mi = mi.getD 0 ∧ q.ss = ss.getD 0 ∧ q.tz = ⟨tzh, tzm⟩ ∧
    q.date = pickDate year mo d doy ∧ q.Valid m := by
  have hv : q.Valid m := ConstructTrunc.mkTP_sound m _ q
    ((mkPoint_eq_mkTP m year mo d doy hh mi ss tzh tzm).symm.trans ((toOption_eq_some _ q).mpr h))
  cases hz : mkTZ m tzh tzm with
  | none => simp [mkPoint, hz] at h
  | some z =>
    have ez : z = ⟨tzh, tzm⟩ := by
      simp only [mkTZ, Option.ite_none_left_eq_some, Option.some.injEq] at hz
      exact hz.2.2.symm
    simp only [mkPoint, hz] at h
    split at h
    · cases h
    · split at h
      · cases h
      · split at h
        · cases h
          exact ⟨rfl, rfl, rfl, ez, rfl, hv⟩
        · cases h

/-- The properties the parser files under "zone" are those of `%z`, and `%s`. -/
theorem sf_of_zone (k : Fld) : clsOf k = .zone → sf k = .zone ∨ sf k = .unix :=
  (by decide : ∀ k ∈ allFlds, clsOf k = .zone → sf k = .zone ∨ sf k = .unix) k (mem_allFlds k)

theorem any_zone_false (b : List (Fld × List Char)) (items : List FItem)
    (hkeys : b.map (·.1) = fldsOf (piecesOfItems items))
    (hz : SField.zone ∉ fieldsOf items) (hu : SField.unix ∉ fieldsOf items) :
    (b.any fun e => clsOf e.1 == .zone) = false := by
  rw [List.any_eq_false]
  intro e he hcls
  have hmem : sf e.1 ∈ fieldsOf items := by
    rw [← mem_fldsOf_items, ← hkeys]; exact List.mem_map_of_mem he
  rcases sf_of_zone e.1 (beq_iff_eq.mp hcls) with h | h
  · exact hz (h ▸ hmem)
  · exact hu (h ▸ hmem)

end IsoDT.Lemmas.Strf
