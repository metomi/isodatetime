/-
  IsoDT.Lemmas.TruncTerm — the day-of-year, week and day-of-month loops of `add_truncated` terminate
  within their fuel.  A year long enough for the target day (a leap year) starts within 7 years:
  of two consecutive multiples of 4 one is a leap year.  A week-year with the target week (53
  weeks; 52 in the 360-day calendar) starts within 7 years: seven consecutive week-years of fewer
  weeks would not cover seven calendar years.  A month long enough for the target day comes within
  two months.
-/
import IsoDT.Lemmas.Trunc
import IsoDT.Lemmas.ConstructTrunc

namespace IsoDT.Lemmas
open IsoDT IsoDT.Model
open IsoDT.Spec (Date TZ TP)
open IsoDT.Lemmas.ConstructTrunc (maxDom maxWeeks maxDaysInMonth_eq maxWeeksInYear_eq monthLenB_le_leap)

def DomOf (m : Mode) (n d : Int) : Prop := ∃ y mo, Spec.ValidCal m y mo d ∧ Spec.dayNumCal m y mo d = n
def DoyOf (m : Mode) (n k : Int) : Prop := ∃ y, Spec.ValidOrd m y k ∧ Spec.dayNumOrd m y k = n
def WeekOf (m : Mode) (n w : Int) : Prop := ∃ y k, Spec.ValidWeek m y w k ∧ Spec.dayNumWeek m y w k = n

theorem getDom_of (m : Mode) (x : TP) (hx : x.Strict m) (hk : x.date.rep = 0) (d : Int)
    (h : DomOf m (x.date.dayNum m) d) : getDom x = d := by
  obtain ⟨Y, M, hv, hn⟩ := h
  unfold getDom; rw [date_unique m x.date (.cal Y M d) hx.1.1 hv hk hn.symm]

theorem domOf_get (m : Mode) (x : TP) (hx : x.Strict m) (hk : x.date.rep = 0) :
    DomOf m (x.date.dayNum m) (getDom x) := by
  obtain ⟨y, mo, dd, e⟩ := rep0_cal x.date hk
  have hv := hx.1.1
  unfold getDom; rw [e] at hv ⊢; exact ⟨y, mo, hv, rfl⟩

theorem getDoy_of (m : Mode) (x : TP) (hx : x.Strict m) (hk : x.date.rep = 1) (k : Int)
    (h : DoyOf m (x.date.dayNum m) k) : getDoy x = k := by
  obtain ⟨Y, hv, hn⟩ := h
  unfold getDoy; rw [date_unique m x.date (.ord Y k) hx.1.1 hv hk hn.symm]

theorem doyOf_get (m : Mode) (x : TP) (hx : x.Strict m) (hk : x.date.rep = 1) :
    DoyOf m (x.date.dayNum m) (getDoy x) := by
  obtain ⟨y, n, e⟩ := rep1_ord x.date hk
  have hv := hx.1.1
  unfold getDoy; rw [e] at hv ⊢; exact ⟨y, hv, rfl⟩

theorem getWeek_of (m : Mode) (x : TP) (hx : x.Strict m) (hk : x.date.rep = 2) (w : Int)
    (h : WeekOf m (x.date.dayNum m) w) : getWeek x = w := by
  obtain ⟨Y, K, hv, hn⟩ := h
  unfold getWeek; rw [date_unique m x.date (.week Y w K) hx.1.1 hv hk hn.symm]

theorem weekOf_get (m : Mode) (x : TP) (hx : x.Strict m) (hk : x.date.rep = 2) :
    WeekOf m (x.date.dayNum m) (getWeek x) := by
  obtain ⟨y, w0, d, e⟩ := rep2_week x.date hk
  have hv := hx.1.1
  unfold getWeek; rw [e] at hv ⊢; exact ⟨y, d, hv, rfl⟩

theorem leap_of_mult4 (a : Int) (h : a % 4 = 0) : Spec.isLeapG a = true ∨ Spec.isLeapG (a + 4) = true := by
  by_cases c : a % 100 = 0
  · have h4 : (a + 4) % 4 = 0 := by omega
    have h100 : ¬ (a + 4) % 100 = 0 := by omega
    right; simp [Spec.isLeapG, h4, h100]
  · left; simp [Spec.isLeapG, h, c]

theorem leap_within_7 (y : Int) : Spec.isLeapG y = true ∨
    ∃ i : Int, 1 ≤ i ∧ i ≤ 7 ∧ Spec.isLeapG (y + i) = true := by
  rcases leap_of_mult4 (y + (4 - y % 4) % 4) (by omega) with h | h
  · by_cases c : y % 4 = 0
    · left; rwa [show y + (4 - y % 4) % 4 = y by omega] at h
    · exact Or.inr ⟨(4 - y % 4) % 4, by omega, by omega, h⟩
  · exact Or.inr ⟨(4 - y % 4) % 4 + 4, by omega, by omega, by rw [← Int.add_assoc]; exact h⟩

/-- For every target day-of-year legal for the mode, a year that has that day starts within 7
    years: `t ≤ 365` (360, 366 in the fixed calendars) fits every year, 366 fits the next leap year. -/
theorem year_with_day (m : Mode) (y t : Int) (ht : t ≤ Spec.yearLenB m true) :
    ∃ i : Int, 0 ≤ i ∧ i ≤ 7 ∧ t ≤ Spec.yearLen m (y + i) := by
  cases m with
  | greg =>
    have long : ∀ i, Spec.isLeapG (y + i) = true → t ≤ Spec.yearLen .greg (y + i) := fun i h => by
      show t ≤ Spec.yearLenB .greg (Spec.isLeapG (y + i)); rw [h]; exact ht
    rcases leap_within_7 y with h | ⟨i, h1, h2, h3⟩
    · exact ⟨0, by omega, by omega, long 0 (by rwa [Int.add_zero])⟩
    · exact ⟨i, by omega, h2, long i h3⟩
  | d360 => exact ⟨0, by omega, by omega, ht⟩
  | d365 => exact ⟨0, by omega, by omega, ht⟩
  | d366 => exact ⟨0, by omega, by omega, ht⟩

/-- From any valid ordinal date, day `t` of some year is at most `fuelDoy` days on: later the same
    year, else next year if `t` fits it, else in the next year long enough. -/
theorem next_doy (m : Mode) (y n t : Int) (hv : Spec.ValidOrd m y n) (ht1 : 1 ≤ t)
    (ht2 : t ≤ Spec.yearLenB m true) :
    ∃ j : Nat, j ≤ fuelDoy ∧ DoyOf m (Spec.dayNumOrd m y n + j) t := by
  obtain ⟨hn1, hn2⟩ := hv
  have hl := yearLen_bounds m y
  have hb := yearLenB_bounds m true
  have hs := dby_succ m y
  by_cases c1 : t ≤ Spec.yearLen m y
  · by_cases c2 : n ≤ t
    · exact ⟨(t - n).toNat, by unfold fuelDoy; omega, y, ⟨ht1, c1⟩, by unfold Spec.dayNumOrd; omega⟩
    · -- already past it this year: t < n ≤ 366, so t fits next year whatever its length
      have hl1 := yearLen_bounds m (y + 1)
      have hfit : t ≤ Spec.yearLen m (y + 1) := by
        cases m
        · rw [yearLen_greg]; split <;> omega
        all_goals (rw [yearLen_fixed] at hn2 ⊢; simp only at hn2 ⊢; omega)
      exact ⟨(Spec.dby m (y + 1) + t - (Spec.dby m y + n)).toNat, by unfold fuelDoy; omega, y + 1,
        ⟨ht1, hfit⟩, by unfold Spec.dayNumOrd; omega⟩
  · -- the year is too short for t: the next year long enough starts within 7 years
    obtain ⟨i, i0, i7, hlen⟩ := year_with_day m y t ht2
    have hi1 : 1 ≤ i := by
      apply Classical.byContradiction; intro h
      rw [show i = 0 by omega, Int.add_zero] at hlen; exact c1 hlen
    have hm := dby_mono m y (y + i) (by omega)
    exact ⟨(Spec.dby m (y + i) + t - (Spec.dby m y + n)).toNat, by unfold fuelDoy; omega, y + i,
      ⟨ht1, hlen⟩, by unfold Spec.dayNumOrd; omega⟩

/-- **The day-of-year loop terminates** within its fuel from any strict ordinal-date point, for
    every target legal in the mode (up to 366 where the mode has leap years). -/
theorem loop_doy_terminates (m : Mode) (p : TP) (hp : p.Strict m) (hk : p.date.rep = 1) (t : Int)
    (ht1 : 1 ≤ t) (ht2 : t ≤ (calOf m).daysInYearLeap) :
    ∃ q, loopField m getDoy (fun q => { q with date := bumpDay q.date 1 }) t fuelDoy p = some q := by
  obtain ⟨y, n, e⟩ := rep1_ord p.date hk
  have hv := hp.1.1
  rw [e] at hv
  rw [(daysInYearRec_eq m).2] at ht2
  obtain ⟨j, hj, hd⟩ := next_doy m y n t hv ht1 ht2
  refine loopField_reaches m getDoy _ t 1 1 (stepOK_day m 1) fuelDoy p hp hk j hj
    fun x xs xr xn => getDoy_of m x xs xr t ?_
  rw [xn, e, Int.one_mul]; exact hd

theorem weekYearStart_add (m : Mode) (y lo hi : Int) (n : Nat)
    (h : ∀ i : Int, 0 ≤ i → i < n → lo ≤ Spec.weeksInYear m (y + i) ∧ Spec.weeksInYear m (y + i) ≤ hi) :
    ∃ W : Int, Spec.weekYearStart m (y + n) = Spec.weekYearStart m y + 7 * W ∧ lo * n ≤ W ∧ W ≤ hi * n := by
  induction n with
  | zero => exact ⟨0, by simp, by simp, by simp⟩
  | succ n ih =>
    obtain ⟨W, e, l, u⟩ := ih fun i h0 h1 => h i h0 (by omega)
    have := weekYearStart_succ m (y + n)
    have := h n (by omega) (by omega)
    refine ⟨W + Spec.weeksInYear m (y + n), ?_, ?_, ?_⟩
    · rw [show y + ((n + 1 : Nat) : Int) = y + n + 1 by omega]; omega
    · rw [Int.natCast_succ, Int.mul_add]; omega
    · rw [Int.natCast_succ, Int.mul_add]; omega

theorem seven_years (m : Mode) (y : Int) : Spec.dby m y + 49 * (maxWeeks m - 1) + 7 ≤ Spec.dby m (y + 7) := by
  cases m <;> simp only [maxWeeks, Spec.dby] <;> omega

/-- From any year, a week-year with the mode's largest week number starts within 6 years: seven
    week-years of fewer weeks would span at most `49 * (maxWeeks m - 1)` days, but they start and end
    within 3 days of seven calendar years, which span more. -/
theorem long_week_year (m : Mode) (y : Int) :
    ∃ i : Int, 0 ≤ i ∧ i ≤ 6 ∧ maxWeeks m ≤ Spec.weeksInYear m (y + i) := by
  apply Classical.byContradiction
  intro hn
  obtain ⟨W, e, -, u⟩ := weekYearStart_add m y 51 (maxWeeks m - 1) 7 fun i h0 h7 =>
    ⟨(weeksInYear_bounds m _).1, Classical.byContradiction fun h => hn ⟨i, h0, by omega, by omega⟩⟩
  have b0 := weekYearStart_bounds m y
  have b7 := weekYearStart_bounds m (y + 7)
  have := seven_years m y
  change Spec.weekYearStart m (y + 7) = _ at e
  change W ≤ (maxWeeks m - 1) * 7 at u
  omega

/-- From any valid week date, week `t` of some week-year, on the same weekday, is at most `fuelWeek`
    weeks on: later the same week-year, else in the first week-year after it with the largest
    number of weeks. -/
theorem next_week (m : Mode) (y w d t : Int) (hv : Spec.ValidWeek m y w d) (ht1 : 1 ≤ t) (ht2 : t ≤ maxWeeks m) :
    ∃ j : Nat, j ≤ fuelWeek ∧ WeekOf m (Spec.dayNumWeek m y w d + 7 * j) t := by
  obtain ⟨v1, v2, v3, v4⟩ := hv
  have hb := weeksInYear_bounds m y
  by_cases c : w ≤ t ∧ t ≤ Spec.weeksInYear m y
  · exact ⟨(t - w).toNat, by unfold fuelWeek; omega, y, d, ⟨ht1, c.2, v3, v4⟩,
      by unfold Spec.dayNumWeek; omega⟩
  · obtain ⟨i, i0, i6, hlong⟩ := long_week_year m (y + 1)
    obtain ⟨W, e, l, u⟩ := weekYearStart_add m (y + 1) 51 53 i.toNat fun k _ _ => weeksInYear_bounds m _
    have hs := weekYearStart_succ m y
    have hbi := weeksInYear_bounds m (y + 1 + i)
    rw [Int.toNat_of_nonneg i0] at e l u
    exact ⟨(Spec.weeksInYear m y + W + t - w).toNat, by unfold fuelWeek; omega, y + 1 + i, d,
      ⟨ht1, by omega, v3, v4⟩, by unfold Spec.dayNumWeek; omega⟩

/-- **The week loop terminates** within its fuel from any strict week-date point, for every target
    week number legal in the mode (53; 52 in the 360-day calendar). -/
theorem loop_week_terminates (m : Mode) (p : TP) (hp : p.Strict m) (hk : p.date.rep = 2) (t : Int)
    (ht1 : 1 ≤ t) (ht2 : t ≤ (calOf m).maxWeeksInYear) :
    ∃ q, loopField m getWeek bumpWeek t fuelWeek p = some q := by
  obtain ⟨y, w, d, e⟩ := rep2_week p.date hk
  have hv := hp.1.1
  rw [e] at hv
  rw [maxWeeksInYear_eq] at ht2
  obtain ⟨j, hj, hw⟩ := next_week m y w d t hv ht1 ht2
  refine loopField_reaches m getWeek bumpWeek t 7 2 (stepOK_week m) fuelWeek p hp hk j hj
    fun x xs xr xn => getWeek_of m x xs xr t ?_
  rw [xn, e]; exact hw

theorem consecutive_months_fin : ∀ m ∈ Mode.all, ∀ lp lp' : Bool, ∀ mo : Fin 13, 1 ≤ mo.val →
    Spec.monthLenB m lp mo.val = maxDom m ∨
    Spec.monthLenB m lp' (if (mo.val : Int) = 12 then 1 else (mo.val : Int) + 1) = maxDom m := by
  decide +kernel

theorem consecutive_months (m : Mode) (lp lp' : Bool) (mo : Int) (h1 : 1 ≤ mo) (h2 : mo ≤ 12) :
    Spec.monthLenB m lp mo = maxDom m ∨ Spec.monthLenB m lp' (if mo = 12 then 1 else mo + 1) = maxDom m := by
  refine forall_fin_int (P := fun mo => 1 ≤ mo → Spec.monthLenB m lp mo = maxDom m ∨
    Spec.monthLenB m lp' (if mo = 12 then 1 else mo + 1) = maxDom m) 13
    (fun k hk => consecutive_months_fin m (mode_mem_all m) lp lp' k (by omega)) mo (by omega) (by omega) h1

theorem monthLen_le_maxDom (m : Mode) (y mo : Int) (h1 : 1 ≤ mo) (h2 : mo ≤ 12) :
    Spec.monthLen m y mo ≤ maxDom m :=
  Int.le_trans (monthLenB_le_leap m _ mo h1 h2).1 (monthLenB_le_leap m true mo h1 h2).2

theorem next_month (m : Mode) (y mo : Int) (h1 : 1 ≤ mo) (h2 : mo ≤ 12) :
    ∃ y' mo', 1 ≤ mo' ∧ mo' ≤ 12 ∧
      Spec.dayNumCal m y' mo' 1 = Spec.dayNumCal m y mo 1 + Spec.monthLen m y mo ∧
      (Spec.monthLen m y mo = maxDom m ∨ Spec.monthLen m y' mo' = maxDom m) := by
  by_cases c : mo = 12
  · subst c
    refine ⟨y + 1, 1, by omega, by omega, ?_, consecutive_months m _ _ 12 h1 h2⟩
    have h3 := dby_succ m y
    have h4 := dbmB_twelve m (Spec.leap m y)
    have h5 := dbmB_one m (Spec.leap m (y + 1))
    unfold Spec.dayNumCal Spec.dbm Spec.monthLen Spec.yearLen at *
    omega
  · refine ⟨y, mo + 1, by omega, by omega, ?_, ?_⟩
    · have := dbmB_succ m (Spec.leap m y) mo h1 (by omega)
      unfold Spec.dayNumCal Spec.dbm Spec.monthLen at *
      omega
    · have := consecutive_months m (Spec.leap m y) (Spec.leap m y) mo h1 h2
      rwa [if_neg c] at this

theorem rep0_cal'' (d : Date) (h : d.rep = 0) : ∃ y mo dd, d = .cal y mo dd := rep0_cal d h

/-- From any valid calendar date, day `t` of some month is at most `fuelDom` days on: later the same
    month, else next month if `t` fits it, else the month after (of two consecutive months one is
    long). -/
theorem next_dom (m : Mode) (y mo d t : Int) (hv : Spec.ValidCal m y mo d) (ht1 : 1 ≤ t) (ht2 : t ≤ maxDom m) :
    ∃ j : Nat, j ≤ fuelDom ∧ DomOf m (Spec.dayNumCal m y mo d + j) t := by
  obtain ⟨v1, v2, v3, v4⟩ := hv
  have hl0 := monthLen_bounds m y mo v1 v2
  have hle0 := monthLen_le_maxDom m y mo v1 v2
  have hM : maxDom m ≤ 31 := by cases m <;> simp [maxDom]
  by_cases c1 : d ≤ t ∧ t ≤ Spec.monthLen m y mo
  · exact ⟨(t - d).toNat, by unfold fuelDom; omega, y, mo, ⟨v1, v2, ht1, c1.2⟩,
      by unfold Spec.dayNumCal; omega⟩
  · obtain ⟨y1, m1, n2, n3, n1, long1⟩ := next_month m y mo v1 v2
    have hl1 := monthLen_bounds m y1 m1 n2 n3
    have hle1 := monthLen_le_maxDom m y1 m1 n2 n3
    by_cases c2 : t ≤ Spec.monthLen m y1 m1
    · exact ⟨(Spec.monthLen m y mo - d + t).toNat, by unfold fuelDom; omega, y1, m1, ⟨n2, n3, ht1, c2⟩,
        by unfold Spec.dayNumCal at n1 ⊢; omega⟩
    · -- next month too short, so the month after it is long
      obtain ⟨y2, m2, k2, k3, k1, long2⟩ := next_month m y1 m1 n2 n3
      exact ⟨(Spec.monthLen m y mo - d + Spec.monthLen m y1 m1 + t).toNat, by unfold fuelDom; omega, y2, m2,
        ⟨k2, k3, ht1, by omega⟩, by unfold Spec.dayNumCal at n1 k1 ⊢; omega⟩

/-- **The day-of-month loop terminates** within its fuel from any strict calendar-date point, for
    every target day legal in the mode (up to 31; 30 in the 360-day calendar). -/
theorem loop_dom_terminates (m : Mode) (p : TP) (hp : p.Strict m) (hk : p.date.rep = 0) (t : Int)
    (ht1 : 1 ≤ t) (ht2 : t ≤ (calOf m).maxDaysInMonth) :
    ∃ q, loopField m getDom (fun q => { q with date := bumpDay q.date 1 }) t fuelDom p = some q := by
  obtain ⟨y, mo, d, e⟩ := rep0_cal p.date hk
  have hv := hp.1.1
  rw [e] at hv
  rw [maxDaysInMonth_eq] at ht2
  obtain ⟨j, hj, hd⟩ := next_dom m y mo d t hv ht1 ht2
  refine loopField_reaches m getDom _ t 1 0 (stepOK_day m 0) fuelDom p hp hk j hj
    fun x xs xr xn => getDom_of m x xs xr t ?_
  rw [xn, e, Int.one_mul]; exact hd

end IsoDT.Lemmas
