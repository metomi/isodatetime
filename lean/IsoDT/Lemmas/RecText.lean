/-
  IsoDT.Lemmas.RecText — helper lemmas for the text round trip of recurrences (C14, last clause):
  the characters `str(point)` and `str(duration)` can print, that every point parser also reads a
  point printed without expanded year digits (`parse_stdText0`), and what the three recurrence
  regexes (`RecText.header`, `regex1/2/3`) capture on a text assembled from such pieces.
-/
import IsoDT.Model.RecText
import IsoDT.Lemmas.DurText
import IsoDT.Lemmas.TextRoundParse

namespace IsoDT.Lemmas.RecText
open IsoDT IsoDT.Model IsoDT.Text IsoDT.RecText
open IsoDT.Spec (Date TZ TP)
open IsoDT.Model.DurText (isDig intText toText)
open IsoDT.Lemmas.DurText

/-- The characters a printed whole-second point consists of. -/
def PtChar (c : Char) : Prop := Text.isDigit c = true ∨ c ∈ ['+', '-', 'W', ':', 'Z', 'T']

/-- The characters a printed non-negative integer duration consists of. -/
def DuChar (c : Char) : Prop := isDig c = true ∨ c ∈ ['P', 'Y', 'M', 'D', 'T', 'H', 'S', 'W']

theorem isDigit_bounds (c : Char) (h : Text.isDigit c = true) : 48 ≤ c.toNat ∧ c.toNat ≤ 57 := by
  simpa [Text.isDigit] using h

theorem PtChar.facts {c : Char} (h : PtChar c) : c ≠ '/' ∧ c ≠ '\n' ∧ c ≠ 'P' ∧ c.toNat < 128 := by
  rcases h with h | h
  · have := isDigit_bounds c h
    refine ⟨?_, ?_, ?_, by omega⟩ <;> (intro e; subst e; revert this; decide)
  · simp only [List.mem_cons, List.not_mem_nil, or_false] at h
    rcases h with rfl | rfl | rfl | rfl | rfl | rfl <;> decide

theorem DuChar.facts {c : Char} (h : DuChar c) : c ≠ '/' ∧ c ≠ '\n' ∧ c.toNat < 128 := by
  rcases h with h | h
  · have := (isDig_iff c).mp h
    refine ⟨?_, ?_, by omega⟩ <;> (intro e; subst e; revert this; decide)
  · simp only [List.mem_cons, List.not_mem_nil, or_false] at h
    rcases h with rfl | rfl | rfl | rfl | rfl | rfl | rfl | rfl <;> decide

theorem litChars_append (a b : Template) : litChars (a ++ b) = litChars a ++ litChars b := by
  induction a with
  | nil => rfl
  | cons x a ih => cases x <;> simp [litChars, ih]

theorem litChars_dateTmpl (ned : Nat) (d : Date) :
    ∀ c ∈ litChars (dateTmpl ned d), c ∈ ['+', '-', 'W', ':', 'Z', 'T'] := by
  have hy : litChars (yearTmpl ned) = if ned = 0 then [] else ['+', '-'] := by
    unfold yearTmpl; split <;> rfl
  cases d <;> simp only [dateTmpl, litChars_append, hy] <;> split <;> decide

theorem litChars_zoneTmpl (z : TZ) : ∀ c ∈ litChars (zoneTmpl z), c ∈ ['+', '-', 'W', ':', 'Z', 'T'] := by
  unfold zoneTmpl; split <;> decide

theorem stdText_chars (ned : Nat) (p : TP) : ∀ c ∈ stdText ned p, PtChar c := by
  intro c hc
  have key : ∀ t env, fits t env = true → (∀ x ∈ litChars t, x ∈ ['+', '-', 'W', ':', 'Z', 'T']) →
      c ∈ trender t env → PtChar c := fun t env hf hl h =>
    (trender_chars t env hf c h).imp id (hl c)
  simp only [stdText, List.mem_append, List.mem_cons] at hc
  rcases hc with hc | rfl | hc | hc
  · exact key _ _ (fits_date ned p.date) (litChars_dateTmpl ned p.date) hc
  · exact Or.inr (by decide)
  · exact key _ _ (fits_time p) (by decide) hc
  · exact key _ _ (fits_zone p.tz) (litChars_zoneTmpl p.tz) hc

theorem stdText_ne_nil (ned : Nat) (p : TP) : stdText ned p ≠ [] := by
  intro h
  have : 'T' ∈ stdText ned p := by simp [stdText]
  rw [h] at this
  cases this

/-! ## A parser with expanded year digits still reads four-digit years

  `parse_stdText` (C08) is about texts spelled with the parser's own number of expanded year
  digits.  A point that carries none (`num_expanded_year_digits = 0`, e.g. one the parser itself
  read from a four-digit text) prints four digits; every configuration reads that as well. -/

def hasDate0 (pt : ParserTables) (d : Date) : Bool :=
  pt.dateEntries.any fun e => decide (e.tmpl = dateTmpl 0 d) && decide (e.typ = .complete) &&
    decide (e.fmt = .extended)

def std0OK (pt : ParserTables) : Bool :=
  pt.basicOnly || (hasDate0 pt (.cal 0 0 0) && hasDate0 pt (.ord 0 0) && hasDate0 pt (.week 0 0 0))

theorem std0_tables : Gen.Templates.parserTables.all std0OK = true := by decide +kernel

theorem std0_entry (pt : ParserTables) (h : pt ∈ Gen.Templates.parserTables) (hb : pt.basicOnly = false) (d : Date) :
    ∃ de ∈ pt.dateEntries, de.tmpl = dateTmpl 0 d ∧ de.typ = .complete ∧ de.fmt = .extended := by
  have hk := List.all_eq_true.mp std0_tables pt h
  simp only [std0OK, hb, Bool.false_or, Bool.and_eq_true, hasDate0, List.any_eq_true,
    decide_eq_true_eq] at hk
  obtain ⟨⟨h1, h2⟩, h3⟩ := hk
  rcases dateTmpl_rep 0 d with e | e | e <;> rw [e]
  · obtain ⟨x, hx, ⟨a, b⟩, c⟩ := h1; exact ⟨x, hx, a, b, c⟩
  · obtain ⟨x, hx, ⟨a, b⟩, c⟩ := h2; exact ⟨x, hx, a, b, c⟩
  · obtain ⟨x, hx, ⟨a, b⟩, c⟩ := h3; exact ⟨x, hx, a, b, c⟩

/-- **Any parser that allows extended notation reads the four-digit-year text of a point**
    (whatever its own number of expanded year digits), giving the point without expanded digits. -/
theorem parse_stdText0 (cfg : Cfg) (hpt : cfg.pt ∈ Gen.Templates.parserTables) (hb : cfg.pt.basicOnly = false)
    (p : TP) (hv : p.Valid cfg.mode) (hy : YearInRange 0 (dateYear p.date)) :
    Text.parse cfg (stdText 0 p) false = some (XTP.ofTP 0 p) :=
  parse_anyZone cfg hpt hb 0 (.inr rfl) p (std0_entry cfg.pt hpt hb p.date) hv hy _
    (std_zone_entry cfg.pt hpt hb p.tz) (zoneEnv p.tz) (fits_zone _)
    (processZone_zoneEnv cfg.zone p.tz hv.2.2.2.2.2.2.2.2)

/-! ## The printed interval -/

/-- No negative component (what `TimeRecurrence` accepts as an interval, cf. `mkRec`). -/
def NonNeg : Dur → Prop
  | .weeks w => 0 ≤ w
  | .units y mo d h mi s => 0 ≤ y ∧ 0 ≤ mo ∧ 0 ≤ d ∧ 0 ≤ h ∧ 0 ≤ mi ∧ 0 ≤ s

instance (d : Dur) : Decidable (NonNeg d) := by cases d <;> unfold NonNeg <;> infer_instance

theorem fld_nil_iff (v : Int) (u : Char) : fld (ofv v) u = [] ↔ v = 0 := by
  unfold ofv fld
  split <;> simp_all

theorem toText_shape (d : Dur) (h : NonNeg d) :
    ∃ c body, toText d = 'P' :: c :: body ∧ ∀ x ∈ c :: body, DuChar x := by
  by_cases hnz : d.nonzero = true
  · cases d with
    | weeks w =>
      have hpos : 0 < w := by
        have hw : w ≠ 0 := by simpa [Dur.nonzero] using hnz
        unfold NonNeg at h; omega
      rw [toText_weeks_pos w hpos]
      obtain ⟨c, t, hx⟩ := List.exists_cons_of_ne_nil (natDigits_ne_nil w.natAbs)
      refine ⟨c, t ++ ['W'], by simp [desigW, hx], ?_⟩
      intro x hx'
      rcases List.mem_append.mp (show x ∈ (c :: t) ++ ['W'] from hx') with h1 | h1
      · exact Or.inl (natDigits_digs w.natAbs x (hx ▸ h1))
      · exact Or.inr (by rw [List.mem_singleton.mp h1]; decide)
    | units y mo dd hh mi ss =>
      obtain ⟨a1, a2, a3, a4, a5, a6⟩ := h
      rw [toText_units_pos y mo dd hh mi ss a1 a2 a3 a4 a5 a6 hnz]
      have hch := desig_chars (ofv y) (ofv mo) (ofv dd) (tOf hh mi ss) (ofv_good y) (ofv_good mo) (ofv_good dd)
        (tOf_good hh mi ss)
      -- a duration that is not empty prints at least one field
      have hne : fld (ofv y) 'Y' ++ (fld (ofv mo) 'M' ++ (fld (ofv dd) 'D' ++ timePart (tOf hh mi ss))) ≠ [] := by
        intro hb
        simp only [List.append_eq_nil_iff, fld_nil_iff] at hb
        obtain ⟨rfl, rfl, rfl, ht⟩ := hb
        unfold tOf at ht
        split at ht
        · rename_i hz
          obtain ⟨rfl, rfl, rfl⟩ := hz
          simp [Dur.nonzero] at hnz
        · simp [timePart] at ht
      obtain ⟨c, t, hb⟩ := List.exists_cons_of_ne_nil hne
      unfold desig at hch ⊢
      rw [hb] at hch ⊢
      refine ⟨c, t, rfl, fun x hx => ?_⟩
      rcases hch x (List.mem_cons_of_mem _ hx) with h1 | h1
      · exact Or.inl h1
      · exact Or.inr ((by decide : ∀ x ∈ ['P', 'Y', 'M', 'D', 'T', 'H', 'S'],
          x ∈ ['P', 'Y', 'M', 'D', 'T', 'H', 'S', 'W']) x h1)
  · have hz : d.nonzero = false := by simpa using hnz
    rw [toText_zero d hz]
    refine ⟨'0', ['Y'], rfl, fun x hx => ?_⟩
    simp only [List.mem_cons, List.not_mem_nil, or_false] at hx
    rcases hx with rfl | rfl
    · exact Or.inl (by decide)
    · exact Or.inr (by decide)

/-! ## The head `^R(\d+)?/` -/

theorem digitRun_digs (ds rest : List Char) (h : Digs ds) :
    digitRun (ds ++ '/' :: rest) = (ds, '/' :: rest) := by
  induction ds with
  | nil => simp [digitRun, show isDig '/' = false by decide]
  | cons c t ih =>
    have hc := h.head
    simp [digitRun, hc, ih h.tail]

/-- What `int(reps)` gives back for the repetitions `__str__` printed. -/
theorem header_strPrefix (reps : Option Int) (hpos : ∀ n, reps = some n → 0 < n) (rest : List Char) :
    ∃ g, header (strPrefix reps ++ rest) = .ok g rest ∧ repsVal g = reps := by
  cases reps with
  | none =>
    refine ⟨none, ?_, rfl⟩
    simp [strPrefix, header, digitRun, show isDig '/' = false by decide]
  | some n =>
    have hn := hpos n rfl
    have hne := natDigits_ne_nil n.natAbs
    refine ⟨some (DurText.natDigits n.natAbs), ?_, ?_⟩
    · have e : strPrefix (some n) ++ rest = 'R' :: (DurText.natDigits n.natAbs ++ '/' :: rest) := by
        simp [strPrefix, intText, show ¬ n < 0 by omega]
      rw [e]
      simp only [header, digitRun_digs _ _ (natDigits_digs _)]
      simp [hne]
    · simp only [repsVal, digitsVal_natDigits]
      congr 1
      omega

theorem toSlash_split (a rest : List Char) (h : '/' ∉ a) : toSlash (a ++ '/' :: rest) = some (a, rest) := by
  induction a with
  | nil => simp [toSlash]
  | cons c t ih =>
    have hc : c ≠ '/' := (List.ne_of_not_mem_cons h).symm
    have ht : '/' ∉ t := List.not_mem_of_not_mem_cons h
    simp [toSlash, hc, ih ht]

theorem startGroup_split (a rest : List Char) (hne : a ≠ []) (hP : a.head? ≠ some 'P') (h : '/' ∉ a) :
    startGroup (a ++ '/' :: rest) = some (a, rest) := by
  cases a with
  | nil => exact absurd rfl hne
  | cons x t =>
    have hx : x ≠ 'P' := by intro e; exact hP (by simp [e])
    have ht : '/' ∉ t := List.not_mem_of_not_mem_cons h
    simp [startGroup, hx, toSlash_split t rest ht]

theorem startGroup_P (t : List Char) : startGroup ('P' :: t) = none := by simp [startGroup]

theorem dotTail_id (e : List Char) (h : '\n' ∉ e) : dotTail e = some e := by
  induction e with
  | nil => rfl
  | cons c t ih =>
    have hc : c ≠ '\n' := (List.ne_of_not_mem_cons h).symm
    have ht : '\n' ∉ t := List.not_mem_of_not_mem_cons h
    simp [dotTail, hc, ih ht]

theorem endGroup_id (e : List Char) (hne : e ≠ []) (hP : e.head? ≠ some 'P') (h : '\n' ∉ e) :
    endGroup e = some e := by
  cases e with
  | nil => exact absurd rfl hne
  | cons x t =>
    have hx : x ≠ 'P' := by intro e; exact hP (by simp [e])
    have ht : '\n' ∉ t := List.not_mem_of_not_mem_cons h
    simp [endGroup, hx, dotTail_id t ht]

theorem endGroup_P (t : List Char) : endGroup ('P' :: t) = none := by simp [endGroup]

theorem intvGroup_id (c : Char) (body : List Char) (h : '\n' ∉ c :: body) :
    intvGroup ('P' :: c :: body) = some ('P' :: c :: body) := by
  have hc : c ≠ '\n' := (List.ne_of_not_mem_cons h).symm
  have ht : '\n' ∉ body := List.not_mem_of_not_mem_cons h
  simp [intvGroup, hc, dotTail_id body ht]

theorem lastSlash_none (e : List Char) (h : '/' ∉ e) : lastSlash e = none := by
  induction e with
  | nil => rfl
  | cons c t ih =>
    have hc : c ≠ '/' := (List.ne_of_not_mem_cons h).symm
    have ht : '/' ∉ t := List.not_mem_of_not_mem_cons h
    simp [lastSlash, hc, ih ht]

/-- The greedy `.*` of the third pattern stops at the last `/`: here the only one that leaves a
    well-formed `end` group. -/
theorem lastSlash_split (a e : List Char) (ha : '\n' ∉ a) (hne : e ≠ []) (hP : e.head? ≠ some 'P')
    (hs : '/' ∉ e) (hn : '\n' ∉ e) : lastSlash (a ++ '/' :: e) = some (a, e) := by
  induction a with
  | nil =>
    simp [lastSlash, lastSlash_none e hs, endGroup_id e hne hP hn]
  | cons c t ih =>
    have hc : c ≠ '\n' := (List.ne_of_not_mem_cons ha).symm
    have ht : '\n' ∉ t := List.not_mem_of_not_mem_cons ha
    simp [lastSlash, hc, ih ht]

/-! ## The three patterns on a text assembled from printed pieces -/

theorem pt_facts (a : List Char) (ha : ∀ c ∈ a, PtChar c) :
    '/' ∉ a ∧ '\n' ∉ a ∧ a.head? ≠ some 'P' := by
  refine ⟨fun h => (ha _ h).facts.1 rfl, fun h => (ha _ h).facts.2.1 rfl, ?_⟩
  intro h
  cases a with
  | nil => cases h
  | cons x t =>
    simp only [List.head?_cons, Option.some.injEq] at h
    exact (ha x (by simp)).facts.2.2.1 h

theorem du_facts (a : List Char) (ha : ∀ c ∈ a, DuChar c) : '/' ∉ a ∧ '\n' ∉ a :=
  ⟨fun h => (ha _ h).facts.1 rfl, fun h => (ha _ h).facts.2.1 rfl⟩

/-- `start/second`: the first pattern. -/
theorem firstRegex_pt_pt (a b : List Char) (ha : ∀ c ∈ a, PtChar c) (hb : ∀ c ∈ b, PtChar c)
    (hane : a ≠ []) (hbne : b ≠ []) :
    firstRegex (a ++ '/' :: b) = some ⟨some a, some b, none⟩ := by
  obtain ⟨a1, _, a3⟩ := pt_facts a ha
  obtain ⟨_, b2, b3⟩ := pt_facts b hb
  simp [firstRegex, regex1, startGroup_split a b hane a3 a1, endGroup_id b hbne b3 b2]

/-- `start/interval`: the first pattern refuses the `P`, the second takes it. -/
theorem firstRegex_pt_du (a : List Char) (c : Char) (body : List Char) (ha : ∀ x ∈ a, PtChar x)
    (hd : ∀ x ∈ c :: body, DuChar x) (hane : a ≠ []) :
    firstRegex (a ++ '/' :: 'P' :: c :: body) = some ⟨some a, none, some ('P' :: c :: body)⟩ := by
  obtain ⟨a1, _, a3⟩ := pt_facts a ha
  obtain ⟨_, d2⟩ := du_facts _ hd
  simp [firstRegex, regex1, regex2, startGroup_split a _ hane a3 a1, endGroup_P, intvGroup_id c body d2]

/-- `interval/end`: the first two patterns refuse the leading `P`, the third splits at the `/`. -/
theorem firstRegex_du_pt (c : Char) (body b : List Char) (hd : ∀ x ∈ c :: body, DuChar x)
    (hb : ∀ x ∈ b, PtChar x) (hbne : b ≠ []) :
    firstRegex ('P' :: c :: (body ++ '/' :: b)) = some ⟨none, some b, some ('P' :: c :: body)⟩ := by
  obtain ⟨b1, b2, b3⟩ := pt_facts b hb
  obtain ⟨_, d2⟩ := du_facts _ hd
  have hc : c ≠ '\n' := (List.ne_of_not_mem_cons d2).symm
  have ht : '\n' ∉ body := List.not_mem_of_not_mem_cons d2
  simp [firstRegex, regex1, regex2, regex3, startGroup_P, hc, lastSlash_split body b ht hbne b3 b1 b2]

/-- Printed pieces are ASCII (so the interval parser does not answer `outside` for that reason). -/
theorem du_ascii (a : List Char) (ha : ∀ c ∈ a, DuChar c) : ∀ c ∈ a, c.toNat < 128 :=
  fun c h => (ha c h).facts.2.2

end IsoDT.Lemmas.RecText
