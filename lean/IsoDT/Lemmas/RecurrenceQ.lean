/-
  IsoDT.Lemmas.RecurrenceQ — recurrences over rational points (`Model.RecurrenceQ`) with an exact
  interval, in terms of rational instants.  The bounds delimit an interval of instants
  (`InBoundsAt`); a neighbour is exactly one interval away; the loop of `__iter__` is described once
  for both directions (`StepsBy`, `iterFromQ_series`, `iterFromQ_lt_length`): it yields the series
  `p, p + step, …`, and its `k`-th point exists iff the fuel allows it and the `k`-th instant is
  within the bounds — no division, and no smallest interval.  Last, what the constructor stores for
  each notation, as an `ExactRecQ`.  `Lemmas/Rec.lean` is the whole-second counterpart.
-/
import IsoDT.Model.RecurrenceQ
import IsoDT.Lemmas.CmpQ
import IsoDT.Lemmas.NominalQ
import IsoDT.Lemmas.DurationQ

namespace IsoDT.Lemmas
open IsoDT IsoDT.Model IsoDT.Lemmas.DQ
open IsoDT.Spec (Date TZ TP)

variable {m : Mode} {r : RecQ} {d : DurationQ} {L : Rat} {rev : Bool} {step : Rat}

theorem natCast_succ_mul (k : Nat) (L : Rat) : ((k + 1 : Nat) : Rat) * L = L + (k : Rat) * L := by
  rw [Rat.natCast_add, Rat.add_mul, Rat.natCast_ofNat, Rat.one_mul, Rat.add_comm]

theorem natCast_zero_mul (L : Rat) : ((0 : Nat) : Rat) * L = 0 := by
  rw [Rat.natCast_ofNat, Rat.zero_mul]

theorem add_natCast_mul_side (a x : Rat) (k : Nat) :
    (0 ≤ x → a ≤ a + (k : Rat) * x) ∧ (x ≤ 0 → a + (k : Rat) * x ≤ a) := by
  refine ⟨fun h => ?_, fun h => ?_⟩
  · have := (Rat.add_le_add_left (c := a)).2 (Rat.mul_nonneg (Rat.natCast_nonneg (a := k)) h)
    rwa [Rat.add_zero] at this
  · have h1 : 0 ≤ -x := by have := Rat.neg_le_neg h; rwa [Rat.neg_zero] at this
    have h2 := Rat.neg_le_neg (Rat.mul_nonneg (Rat.natCast_nonneg (a := k)) h1)
    rw [Rat.mul_neg, Rat.neg_neg, Rat.neg_zero] at h2
    have := (Rat.add_le_add_left (c := a)).2 h2
    rwa [Rat.add_zero] at this

theorem le_add_natCast_mul (a : Rat) (k : Nat) {L : Rat} (hL : 0 < L) : a ≤ a + (k : Rat) * L :=
  (add_natCast_mul_side a L k).1 (Rat.le_of_lt hL)

theorem between_steps (x step : Rat) (k : Nat) :
    x ≤ x + step ∧ x + step ≤ x + step + (k : Rat) * step ∨
      x + step + (k : Rat) * step ≤ x + step ∧ x + step ≤ x := by
  have := add_natCast_mul_side (x + step) step k
  grind

theorem natCast_mul_le_iff (j k : Nat) {L : Rat} (hL : 0 < L) : (j : Rat) * L ≤ (k : Rat) * L ↔ j ≤ k :=
  ⟨fun h => Rat.natCast_le_natCast.1 (Rat.le_of_mul_le_mul_right h hL),
   fun h => Rat.mul_le_mul_of_nonneg_right (Rat.natCast_le_natCast.2 h) (Rat.le_of_lt hL)⟩

theorem grid_lt {i0 L x : Rat} (hL : 0 < L) (j k : Nat) (h1 : i0 + (j : Rat) * L ≤ x)
    (h2 : x < i0 + (k : Rat) * L) : j < k :=
  Rat.natCast_lt_natCast.1 ((Rat.mul_lt_mul_right hL).1 (Rat.add_lt_add_left.1 (Std.lt_of_le_of_lt h1 h2)))

theorem neg_nonpos_of_pos {L : Rat} (h : 0 < L) : -L ≤ 0 := by
  have := Rat.neg_le_neg (Rat.le_of_lt h); rwa [Rat.neg_zero] at this

theorem lt_add_pos (a : Rat) {ε : Rat} (hε : 0 < ε) : a < a + ε := by
  have := (Rat.add_lt_add_left (c := a)).2 hε
  rwa [Rat.add_zero] at this

theorem cast_pred (n : Nat) (h : 1 ≤ n) : (((n : Int) - 1 : Int) : Rat) = ((n - 1 : Nat) : Rat) := by
  rw [← Rat.intCast_natCast, Int.natCast_sub h]; rfl

theorem nat_eq_of_lt_iff {a b : Nat} (h : ∀ k, k < a ↔ k < b) : a = b :=
  Nat.le_antisymm (Nat.not_lt.1 fun hba => Nat.lt_irrefl b ((h b).1 hba))
    (Nat.not_lt.1 fun hab => Nat.lt_irrefl a ((h a).2 hab))

theorem of_some_eq {α : Type} {a : α} {P : α → Prop} (h : P a) : ∀ x, some a = some x → P x :=
  fun _ e => Option.some.inj e ▸ h

theorem of_none_eq {α : Type} {P : α → Prop} : ∀ x, (none : Option α) = some x → P x :=
  fun _ e => nomatch e

theorem tpLtQ_iff (m : Mode) (a b : TPQ) (ha : a.Valid m) (hb : b.Valid m) :
    tpLtQ m a b = true ↔ a.inst m < b.inst m := by
  unfold tpLtQ; rw [cmpQ_spec m a b ha hb]
  simp only [beq_iff_eq, Option.some.injEq]
  exact (sgnQ_sub_iff _ _).1

theorem tpGtQ_iff (m : Mode) (a b : TPQ) (ha : a.Valid m) (hb : b.Valid m) :
    tpGtQ m a b = true ↔ a.inst m > b.inst m := by
  unfold tpGtQ; rw [cmpQ_spec m a b ha hb]
  simp only [beq_iff_eq, Option.some.injEq]
  exact (sgnQ_sub_iff _ _).2.2

theorem tpEqQ_iff (m : Mode) (a b : TPQ) (ha : a.Valid m) (hb : b.Valid m) :
    tpEqQ m a b = true ↔ a.inst m = b.inst m := by
  unfold tpEqQ; rw [cmpQ_spec m a b ha hb]
  simp only [beq_iff_eq, Option.some.injEq]
  exact (sgnQ_sub_iff _ _).2.1

theorem tpLeQ_iff (m : Mode) (a b : TPQ) (ha : a.Valid m) (hb : b.Valid m) :
    tpLeQ m a b = true ↔ a.inst m ≤ b.inst m := by
  unfold tpLeQ
  rw [Bool.or_eq_true, tpLtQ_iff m a b ha hb, tpEqQ_iff m a b ha hb]
  exact Rat.le_iff_lt_or_eq.symm

/-- Years and months both zero: `__add__` is its exact part. -/
theorem addDurQ_exact (m : Mode) (p : TPQ) (e : DurQ) (hv : p.Valid m) :
    ∃ q, addDurQ m p ⟨0, 0, e⟩ = some q ∧ GoodQ m p q e.seconds := by
  obtain ⟨q, he, g⟩ := addExactQ_spec m p e hv
  refine ⟨q, ?_, g⟩
  simp only [addDurQ, he, addMonthsQ_zero, addYearsQ_zero, Option.bind_eq_bind, Option.bind_some,
    Option.pure_def]

theorem toNQ_exact (m : Mode) (d : DurationQ) (hex : d.isExact = true) :
    ∃ e : DurQ, d.toNQ m = ⟨0, 0, e⟩ ∧ e.seconds = len d := by
  cases d with
  | weeks w =>
    refine ⟨⟨w * 7, 0, 0, 0⟩, by simp only [DurationQ.toNQ, DurationQ.toDays, daysInWeek_eq], ?_⟩
    simp only [DurQ.seconds, len, Rat.intCast_mul, Rat.intCast_ofNat]; grind
  | units y mo dd h mi s =>
    simp only [DurationQ.isExact, Bool.and_eq_true, beq_iff_eq] at hex
    obtain ⟨hy, hmo⟩ := hex
    subst hy hmo
    exact ⟨⟨dd, h, mi, s⟩, rfl, rfl⟩

theorem addDurationQ_exact {p : TPQ} (d : DurationQ) (hv : p.Valid m) (hex : d.isExact = true) :
    ∃ q, addDurationQ m p d = some q ∧ GoodQ m p q (len d) := by
  obtain ⟨e, he, hl⟩ := toNQ_exact m d hex
  obtain ⟨q, hq, g⟩ := addDurQ_exact m p e hv
  refine ⟨q, by unfold addDurationQ; rw [he, hq], ?_⟩
  rw [← hl]; exact g

theorem mulQ_exact (d : DurationQ) (n : Int) (h : d.isExact = true) : (d.mul n).isExact = true := by
  rw [isExact_iff] at h ⊢
  rw [mul_ym, h]; simp

theorem subDurationQ_exact {p : TPQ} (d : DurationQ) (hv : p.Valid m) (hex : d.isExact = true) :
    ∃ q, subDurationQ m p d = some q ∧ GoodQ m p q (-(len d)) := by
  obtain ⟨q, e, g⟩ := addDurationQ_exact (d.mul (-1)) hv (mulQ_exact d (-1) hex)
  rw [mul_len, show ((-1 : Int) : Rat) = -1 from rfl, Rat.mul_neg, Rat.mul_one] at g
  exact ⟨q, e, g⟩

/-- The facts about a constructed recurrence the iteration lemmas need: interval `d` exact of
    length `L > 0` (ANY positive rational — there is no smallest interval), more than one
    repetition, legal bounds. -/
structure ExactRecQ (m : Mode) (r : RecQ) (d : DurationQ) (L : Rat) : Prop where
  dur : r.dur = some d
  exact : d.isExact = true
  len : len d = L
  pos : 0 < L
  multi : r.reps ≠ some 1
  startValid : ∀ s, r.start = some s → s.Valid m
  endValid : ∀ e, r.end_ = some e → e.Valid m

theorem nonzeroQ_of_ne (d : DurationQ) (h : len d ≠ 0) : d.nonzero = true := by
  cases hz : d.nonzero
  · exfalso; apply h
    cases d with
    | weeks w =>
      simp only [DurationQ.nonzero, bne_eq_false_iff_eq] at hz
      subst hz
      simp only [len, Rat.intCast_zero]; grind
    | units y mo dd hh mi s =>
      simp only [DurationQ.nonzero, Bool.or_eq_false_iff, bne_eq_false_iff_eq] at hz
      obtain ⟨⟨⟨⟨⟨_, _⟩, h3⟩, h4⟩, h5⟩, h6⟩ := hz
      subst h3 h4 h5 h6
      simp only [len, Rat.intCast_zero]; grind
  · rfl

def InBoundsAt (m : Mode) (r : RecQ) (x : Rat) : Prop :=
  (∀ s, r.start = some s → s.inst m ≤ x) ∧ (∀ e, r.end_ = some e → x ≤ e.inst m)

theorem inBoundsQ_iff {p : TPQ} (hp : p.Valid m)
    (hsv : ∀ s, r.start = some s → s.Valid m) (hev : ∀ e, r.end_ = some e → e.Valid m) :
    inBoundsQ m r p = true ↔ InBoundsAt m r (p.inst m) := by
  unfold inBoundsQ InBoundsAt
  rw [Bool.and_eq_true]
  refine and_congr ?_ ?_
  · cases hs : r.start with
    | none => exact ⟨fun _ => of_none_eq, fun _ => rfl⟩
    | some s =>
      rw [Bool.not_eq_true', ← Bool.not_eq_true, tpLtQ_iff m p s hp (hsv s hs), Rat.not_lt]
      exact ⟨fun h => of_some_eq h, fun h => h s rfl⟩
  · cases he : r.end_ with
    | none => exact ⟨fun _ => of_none_eq, fun _ => rfl⟩
    | some e =>
      rw [Bool.not_eq_true', ← Bool.not_eq_true, tpGtQ_iff m p e hp (hev e he), Rat.not_lt]
      exact ⟨fun h => of_some_eq h, fun h => h e rfl⟩

theorem inBoundsQ_congr {p q : TPQ} (hp : p.Valid m) (hq : q.Valid m)
    (hsv : ∀ s, r.start = some s → s.Valid m) (hev : ∀ e, r.end_ = some e → e.Valid m)
    (h : q.inst m = p.inst m) : inBoundsQ m r q = inBoundsQ m r p := by
  rw [Bool.eq_iff_iff, inBoundsQ_iff hp hsv hev, inBoundsQ_iff hq hsv hev, h]

theorem InBoundsAt.between {x y z : Rat} (hx : InBoundsAt m r x)
    (hz : InBoundsAt m r z) (h : x ≤ y ∧ y ≤ z ∨ z ≤ y ∧ y ≤ x) : InBoundsAt m r y :=
  ⟨fun s hs => h.elim (fun h => Rat.le_trans (hx.1 s hs) h.1) (fun h => Rat.le_trans (hz.1 s hs) h.1),
    fun e he => h.elim (fun h => Rat.le_trans h.2 (hz.2 e he)) (fun h => Rat.le_trans h.2 (hx.2 e he))⟩

/-- `p` is in `p0`'s date representation, UTC offset and precision form (`None` pattern). -/
def SameFormQ (p0 p : TPQ) : Prop :=
  p.date.rep = p0.date.rep ∧ p.tz = p0.tz ∧ p.mi.isSome = p0.mi.isSome ∧ p.ss.isSome = p0.ss.isSome

theorem sameFormQ_of_good {p q : TPQ} {x : Rat} (g : GoodQ m p q x) : SameFormQ p q :=
  ⟨g.rep, g.tz, g.mi, g.ss⟩

theorem sameFormQ_trans {a b c : TPQ} (h1 : SameFormQ a b) (h2 : SameFormQ b c) : SameFormQ a c :=
  ⟨h2.1.trans h1.1, h2.2.1.trans h1.2.1, h2.2.2.1.trans h1.2.2.1, h2.2.2.2.trans h1.2.2.2⟩

/-- A list of points is the arithmetic series `i0, i0 + step, i0 + 2·step, …` (rational instants)
    of legal points in the representation, offset and precision form of `p0`. -/
def SeriesOKQ (m : Mode) (p0 : TPQ) : List TPQ → Rat → Rat → Prop
  | [], _, _ => True
  | p :: rest, i0, step =>
    p.inst m = i0 ∧ p.Valid m ∧ SameFormQ p0 p ∧ SeriesOKQ m p0 rest (i0 + step) step

theorem seriesOKQ_form {a b : TPQ} (h : SameFormQ a b) :
    ∀ {l : List TPQ} {i0 step : Rat}, SeriesOKQ m b l i0 step → SeriesOKQ m a l i0 step := by
  intro l
  induction l with
  | nil => intro _ _ _; trivial
  | cons p rest ih =>
    intro i0 step ⟨h1, h2, h3, h4⟩
    exact ⟨h1, h2, sameFormQ_trans h h3, ih h4⟩

theorem seriesOKQ_get {p0 : TPQ} : ∀ {l : List TPQ} {i0 step : Rat},
    SeriesOKQ m p0 l i0 step → ∀ (i : Nat) (h : i < l.length),
      (l[i]).inst m = i0 + (i : Rat) * step ∧ (l[i]).Valid m ∧ SameFormQ p0 (l[i]) := by
  intro l
  induction l with
  | nil => intro _ _ _ i h; cases h
  | cons p rest ih =>
    intro i0 step ⟨h1, h2, h3, h4⟩ i h
    cases i with
    | zero => exact ⟨by rw [natCast_zero_mul, Rat.add_zero]; exact h1, h2, h3⟩
    | succ k =>
      obtain ⟨e1, e2⟩ := ih h4 k (Nat.lt_of_succ_lt_succ h)
      exact ⟨by rw [natCast_succ_mul, ← Rat.add_assoc]; exact e1, e2⟩

theorem seriesQ_getElem? {p0 : TPQ} {l : List TPQ} {i0 step : Rat}
    (hs : SeriesOKQ m p0 l i0 step) (i : Nat) (h : i < l.length) :
    ∃ p, l[i]? = some p ∧ p.inst m = i0 + (i : Rat) * step ∧ p.Valid m ∧ SameFormQ p0 p :=
  ⟨l[i], List.getElem?_eq_getElem h, seriesOKQ_get hs i h⟩

theorem seriesQ_mem_iff {p0 : TPQ} {l : List TPQ} {i0 step : Rat} (hs : SeriesOKQ m p0 l i0 step) (x : Rat) :
    (∃ q ∈ l, q.inst m = x) ↔ ∃ k : Nat, k < l.length ∧ x = i0 + (k : Rat) * step := by
  constructor
  · rintro ⟨q, hq, rfl⟩
    obtain ⟨i, hi, rfl⟩ := List.getElem_of_mem hq
    exact ⟨i, hi, (seriesOKQ_get hs i hi).1⟩
  · rintro ⟨k, hk, rfl⟩
    exact ⟨l[k], List.getElem_mem hk, (seriesOKQ_get hs k hk).1⟩

theorem seriesQ_mem_valid {p0 : TPQ} {l : List TPQ} {i0 step : Rat}
    (hs : SeriesOKQ m p0 l i0 step) {q : TPQ} (hq : q ∈ l) : q.Valid m := by
  obtain ⟨i, hi, rfl⟩ := List.getElem_of_mem hq
  exact (seriesOKQ_get hs i hi).2.1

/-! ### the loop of `__iter__`

The two directions differ only in the neighbour function and the sign of the step, so the loop is
described once, for any function that moves a legal point by exactly `step` (any rational) and
returns the moved point iff it is within the bounds. -/

/-- What `iterFromQ` asks of the neighbour function in direction `rev`. -/
def StepsBy (m : Mode) (r : RecQ) (rev : Bool) (step : Rat) : Prop :=
  ∀ p : TPQ, p.Valid m → ∃ q, GoodQ m p q step ∧
    (if rev = true then getPrevQ m r p else getNextQ m r p) = if inBoundsQ m r q then some q else none

/-- `get_next` / `get_prev` from any legal point: the point one interval later / earlier, if it is
    within the bounds. -/
theorem stepsBy_exact (hr : ExactRecQ m r d L) (rev : Bool) : StepsBy m r rev (if rev then -L else L) := by
  intro p hp
  cases rev with
  | false =>
    obtain ⟨q, e, g⟩ := addDurationQ_exact d hp hr.exact
    refine ⟨q, hr.len ▸ g, ?_⟩
    show getNextQ m r p = _
    rw [getNextQ, if_neg hr.multi, hr.dur]
    simp only [e]
  | true =>
    obtain ⟨q, e, g⟩ := subDurationQ_exact d hp hr.exact
    refine ⟨q, hr.len ▸ g, ?_⟩
    show getPrevQ m r p = _
    rw [getPrevQ, if_neg hr.multi, hr.dur]
    simp only [e]

theorem iterFromQ_succ (hst : StepsBy m r rev step) (fuel : Nat) (p : TPQ) (hp : p.Valid m) :
    ∃ q, GoodQ m p q step ∧ iterFromQ m r rev (fuel + 1) p =
      if inBoundsQ m r p then p :: (if inBoundsQ m r q then iterFromQ m r rev fuel q else []) else [] := by
  obtain ⟨q, g, hn⟩ := hst p hp
  refine ⟨q, g, ?_⟩
  rw [iterFromQ, hn]
  cases inBoundsQ m r q <;> rfl

theorem iterFromQ_series (hst : StepsBy m r rev step) :
    ∀ (fuel : Nat) (p : TPQ), p.Valid m →
      SeriesOKQ m p (iterFromQ m r rev fuel p) (p.inst m) step := by
  intro fuel
  induction fuel with
  | zero => intro p _; trivial
  | succ fuel ih =>
    intro p hp
    obtain ⟨q, g, e⟩ := iterFromQ_succ hst fuel p hp
    rw [e]
    cases inBoundsQ m r p with
    | false => trivial
    | true =>
      refine ⟨rfl, hp, ⟨rfl, rfl, rfl, rfl⟩, ?_⟩
      cases inBoundsQ m r q with
      | false => trivial
      | true =>
        have := ih q g.valid
        rw [g.inst] at this
        exact seriesOKQ_form (sameFormQ_of_good g) this

/-- How far the loop gets: it yields a `k`-th point iff the fuel allows it and both the anchor and
    the `k`-th instant of the series are within the bounds (which delimit an interval, so every
    instant between them is within the bounds too). -/
theorem iterFromQ_lt_length (hst : StepsBy m r rev step)
    (hsv : ∀ s, r.start = some s → s.Valid m) (hev : ∀ e, r.end_ = some e → e.Valid m) :
    ∀ (fuel : Nat) (p : TPQ), p.Valid m → ∀ k : Nat,
      (k < (iterFromQ m r rev fuel p).length ↔
        k < fuel ∧ InBoundsAt m r (p.inst m) ∧ InBoundsAt m r (p.inst m + (k : Rat) * step)) := by
  intro fuel
  induction fuel with
  | zero => intro p _ k; exact ⟨fun h => (nomatch h), fun h => (nomatch h.1)⟩
  | succ fuel ih =>
    intro p hp k
    obtain ⟨q, g, e⟩ := iterFromQ_succ hst fuel p hp
    have hbp := inBoundsQ_iff hp hsv hev
    have hbq := inBoundsQ_iff g.valid hsv hev
    rw [g.inst] at hbq
    rw [e]
    cases cp : inBoundsQ m r p with
    | false =>
      rw [cp] at hbp
      exact ⟨fun h => (nomatch h), fun h => (nomatch hbp.2 h.2.1)⟩
    | true =>
      have hp0 := hbp.1 cp
      cases k with
      | zero =>
        rw [natCast_zero_mul, Rat.add_zero]
        exact ⟨fun _ => ⟨Nat.succ_pos _, hp0, hp0⟩, fun _ => Nat.succ_pos _⟩
      | succ k =>
        rw [if_pos rfl, List.length_cons, Nat.succ_lt_succ_iff, Nat.succ_lt_succ_iff,
          show p.inst m + ((k + 1 : Nat) : Rat) * step = p.inst m + step + (k : Rat) * step by
            rw [natCast_succ_mul, ← Rat.add_assoc]]
        -- the first neighbour lies between the anchor and the `(k+1)`-th instant
        have hmid : InBoundsAt m r (p.inst m + step + (k : Rat) * step) →
            InBoundsAt m r (p.inst m + step) := fun h => hp0.between h (between_steps _ step k)
        cases cq : inBoundsQ m r q with
        | false =>
          rw [cq] at hbq
          exact ⟨fun h => (nomatch h), fun h => (nomatch hbq.2 (hmid h.2.2))⟩
        | true =>
          rw [if_pos rfl, ih q g.valid k, g.inst]
          exact ⟨fun h => ⟨h.1, hp0, h.2.2⟩, fun h => ⟨h.1, hmid h.2.2, h.2.2⟩⟩

/-- `__iter__` runs the loop from the start forwards, or (no start) from the end backwards. -/
theorem iterQ_eq_iterFromQ (hr : ExactRecQ m r d L)
    {p : TPQ} (hp : (if r.start.isNone = true then r.end_ else r.start) = some p) (fuel : Nat) :
    iterQ m r fuel = iterFromQ m r r.start.isNone fuel p := by
  unfold iterQ
  have h1 : (r.reps == some 1) = false := beq_eq_false_iff_ne.2 hr.multi
  have h2 : d.nonzero = true := nonzeroQ_of_ne d (by rw [hr.len]; exact Rat.ne_of_gt hr.pos)
  simp only [hp, hr.dur, h1, h2, Bool.not_true, Bool.or_self, Bool.false_eq_true, ↓reduceIte]

theorem iterQ_fwd (hr : ExactRecQ m r d L) {s : TPQ}
    (hs : r.start = some s) (fuel : Nat) : iterQ m r fuel = iterFromQ m r false fuel s := by
  have := iterQ_eq_iterFromQ hr (by rw [hs]; rfl) fuel
  rw [hs] at this; exact this

theorem iterQ_rev (hr : ExactRecQ m r d L) {e : TPQ}
    (hs : r.start = none) (he : r.end_ = some e) (fuel : Nat) :
    iterQ m r fuel = iterFromQ m r true fuel e := by
  have := iterQ_eq_iterFromQ hr (by rw [hs]; exact he) fuel
  rw [hs] at this; exact this

theorem iterQ_series (hr : ExactRecQ m r d L) (fuel : Nat) :
    (∀ s, r.start = some s → SeriesOKQ m s (iterQ m r fuel) (s.inst m) L) ∧
    (∀ e, r.start = none → r.end_ = some e → SeriesOKQ m e (iterQ m r fuel) (e.inst m) (-L)) := by
  constructor
  · intro s hs
    rw [iterQ_fwd hr hs fuel]
    exact iterFromQ_series (stepsBy_exact hr false) fuel s (hr.startValid s hs)
  · intro e hs he
    rw [iterQ_rev hr hs he fuel]
    exact iterFromQ_series (stepsBy_exact hr true) fuel e (hr.endValid e he)

theorem iterQ_lt_length (hr : ExactRecQ m r d L) {s : TPQ} (hs : r.start = some s) (fuel k : Nat) :
    k < (iterQ m r fuel).length ↔
      k < fuel ∧ ∀ e, r.end_ = some e → s.inst m + (k : Rat) * L ≤ e.inst m := by
  rw [iterQ_fwd hr hs fuel,
    iterFromQ_lt_length (stepsBy_exact hr false) hr.startValid hr.endValid fuel s (hr.startValid s hs) k]
  have h0 := le_add_natCast_mul (s.inst m) k hr.pos
  refine and_congr_right fun _ => ⟨fun h => h.2.2, fun h => ⟨⟨?_, ?_⟩, ?_, h⟩⟩
  · rw [hs]; exact of_some_eq Rat.le_refl
  · exact fun e he => Rat.le_trans h0 (h e he)
  · rw [hs]; exact of_some_eq h0

theorem iterQ_length_unbounded (hr : ExactRecQ m r d L)
    {s : TPQ} (hs : r.start = some s) (he : r.end_ = none) (fuel : Nat) : (iterQ m r fuel).length = fuel :=
  nat_eq_of_lt_iff fun k => by
    rw [iterQ_lt_length hr hs fuel k, he]
    exact ⟨fun h => h.1, fun h => ⟨h, of_none_eq⟩⟩

theorem iterQ_length_bounded (hr : ExactRecQ m r d L)
    {s e : TPQ} (hs : r.start = some s) (he : r.end_ = some e) (j : Nat)
    (hj : e.inst m = s.inst m + (j : Rat) * L) (fuel : Nat) : (iterQ m r fuel).length = min fuel (j + 1) :=
  nat_eq_of_lt_iff fun k => by
    rw [iterQ_lt_length hr hs fuel k, he, Nat.lt_min, Nat.lt_succ_iff,
      ← natCast_mul_le_iff k j hr.pos]
    exact and_congr_right fun _ =>
      ⟨fun h => Rat.add_le_add_left.1 (hj ▸ h e rfl), fun h => of_some_eq (hj ▸ Rat.add_le_add_left.2 h)⟩

theorem iterQ_length_count (hr : ExactRecQ m r d L)
    {s e : TPQ} (hs : r.start = some s) (he : r.end_ = some e) {n : Nat} (hn : 1 ≤ n)
    (hj : e.inst m = s.inst m + ((n - 1 : Nat) : Rat) * L) (fuel : Nat) (hf : n ≤ fuel) :
    (iterQ m r fuel).length = n := by
  rw [iterQ_length_bounded hr hs he (n - 1) hj fuel, Nat.sub_add_cancel hn, Nat.min_eq_right hf]

theorem iterQ_length_rev (hr : ExactRecQ m r d L)
    {e : TPQ} (hs : r.start = none) (he : r.end_ = some e) (fuel : Nat) : (iterQ m r fuel).length = fuel :=
  nat_eq_of_lt_iff fun k => by
    rw [iterQ_rev hr hs he fuel,
      iterFromQ_lt_length (stepsBy_exact hr true) hr.startValid hr.endValid fuel e (hr.endValid e he) k]
    refine ⟨fun h => h.1, fun h => ⟨h, ⟨?_, ?_⟩, ?_, ?_⟩⟩
    · rw [hs]; exact of_none_eq
    · rw [he]; exact of_some_eq Rat.le_refl
    · rw [hs]; exact of_none_eq
    · rw [he]; exact of_some_eq ((add_natCast_mul_side (e.inst m) (-L) k).2 (neg_nonpos_of_pos hr.pos))

/-! ### everything `__iter__` yields passed the bounds check -/

theorem iterFromQ_mem_inBounds : ∀ {fuel : Nat} {p q : TPQ},
    q ∈ iterFromQ m r rev fuel p → inBoundsQ m r q = true := by
  intro fuel
  induction fuel with
  | zero => intro p q h; exact nomatch h
  | succ fuel ih =>
    intro p q h
    rw [iterFromQ] at h
    split at h
    · rcases List.mem_cons.1 h with rfl | h
      · assumption
      · split at h
        · exact ih h
        · exact nomatch h
    · exact nomatch h

theorem iterQ_mem_inBounds {fuel : Nat} {q : TPQ} (h : q ∈ iterQ m r fuel) :
    inBoundsQ m r q = true := by
  unfold iterQ at h
  cases hp : (if r.start.isNone = true then r.end_ else r.start) with
  | none => simp only [hp] at h; cases h
  | some p =>
    simp only [hp] at h
    generalize (r.reps == some 1 || (match r.dur with | none => true | some d => !d.nonzero)) = c at h
    cases c with
    | true =>
      simp only [↓reduceIte] at h
      by_cases c0 : fuel = 0
      · rw [if_pos c0] at h; cases h
      · rw [if_neg c0] at h
        by_cases cb : inBoundsQ m r p = true
        · rw [if_pos cb] at h
          rcases List.mem_cons.mp h with rfl | h
          · exact cb
          · cases h
        · rw [if_neg cb] at h; cases h
    | false =>
      simp only [Bool.false_eq_true, ↓reduceIte] at h
      exact iterFromQ_mem_inBounds h

theorem iterQ_mem_valid (hr : ExactRecQ m r d L) {fuel : Nat}
    {q : TPQ} (hq : q ∈ iterQ m r fuel) : q.Valid m := by
  cases hs : r.start with
  | some s => exact seriesQ_mem_valid ((iterQ_series hr fuel).1 s hs) hq
  | none =>
    cases he : r.end_ with
    | some e => exact seriesQ_mem_valid ((iterQ_series hr fuel).2 e hs he) hq
    | none => unfold iterQ at hq; rw [hs, he] at hq; exact nomatch hq

theorem iterQ_inst_ne_of_out (hr : ExactRecQ m r d L)
    {p : TPQ} (hp : p.Valid m) (hout : inBoundsQ m r p = false) (fuel : Nat) (q : TPQ)
    (hq : q ∈ iterQ m r fuel) : q.inst m ≠ p.inst m := by
  intro heq
  rw [← inBoundsQ_congr hp (iterQ_mem_valid hr hq) hr.startValid hr.endValid heq,
    iterQ_mem_inBounds hq] at hout
  exact nomatch hout

theorem iterQ_head? (hr : ExactRecQ m r d L) {s : TPQ}
    (hs : r.start = some s) (fuel : Nat) (h : 0 < (iterQ m r fuel).length) :
    (iterQ m r fuel).head? = some s := by
  rw [iterQ_fwd hr hs fuel] at h ⊢
  cases fuel with
  | zero => exact nomatch h
  | succ k =>
    rw [iterFromQ] at h ⊢
    cases hb : inBoundsQ m r s with
    | false => rw [hb] at h; exact absurd h (Nat.lt_irrefl 0)
    | true => rfl

/-- `d < Duration(years=0)` on an exact duration: its length is negative. -/
theorem ltQ_zero_iff (m : Mode) (d : DurationQ) (hex : d.isExact = true) :
    DurationQ.lt m d DurationQ.zero = true ↔ len d < 0 := by
  obtain ⟨e1, r1⟩ := das_spec m d
  obtain ⟨e2, r2⟩ := das_spec m DurationQ.zero
  unfold DurationQ.lt
  rw [pairLt_iff _ _ r1 r2, e1, e2]
  rw [isExact_iff] at hex
  have hz : ym DurationQ.zero = (0, 0) := rfl
  simp only [hex, hz, zero_len, Int.zero_mul, Int.add_zero, Rat.intCast_zero]
  grind

theorem ltQ_zero_false (m : Mode) (d : DurationQ) (hex : d.isExact = true) (hnn : 0 ≤ len d) :
    DurationQ.lt m d DurationQ.zero = false :=
  Bool.eq_false_iff.2 fun h => Rat.not_lt.2 hnn ((ltQ_zero_iff m d hex).1 h)

/-- `d == Duration(years=0)` on an exact duration: its length is zero. -/
theorem isZeroDurQ_iff (m : Mode) (d : DurationQ) (hex : d.isExact = true) :
    isZeroDurQ m d = true ↔ len d = 0 := by
  unfold isZeroDurQ
  rw [eq_iff, zero_len]
  rw [isExact_iff] at hex
  have hz : ym DurationQ.zero = (0, 0) := rfl
  rw [hex, hz]; simp

/-- The constructor's tests on an exact interval of positive length. -/
theorem pos_tests (m : Mode) {d : DurationQ} (hex : d.isExact = true) (hpos : 0 < len d) :
    DurationQ.lt m d DurationQ.zero = false ∧ isZeroDurQ m d = false :=
  ⟨ltQ_zero_false m d hex (Rat.le_of_lt hpos),
    Bool.eq_false_iff.2 fun h => Rat.ne_of_gt hpos ((isZeroDurQ_iff m d hex).1 h)⟩

/-- The constructor's tests on a repetition count `n ≥ 2`. -/
theorem count_tests (n : Nat) (hn : 2 ≤ n) : ¬ (n : Int) ≤ 0 ∧ ¬ (n : Int) = 1 := by omega

/-- The end the constructor derives for `n` repetitions: `start + d·(n−1)`. -/
theorem addDurationQ_mul_pred {n : Nat} {s : TPQ} (hn : 1 ≤ n) (hs : s.Valid m) (hex : d.isExact = true) :
    ∃ e, addDurationQ m s (d.mul ((n : Int) - 1)) = some e ∧ GoodQ m s e (((n - 1 : Nat) : Rat) * len d) := by
  obtain ⟨e, he, g⟩ := addDurationQ_exact (d.mul ((n : Int) - 1)) hs (mulQ_exact d _ hex)
  rw [mul_len, cast_pred n hn, Rat.mul_comm] at g
  exact ⟨e, he, g⟩

/-- start/duration notation, `n ≥ 2` repetitions: the derived end is `start + (n−1)·d`. -/
theorem mkRecQ_fmt3_bounded {n : Nat} {s : TPQ} (hn : 2 ≤ n) (hs : s.Valid m)
    (hex : d.isExact = true) (hpos : 0 < d.exactSeconds m) :
    ∃ e, mkRecQ m (some (n : Int)) (some s) (some d) none =
        some ⟨some (n : Int), some s, some d, some e, none, 3⟩ ∧
      ExactRecQ m ⟨some (n : Int), some s, some d, some e, none, 3⟩ d (d.exactSeconds m) ∧
      GoodQ m s e (((n - 1 : Nat) : Rat) * d.exactSeconds m) := by
  rw [exactSeconds_eq] at hpos ⊢
  obtain ⟨e, he, g⟩ := addDurationQ_mul_pred (Nat.le_of_succ_le hn) hs hex
  obtain ⟨c1, c2⟩ := count_tests n hn
  refine ⟨e, ?_, ⟨rfl, hex, rfl, hpos, fun h => c2 (Option.some.inj h), of_some_eq hs, of_some_eq g.valid⟩, g⟩
  obtain ⟨t1, t2⟩ := pos_tests m hex hpos
  unfold mkRecQ
  simp only [c1, decide_false, Bool.false_eq_true, ↓reduceIte, t1, t2, Option.some.injEq, c2, or_self, he,
    Option.map_some]

/-- start/duration notation, unbounded. -/
theorem mkRecQ_fmt3_unbounded {s : TPQ} (hs : s.Valid m) (hex : d.isExact = true)
    (hpos : 0 < d.exactSeconds m) :
    mkRecQ m none (some s) (some d) none = some ⟨none, some s, some d, none, none, 3⟩ ∧
      ExactRecQ m ⟨none, some s, some d, none, none, 3⟩ d (d.exactSeconds m) := by
  rw [exactSeconds_eq] at hpos ⊢
  refine ⟨?_, rfl, hex, rfl, hpos, (fun h => nomatch h), of_some_eq hs, of_none_eq⟩
  obtain ⟨t1, t2⟩ := pos_tests m hex hpos
  unfold mkRecQ
  simp only [Bool.false_eq_true, ↓reduceIte, t1, t2, reduceCtorEq, or_self]

/-- duration/end notation, `n ≥ 2` repetitions: the derived start is `end − (n−1)·d`. -/
theorem mkRecQ_fmt4_bounded {n : Nat} {e : TPQ} (hn : 2 ≤ n) (he : e.Valid m)
    (hex : d.isExact = true) (hpos : 0 < d.exactSeconds m) :
    ∃ s, mkRecQ m (some (n : Int)) none (some d) (some e) =
        some ⟨some (n : Int), some s, some d, some e, none, 4⟩ ∧
      ExactRecQ m ⟨some (n : Int), some s, some d, some e, none, 4⟩ d (d.exactSeconds m) ∧
      GoodQ m e s (-(((n - 1 : Nat) : Rat) * d.exactSeconds m)) := by
  rw [exactSeconds_eq] at hpos ⊢
  obtain ⟨s, hs, g⟩ := subDurationQ_exact (d.mul ((n : Int) - 1)) he (mulQ_exact d _ hex)
  rw [mul_len, cast_pred n (Nat.le_of_succ_le hn), Rat.mul_comm] at g
  obtain ⟨c1, c2⟩ := count_tests n hn
  refine ⟨s, ?_, ⟨rfl, hex, rfl, hpos, fun h => c2 (Option.some.inj h), of_some_eq g.valid, of_some_eq he⟩, g⟩
  obtain ⟨t1, t2⟩ := pos_tests m hex hpos
  unfold mkRecQ
  simp only [c1, decide_false, Bool.false_eq_true, ↓reduceIte, t1, t2, Option.some.injEq, c2, or_self, hs,
    Option.map_some]

/-- duration/end notation, unbounded. -/
theorem mkRecQ_fmt4_unbounded {e : TPQ} (he : e.Valid m) (hex : d.isExact = true)
    (hpos : 0 < d.exactSeconds m) :
    mkRecQ m none none (some d) (some e) = some ⟨none, none, some d, some e, none, 4⟩ ∧
      ExactRecQ m ⟨none, none, some d, some e, none, 4⟩ d (d.exactSeconds m) := by
  rw [exactSeconds_eq] at hpos ⊢
  refine ⟨?_, rfl, hex, rfl, hpos, (fun h => nomatch h), of_none_eq, of_some_eq he⟩
  obtain ⟨t1, t2⟩ := pos_tests m hex hpos
  unfold mkRecQ
  simp only [Bool.false_eq_true, ↓reduceIte, t1, t2, reduceCtorEq, or_self]

/-- start/second-point notation: the interval is the exact difference of the two points; what is
    stored is the start/duration recurrence with that interval (and the second point). -/
theorem mkRecQ_fmt1 {s e2 : TPQ} (hs : s.Valid m) (he : e2.Valid m) (hlt : s.inst m < e2.inst m) :
    ∃ d, (mkRecQ m none (some s) none (some e2) = some ⟨none, some s, some d, none, some e2, 1⟩ ∧
        ExactRecQ m ⟨none, some s, some d, none, some e2, 1⟩ d (e2.inst m - s.inst m)) ∧
      (∀ n : Nat, 2 ≤ n → ∃ e, mkRecQ m (some (n : Int)) (some s) none (some e2) =
          some ⟨some (n : Int), some s, some d, some e, some e2, 1⟩ ∧
        ExactRecQ m ⟨some (n : Int), some s, some d, some e, some e2, 1⟩ d (e2.inst m - s.inst m) ∧
        GoodQ m s e (((n - 1 : Nat) : Rat) * (e2.inst m - s.inst m))) := by
  obtain ⟨dd, hh, mm, ss, hd, hl, _, _⟩ := subTPQ_spec m e2 s he hs
  have hex : (DurationQ.units 0 0 dd (hh : Rat) (mm : Rat) ss).isExact = true := rfl
  have hpos : 0 < e2.inst m - s.inst m := (Rat.lt_iff_sub_pos _ _).1 hlt
  have c1 : tpEqQ m s e2 = false :=
    Bool.eq_false_iff.2 fun h => Rat.ne_of_lt hlt ((tpEqQ_iff m s e2 hs he).1 h)
  have c2 : tpLtQ m e2 s = false :=
    Bool.eq_false_iff.2 fun h => Rat.not_lt.2 (Rat.le_of_lt hlt) ((tpLtQ_iff m e2 s he hs).1 h)
  refine ⟨_, ⟨?_, rfl, hex, hl, hpos, (fun h => nomatch h), of_some_eq hs, of_none_eq⟩, ?_⟩
  · unfold mkRecQ
    simp only [Bool.false_eq_true, ↓reduceIte, reduceCtorEq, c1, c2, hd, DurationQ.ofDurQ]
  · intro n hn
    obtain ⟨e, he', g⟩ := addDurationQ_mul_pred (Nat.le_of_succ_le hn) hs hex
    have hl' : len (DurationQ.units 0 0 dd (hh : Rat) (mm : Rat) ss) = e2.inst m - s.inst m := hl
    rw [hl'] at g
    obtain ⟨k1, k2⟩ := count_tests n hn
    refine ⟨e, ?_, ⟨rfl, hex, hl, hpos, fun h => k2 (Option.some.inj h), of_some_eq hs, of_some_eq g.valid⟩, g⟩
    unfold mkRecQ
    simp only [k1, decide_false, Bool.false_eq_true, ↓reduceIte, Option.some.injEq, k2, c1, c2, hd,
      DurationQ.ofDurQ, he', Option.map_some]

end IsoDT.Lemmas
