/-
  IsoDT.Lemmas.TextCustomDec — complete custom formats for points with a DECIMAL hour, minute or second
  (`DTP` of `Lemmas/TextRoundDec`): "the time down to p's precision".

  The format (`DFmt`) is a complete date expression as in `CFmt`, `T`, the time form of the point's own
  precision with its decimal token — `hh,ii` for a decimal hour, `hh:mm,nn` / `hhmm,nn` for a decimal
  minute, `hh:mm:ss,tt` / `hhmmss,tt` for a decimal second (comma or point) — and a zone expression
  that spells the point's OWN offset (a placeholder; `Z` for a UTC point; a literal equal to the point's
  offset).  Re-zoning a decimal point is float arithmetic in the Python and outside the model (the model
  answers `unsupported`), so a literal zone different from the point's is not covered.

  `dump_dec`: the dump is the specified text `decCustomText` of the point re-expressed in the format's
  date representation; `Props/C08d`, `C08_custom_parse_decimal`: that text is read back as that point
  with its fraction as printed (trailing zeros dropped — the same number).
-/
import IsoDT.Lemmas.TextCustomDump
import IsoDT.Lemmas.TextCustomParse

namespace IsoDT.Text.Custom
open IsoDT IsoDT.Model IsoDT.Lemmas IsoDT.Text
open IsoDT.Spec (Date TZ TP)
open _root_.IsoDT.Gen.Templates (timeDesignator dumper_0 dumper_2 dumper_3 dumpTables parserTables)

/-- The decimal sign. -/
inductive Sep where
  | comma | point
  deriving DecidableEq, Repr, Inhabited

def Sep.c : Sep → Char
  | .comma => ','
  | .point => '.'

/-- The unit that carries the fraction. -/
inductive DUnit where
  | hour | minute | second
  deriving DecidableEq, Repr, Inhabited

def DTimeUnit : DTime → DUnit
  | .hour .. => .hour
  | .minute .. => .minute
  | .second .. => .second

/-- A complete custom format for decimal points (the time form follows the point's precision). -/
structure DFmt where
  expanded : Bool
  kind : DateKind
  ext : Bool
  sep : Sep
  zone : ZSpec
  deriving DecidableEq, Repr, Inhabited

/-- `hh,ii` / `hh:mm,nn` / `hh:mm:ss,tt` (basic: without the colons). -/
def dtimeFmt (ext : Bool) (sep : Sep) : DUnit → List Char
  | .hour => ['h', 'h', sep.c, 'i', 'i']
  | .minute => (if ext then ['h', 'h', ':', 'm', 'm'] else ['h', 'h', 'm', 'm']) ++ [sep.c, 'n', 'n']
  | .second => clockFmt ext ++ [sep.c, 't', 't']

def DFmt.text (f : DFmt) (u : DUnit) : List Char :=
  (yearFmt f.expanded ++ bodyFmt f.ext f.kind) ++ 'T' :: (dtimeFmt f.ext f.sep u ++ f.zone.fmt f.ext)

def DFmt.WF (f : DFmt) (ned : Nat) : Prop :=
  (f.expanded = true → ned ≠ 0) ∧
  match f.zone with
  | .lit s z => z.Valid ∧ (s = .h → z.mi = 0)
  | _ => True

instance (f : DFmt) (ned : Nat) : Decidable (f.WF ned) := by
  unfold DFmt.WF; cases f.zone <;> infer_instance

def DFmt.yd (f : DFmt) (ned : Nat) : Nat := if f.expanded then ned else 0

/-- The time with its fraction as `_decimal_string` prints it (trailing zeros dropped, at least one
    digit — also for a zero fraction: a custom format never drops the decimal part). -/
def dclockText (ext : Bool) (sep : Sep) : DTime → List Char
  | .hour hh ds => renderNat 2 hh.toNat ++ sep.c :: stripZeros ds
  | .minute hh mi ds => renderNat 2 hh.toNat ++ csep ext ++ renderNat 2 mi.toNat ++ sep.c :: stripZeros ds
  | .second hh mi ss ds =>
    renderNat 2 hh.toNat ++ csep ext ++ renderNat 2 mi.toNat ++ csep ext ++ renderNat 2 ss.toNat ++
      sep.c :: stripZeros ds

/-- **The text a complete custom format is specified to print** for the decimal point `d` (already in
    the format's representation). -/
def decCustomText (ned : Nat) (f : DFmt) (d : DTP) : List Char :=
  (yearText (f.yd ned) (dateYear d.date) ++ bodyText f.ext d.date) ++
    'T' :: (dclockText f.ext f.sep d.time ++ zoneText f.ext f.zone d.tz)

example : (DFmt.mk false .cal true .comma (.own .hm)).text .hour = "CCYY-MM-DDThh,ii+hh:mm".toList := by
  decide +kernel
example : (DFmt.mk true .week false .point .utc).text .minute = "+XCCYYWwwDThhmm.nn".toList ++ ['Z'] := by
  decide +kernel
example : decCustomText 0 (DFmt.mk false .ord false .point (.own .hm))
    ⟨.ord 2000 60, .second 23 59 59 "0250".toList, ⟨0, -30⟩⟩ = "2000060T235959.025-0030".toList := by
  decide +kernel
example : decCustomText 2 (DFmt.mk true .cal true .comma .utc)
    ⟨.cal (-1) 12 31, .hour 24 "00".toList, ⟨0, 0⟩⟩ = "-000001-12-31T24,0Z".toList := by decide +kernel

/-! ## `_get_expression_and_properties` -/

def dtimeSegs (ext : Bool) (sep : Sep) : DUnit → List Seg
  | .hour => [.dir (.int .hourOfDay 2), .raw sep.c, .dir (.str .hourDecStr)]
  | .minute =>
    (if ext then [.dir (.int .hourOfDay 2), .raw ':', .dir (.int .minuteOfHour 2)]
     else [.dir (.int .hourOfDay 2), .dir (.int .minuteOfHour 2)]) ++ [.raw sep.c, .dir (.str .minuteDecStr)]
  | .second => clockSegs ext ++ [.raw sep.c, .dir (.str .secondDecStr)]

def dtimeProps : DUnit → List DProp
  | .hour => [.hourOfDay, .hourDecStr]
  | .minute => [.minuteOfHour, .hourOfDay, .minuteDecStr]
  | .second => [.minuteOfHour, .hourOfDay, .secondOfMinute, .secondDecStr]

def DFmt.expr (f : DFmt) (u : DUnit) (ned : Nat) : Expr :=
  { segs := (yearSegsC f.expanded ned ++ bodySegs f.ext f.kind) ++
      Seg.raw 'T' :: (dtimeSegs f.ext f.sep u ++ zoneSegsC f.ext f.zone)
    props := datePropsC f.expanded f.kind ++ (dtimeProps u ++ zonePropsC f.zone)
    customTZ := customC f.zone }

theorem compile_dtimeFmt_all : ∀ e ∈ [true, false], ∀ sp ∈ [Sep.comma, .point],
    ∀ u ∈ [DUnit.hour, .minute, .second],
    compile dumper_0.time ((dtimeFmt e sp u).map Seg.raw) = (dtimeSegs e sp u, dtimeProps u) := by decide +kernel

theorem dtimeFmt_plain (e : Bool) (sp : Sep) (u : DUnit) :
    dtimeFmt e sp u ≠ [] ∧ (∀ c ∈ dtimeFmt e sp u, Plain c ∧ c ≠ 'T') ∧ '%' ∉ dtimeFmt e sp u := by
  cases e <;> cases sp <;> cases u <;> decide

theorem getExpr_dec (dt : DumpTables) (hdt : dt ∈ dumpTables) (f : DFmt) (u : DUnit) (hf : f.WF dt.ned) :
    getExpr dt (f.text u) = some (f.expr u dt.ned) := by
  obtain ⟨hne, hp, _⟩ := dtimeFmt_plain f.ext f.sep u
  unfold DFmt.text
  rw [getExpr_class dt hdt f.expanded f.ext f.kind _ hne hp f.zone hf.2, time_rules_same dt hdt,
    compile_dtimeFmt_all f.ext (by cases f.ext <;> simp) f.sep (by cases f.sep <;> simp) u (by cases u <;> simp)]
  rfl

/-! ## Printing the time with its fraction -/

/-- The time-of-day fields of a decimal time put on a point, as `DTP.toXTP` does. -/
def ontoTime (t : DTime) (B : XTP) : XTP :=
  match t with
  | .hour hh ds => B.withTime (some hh) none none (some ds) none none
  | .minute hh mi ds => B.withTime (some hh) (some mi) none none (some ds) none
  | .second hh mi ss ds => B.withTime (some hh) (some mi) (some ss) none none (some ds)

theorem toXTP_eq (n : Nat) (d : DTP) : d.toXTP n = ontoTime d.time (XTP.ofTP n ⟨d.date, 0, 0, 0, d.tz⟩) := by
  obtain ⟨date, time, tz⟩ := d
  cases time <;> rfl

theorem onto_withTime (t : DTime) : ∃ h mi s hd md sd, ∀ B : XTP, ontoTime t B = B.withTime h mi s hd md sd := by
  cases t <;> exact ⟨_, _, _, _, _, _, fun _ => rfl⟩

theorem dtime_render (m : Mode) (B : XTP) (ext : Bool) (sep : Sep) (t : DTime) (hv : t.Valid) :
    renderSegs m (ontoTime t B) (dtimeSegs ext sep (DTimeUnit t)) =
      some (dclockText ext sep t) := by
  cases t with
  | hour hh ds =>
    obtain ⟨⟨_, _, hl⟩, h0, h1, _⟩ := hv
    have e1 := pad2 hh h0 (Int.lt_of_le_of_lt h1 (by decide))
    simp [ontoTime, DTimeUnit, dtimeSegs, dclockText, renderSegs, intProp, strProp,
      XTP.withTime, decimalString_short ds hl, e1, h0]
  | minute hh mi ds =>
    obtain ⟨⟨_, _, hl⟩, h0, h1, h2, h3, _⟩ := hv
    have e1 := pad2 hh h0 (Int.lt_of_le_of_lt h1 (by decide))
    have e2 := pad2 mi h2 (Int.lt_trans h3 (by decide))
    cases ext <;>
      simp [ontoTime, DTimeUnit, dtimeSegs, dclockText, csep, renderSegs, intProp,
        strProp, XTP.withTime, decimalString_short ds hl, e1, e2, h0, h2]
  | second hh mi ss ds =>
    obtain ⟨⟨_, _, hl⟩, h0, h1, h2, h3, h4, h5, _⟩ := hv
    have e1 := pad2 hh h0 (Int.lt_of_le_of_lt h1 (by decide))
    have e2 := pad2 mi h2 (Int.lt_trans h3 (by decide))
    have e3 := pad2 ss h4 (Int.lt_trans h5 (by decide))
    cases ext <;>
      simp [ontoTime, DTimeUnit, dtimeSegs, clockSegs, dclockText, csep, renderSegs,
        intProp, strProp, XTP.withTime, decimalString_short ds hl, e1, e2, e3, h0, h2, h4]

theorem dexpr_props (f : DFmt) (u : DUnit) (ned : Nat) : PropsFor (f.expr u ned).props f.kind.k f.expanded :=
  propsFor_date _ _ _ (by
    rw [List.all_append, zoneProps_noDate, Bool.and_true]
    cases u <;> rfl)

/-- **Dump of a decimal point with a complete custom format of its own precision** whose zone
    expression spells the point's own offset: the specified text of the point re-expressed in the
    format's date representation, provided that date's year is within the digits the format prints;
    otherwise the dumper's bounds error. -/
theorem dump_dec (m : Mode) (dt : DumpTables) (hdt : dt ∈ dumpTables) (n : Nat) (f : DFmt)
    (hf : f.WF dt.ned) (d : DTP) (hv : d.Valid m) (hs : f.zone.Same d.tz) (dQ : Date)
    (hc : convert m f.kind.k d.date = some dQ) :
    dump m dt (d.toXTP n) (f.text (DTimeUnit d.time)) =
      if YearInRange (f.yd dt.ned) (dateYear dQ) then .ok (decCustomText dt.ned f { d with date := dQ })
      else .error .err := by
  obtain ⟨hdate, htime, hz⟩ := hv
  obtain ⟨_, hvQ, hrQ, hnQ⟩ := convert_back m f.kind.k (kind_lt _) d.date dQ hdate hc
  obtain ⟨d1, hd1, hvd1, hrd1, hnd1⟩ :=
    convert_spec m (interRep f.kind.k d.date.rep) (interRep_lt _ _ (rep_lt_three _)) d.date hdate
  obtain ⟨r, hr, hvr, hrr, hnr⟩ := convert_spec m f.kind.k (kind_lt _) d1 hvd1
  have hrd : r = dQ := date_unique m r dQ hvr hvQ (by rw [hrr, hrQ]) (by rw [hnr, hnd1, hnQ])
  rw [hrd] at hr
  have hyear : dateYear dQ = dateYear d1 := by
    apply dateYear_convert m f.kind.k d1 dQ hvd1 hr
    rw [hrd1]
    exact interRep_week _ _
  have hZ : (f.expr (DTimeUnit d.time) dt.ned).customTZ = none ∨
      (f.expr (DTimeUnit d.time) dt.ned).customTZ = some (d.tz.h, d.tz.mi) := by
    show customC f.zone = none ∨ customC f.zone = some (d.tz.h, d.tz.mi)
    cases hzs : f.zone with
    | utc => rw [hzs] at hs; right; simp only [ZSpec.Same] at hs; simp [customC, hs]
    | own s => left; rfl
    | lit s z => rw [hzs] at hs; right; simp only [ZSpec.Same] at hs; simp [customC, hs]
  have hrt := dtime_render m (XTP.ofTP n ⟨d1, 0, 0, 0, d.tz⟩) f.ext f.sep d.time htime
  rw [dump_compiled m dt _ (f.text _) _ (noPercent_class _ _ _ _ (dtimeFmt_plain f.ext f.sep _).2.2 _)
    (getExpr_dec dt hdt f _ hf), toXTP_eq]
  obtain ⟨h, mi, s, hd', md, sd, hon⟩ := onto_withTime d.time
  rw [hon] at hrt ⊢
  rw [dumpExpr_class m dt _ _ _ _ f.kind.k f.expanded (dexpr_props f _ dt.ned)
    (repStep_withTime h mi s hd' md sd m n ⟨d.date, 0, 0, 0, d.tz⟩ f.kind.k f.expanded d1 _
      (dexpr_props f _ dt.ned) hd1)
    (zoneStep_same m ((XTP.ofTP n ⟨d1, 0, 0, 0, d.tz⟩).withTime h mi s hd' md sd)
      (ofTP_tzUnknown n ⟨d1, 0, 0, 0, d.tz⟩) d.tz (ofTP_tz n ⟨d1, 0, 0, 0, d.tz⟩) hz _ hZ)
    (dateYear d1) (ofTP_year n ⟨d1, 0, 0, 0, d.tz⟩) hf.1 (decCustomText dt.ned f { d with date := dQ }) ?_,
    ← hyear]
  · rfl
  · intro hy
    exact render_class m n dt.ned f.expanded f.ext f.kind f.zone hf.1 ⟨d1, 0, 0, 0, d.tz⟩ hvd1 hz h mi s hd' md sd
      dQ hr hyear (hyear ▸ hy) (by intro s z hzs; rw [hzs] at hs; exact hs.symm) _ _ hrt

/-! ## Parser half -/

def dtimeTmplC (ext : Bool) (sep : Sep) : DUnit → Template
  | .hour => [.digits .hourOfDay 2, .lit sep.c, .digitsPlus .hourDec]
  | .minute =>
    (if ext then [.digits .hourOfDay 2, .lit ':', .digits .minuteOfHour 2]
     else [.digits .hourOfDay 2, .digits .minuteOfHour 2]) ++ [.lit sep.c, .digitsPlus .minuteDec]
  | .second => clockTmpl ext ++ [.lit sep.c, .digitsPlus .secondDec]

theorem dtime_entry_all : ∀ pt ∈ parserTables, ∀ ext ∈ [true, false], ∀ sp ∈ [Sep.comma, .point],
    ∀ u ∈ [DUnit.hour, .minute, .second], (ext = true → pt.basicOnly = false) →
    ∃ e ∈ pt.timeEntries, e.tmpl = dtimeTmplC ext sp u ∧ e.typ = .complete ∧ e.fmt = fmtKey ext := by
  decide +kernel

/-- The whole-second point with the same date, units and offset (absent units 0).  The text of a
    decimal point is read as the text of this point with the fraction's digits in the decimal group
    (`valsOfD`), so `parse_rendered` serves whole-second and decimal points alike. -/
def dbase (d : DTP) : TP :=
  match d.time with
  | .hour hh _ => ⟨d.date, hh, 0, 0, d.tz⟩
  | .minute hh mi _ => ⟨d.date, hh, mi, 0, d.tz⟩
  | .second hh mi ss _ => ⟨d.date, hh, mi, ss, d.tz⟩

theorem dbase_date (d : DTP) : (dbase d).date = d.date := by
  obtain ⟨date, time, tz⟩ := d; cases time <;> rfl
theorem dbase_tz (d : DTP) : (dbase d).tz = d.tz := by
  obtain ⟨date, time, tz⟩ := d; cases time <;> rfl

theorem dbase_valid (m : Mode) (d : DTP) (hv : d.Valid m) : (dbase d).Valid m := by
  obtain ⟨date, time, tz⟩ := d
  obtain ⟨hdate, htime, hz⟩ := hv
  cases time with
  | hour hh ds =>
    obtain ⟨_, h0, h1, _⟩ := htime
    exact ⟨hdate, h0, h1, by simp [dbase], by simp [dbase], by simp [dbase], by simp [dbase],
      fun _ => ⟨rfl, rfl⟩, hz⟩
  | minute hh mi ds =>
    obtain ⟨_, h0, h1, h2, h3, h24⟩ := htime
    exact ⟨hdate, h0, h1, h2, h3, by simp [dbase], by simp [dbase], fun e => ⟨(h24 e).1, rfl⟩, hz⟩
  | second hh mi ss ds =>
    obtain ⟨_, h0, h1, h2, h3, h4, h5, h24⟩ := htime
    exact ⟨hdate, h0, h1, h2, h3, h4, h5, fun e => ⟨(h24 e).1, (h24 e).2.1⟩, hz⟩

/-- The values a decimal point spells: those of `dbase`, the fraction as printed. -/
def valsOfD (d : DTP) : Vals := valsOf (dbase d) (stripZeros d.time.ds)

theorem dclockText_render (ext : Bool) (sep : Sep) (d : DTP) :
    dclockText ext sep d.time =
      trender (dtimeTmplC ext sep (DTimeUnit d.time)) (envOf (dtimeTmplC ext sep (DTimeUnit d.time)) (valsOfD d)) := by
  obtain ⟨date, time, tz⟩ := d
  cases time <;> cases ext <;>
    simp [dclockText, dtimeTmplC, clockTmpl, DTimeUnit, csep, trender, envOf, Vals.nat, Vals.dec, valsOfD,
      valsOf_hour, valsOf_minute, valsOf_second, valsOf_hourDec, valsOf_minuteDec, valsOf_secondDec, dbase,
      DTime.ds]

theorem decCustomText_render (ned : Nat) (f : DFmt) (hxn : f.expanded = true → ned ≠ 0) (d : DTP)
    (hr : d.date.rep = f.kind.k) :
    decCustomText ned f d =
      trender (dateTmplC f.expanded ned f.ext f.kind) (envOf (dateTmplC f.expanded ned f.ext f.kind) (valsOfD d)) ++
        'T' :: (trender (dtimeTmplC f.ext f.sep (DTimeUnit d.time))
            (envOf (dtimeTmplC f.ext f.sep (DTimeUnit d.time)) (valsOfD d)) ++
          trender (zoneTmplS f.ext f.zone.style) (envOf (zoneTmplS f.ext f.zone.style) (valsOfD d))) := by
  unfold decCustomText dateTmplC valsOfD
  show yearText (yd f.expanded ned) _ ++ _ ++ _ = _
  rw [trender_envOf_append, ← dbase_date d, ← dbase_tz d, ← yearText_render f.expanded ned hxn (dbase d),
    ← bodyText_render f.ext f.kind (dbase d) _ (by rw [dbase_date]; exact hr), ← zoneText_render, dbase_date,
    dbase_tz]
  exact congrArg (fun t => _ ++ 'T' :: (t ++ _)) (dclockText_render f.ext f.sep d)

theorem groupFields_dtime (ext : Bool) (sep : Sep) (u : DUnit) :
    groupFields (dtimeTmplC ext sep u) =
      match u with
      | .hour => [.hourOfDay, .hourDec]
      | .minute => [.hourOfDay, .minuteOfHour, .minuteDec]
      | .second => [.hourOfDay, .minuteOfHour, .secondOfMinute, .secondDec] := by
  cases ext <;> cases u <;> rfl

theorem pointOf_dec (cfg : Cfg) (x : Bool) (ext : Bool) (k : DateKind) (sep : Sep) (d : DTP)
    (hr : d.date.rep = k.k) (hy : YearInRange (yd x cfg.pt.ned) (dateYear d.date))
    (hf : FieldsFit (dbase d)) :
    pointOf cfg (dateTmplC x cfg.pt.ned ext k) (dtimeTmplC ext sep (DTimeUnit d.time)) (valsOfD d) d.tz =
      DTP.toXTP (yd x cfg.pt.ned) d.norm := by
  rw [pointOf_withTime, pointOf_dateBase cfg _ _ _ (dateShape_custom _ _ _ _), valsOfD,
    dateOf_custom x cfg.pt.ned ext k (dbase d) _ (by rw [dbase_date]; exact hr) (by rw [dbase_date]; exact hy) hf,
    dbase_date, (hasGroup_year x cfg.pt.ned ext k).2.1]
  obtain ⟨date, time, tz⟩ := d
  obtain ⟨_, h1, _, h2, _, h3, _⟩ := hf
  cases time with
  | hour hh ds =>
    have e1 : ((hh.toNat : Nat) : Int) = hh := Int.toNat_of_nonneg h1
    simp [hasGroup, groupFields_dtime, DTimeUnit, decOf, valsOf_hour, valsOf_hourDec, dbase, DTP.toXTP, DTP.norm,
      DTime.norm, DTime.ds, yd, e1]
  | minute hh mi ds =>
    have e1 : ((hh.toNat : Nat) : Int) = hh := Int.toNat_of_nonneg h1
    have e2 : ((mi.toNat : Nat) : Int) = mi := Int.toNat_of_nonneg h2
    simp [hasGroup, groupFields_dtime, DTimeUnit, decOf, valsOf_hour, valsOf_minute, valsOf_minuteDec, dbase,
      DTP.toXTP, DTP.norm, DTime.norm, DTime.ds, yd, e1, e2]
  | second hh mi ss ds =>
    have e1 : ((hh.toNat : Nat) : Int) = hh := Int.toNat_of_nonneg h1
    have e2 : ((mi.toNat : Nat) : Int) = mi := Int.toNat_of_nonneg h2
    have e3 : ((ss.toNat : Nat) : Int) = ss := Int.toNat_of_nonneg h3
    simp [hasGroup, groupFields_dtime, DTimeUnit, decOf, valsOf_hour, valsOf_minute, valsOf_second, valsOf_secondDec,
      dbase, DTP.toXTP, DTP.norm, DTime.norm, DTime.ds, yd, e1, e2, e3]

theorem ds_digits (t : DTime) (hv : t.Valid) : t.ds.all isDigit = true := by
  cases t with
  | hour hh ds => exact hv.1.2.1
  | minute hh mi ds => exact hv.1.2.1
  | second hh mi ss ds => exact hv.1.2.1

/-- The zone of the text is the zone of the point. -/
def DZoneFaithful (f : DFmt) (tz : TZ) : Prop :=
  match f.zone.style with
  | none => tz = ⟨0, 0⟩
  | some .hm => True
  | some .h => tz.mi = 0

theorem frac24 (t : DTime) (hv : t.Valid) (h : t.hh = 24) : fracZero t.ds = true := by
  cases t with
  | hour hh ds => exact hv.2.2.2 h
  | minute hh mi ds => exact (hv.2.2.2.2.2 h).2
  | second hh mi ss ds => exact (hv.2.2.2.2.2.2.2 h).2.2

end IsoDT.Text.Custom
